/-
  C06 — the property theorems restated about the REGENERATED source.  `Props/C06Src.lean` proves that the definitions
  translated on every run from `Optimizer.chisq_trans`, `Optimizer.update_model` and the closures built by the three
  `compute_fit` methods (`nestle_loglike` / `multinest_loglike` / `polychord_loglike`, `…_uniform_prior`) are the model's
  `chisq`, `updateModel`, `loglike`, `priorTransform`; `Props/C06.lean` proves the property about these.  The corollaries
  below compose the two: they are statements about the text of the code, at the real carrier.

  What is composed.  The tie is in pieces (the closures call `self.chisq_trans`, which calls `self.update_model` and the
  forward model: each is translated on its own, the callee a parameter of the caller), so a model statement
  `loglike … = .fin G` becomes the chain the code executes:
    * `srcChisq obs sig m wn` = the regenerated `chisq_trans` on a model evaluation that succeeded with binned spectrum `m`
      (carrier `Option ℝ`, `none` = NaN, as in the tie `src_chisq`); `srcChisqInvalid` = the same when the forward model
      raised `InvalidModelException`.  The corollaries say it returns a number `c` (`= some c`) or NaN (`= none`).
    * `srcLoglike s pi obs sig pt nfit c` = the regenerated log-likelihood closure of sampler `s` (`nestle`, `multinest`,
      `polychord`: component 0 of the returned pair) when `self.chisq_trans(…)` returns `c`.  Tie hypothesis kept visible:
      for MultiNest / PolyChord `nfit ≤ len(cube)` (`CubeOK`).
    * `srcPrior s params priors cube` = the regenerated prior callback of sampler `s`.  Tie hypotheses kept visible:
      `params.length = priors.length`, `cube.length = priors.length`.
    * `srcWritten params priors vals` = the values the regenerated `update_model` writes through `fset`, in order
      (`none` = its `ValueError`).  Tie hypothesis kept visible: `params.length = priors.length`.
    * `srcCallback s pi obs sig pt nfit wn out` = the regenerated log-likelihood closure of sampler `s` CALLING the regenerated
      `chisq_trans`, both at the NaN-aware carrier `Option ℝ` (`none` = NaN, NaN-propagating `+ - * / sqrt log`, the ties
      `src_*_loglike_nan`), when evaluating the forward model gave `out` (a binned spectrum or `InvalidModelException`).
  The forward model + binner stays the parameter `fm` of the model theorems: a hypothesis `fm written = .ok …` names the
  binned spectrum at the values the regenerated `update_model` wrote.
  `loglike_of_fin` is the composition step for a finite likelihood (model statement ⇒ chain of source statements);
  `callback_of_some` reads a value of the model callback on the source, `callback_of_some_nan` the same through
  `srcCallback` (finite or not); what `update_model` writes comes from `srcWritten_eq`; `src_invalid_not_finite_full`
  restates `invalid_not_finite` in full: the NaN chi-square of an invalid model comes out of every sampler's closure as NaN.

  Not restated (no tie)
    * `fault_sequence`: the sequence of calls is made by the external sampler (`runSequence` is the model of that loop, there
      is no source for it); that each call depends on its argument alone is the form of the translated closures (pure
      functions of `theta`).
    * `mixture_above_unity_not_finite`: the forward model is the parameter `fm`; the mixture rule it is assumed to follow
      (`Chemistry.mixProfile`) is tied in `Props/C10Src.lean`.
-/
import Props.C06
import Props.C06Src
set_option linter.unusedSectionVars false

namespace Taurex.C06SrcProps
open Taurex.Likelihood Taurex.C06 Taurex.C06Src

/-! ### the source expressions -/

/-- the regenerated `chisq_trans` when the model evaluation succeeded with binned spectrum `m` (`none` entries: NaN) -/
noncomputable def srcChisq (obs sig : List ℝ) (m wn : List (Option ℝ)) : Option ℝ :=
  Gen.SrcC06.chisq_trans (α := Option ℝ) (datastd := sig.map some) (final_model := m) (isnan := Option.isNone)
    (np_nan := none) (raised_InvalidModelException := false) (spectrum := obs.map some) (wavenumberGrid := wn)

theorem srcChisq_eq (obs sig : List ℝ) (m wn : List (Option ℝ)) :
    srcChisq obs sig m wn = valOpt (chisq obs sig (.ok m)) :=
  src_chisq obs sig m wn

/-- the regenerated `chisq_trans` when the forward model raised `InvalidModelException` -/
noncomputable def srcChisqInvalid (obs sig : List ℝ) (m wn : List (Option ℝ)) : Option ℝ :=
  Gen.SrcC06.chisq_trans (α := Option ℝ) (datastd := sig.map some) (final_model := m) (isnan := Option.isNone)
    (np_nan := none) (raised_InvalidModelException := true) (spectrum := obs.map some) (wavenumberGrid := wn)

/-- the wrapped samplers -/
inductive Sampler where
  | nestle
  | multinest
  | polychord

/-- the guard of the MultiNest / PolyChord ties: the cube holds at least the `nfit` fitted parameters -/
def CubeOK (s : Sampler) (pt : List ℝ) (nfit : ℕ) : Prop :=
  match s with
  | .nestle => True
  | _ => nfit ≤ pt.length

/-- the regenerated log-likelihood closure of sampler `s` at the point `pt`, when `self.chisq_trans(…)` returns `c` -/
noncomputable def srcLoglike (s : Sampler) (pi : ℝ) (obs sig pt : List ℝ) (nfit : ℕ) (c : ℝ) : ℝ :=
  match s with
  | .nestle => Gen.SrcC06.nestle_loglike pt obs sig (c0p5 := 1 / 2) (chisq_trans := fun _ _ _ => c) (pi := pi)
  | .multinest => Gen.SrcC06.multinest_loglike pt nfit (c0p5 := 1 / 2) (chisq_trans := fun _ _ _ => c) (errorBar := sig)
      (pi := pi) (spectrum := obs)
  | .polychord =>
    (Gen.SrcC06.polychord_loglike pt obs sig nfit (c0p5 := 1 / 2) (chisq_trans := fun _ _ _ => c) (pi := pi)).1

theorem srcLoglike_eq (s : Sampler) (pi : ℝ) (obs sig pt : List ℝ) (nfit : ℕ) (c : ℝ) (h : CubeOK s pt nfit) :
    srcLoglike s pi obs sig pt nfit c = -(normTerm pi sig) - (1 / 2) * c := by
  cases s
  · exact src_nestle_loglike pi (fun _ _ _ => c) pt obs sig
  · exact src_multinest_loglike pi (fun _ _ _ => c) pt obs sig nfit h
  · simp only [srcLoglike]
    rw [src_polychord_loglike pi (fun _ _ _ => c) pt obs sig nfit h]

/-- the regenerated prior callback of sampler `s` -/
noncomputable def srcPrior {ρ : Type} (s : Sampler) (params : List ρ) (priors : List (Prior ℝ)) (cube : List ℝ) :
    List ℝ :=
  match s with
  | .nestle => Gen.SrcC06.nestle_uniform_prior cube priors (sample := fun p u => p.sample u)
  | .multinest => Gen.SrcC06.multinest_uniform_prior cube priors (sample := fun p u => p.sample u)
  | .polychord => Gen.SrcC06.polychord_uniform_prior cube params priors (sample := fun p u => p.sample u)

theorem srcPrior_eq {ρ : Type} (s : Sampler) (params : List ρ) (priors : List (Prior ℝ)) (cube : List ℝ)
    (hp : params.length = priors.length) (hlen : cube.length = priors.length) :
    srcPrior s params priors cube = priorTransform priors cube := by
  cases s
  · exact src_nestle_prior priors cube hlen.symm
  · simp only [srcPrior]
    rw [src_multinest_prior priors cube (by omega), ← hlen]
    simp
  · exact src_polychord_prior params priors cube hp hlen.symm

/-- the values the regenerated `update_model(vals)` writes, in order (`none`: its `ValueError`) -/
noncomputable def srcWritten {ρ : Type} (params : List ρ) (priors : List (Prior ℝ)) (vals : List ℝ) :
    Option (List ℝ) :=
  (Gen.SrcC06.update_model vals params priors (prior := fun p v => p.prior v)).map (List.map (fun e => e.2.2))

theorem srcWritten_eq {ρ : Type} (params : List ρ) (priors : List (Prior ℝ)) (vals : List ℝ)
    (hp : params.length = priors.length) : srcWritten params priors vals = updateModel priors vals :=
  src_update_model params priors vals hp

/-! ### the two composition steps -/

/-- a finite model likelihood `G`, read on the source: the regenerated `chisq_trans` returns a number `c`, and the regenerated
    closure of every sampler, handed `c`, returns `G` -/
theorem loglike_of_fin (pi : ℝ) (obs sig : List ℝ) (m wn : List (Option ℝ)) (G : ℝ)
    (h : loglike pi obs sig (.ok m) = .fin G) :
    ∃ c, srcChisq obs sig m wn = some c ∧
      ∀ (s : Sampler) (pt : List ℝ) (nfit : ℕ), CubeOK s pt nfit → srcLoglike s pi obs sig pt nfit c = G := by
  cases hc : chisq obs sig (.ok m) with
  | fin c =>
    refine ⟨c, by rw [srcChisq_eq, hc]; rfl, fun s pt nfit hs => ?_⟩
    rw [srcLoglike_eq s pi obs sig pt nfit c hs]
    simp only [loglike, hc] at h
    exact Val.fin.inj h
  | nan => simp [loglike, hc] at h
  | posInf => simp [loglike, hc] at h

/-- a value of the model callback, read on the source: the regenerated `update_model` writes a list `written` (no
    `ValueError`) and the value is the likelihood of the forward model at `written` -/
theorem callback_of_some {ρ : Type} (pi : ℝ) (params : List ρ) (priors : List (Prior ℝ)) (fm : List ℝ → ModelOut ℝ)
    (obs sig theta : List ℝ) (hp : params.length = priors.length) (v : Val ℝ)
    (h : loglikeCallback pi priors fm obs sig theta = some v) :
    ∃ written, srcWritten params priors theta = some written ∧ loglike pi obs sig (fm written) = v := by
  rw [srcWritten_eq params priors theta hp]
  unfold loglikeCallback at h
  cases hu : updateModel priors theta with
  | none => simp [hu] at h
  | some w =>
    simp only [hu, Option.some.injEq] at h
    exact ⟨w, rfl, h⟩

/-! ### the NaN-aware chain: closure ∘ `chisq_trans` at the carrier `Option ℝ` -/

/-- did evaluating the forward model raise `InvalidModelException` -/
def raisedOf (out : ModelOut ℝ) : Bool :=
  match out with
  | .invalid => true
  | .ok _ => false

/-- the binned spectrum when it did not (after a raise `final_model` is never read) -/
def binnedOf (out : ModelOut ℝ) : List (Option ℝ) :=
  match out with
  | .ok m => m
  | .invalid => []

/-- `self.chisq_trans(fit_params, data, datastd)` as the closures call it: the regenerated `chisq_trans` (it reads the error
    bars from its argument, the observed spectrum and grid from `self._observed`) when the forward model gave `out` -/
noncomputable def srcChisqFn (obs : List ℝ) (wn : List (Option ℝ)) (out : ModelOut ℝ) :
    List (Option ℝ) → List (Option ℝ) → List (Option ℝ) → Option ℝ :=
  fun _ _ std => Gen.SrcC06.chisq_trans (α := Option ℝ) (datastd := std) (final_model := binnedOf out)
    (isnan := Option.isNone) (np_nan := none) (raised_InvalidModelException := raisedOf out) (spectrum := obs.map some)
    (wavenumberGrid := wn)

theorem srcChisqFn_eq (obs sig : List ℝ) (wn : List (Option ℝ)) (out : ModelOut ℝ) (a b : List (Option ℝ)) :
    srcChisqFn obs wn out a b (sig.map some) = valOpt (chisq obs sig out) := by
  cases out with
  | ok m => exact src_chisq obs sig m wn
  | invalid => exact src_chisq_invalid obs sig [] wn

/-- the regenerated log-likelihood closure of sampler `s` at the point `pt`, calling the regenerated `chisq_trans`, at the
    NaN-aware carrier (`none` = NaN) -/
noncomputable def srcCallback (s : Sampler) (pi : ℝ) (obs sig pt : List ℝ) (nfit : ℕ) (wn : List (Option ℝ))
    (out : ModelOut ℝ) : Option ℝ :=
  match s with
  | .nestle => Gen.SrcC06.nestle_loglike (α := Option ℝ) (pt.map some) (obs.map some) (sig.map some)
      (c0p5 := some (1 / 2)) (chisq_trans := srcChisqFn obs wn out) (pi := some pi)
  | .multinest => Gen.SrcC06.multinest_loglike (α := Option ℝ) (pt.map some) nfit (c0p5 := some (1 / 2))
      (chisq_trans := srcChisqFn obs wn out) (errorBar := sig.map some) (pi := some pi) (spectrum := obs.map some)
  | .polychord => (Gen.SrcC06.polychord_loglike (α := Option ℝ) (pt.map some) (obs.map some) (sig.map some) nfit
      (c0p5 := some (1 / 2)) (chisq_trans := srcChisqFn obs wn out) (pi := some pi)).1

/-- closure ∘ `chisq_trans`, regenerated, is the model's `loglike` — finite or NaN -/
theorem srcCallback_eq (s : Sampler) (pi : ℝ) (obs sig pt : List ℝ) (nfit : ℕ) (wn : List (Option ℝ))
    (out : ModelOut ℝ) (h : CubeOK s pt nfit) :
    srcCallback s pi obs sig pt nfit wn out = valOpt (loglike pi obs sig out) := by
  -- both sides are `(valOpt (chisq …)).map (fun c => -normTerm - c/2)`: the model's through the nestle closure on the
  -- model's chi-square, each sampler's closure through its own tie and `srcChisqFn_eq`
  rw [src_loglike_nan pi obs sig [] out, src_nestle_loglike_nan]
  cases s
  · simp only [srcCallback]
    rw [src_nestle_loglike_nan, srcChisqFn_eq]
  · simp only [srcCallback]
    rw [src_multinest_loglike_nan _ _ _ _ _ _ (by rw [List.length_map]; exact h), srcChisqFn_eq]
  · simp only [srcCallback]
    rw [src_polychord_loglike_nan _ _ _ _ _ _ (by rw [List.length_map]; exact h), srcChisqFn_eq]

/-- a value of the model callback — finite or not —, read on the source: the regenerated `update_model` writes a list
    `written` (no `ValueError`) and the regenerated closure of every sampler, calling the regenerated `chisq_trans` on the
    forward model's output at `written`, returns that value (`none` for NaN) -/
theorem callback_of_some_nan {ρ : Type} (pi : ℝ) (params : List ρ) (priors : List (Prior ℝ)) (fm : List ℝ → ModelOut ℝ)
    (obs sig theta : List ℝ) (wn : List (Option ℝ)) (hp : params.length = priors.length) (v : Val ℝ)
    (h : loglikeCallback pi priors fm obs sig theta = some v) :
    ∃ written, srcWritten params priors theta = some written ∧
      ∀ (s : Sampler) (pt : List ℝ) (nfit : ℕ), CubeOK s pt nfit →
        srcCallback s pi obs sig pt nfit wn (fm written) = valOpt v := by
  obtain ⟨w, hw, hl⟩ := callback_of_some pi params priors fm obs sig theta hp v h
  exact ⟨w, hw, fun s pt nfit hs => by rw [srcCallback_eq s pi obs sig pt nfit wn _ hs, hl]⟩

/-! ### the property theorems -/

/-- **loglike_gaussian**, about the regenerated code: for a valid, finite binned model the regenerated `chisq_trans` returns a
    number and the regenerated closure of every sampler turns it into `-Σ log(σ√2π) - χ²/2` -/
theorem src_loglike_gaussian (obs sig m : List ℝ) (wn : List (Option ℝ)) (hs : sig.length = obs.length)
    (hm : m.length = obs.length) (hne : obs ≠ []) (hpos : ∀ s ∈ sig, 0 < s) :
    ∃ c, srcChisq obs sig (m.map some) wn = some c ∧
      ∀ (s : Sampler) (pt : List ℝ) (nfit : ℕ), CubeOK s pt nfit →
        srcLoglike s Real.pi obs sig pt nfit c = -(logNorm sig) - chiSq obs sig m / 2 :=
  loglike_of_fin Real.pi obs sig _ wn _ (loglike_gaussian obs sig m hs hm hne hpos)

/-- **callback_gaussian**, about the regenerated code: at a point `θ` of the sampled space the regenerated `update_model`
    writes exactly the prior-transformed values `prior_i(θ_i)` in parameter order; with `m` the binned forward model at these
    values, the regenerated `chisq_trans` returns a number and the closure of every sampler returns the Gaussian
    log-likelihood of `m` -/
theorem src_callback_gaussian {ρ : Type} (params : List ρ) (priors : List (Prior ℝ)) (fm : List ℝ → ModelOut ℝ)
    (obs sig m theta : List ℝ) (wn : List (Option ℝ)) (hp : params.length = priors.length)
    (hlen : theta.length = priors.length)
    (hfm : fm (List.zipWith (fun p v => p.prior v) priors theta) = .ok (m.map some))
    (hs : sig.length = obs.length) (hm : m.length = obs.length) (hne : obs ≠ []) (hpos : ∀ s ∈ sig, 0 < s) :
    ∃ written, srcWritten params priors theta = some written ∧
      written = List.zipWith (fun p v => p.prior v) priors theta ∧ fm written = .ok (m.map some) ∧
      ∃ c, srcChisq obs sig (m.map some) wn = some c ∧
        ∀ (s : Sampler) (pt : List ℝ) (nfit : ℕ), CubeOK s pt nfit →
          srcLoglike s Real.pi obs sig pt nfit c = -(logNorm sig) - chiSq obs sig m / 2 :=
  ⟨_, (srcWritten_eq params priors theta hp).trans (if_pos hlen), rfl, hfm,
    src_loglike_gaussian obs sig m wn hs hm hne hpos⟩

/-- **exact_fit**, about the regenerated code: a perfect fit has the maximal likelihood `-Σ log(σ√2π)` -/
theorem src_exact_fit (obs sig : List ℝ) (wn : List (Option ℝ)) (hs : sig.length = obs.length) (hne : obs ≠ [])
    (hpos : ∀ s ∈ sig, 0 < s) :
    ∃ c, srcChisq obs sig (obs.map some) wn = some c ∧
      ∀ (s : Sampler) (pt : List ℝ) (nfit : ℕ), CubeOK s pt nfit →
        srcLoglike s Real.pi obs sig pt nfit c = -(logNorm sig) :=
  loglike_of_fin Real.pi obs sig _ wn _ (exact_fit obs sig hs hne hpos)

/-- **loglike_le_norm**, about the regenerated code: the likelihood of any valid finite model is bounded by the
    normalisation term -/
theorem src_loglike_le_norm (obs sig m : List ℝ) (wn : List (Option ℝ)) (hs : sig.length = obs.length)
    (hm : m.length = obs.length) (hne : obs ≠ []) (hpos : ∀ s ∈ sig, 0 < s) :
    ∃ c, srcChisq obs sig (m.map some) wn = some c ∧
      ∀ (s : Sampler) (pt : List ℝ) (nfit : ℕ), CubeOK s pt nfit →
        srcLoglike s Real.pi obs sig pt nfit c ≤ -(logNorm sig) := by
  obtain ⟨v, hv, hle⟩ := loglike_le_norm obs sig m hs hm hne hpos
  obtain ⟨c, hc, hall⟩ := loglike_of_fin Real.pi obs sig _ wn v hv
  exact ⟨c, hc, fun s pt nfit h => by rw [hall s pt nfit h]; exact hle⟩

/-- **invalid_not_finite**, about the regenerated code: for a vector of the right length the regenerated `update_model` does not
    raise, and when the forward model raises `InvalidModelException` the regenerated `chisq_trans` returns NaN — no exception
    leaves it, no number comes out -/
theorem src_invalid_not_finite {ρ : Type} (params : List ρ) (priors : List (Prior ℝ)) (obs sig theta : List ℝ)
    (m wn : List (Option ℝ)) (hp : params.length = priors.length) (hlen : theta.length = priors.length) :
    (∃ written, srcWritten params priors theta = some written) ∧ srcChisqInvalid obs sig m wn = none :=
  -- `update_model` is the model's, which accepts a vector of the right length; the model's chi-square of an invalid
  -- forward model is NaN by definition
  ⟨⟨_, (srcWritten_eq params priors theta hp).trans (if_pos hlen)⟩, src_chisq_invalid obs sig m wn⟩

/-- **invalid_not_finite** in full, about the regenerated code: for a vector of the right length the regenerated `update_model`
    does not raise and writes the prior-transformed values; when the forward model raises `InvalidModelException` there, the
    regenerated closure of every sampler, calling the regenerated `chisq_trans`, returns NaN — through `chisq_trans`'s
    `except` branch and the closure's own `-… - 0.5*chi_t` — never a number -/
theorem src_invalid_not_finite_full {ρ : Type} (params : List ρ) (priors : List (Prior ℝ)) (fm : List ℝ → ModelOut ℝ)
    (obs sig theta : List ℝ) (wn : List (Option ℝ)) (hp : params.length = priors.length)
    (hlen : theta.length = priors.length) :
    ∃ written, srcWritten params priors theta = some written ∧
      written = List.zipWith (fun p v => p.prior v) priors theta ∧
      (fm written = .invalid →
        ∀ (s : Sampler) (pt : List ℝ) (nfit : ℕ), CubeOK s pt nfit →
          srcCallback s Real.pi obs sig pt nfit wn (fm written) = none) := by
  refine ⟨_, (srcWritten_eq params priors theta hp).trans (if_pos hlen), rfl, fun hinv s pt nfit hs => ?_⟩
  rw [srcCallback_eq s Real.pi obs sig pt nfit wn _ hs, hinv]
  rfl

/-- the same for any outcome of the forward model: the regenerated chain returns the model's `loglike` of it, a number exactly
    when the model's value is finite -/
theorem src_callback_value {ρ : Type} (params : List ρ) (priors : List (Prior ℝ)) (fm : List ℝ → ModelOut ℝ)
    (obs sig theta : List ℝ) (wn : List (Option ℝ)) (hp : params.length = priors.length)
    (hlen : theta.length = priors.length) :
    ∃ written, srcWritten params priors theta = some written ∧
      ∀ (s : Sampler) (pt : List ℝ) (nfit : ℕ), CubeOK s pt nfit →
        srcCallback s Real.pi obs sig pt nfit wn (fm written) = valOpt (loglike Real.pi obs sig (fm written)) :=
  ⟨_, (srcWritten_eq params priors theta hp).trans (if_pos hlen),
    fun s pt nfit hs => srcCallback_eq s Real.pi obs sig pt nfit wn _ hs⟩

/-- **nan_bins**, about the regenerated `chisq_trans`: NaN bins of the model are skipped by the sum (`np.nansum`); a model
    that is NaN in every bin gives NaN -/
theorem src_nan_bins (obs sig : List ℝ) (m wn : List (Option ℝ)) :
    (srcChisq obs sig m wn = none ∨
      srcChisq obs sig m wn = some (((residuals obs sig m).filterMap id).sum)) ∧
    srcChisq obs sig (List.replicate obs.length none) wn = none := by
  obtain ⟨h1, h2⟩ := nan_bins obs sig m
  rw [srcChisq_eq, srcChisq_eq, h2]
  refine ⟨?_, rfl⟩
  rcases h1 with h | h <;> rw [h]
  · exact Or.inl rfl
  · exact Or.inr rfl

/-- **transform_order**, about the regenerated prior callbacks and `update_model`: entry `i` of the transformed cube is
    `prior_i.sample(u_i)` for every sampler, parameter `i` is written with `prior_i.prior(θ_i)`, and writing the transformed
    cube writes `prior_i.prior(prior_i.sample(u_i))` -/
theorem src_transform_order {ρ : Type} (s : Sampler) (params : List ρ) (priors : List (Prior ℝ)) (cube : List ℝ)
    (hp : params.length = priors.length) (hlen : cube.length = priors.length) :
    (∀ (i : Nat) (h : i < priors.length),
      (srcPrior s params priors cube)[i]? = some ((priors[i]).sample (cube[i]'(hlen ▸ h)))) ∧
    (∀ (i : Nat) (h : i < priors.length),
      (srcWritten params priors cube).map (fun l => l[i]?) = some (some ((priors[i]).prior (cube[i]'(hlen ▸ h))))) ∧
    srcWritten params priors (srcPrior s params priors cube) =
      some (List.zipWith (fun p u => p.prior (p.sample u)) priors cube) := by
  rw [srcPrior_eq s params priors cube hp hlen, srcWritten_eq params priors _ hp, srcWritten_eq params priors _ hp]
  exact transform_order priors cube hlen

/-- **cube_gaussian**, about the regenerated code: for a point `u` of the unit cube, the regenerated prior callback followed by
    the regenerated `update_model` writes `prior_i.prior(prior_i.sample(u_i))`; with `m` the binned forward model at these
    values the closure of every sampler returns the Gaussian log-likelihood of `m` -/
theorem src_cube_gaussian {ρ : Type} (s₀ : Sampler) (params : List ρ) (priors : List (Prior ℝ))
    (fm : List ℝ → ModelOut ℝ) (obs sig m cube : List ℝ) (wn : List (Option ℝ)) (hp : params.length = priors.length)
    (hlen : cube.length = priors.length)
    (hfm : fm (List.zipWith (fun p u => p.prior (p.sample u)) priors cube) = .ok (m.map some))
    (hs : sig.length = obs.length) (hm : m.length = obs.length) (hne : obs ≠ []) (hpos : ∀ s ∈ sig, 0 < s) :
    ∃ written, srcWritten params priors (srcPrior s₀ params priors cube) = some written ∧
      written = List.zipWith (fun p u => p.prior (p.sample u)) priors cube ∧ fm written = .ok (m.map some) ∧
      ∃ c, srcChisq obs sig (m.map some) wn = some c ∧
        ∀ (s : Sampler) (pt : List ℝ) (nfit : ℕ), CubeOK s pt nfit →
          srcLoglike s Real.pi obs sig pt nfit c = -(logNorm sig) - chiSq obs sig m / 2 :=
  ⟨_, (src_transform_order s₀ params priors cube hp hlen).2.2, rfl, hfm,
    src_loglike_gaussian obs sig m wn hs hm hne hpos⟩

/-- **perm_sensitive**, about the regenerated prior callbacks: exchanging two priors of different supports changes the
    transformed point, for every sampler -/
theorem src_perm_sensitive {ρ : Type} (s : Sampler) (params : List ρ) (hp : params.length = 2) :
    srcPrior s params [uniform (0 : ℝ) 1, uniform 10 20] [1 / 2, 1 / 4] ≠
    srcPrior s params [uniform (10 : ℝ) 20, uniform 0 1] [1 / 2, 1 / 4] := by
  rw [srcPrior_eq s params _ _ (by simpa using hp) (by simp), srcPrior_eq s params _ _ (by simpa using hp) (by simp)]
  exact perm_sensitive

end Taurex.C06SrcProps
