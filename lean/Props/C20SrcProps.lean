/-
  C20 — the property theorems restated about the REGENERATED source.  `Props/C20Src.lean` proves that the definitions
  translated on every run from `contribute_ktau`, `contribute_tau`, `AbsorptionContribution.contribute` (both modes) and
  `EmissionModel.evaluate_emission_ktables` (with `contribute_ktau_emission`, `black_body`, the `contribute` methods of the
  non-molecular contributions) compute the model's `ktauRow`, `tauRowX`, `emissionK`; `Props/C20.lean` proves the property
  about these.  The corollaries below compose the two: they are statements about the text of the code itself, at
  the real carrier.

  What is composed (one wavenumber; arrays as the tie instantiates them: `fn l = fun i => l.getD i 0`, `at3 sigma3` =
  `sigma_xsec[:, wn, :]`, `ngauss = ws.length`)
    * `srcKRow sigma3 path dens ws n l tau` = entry `layer = l` of what the regenerated
      `contribute_ktau(0, n-l, l, …, tau, …, layer=l, ngauss)` returns (`= ktauRow … (tau l)`); `srcKtau …` the same on a
      zeroed row: the optical depth the k-path ADDS (`= ktau (tau_temp[g])_g ws`, the `taus` of the model theorems
      instantiated with the `tau_temp[g] = tauG … g` of the code).
    * `srcTransK … = exp(-srcKtau …)`: the transmittance `np.exp(-tau)` formed from that optical depth (as
      `compute_absorption` forms it).  `srcTransK_eq`: it is the model's `transK` — the loop-internal `transtemp`, which
      `contribute_ktau` does not return — for weights `≥ 0` summing to one (hypotheses kept visible).
    * `srcXRow sigma path dens n l tau` = entry `l` of the regenerated `contribute_tau(0, n-l, l, …, layer=l, tau)`
      (`= tauRowX … (tau l)`); `srcAbsK` / `srcAbsX` = the regenerated `AbsorptionContribution.contribute` with
      `_use_ktables` true / false.
    * `srcEmissionK …` = component `I` of the regenerated `evaluate_emission_ktables` for one wavenumber and one emission
      angle, instantiated as in `src_evaluate_emission_ktables` (`dispatchK`, `molK`: Python's dynamic dispatch resolved to
      the regenerated `contribute` methods).  The tie's hypothesis `0 + x = x` is discharged (ℝ).
  The right-hand sides `tauG` (in hypotheses and in the weighted sum), `avgSigma`, `intensityUncut` stay the model's: they
  are what the code is compared with.

  Not restated (no tie)
    * nothing is skipped outright.  `k_jensen`, `k_trans_unit`, `k_degenerate`, `k_tau_bounds` are stated in `Props/C20.lean`
      for an arbitrary list `taus`; the source only ever forms `taus = (tau_temp[g])_g`, so the corollaries are their
      instances at that list.  `k_avg_linear` keeps the model's `tauG` on its left-hand side (loop-internal) and has the
      regenerated `contribute_tau` on its right.
    * the ties `src_compute_absorption`, `src_black_body`, `src_contribute_ktau_emission`, `…_mu`, `…_w` have no theorem of
      `Props/C20.lean` about their model functions alone (`depth`, `planck`, `kRange` enter through `emissionK`).
-/
import Props.C20
import Props.C20Src
set_option linter.unusedSectionVars false

namespace Taurex.C20SrcProps
open Taurex.Emission Taurex.KTau Taurex.SrcLemmas Taurex.C20 Taurex.C20Src

/-- `contribute_ktau(0, n-l, l, sigma, density, path, weights, tau, ngrid, l, ngauss)[l]`, regenerated source -/
noncomputable def srcKRow (sigma3 : List (List ℝ)) (path dens ws : List ℝ) (n l : ℕ) (tau : ℕ → ℝ) : ℝ :=
  Gen.SrcC20.contribute_ktau 0 (n - l) l (at3 sigma3) (fn dens) (fn path) (fn ws) tau l ws.length l

theorem srcKRow_eq (sigma3 : List (List ℝ)) (path dens ws : List ℝ) (n l : ℕ) (tau : ℕ → ℝ) :
    srcKRow sigma3 path dens ws n l tau = ktauRow sigma3 path dens ws n l (tau l) :=
  src_contribute_ktau sigma3 path dens ws n l tau

/-- what the regenerated `contribute_ktau` adds to a zeroed row: the optical depth of the k-path -/
noncomputable def srcKtau (sigma3 : List (List ℝ)) (path dens ws : List ℝ) (n l : ℕ) : ℝ :=
  srcKRow sigma3 path dens ws n l (fun _ => 0)

theorem srcKtau_eq (sigma3 : List (List ℝ)) (path dens ws : List ℝ) (n l : ℕ) :
    srcKtau sigma3 path dens ws n l = ktau ((List.range ws.length).map (tauG sigma3 path dens n l)) ws := by
  unfold srcKtau
  rw [srcKRow_eq]
  unfold ktauRow
  exact zero_add _

/-- the transmittance `exp(-tau)` of the optical depth the regenerated `contribute_ktau` adds -/
noncomputable def srcTransK (sigma3 : List (List ℝ)) (path dens ws : List ℝ) (n l : ℕ) : ℝ :=
  Real.exp (-(srcKtau sigma3 path dens ws n l))

theorem srcTransK_eq (sigma3 : List (List ℝ)) (path dens ws : List ℝ) (n l : ℕ)
    (hw0 : ∀ w ∈ ws, 0 ≤ w) (hw : ws.sum = 1) :
    srcTransK sigma3 path dens ws n l = transK ((List.range ws.length).map (tauG sigma3 path dens n l)) ws := by
  have hpos := transK_pos (taus := (List.range ws.length).map (tauG sigma3 path dens n l)) (by simp) hw0 hw
  unfold srcTransK
  rw [srcKtau_eq]
  unfold ktau
  simp only [log_real, neg_neg]
  exact Real.exp_log hpos

/-- `contribute_tau(0, n-l, l, sigma, density, path, …, layer=l, tau)[l]`, regenerated source -/
noncomputable def srcXRow (sigma path dens : List ℝ) (n l : ℕ) (tau : ℕ → ℝ) : ℝ :=
  Gen.SrcC20.contribute_tau 0 (n - l) l (fn sigma) (fn dens) (fn path) l tau l

theorem srcXRow_eq (sigma path dens : List ℝ) (n l : ℕ) (tau : ℕ → ℝ) :
    srcXRow sigma path dens n l tau = tauRowX sigma path dens n l (tau l) :=
  src_contribute_tau sigma path dens n l tau

/-- `AbsorptionContribution.contribute` with `_use_ktables = True`, entry `l` of the returned `tau` -/
noncomputable def srcAbsK (sigma3 : List (List ℝ)) (path dens ws : List ℝ) (sx : ℕ → ℝ) (n l : ℕ) (tau : ℕ → ℝ) : ℝ :=
  Gen.SrcC20.absorption_contribute 0 (n - l) l l (fn dens) tau (fn path) ws.length (at3 sigma3) sx true (fn ws) l

/-- `AbsorptionContribution.contribute` with `_use_ktables = False` -/
noncomputable def srcAbsX (sk : ℕ → ℕ → ℝ) (sigma path dens : List ℝ) (w : ℕ → ℝ) (ng n l : ℕ) (tau : ℕ → ℝ) : ℝ :=
  Gen.SrcC20.absorption_contribute 0 (n - l) l l (fn dens) tau (fn path) ng sk (fn sigma) false w l

/-- component `I` of `EmissionModel.evaluate_emission_ktables`, one wavenumber `nu`, one emission angle `mq` -/
noncomputable def srcEmissionK (pi h c kb lit mq nu : ℝ) (nonmol : List (Kind × List ℝ)) (sigma3 : List (List ℝ))
    (ws dz dens temps : List ℝ) : ℝ :=
  Gen.SrcC20.evaluate_emission_ktables nu ws.length kb pi h c lit (dispatchK nonmol) (fn dz) (fn dens) true
    (molK sigma3 ws) mq temps.length nonmol.length (at3 sigma3) (fn temps) (fn ws)

theorem srcEmissionK_eq (pi h c kb lit mq nu : ℝ) (nonmol : List (Kind × List ℝ)) (sigma3 : List (List ℝ))
    (ws dz dens temps : List ℝ) :
    srcEmissionK pi h c kb lit mq nu nonmol sigma3 ws dz dens temps
      = emissionK (pcOf pi h c kb lit) nonmol sigma3 ws dz dens temps nu (1 / mq) :=
  src_evaluate_emission_ktables zero_add pi h c kb lit mq nu nonmol sigma3 ws dz dens temps

section path
variable (sigma3 : List (List ℝ)) (path dens ws : List ℝ) (n l : ℕ)

/-- **k_jensen**, about the regenerated `contribute_ktau`: the transmittance of the k-path is at least the exponential of
    the weight-averaged optical depth of its g-points -/
theorem src_k_jensen (hw0 : ∀ w ∈ ws, 0 ≤ w) (hw : ws.sum = 1) :
    Real.exp (-((((List.range ws.length).map (tauG sigma3 path dens n l)).zip ws).map (fun p => p.1 * p.2)).sum)
      ≤ srcTransK sigma3 path dens ws n l := by
  rw [srcTransK_eq sigma3 path dens ws n l hw0 hw]
  exact k_jensen _ ws (by simp) hw0 hw

/-- **k_trans_unit**, about the regenerated `contribute_ktau`: the transmittance along the path lies in `(0, 1]` for
    non-negative per-point optical depths -/
theorem src_k_trans_unit (hw0 : ∀ w ∈ ws, 0 ≤ w) (hw : ws.sum = 1)
    (ht : ∀ g < ws.length, 0 ≤ tauG sigma3 path dens n l g) :
    0 < srcTransK sigma3 path dens ws n l ∧ srcTransK sigma3 path dens ws n l ≤ 1 := by
  rw [srcTransK_eq sigma3 path dens ws n l hw0 hw]
  exact k_trans_unit _ ws (by simp) hw0 hw (forall_mem_map_range ht)

/-- **k_tau_bounds**, about the regenerated `contribute_ktau`: the optical depth it adds is non-negative and at most the
    weight-averaged optical depth -/
theorem src_k_tau_bounds (hw0 : ∀ w ∈ ws, 0 ≤ w) (hw : ws.sum = 1)
    (ht : ∀ g < ws.length, 0 ≤ tauG sigma3 path dens n l g) :
    0 ≤ srcKtau sigma3 path dens ws n l ∧
    srcKtau sigma3 path dens ws n l
      ≤ ((((List.range ws.length).map (tauG sigma3 path dens n l)).zip ws).map (fun p => p.1 * p.2)).sum := by
  rw [srcKtau_eq]
  exact k_tau_bounds _ ws (by simp) hw0 hw (forall_mem_map_range ht)

/-- **k_degenerate**, about the regenerated `contribute_ktau`: all g-points carry the same optical depth `τ` ⇒ it adds
    exactly `τ`, for any weights summing to one -/
theorem src_k_degenerate (τ : ℝ) (hall : ∀ g < ws.length, tauG sigma3 path dens n l g = τ) (hw : ws.sum = 1) :
    srcKtau sigma3 path dens ws n l = τ := by
  rw [srcKtau_eq]
  exact k_degenerate _ ws τ (by simp) (forall_mem_map_range hall) hw

/-- **k_avg_linear**, right-hand side the regenerated `contribute_tau` (on a zeroed row): the weight-averaged optical
    depth of the g-points is the optical depth of the weight-averaged coefficient used as a cross-section -/
theorem src_k_avg_linear :
    ((((List.range ws.length).map (tauG sigma3 path dens n l)).zip ws).map (fun p => p.1 * p.2)).sum
      = srcXRow ((List.range n).map (avgSigma sigma3 ws)) path dens n l (fun _ => 0) := by
  rw [srcXRow_eq]; exact k_avg_linear sigma3 path dens ws n l

/-- **k_jensen_row**, about the regenerated `contribute_ktau` and `contribute_tau`: the k-transmittance of a tangent layer
    is at least the transmittance obtained from the weight-averaged coefficient used as a cross-section -/
theorem src_k_jensen_row (hw0 : ∀ w ∈ ws, 0 ≤ w) (hw : ws.sum = 1) :
    Real.exp (-(srcXRow ((List.range n).map (avgSigma sigma3 ws)) path dens n l (fun _ => 0)))
      ≤ srcTransK sigma3 path dens ws n l := by
  rw [srcTransK_eq sigma3 path dens ws n l hw0 hw, srcXRow_eq]
  exact k_jensen_row sigma3 path dens ws n l hw0 hw

end path

/-- **k_degenerate_row**, about the regenerated kernels: with coefficients identical across g, `contribute_ktau` leaves in
    `tau[l]` exactly what `contribute_tau` leaves for the same numbers used as a cross-section -/
theorem src_k_degenerate_row (sigma3 : List (List ℝ)) (sigma path dens ws : List ℝ) (n l : ℕ) (tau : ℕ → ℝ)
    (hdeg : ∀ k g, g < ws.length → at3 sigma3 k g = sigma.getD k 0) (hw : ws.sum = 1) :
    srcKRow sigma3 path dens ws n l tau = srcXRow sigma path dens n l tau := by
  rw [srcKRow_eq, srcXRow_eq]
  exact k_degenerate_row sigma3 sigma path dens ws n l (tau l) hdeg hw

/-- **k_degenerate_row**, about the regenerated `AbsorptionContribution.contribute`: the k-table mode and the cross-section
    mode of the method leave the same `tau[l]` (whatever the unused table of the other mode holds) -/
theorem src_k_degenerate_contribute (sigma3 : List (List ℝ)) (sigma path dens ws : List ℝ) (sx w : ℕ → ℝ)
    (sk : ℕ → ℕ → ℝ) (ng n l : ℕ) (tau : ℕ → ℝ)
    (hdeg : ∀ k g, g < ws.length → at3 sigma3 k g = sigma.getD k 0) (hw : ws.sum = 1) :
    srcAbsK sigma3 path dens ws sx n l tau = srcAbsX sk sigma path dens w ng n l tau := by
  unfold srcAbsK srcAbsX
  rw [src_absorption_contribute_k, src_absorption_contribute_x]
  exact k_degenerate_row sigma3 sigma path dens ws n l (tau l) hdeg hw

/-- **k_degenerate_emission**, about the regenerated `evaluate_emission_ktables`: with coefficients identical across g
    (weights summing to one) the k-table intensity equals the documented (unclamped) integral of the cross-section model
    on the same numbers, the molecular absorption entering as an ordinary `σ·dz·ρ` contribution -/
theorem src_k_degenerate_emission (pi h c kb lit mq nu : ℝ) (nonmol : List (Kind × List ℝ)) (sigma3 : List (List ℝ))
    (sigma ws dz dens temps : List ℝ)
    (hdeg : ∀ j g, g < ws.length → at3 sigma3 j g = sigma.getD j 0) (hw : ws.sum = 1) :
    srcEmissionK pi h c kb lit mq nu nonmol sigma3 ws dz dens temps
      = intensityUncut (pcOf pi h c kb lit) dz dens temps (1 / mq) ⟨nu, (Kind.lin, sigma) :: nonmol⟩ := by
  rw [srcEmissionK_eq]
  exact k_degenerate_emission (pcOf pi h c kb lit) nonmol sigma3 sigma ws dz dens temps nu (1 / mq) hdeg hw

/-- **k_emission_without_molecules**, about the regenerated `evaluate_emission_ktables` with `molecule_absorption is None`
    (no AbsorptionContribution in the list; the non-molecular entries of `model_contrib()`): the k-table path returns the
    documented (unclamped) integral of the cross-section model over the same contributions, whatever k-tables are
    installed (`molc`, `sk`, `w`, `ng` stand for what the code then does not read) -/
theorem src_k_emission_without_molecules (pi h c kb lit mq nu : ℝ) (contribs : List (Kind × List ℝ))
    (dz dens temps : List ℝ) (ng : ℕ) (molc : ℕ → ℕ → ℕ → ℕ → (ℕ → ℝ) → ℝ → (ℕ → ℝ) → ℝ) (sk : ℕ → ℕ → ℝ) (w : ℕ → ℝ) :
    Gen.SrcC20.evaluate_emission_ktables nu ng kb pi h c lit (dispatchK contribs) (fn dz) (fn dens) false
        molc mq temps.length contribs.length sk (fn temps) w
      = intensityUncut (pcOf pi h c kb lit) dz dens temps (1 / mq) ⟨nu, contribs⟩ := by
  rw [src_evaluate_emission_ktables_nomol]
  exact k_emission_without_molecules (pcOf pi h c kb lit) contribs dz dens temps nu (1 / mq)

end Taurex.C20SrcProps
