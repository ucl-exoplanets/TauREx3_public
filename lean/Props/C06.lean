/-
  C06 — every sampler is handed the Gaussian log-likelihood of the binned model.
  Theorems about `TaurexModel/Likelihood.lean` (the definitions `driver_c06` executes), real carrier.
  The forward model + binner is a parameter `fm` of the callback (it is real code in the correspondence check);
  `InvalidModelException` is a constructor (`ModelOut.invalid`) of its result type.
  `chiSq obs σ m = Σ_i ((obs_i - m_i)/σ_i)²` and `logNorm σ = Σ_i log(σ_i √(2π))` are defined in
  `Proofs/C06Lemmas.lean`.  Guards: one error bar and one model value per observed bin, at least one bin,
  error bars positive (the quantifier's "error bars"; `log` and `/` are total on ℝ but stand for the float
  operations only there).
-/
import Proofs.C06Lemmas
import TaurexModel.Chemistry

namespace Taurex.C06
open Taurex.Likelihood

/-- For a valid, finite binned model the likelihood is `-Σ log(σ√2π) - χ²/2` (also when `χ² = 0`). -/
theorem loglike_gaussian (obs sig m : List ℝ) (hs : sig.length = obs.length) (hm : m.length = obs.length)
    (hne : obs ≠ []) (_hpos : ∀ s ∈ sig, 0 < s) :
    loglike Real.pi obs sig (.ok (m.map some)) = .fin (-(logNorm sig) - chiSq obs sig m / 2) :=
  loglike_ok_some obs sig m hs hm hne

/-- `chiSq` / `logNorm` are the sums of the statement -/
example (d s m : ℝ) (ds ss ms : List ℝ) :
    chiSq (d :: ds) (s :: ss) (m :: ms) = ((d - m) / s) ^ 2 + chiSq ds ss ms ∧
    logNorm (s :: ss) = Real.log (s * Real.sqrt (2 * Real.pi)) + logNorm ss := ⟨rfl, rfl⟩

example : ∃ obs sig m : List ℝ, sig.length = obs.length ∧ m.length = obs.length ∧ obs ≠ [] ∧
    (∀ s ∈ sig, 0 < s) ∧ chiSq obs sig m = 5 :=
  ⟨[1, 2], [1, 2], [2, 6], rfl, rfl, by simp, by norm_num, by norm_num [chiSq, sqList]⟩

/-- The callback at a point `θ` of the sampled space: the forward model is evaluated at exactly the prior-transformed
    values `prior_i(θ_i)` (in parameter order) and the result is the Gaussian log-likelihood of its binned output. -/
theorem callback_gaussian (priors : List (Prior ℝ)) (fm : List ℝ → ModelOut ℝ) (obs sig m theta : List ℝ)
    (hlen : theta.length = priors.length)
    (hfm : fm (List.zipWith (fun p v => p.prior v) priors theta) = .ok (m.map some))
    (hs : sig.length = obs.length) (hm : m.length = obs.length) (hne : obs ≠ []) (hpos : ∀ s ∈ sig, 0 < s) :
    loglikeCallback Real.pi priors fm obs sig theta = some (.fin (-(logNorm sig) - chiSq obs sig m / 2)) := by
  unfold loglikeCallback updateModel
  rw [if_pos hlen]
  simp only [hfm]
  rw [loglike_gaussian obs sig m hs hm hne hpos]

/-- A perfect fit (observation equal to the binned model) has the maximal likelihood `-Σ log(σ√2π)`. -/
theorem exact_fit (obs sig : List ℝ) (hs : sig.length = obs.length) (hne : obs ≠ []) (hpos : ∀ s ∈ sig, 0 < s) :
    loglike Real.pi obs sig (.ok (obs.map some)) = .fin (-(logNorm sig)) := by
  rw [loglike_gaussian obs sig obs hs rfl hne hpos, chiSq_self]
  simp

/-- The likelihood of any valid finite model is bounded by the normalisation term. -/
theorem loglike_le_norm (obs sig m : List ℝ) (hs : sig.length = obs.length) (hm : m.length = obs.length)
    (hne : obs ≠ []) (hpos : ∀ s ∈ sig, 0 < s) :
    ∃ v, loglike Real.pi obs sig (.ok (m.map some)) = .fin v ∧ v ≤ -(logNorm sig) :=
  ⟨_, loglike_gaussian obs sig m hs hm hne hpos, sub_le_self _ (div_nonneg (chiSq_nonneg obs sig m) zero_le_two)⟩

/-- An `InvalidModelException` anywhere in model evaluation gives NaN — never a finite likelihood — and no exception
    leaves the callback: for a vector of the right length the callback always returns a value. -/
theorem invalid_not_finite (priors : List (Prior ℝ)) (fm : List ℝ → ModelOut ℝ) (obs sig theta : List ℝ)
    (hlen : theta.length = priors.length) :
    (∃ v, loglikeCallback Real.pi priors fm obs sig theta = some v) ∧
    (fm (List.zipWith (fun p v => p.prior v) priors theta) = .invalid →
      loglikeCallback Real.pi priors fm obs sig theta = some .nan) := by
  unfold loglikeCallback updateModel
  rw [if_pos hlen]
  refine ⟨⟨_, rfl⟩, ?_⟩
  intro h
  simp only [h]
  rfl

example : loglike Real.pi [1, 2] [1, 1] (ModelOut.invalid : ModelOut ℝ) = .nan := rfl

/-- **Mixing ratios above unity anywhere in the atmosphere.**  For a forward model that builds its atmosphere with the
    free chemistry — it raises whenever the mixture rule `Chemistry.mixProfile` (the model of
    `TaurexChemistry.initialize_chemistry`, property C10) rejects the gas profiles `traces p` its parameters describe —
    a parameter vector whose summed gas profiles exceed one in SOME layer (one is enough: a layer-dependent profile that
    is fine at the top and above unity in the deep layers) gets NaN, never a finite likelihood. -/
theorem mixture_above_unity_not_finite (priors : List (Prior ℝ)) (fm : List ℝ → ModelOut ℝ) (obs sig theta : List ℝ)
    (hlen : theta.length = priors.length) (nFill : Nat) (ratios : List ℝ) (traces : List ℝ → List (List ℝ)) (n : Nat)
    (hfm : ∀ p, (∃ rows, Chemistry.mixProfile nFill ratios (traces p) n = .ok rows) ∨ fm p = .invalid)
    (t : ℝ) (ht : t ∈ Chemistry.totalMix (traces (List.zipWith (fun p v => p.prior v) priors theta)) n) (h1 : 1 < t) :
    loglikeCallback Real.pi priors fm obs sig theta = some .nan := by
  apply (invalid_not_finite priors fm obs sig theta hlen).2
  rcases hfm (List.zipWith (fun p v => p.prior v) priors theta) with ⟨rows, hok⟩ | hinv
  · exfalso
    unfold Chemistry.mixProfile at hok
    split at hok
    · cases hok
    · have hany : (Chemistry.totalMix (traces (List.zipWith (fun p v => p.prior v) priors theta)) n).any
          (fun t => decide (1 < t)) = true := List.any_eq_true.2 ⟨t, ht, by simpa using h1⟩
      simp only [hany, if_true] at hok
      cases hok
  · exact hinv

/-- not vacuous: CH4 = 0.6 in both layers, H2O = 0.7 in the deep layer and 1e-6 at the top: the total exceeds one in the
    deep layer only, and the mixture rule rejects it -/
example : Chemistry.totalMix (α := Rat) [[6/10, 6/10], [7/10, 1/1000000]] 2 = [13/10, 600001/1000000] ∧
    (match Chemistry.mixProfile (α := Rat) 2 [17/100] [[6/10, 6/10], [7/10, 1/1000000]] 2 with
      | .invalid => true | _ => false) = true := by
  constructor <;> decide +kernel

/-- NaN bins of the model are skipped by the sum (`np.nansum`); a model that is NaN in every bin gives NaN. -/
theorem nan_bins (obs sig : List ℝ) (m : List (Option ℝ)) :
    (chisq obs sig (.ok m) = .nan ∨
      chisq obs sig (.ok m) = .fin (((residuals obs sig m).filterMap id).sum)) ∧
    chisq obs sig (.ok (List.replicate obs.length none)) = .nan := by
  refine ⟨?_, (chisq_ok ..).trans (if_pos (residuals_replicate_none obs sig obs.length))⟩
  rw [chisq_ok]
  split
  · exact Or.inl rfl
  · exact Or.inr rfl

example : chisq (α := Rat) [1, 2, 3] [1, 1, 1] (.ok [some 0, none, some 1]) = .fin 5 := by decide +kernel

/-- The prior callback and `update_model` use the same index: entry `i` of the transformed cube is
    `prior_i.sample(u_i)`, parameter `i` is written with `prior_i.prior(θ_i)`, and therefore the sampler's
    `loglike(prior(u))` evaluates the forward model with parameter `i` equal to `prior_i.prior(prior_i.sample(u_i))`. -/
theorem transform_order (priors : List (Prior ℝ)) (cube : List ℝ) (hlen : cube.length = priors.length) :
    (∀ (i : Nat) (h : i < priors.length),
      (priorTransform priors cube)[i]? = some ((priors[i]).sample (cube[i]'(hlen ▸ h)))) ∧
    (∀ (i : Nat) (h : i < priors.length),
      (updateModel priors cube).map (fun l => l[i]?) = some (some ((priors[i]).prior (cube[i]'(hlen ▸ h))))) ∧
    updateModel priors (priorTransform priors cube) =
      some (List.zipWith (fun p u => p.prior (p.sample u)) priors cube) := by
  have entry : ∀ (f : Prior ℝ → ℝ → ℝ) (i : Nat) (h : i < priors.length),
      (List.zipWith f priors cube)[i]? = some (f priors[i] (cube[i]'(hlen ▸ h))) := fun f i h => by
    rw [List.getElem?_zipWith, List.getElem?_eq_getElem h, List.getElem?_eq_getElem (hlen ▸ h)]
  refine ⟨entry _, fun i h => ?_, ?_⟩
  · rw [updateModel, if_pos hlen, Option.map_some, entry]
  · unfold updateModel priorTransform
    rw [if_pos (by rw [List.length_zipWith, hlen, Nat.min_self]), zipWith_zipWith_same]

/-- The whole statement for a point `u` of the unit cube: what the sampler computes, `loglike(prior(u))`, is the
    Gaussian log-likelihood of the binned forward model evaluated with parameter `i` set to
    `prior_i.prior(prior_i.sample(u_i))`. -/
theorem cube_gaussian (priors : List (Prior ℝ)) (fm : List ℝ → ModelOut ℝ) (obs sig m cube : List ℝ)
    (hlen : cube.length = priors.length)
    (hfm : fm (List.zipWith (fun p u => p.prior (p.sample u)) priors cube) = .ok (m.map some))
    (hs : sig.length = obs.length) (hm : m.length = obs.length) (hne : obs ≠ []) (hpos : ∀ s ∈ sig, 0 < s) :
    cubeLoglike Real.pi priors fm obs sig cube = some (.fin (-(logNorm sig) - chiSq obs sig m / 2)) := by
  have h3 := (transform_order priors cube hlen).2.2
  unfold cubeLoglike loglikeCallback
  rw [h3]
  simp only [hfm]
  rw [loglike_gaussian obs sig m hs hm hne hpos]

/-- a concrete instance: two parameters (one linear on [0, 2], one log on [1, 100]), the forward model `p ↦ [p₀, p₁]`,
    cube point (1/2, 1/2) ↦ parameters (1, 10) -/
example : List.zipWith (fun (p : Prior ℝ) u => p.prior (p.sample u)) [uniform 0 2, logUniform 0 2] [1 / 2, 1 / 2]
    = [1, 10] := by
  simp only [uniform, logUniform, pyMin, pyMax, Prior.prior, List.zipWith_cons_cons, List.zipWith_nil_right, pow10_real]
  norm_num

/-- the order matters: exchanging two priors of different supports changes the transformed point
    (so `transform_order` is not vacuous for symmetric-looking cases) -/
theorem perm_sensitive :
    priorTransform [uniform (0 : ℝ) 1, uniform 10 20] [1 / 2, 1 / 4] ≠
    priorTransform [uniform (10 : ℝ) 20, uniform 0 1] [1 / 2, 1 / 4] := by
  simp only [priorTransform, uniform, pyMin, pyMax, List.zipWith_cons_cons, List.zipWith_nil_right]
  norm_num

/-- the default prior of a parameter in `log` mode samples `log10` of the bounds uniformly and writes `10**v` -/
example : (defaultPrior (α := ℝ) true 1 100).isLog = true ∧ (defaultPrior (α := ℝ) false 1 100).isLog = false := by
  simp [defaultPrior, logUniformLin, logUniform, uniform]

/-- Fault sequences: the value returned for the `k`-th vector of any sequence is the callback of that vector alone —
    an invalid vector earlier in the sequence cannot change a later evaluation. -/
theorem fault_sequence (priors : List (Prior ℝ)) (fm : List ℝ → ModelOut ℝ) (obs sig : List ℝ)
    (thetas : List (List ℝ)) (k : Nat) :
    (runSequence Real.pi priors fm obs sig thetas)[k]? =
      (thetas[k]?).map (loglikeCallback Real.pi priors fm obs sig) := by
  simp [runSequence]

end Taurex.C06
