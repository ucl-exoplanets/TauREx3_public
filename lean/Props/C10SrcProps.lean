/-
  C10 — the property theorems restated about the REGENERATED source.  `Props/C10Src.lean` proves that the definitions
  translated on every run from the chemistry classes compute the model's functions; `Props/C10.lean` proves the property
  about those.  The corollaries below compose the two: statements about the text of the code, over ℝ.

  The `src…` definitions instantiate the translated functions exactly as the tie theorems do (the code's arrays are functions
  `Nat → ℝ`, `listOf n` / `rowsOf n` cut them to the `n` layers; `none` = `InvalidChemistryException`,
  `Except.error "ValueError"` = numpy refuses the border store, `Except.error "KeyError"` = the `KeyError` of the code).
  Python's `int()` on reals is `pyIntR`, int → float `toFloatR`; in `srcAvail`, `kt` / `op` are the molecule lists of the
  k-table / cross-section cache and `ktables` says that the global `opacity_method` is 'ktables'.
  Hypotheses of the ties that stay visible: `hcount` (the constructor has enforced the number of fill ratios), `hpow`
  (`np.power(P, alpha)` read as `exp (alpha * log P)`), `hP`/`hT` (profile lengths), for TwoLayerGas a non-negative smoothing
  window and at least one layer (`hw`, `h1`); the tie's `x + 0 = x` holds in ℝ.

  Every theorem of Props/C10.lean about the translated classes is restated (the `session_*` theorems are about the
  opacity-cache session, which is not translated).  `src_chemistry_valid`: the loop of
  `initialize_chemistry` over the gas OBJECTS is tied with the profiles as parameters (`gasMix`); the theorem feeds it the
  profiles the regenerated `initialize_profile` of every gas returns.
-/
import Props.C10
import Props.C10Src
set_option linter.unusedSectionVars false

namespace Taurex.C10SrcProps
open Taurex Taurex.NpInterp Taurex.Chemistry Taurex.C10 Taurex.C10Src
open Taurex.SeqSrc (outcomeOf outcomeOf_ok_iff pyIntR toFloatR pyIntR_nonneg pyIntR_nonneg' pyIntR_max toFloatR_nat pyIntR_half)

/-! ### the instantiated source expressions -/

/-- the trace-gas profiles `gasMix k` (k < m) the code collects in `mix_profile`, cut to `n` layers -/
noncomputable def srcTraces (n m : Nat) (gasMix : Nat → Nat → ℝ) : List (List ℝ) :=
  rowsOf n ((List.range m).map gasMix)

/-- what the regenerated `initialize_chemistry` stores as `self.mixProfile` (`none` = `InvalidChemistryException`) -/
noncomputable def srcMix (nFill : Nat) (ratios : List ℝ) (n m : Nat) (gasMix : Nat → Nat → ℝ) :
    Option (List (List ℝ)) :=
  (Gen.SrcC10.initialize_chemistry n m ratios gasMix nFill).map (rowsOf n)

/-- the regenerated `compute_mu_profile(nlayers)`, cut to `n` layers -/
noncomputable def srcMu (n m : Nat) (massAt : Nat → ℝ) (mix : Nat → Nat → ℝ) : List ℝ :=
  listOf n (Gen.SrcC10.compute_mu_profile n m massAt mix)

/-- the regenerated `ConstantGas.initialize_profile` -/
noncomputable def srcConstant (mix : ℝ) (n : Nat) : List ℝ := listOf n (Gen.SrcC10.constant_gas n mix)

/-- the regenerated `TwoPointGas.initialize_profile`, `nlayers = len(pressure_profile)` -/
noncomputable def srcTwoPoint (surf top : ℝ) (P : List ℝ) : List ℝ :=
  listOf P.length (Gen.SrcC10.two_point_gas P.length (fun i => P.getD i 0) P.length surf top)

/-- the regenerated `PowerGas.initialize_profile` (formula after the coefficient look-up) -/
noncomputable def srcPower (ms a b c bf : ℝ) (rpow : ℝ → ℝ → ℝ) (P T : List ℝ) (n : Nat) : List ℝ :=
  listOf n (Gen.SrcC10.power_gas (fun i => T.getD i 0) (fun i => P.getD i 0) a b bf c ms rpow)

theorem srcMix_ok (nFill : Nat) (ratios : List ℝ) (n m : Nat) (gasMix : Nat → Nat → ℝ)
    (hcount : ¬ (1 < nFill ∧ ratios.length ≠ nFill - 1)) (rows : List (List ℝ)) :
    srcMix nFill ratios n m gasMix = some rows ↔ mixProfile nFill ratios (srcTraces n m gasMix) n = .ok rows := by
  unfold srcMix srcTraces
  rw [src_initialize_chemistry add_zero nFill ratios n m gasMix hcount]
  cases Gen.SrcC10.initialize_chemistry n m ratios gasMix nFill <;> simp

theorem srcMix_none (nFill : Nat) (ratios : List ℝ) (n m : Nat) (gasMix : Nat → Nat → ℝ)
    (hcount : ¬ (1 < nFill ∧ ratios.length ≠ nFill - 1)) :
    srcMix nFill ratios n m gasMix = none ↔ mixProfile nFill ratios (srcTraces n m gasMix) n = .invalid := by
  unfold srcMix srcTraces
  rw [src_initialize_chemistry add_zero nFill ratios n m gasMix hcount]
  cases Gen.SrcC10.initialize_chemistry n m ratios gasMix nFill <;> simp

theorem srcTraces_length (n m : Nat) (gasMix : Nat → Nat → ℝ) : (srcTraces n m gasMix).length = m := by
  simp [srcTraces, rowsOf]

theorem srcTraces_row_length (n m : Nat) (gasMix : Nat → Nat → ℝ) : ∀ r ∈ srcTraces n m gasMix, r.length = n := by
  intro r hr
  simp only [srcTraces, rowsOf, List.map_map, List.mem_map] at hr
  obtain ⟨k, _, rfl⟩ := hr
  exact listOf_length n _

theorem srcTraces_nonneg (n m : Nat) (gasMix : Nat → Nat → ℝ) (h : ∀ k, k < m → ∀ j, j < n → 0 ≤ gasMix k j) :
    ∀ r ∈ srcTraces n m gasMix, ∀ x ∈ r, 0 ≤ x := by
  intro r hr x hx
  simp only [srcTraces, rowsOf, List.map_map, List.mem_map, List.mem_range] at hr
  obtain ⟨k, hk, rfl⟩ := hr
  exact C10Src.listOf_forall n _ _ (h k hk) x hx

theorem srcMu_eq (n m : Nat) (massAt : Nat → ℝ) (mix : Nat → Nat → ℝ) :
    srcMu n m massAt mix = muProfile (srcTraces n m mix) ((List.range m).map massAt) n :=
  src_mu_profile n m mix massAt

theorem srcConstant_eq (mix : ℝ) (n : Nat) : srcConstant mix n = constantGas mix n := src_constant_gas mix n

theorem srcTwoPoint_eq (surf top : ℝ) (P : List ℝ) : srcTwoPoint surf top P = twoPointGas surf top P :=
  src_two_point_gas surf top P

theorem srcPower_eq (ms a b c bf : ℝ) (rpow : ℝ → ℝ → ℝ) (hpow : ∀ x y, rpow x y = exp (y * log x))
    (P T : List ℝ) (n : Nat) (hP : P.length = n) (hT : T.length = n) :
    srcPower ms a b c bf rpow P T n = powerGas ms a b c bf P T :=
  src_power_gas ms a b c bf rpow hpow P T n hP hT

/-! ### the mixture -/

/-- shape of an accepted mixture: one row per gas (fill gases first, then the trace rows unchanged), one value per
    layer, about the regenerated `initialize_chemistry` -/
theorem src_mix_rows (nFill : Nat) (ratios : List ℝ) (n m : Nat) (gasMix : Nat → Nat → ℝ) (rows : List (List ℝ))
    (hcount : ¬ (1 < nFill ∧ ratios.length ≠ nFill - 1)) (h1 : 1 ≤ nFill)
    (hok : srcMix nFill ratios n m gasMix = some rows) :
    rows.length = nFill + m ∧ (∀ r ∈ rows, r.length = n) ∧ rows.drop nFill = srcTraces n m gasMix := by
  have h := mix_rows nFill ratios (srcTraces n m gasMix) rows n h1 (srcTraces_row_length n m gasMix)
    ((srcMix_ok nFill ratios n m gasMix hcount rows).1 hok)
  rwa [srcTraces_length] at h

/-- the fill gases share exactly the remainder `1 − Σ traces` of every layer, about the regenerated
    `initialize_chemistry` -/
theorem src_fill_sum (nFill : Nat) (ratios : List ℝ) (n m : Nat) (gasMix : Nat → Nat → ℝ) (rows : List (List ℝ))
    (hcount : ¬ (1 < nFill ∧ ratios.length ≠ nFill - 1)) (h1 : 1 ≤ nFill) (hratio : ∀ r ∈ ratios, 0 ≤ r)
    (hok : srcMix nFill ratios n m gasMix = some rows) :
    ∀ j, j < n → sumL (column (rows.take nFill) j) = 1 - sumL (column (srcTraces n m gasMix) j) :=
  fill_sum nFill ratios (srcTraces n m gasMix) rows n h1 (srcTraces_row_length n m gasMix) hratio
    ((srcMix_ok nFill ratios n m gasMix hcount rows).1 hok)

/-- **the volume mixing ratios of every layer sum to one**, about the regenerated `initialize_chemistry` -/
theorem src_mix_sum_one (nFill : Nat) (ratios : List ℝ) (n m : Nat) (gasMix : Nat → Nat → ℝ) (rows : List (List ℝ))
    (hcount : ¬ (1 < nFill ∧ ratios.length ≠ nFill - 1)) (h1 : 1 ≤ nFill) (hratio : ∀ r ∈ ratios, 0 ≤ r)
    (hok : srcMix nFill ratios n m gasMix = some rows) :
    ∀ j, j < n → sumL (column rows j) = 1 :=
  mix_sum_one nFill ratios (srcTraces n m gasMix) rows n h1 (srcTraces_row_length n m gasMix) hratio
    ((srcMix_ok nFill ratios n m gasMix hcount rows).1 hok)

/-- **an accepted mixture has no negative entry** (non-negative traces and ratios), about the regenerated
    `initialize_chemistry` -/
theorem src_mix_nonneg (nFill : Nat) (ratios : List ℝ) (n m : Nat) (gasMix : Nat → Nat → ℝ) (rows : List (List ℝ))
    (hcount : ¬ (1 < nFill ∧ ratios.length ≠ nFill - 1)) (hratio : ∀ r ∈ ratios, 0 ≤ r)
    (hnn : ∀ k, k < m → ∀ j, j < n → 0 ≤ gasMix k j)
    (hok : srcMix nFill ratios n m gasMix = some rows) : ∀ r ∈ rows, ∀ x ∈ r, 0 ≤ x :=
  mix_nonneg nFill ratios (srcTraces n m gasMix) rows n hratio (srcTraces_nonneg n m gasMix hnn)
    ((srcMix_ok nFill ratios n m gasMix hcount rows).1 hok)

/-- **every further fill gas is exactly `ratio ×` the first fill gas**, about the regenerated `initialize_chemistry` /
    `fill_atmosphere` -/
theorem src_fill_ratio (nFill : Nat) (ratios : List ℝ) (n m : Nat) (gasMix : Nat → Nat → ℝ) (rows : List (List ℝ))
    (hcount : ¬ (1 < nFill ∧ ratios.length ≠ nFill - 1)) (h2 : 2 ≤ nFill)
    (hok : srcMix nFill ratios n m gasMix = some rows) :
    ∀ k (hk : k < ratios.length), rows.getD (k + 1) [] = (rows.getD 0 []).map (fun x => ratios[k] * x) :=
  fill_ratio nFill ratios (srcTraces n m gasMix) rows n h2 ((srcMix_ok nFill ratios n m gasMix hcount rows).1 hok)

/-- **traces exceeding one anywhere ⇒ the regenerated `initialize_chemistry` raises `InvalidChemistryException`**
    (so, with `src_mix_nonneg`, a negative fill is never produced) -/
theorem src_exceed_rejected (nFill : Nat) (ratios : List ℝ) (n m : Nat) (gasMix : Nat → Nat → ℝ)
    (hcount : ¬ (1 < nFill ∧ ratios.length ≠ nFill - 1))
    (h : ∃ t ∈ totalMix (srcTraces n m gasMix) n, 1 < t) :
    Gen.SrcC10.initialize_chemistry n m ratios gasMix nFill = none := by
  have := (srcMix_none nFill ratios n m gasMix hcount).2 (exceed_rejected nFill ratios (srcTraces n m gasMix) n h)
  simpa [srcMix] using this

/-- conversely a total of at most one in every layer (exactly one included) is accepted by the regenerated
    `initialize_chemistry` -/
theorem src_unity_accepted (nFill : Nat) (ratios : List ℝ) (n m : Nat) (gasMix : Nat → Nat → ℝ)
    (hl : 1 < nFill → ratios.length = nFill - 1) (h : ∀ t ∈ totalMix (srcTraces n m gasMix) n, t ≤ 1) :
    ∃ rows, srcMix nFill ratios n m gasMix = some rows := by
  obtain ⟨rows, hrows⟩ := unity_accepted nFill ratios (srcTraces n m gasMix) n hl h
  exact ⟨rows, (srcMix_ok nFill ratios n m gasMix (fun hc => hc.2 (hl hc.1)) rows).2 hrows⟩

/-- **the mean molecular weight of layer `j` is the abundance-weighted sum of the molecular masses**, about the
    regenerated `compute_mu_profile` -/
theorem src_mu_weighted (n m : Nat) (massAt : Nat → ℝ) (mix : Nat → Nat → ℝ) :
    ∀ j, j < n → (srcMu n m massAt mix).getD j 0 =
      sumL (((srcTraces n m mix).zip ((List.range m).map massAt)).map (fun rm => rm.1.getD j 0 * rm.2)) := by
  rw [srcMu_eq]
  exact mu_weighted (srcTraces n m mix) ((List.range m).map massAt) n (srcTraces_row_length n m mix)

/-! ### the built-in abundance profiles -/

/-- ConstantGas: one value per layer, each equal to the control value, about the regenerated `initialize_profile` -/
theorem src_constant_len (mix : ℝ) (n : Nat) :
    (srcConstant mix n).length = n ∧ ∀ v ∈ srcConstant mix n, v = mix := by
  rw [srcConstant_eq]; exact constant_len mix n

/-- TwoPointGas: one value per layer, each between the two control abundances, about the regenerated
    `initialize_profile` (guards as in `twoPoint_between`) -/
theorem src_twoPoint_between (surf top lo hi : ℝ) (pressure : List ℝ) (hlo : 0 < lo)
    (hs : lo ≤ surf ∧ surf ≤ hi) (ht : lo ≤ top ∧ top ≤ hi)
    (hpos : 0 < pressure.getD (pressure.length - 1) 0)
    (hlt : pressure.getD (pressure.length - 1) 0 < pressure.getD 0 0)
    (hp : ∀ p ∈ pressure, pressure.getD (pressure.length - 1) 0 ≤ p ∧ p ≤ pressure.getD 0 0) :
    (srcTwoPoint surf top pressure).length = pressure.length ∧
      ∀ v ∈ srcTwoPoint surf top pressure, lo ≤ v ∧ v ≤ hi := by
  rw [srcTwoPoint_eq]; exact twoPoint_between surf top lo hi pressure hlo hs ht hpos hlt hp

/-- PowerGas: positive and at most the deep-atmosphere abundance `mix_ratio_surface`, one value per layer, about the
    regenerated `initialize_profile` -/
theorem src_power_le_surface (ms alpha beta gamma bf : ℝ) (rpow : ℝ → ℝ → ℝ)
    (hpow : ∀ x y, rpow x y = exp (y * log x)) (pressure temperature : List ℝ) (n : Nat)
    (hP : pressure.length = n) (hT : temperature.length = n) (h0 : 0 < ms) :
    (srcPower ms alpha beta gamma bf rpow pressure temperature n).length = min pressure.length temperature.length ∧
      ∀ v ∈ srcPower ms alpha beta gamma bf rpow pressure temperature n, 0 < v ∧ v ≤ ms := by
  rw [srcPower_eq ms alpha beta gamma bf rpow hpow pressure temperature n hP hT]
  exact power_le_surface ms alpha beta gamma bf pressure temperature h0

/-! ### ArrayGas, TwoLayerGas, and every built-in gas object -/

/-- the regenerated `ArrayGas.initialize_profile` -/
noncomputable def srcArray (arr : List ℝ) (n : Nat) : List ℝ :=
  Gen.SrcC10.array_gas n (fun x xp fp => npInterp xp fp x) (fun a b k => linspace a b k) arr

theorem srcArray_eq (arr : List ℝ) (n : Nat) : srcArray arr n = arrayGas arr n := src_array_gas arr n

/-- ArrayGas: one value per layer for any layer count, each inside the range of the tabulated abundances, about the
    regenerated `initialize_profile` -/
theorem src_array_between (arr : List ℝ) (n : Nat) (lo hi : ℝ) (hne : 0 < arr.length)
    (h : ∀ x ∈ arr, lo ≤ x ∧ x ≤ hi) :
    (srcArray arr n).length = n ∧ ∀ v ∈ srcArray arr n, lo ≤ v ∧ v ≤ hi := by
  rw [srcArray_eq]; exact array_between arr n lo hi hne h

/-- the regenerated `TwoLayerGas.initialize_profile` (what it leaves in `self._mix_profile`, or the exception) -/
noncomputable def srcTwoLayer (surf top pb w : ℝ) (n : Nat) (pressure : List ℝ) : Except String (List ℝ) :=
  Gen.SrcC10.two_layer_gas n pressure (fun x xp fp => npInterp xp fp x) pb surf top pyIntR w toFloatR

/-- the tie, over ℝ: for a non-negative smoothing window and at least one layer the regenerated
    `TwoLayerGas.initialize_profile` IS the model's `twoLayerGas` -/
theorem srcTwoLayer_eq (surf top pb w : ℝ) (n : Nat) (pressure : List ℝ) (h1 : 1 ≤ n) (hw : 0 ≤ w) :
    outcomeOf "InvalidModelException" (srcTwoLayer surf top pb w n pressure) = twoLayerGas surf top pb w n pressure := by
  unfold srcTwoLayer
  refine src_two_layer_gas surf top pb w n pressure pyIntR toFloatR h1 toFloatR_nat pyIntR_max ?_ ?_ pyIntR_half ?_
  · apply pyIntR_nonneg'
    simp only [ofNat'_real]; positivity
  · apply pyIntR_nonneg'
    simp only [ofNat'_real]; positivity
  · exact src_movingaverage _ _ (one_le_oddWindow n w) toFloatR toFloatR_nat

/-- TwoLayerGas, about the regenerated `initialize_profile`: whenever a profile is returned, smoothing included, every
    abundance lies between the two control abundances (guards as in `twoLayer_between`, at least one layer) -/
theorem src_twoLayer_between (surf top pb w lo hi : ℝ) (n : Nat) (pressure row : List ℝ) (hlo : 0 < lo)
    (hs : lo ≤ surf ∧ surf ≤ hi) (ht : lo ≤ top ∧ top ≤ hi) (hn : n = pressure.length) (h1 : 1 ≤ n) (hw : 0 ≤ w)
    (hpos : ∀ x ∈ pressure, 0 < x) (hsorted : pressure.Pairwise (fun a b => b ≤ a))
    (hok : srcTwoLayer surf top pb w n pressure = .ok row) : ∀ v ∈ row, lo ≤ v ∧ v ≤ hi := by
  have h := srcTwoLayer_eq surf top pb w n pressure h1 hw
  rw [hok] at h
  exact twoLayer_between surf top pb w lo hi n pressure row hlo hs ht hn hw hpos hsorted h.symm

/-- `gas.initialize_profile(n, T, P, z); gas.mixProfile` for a gas OBJECT of each built-in class: the regenerated
    `initialize_profile` of that class (Python's dynamic dispatch is the `match`; `TwoPointGas` reads the layer count off
    the pressure profile it is handed) -/
noncomputable def srcGasProfile (g : Gas ℝ) (rpow : ℝ → ℝ → ℝ) (n : Nat) (pressure temperature : List ℝ) :
    Except String (List ℝ) :=
  match g with
  | .constant mix => .ok (srcConstant mix n)
  | .twoLayer s t pb w => srcTwoLayer s t pb w n pressure
  | .twoPoint s t => .ok (srcTwoPoint s t pressure)
  | .array arr => .ok (srcArray arr n)
  | .power ms a b c bf => .ok (srcPower ms a b c bf rpow pressure temperature n)

theorem srcGasProfile_eq (g : Gas ℝ) (rpow : ℝ → ℝ → ℝ) (hpow : ∀ x y, rpow x y = exp (y * log x)) (n : Nat)
    (pressure temperature : List ℝ) (hadm : g.Admissible) (hn : n = pressure.length) (hT : n = temperature.length)
    (h1 : 1 ≤ n) :
    outcomeOf "InvalidModelException" (srcGasProfile g rpow n pressure temperature)
      = g.profile n pressure temperature := by
  cases g with
  | constant m => simp [srcGasProfile, Gas.profile, srcConstant_eq]
  | twoLayer s t pb w => exact srcTwoLayer_eq s t pb w n pressure h1 hadm.2.2.1
  | twoPoint s t => simp [srcGasProfile, Gas.profile, srcTwoPoint_eq]
  | array arr => simp [srcGasProfile, Gas.profile, srcArray_eq]
  | power ms a b c bf =>
    simp [srcGasProfile, Gas.profile, srcPower_eq ms a b c bf rpow hpow pressure temperature n hn.symm hT.symm]

/-- **every built-in profile yields exactly one value per layer for every layer count** (in particular TwoLayerGas with any
    percentage window and 10, 25, 45 … layers never fails at the border store) and none of them is negative, about the
    regenerated `initialize_profile` of each class -/
theorem src_profile_len (g : Gas ℝ) (rpow : ℝ → ℝ → ℝ) (hpow : ∀ x y, rpow x y = exp (y * log x)) (n : Nat)
    (pressure temperature : List ℝ) (hadm : g.Admissible) (hn : n = pressure.length) (hT : n = temperature.length)
    (h1 : 1 ≤ n) :
    ∃ row, srcGasProfile g rpow n pressure temperature = .ok row ∧ row.length = n ∧ ∀ x ∈ row, 0 ≤ x := by
  obtain ⟨row, hrow, hl, hnn⟩ := profile_len g n pressure temperature hadm hn hT
  rw [← srcGasProfile_eq g rpow hpow n pressure temperature hadm hn hT h1, outcomeOf_ok_iff] at hrow
  exact ⟨row, hrow, hl, hnn⟩

/-! ### PowerGas with coefficients left to the table -/

/-- the regenerated whole `PowerGas.initialize_profile` (what it leaves in `self._mix_profile`, or the exception) -/
noncomputable def srcPowerAuto (ms a b g : Option ℝ) (known : String → Option ℝ × Option ℝ × Option ℝ × Option ℝ)
    (ptype : String) (bf : ℝ) (rpow : ℝ → ℝ → ℝ) (P T : List ℝ) (n : Nat) : Except String (List ℝ) :=
  Gen.SrcC10.power_gas_full n T P a b bf known g ms ptype rpow

theorem powerGasAuto_ok (ms a b g : Option ℝ) (k : Option ℝ × Option ℝ × Option ℝ × Option ℝ) (bf : ℝ) (P T row : List ℝ)
    (h : powerGasAuto ms a b g k bf P T = .ok row) :
    ∃ m a' b' g', powerCoeff ms k.2.2.2 = some m ∧ powerCoeff a k.1 = some a' ∧ powerCoeff b k.2.1 = some b' ∧
      powerCoeff g k.2.2.1 = some g' ∧ row = powerGas m a' b' g' bf P T := by
  unfold powerGasAuto at h
  split at h
  · rename_i m a' b' g' h1 h2 h3 h4
    exact ⟨m, a', b', g', h1, h2, h3, h4, (Outcome.ok.inj h).symm⟩
  · exact absurd h (by simp)

/-- PowerGas, coefficients left `None` included, about the regenerated whole `initialize_profile`: whenever it returns a
    profile, the deep-atmosphere abundance it used is the constructor's or the tabulated one, and (when that is positive)
    the profile has one value per layer, each positive and at most that abundance; a coefficient that is neither given nor
    tabulated gives no profile (ValueError) -/
theorem src_power_auto_le_surface (ms a b g : Option ℝ) (known : String → Option ℝ × Option ℝ × Option ℝ × Option ℝ)
    (ptype : String) (bf : ℝ) (rpow : ℝ → ℝ → ℝ) (hpow : ∀ x y, rpow x y = exp (y * log x)) (P T row : List ℝ) (n : Nat)
    (h : P.length = T.length) (hok : srcPowerAuto ms a b g known ptype bf rpow P T n = .ok row) :
    ∃ m0, powerCoeff ms (known ptype).2.2.2 = some m0 ∧
      (0 < m0 → row.length = min P.length T.length ∧ ∀ v ∈ row, 0 < v ∧ v ≤ m0) := by
  have ht := src_power_gas_full ms a b g known ptype bf rpow hpow P T n h
  unfold srcPowerAuto at hok
  rw [hok] at ht
  obtain ⟨m, a', b', g', h1, _, _, _, rfl⟩ := powerGasAuto_ok ms a b g (known ptype) bf P T row ht.symm
  exact ⟨m, h1, fun h0 => power_le_surface m a' b' g' bf P T h0⟩

/-! ### the molecules that count as absorbing, the active / inactive split -/

/-- what the regenerated `Chemistry.__init__` leaves in `_avail_active` (`deactive_molecules` None or a list) -/
def srcAvail (kt op : List String) (ktables : Bool) (deactive : Option (List String)) : List String :=
  Gen.SrcC10.chemistry_init deactive kt ktables op

/-- the molecules that count as absorbing, about the regenerated `Chemistry.__init__`: the registered opacity data (of
    the cache the global option selects) minus the `deactive_molecules` option -/
theorem src_available_spec (kt op : List String) (ktables : Bool) (deactive : Option (List String)) (g : String) :
    g ∈ srcAvail kt op ktables deactive ↔
      g ∈ (if ktables then kt else op) ∧ ∀ d, deactive = some d → g ∉ d := by
  unfold srcAvail
  rw [src_chemistry_init]
  exact available_spec _ deactive g

/-- the same when the option is ONE bare string: exactly that molecule is taken out -/
theorem src_available_spec_str (kt op : List String) (ktables : Bool) (d g : String) :
    g ∈ Gen.SrcC10.chemistry_init_str d kt ktables op ↔ g ∈ (if ktables then kt else op) ∧ g ≠ d := by
  rw [src_chemistry_init_str, available_spec]
  simp

/-- what the regenerated `determine_active_inactive` leaves in `(_active, _active_mask, _inactive, _inactive_mask)` -/
def srcSplit (gases avail : List String) : List String × Option (List Nat) × List String × Option (List Nat) :=
  Gen.SrcC10.determine_active_inactive avail gases

/-- a mask attribute read as a list of positions (`None` = no position) -/
def maskOf (m : Option (List Nat)) : List Nat := m.getD []

theorem maskOf_ite (l : List Nat) : maskOf (if l.isEmpty then none else some l) = l := by
  unfold maskOf
  cases l <;> simp

/-- **active and inactive gases partition the gas list** by availability, each in the original order, and the masks
    point at exactly those gases — about the regenerated `determine_active_inactive` -/
theorem src_partition_perm (gases avail : List String) :
    ((srcSplit gases avail).1 ++ (srcSplit gases avail).2.2.1).Perm gases ∧
    (srcSplit gases avail).1.Sublist gases ∧ (srcSplit gases avail).2.2.1.Sublist gases ∧
    (∀ g, g ∈ (srcSplit gases avail).1 ↔ g ∈ gases ∧ avail.contains g = true) ∧
    (maskOf (srcSplit gases avail).2.1).map (fun i => gases.getD i "") = (srcSplit gases avail).1 ∧
    (maskOf (srcSplit gases avail).2.2.2).map (fun i => gases.getD i "") = (srcSplit gases avail).2.2.1 := by
  unfold srcSplit
  rw [src_determine_active_inactive]
  simp only [maskOf_ite]
  exact partition_perm gases avail

/-- the regenerated `get_gas_mix_profile(g)` on a chemistry object whose active / inactive attributes are what the
    regenerated `determine_active_inactive` leaves and whose `mixProfile` is the 2-D array `mix` -/
def srcLookup {β : Type} (gases avail : List String) (mix : List (List β)) (g : String) : Except String (List β) :=
  Gen.SrcC10.get_gas_mix_profile g (srcSplit gases avail).1 (srcSplit gases avail).2.1 (srcSplit gases avail).2.2.1
    (srcSplit gases avail).2.2.2 (some mix)

theorem srcLookup_eq {β : Type} (gases avail : List String) (mix : List (List β)) (g : String) :
    srcLookup gases avail mix g = (getGasMixProfile gases avail mix g).elim (Except.error "KeyError") Except.ok :=
  src_get_gas_mix_profile gases avail mix g

/-- **`get_gas_mix_profile(g)` is the row of `g` in `mixProfile`** (row index = position of `g` in the gas list) and a
    `KeyError` exactly for unknown names — about the regenerated `get_gas_mix_profile`, its getters and
    `determine_active_inactive` (none of the other exceptions of the translated text can occur) -/
theorem src_lookup_row {β : Type} (gases avail : List String) (mix : List (List β)) (g : String) :
    (g ∈ gases → srcLookup gases avail mix g = Except.ok (mix.getD (gases.idxOf g) [])) ∧
    (g ∉ gases → srcLookup gases avail mix g = Except.error "KeyError") := by
  rw [srcLookup_eq]
  obtain ⟨h1, h2⟩ := lookup_row gases avail mix g
  exact ⟨fun hg => by rw [h1 hg]; rfl, fun hg => by rw [h2 hg]; rfl⟩

example : srcLookup ["H2", "He", "H2O", "CH4"] ["H2O", "CH4"] [[1], [2], [3], [4]] "H2O" = Except.ok [3] ∧
    srcLookup ["H2", "He", "H2O", "CH4"] ["H2O", "CH4"] [[1], [2], [3], [4]] "He" = Except.ok [2] ∧
    srcLookup ["H2", "He", "H2O", "CH4"] ["H2O", "CH4"] [[1], [2], [3], [4]] "CO" = Except.error "KeyError" := by
  decide

/-! ### end to end -/

/-- the profiles the code collects from the gas objects (`gas.mixProfile` after `gas.initialize_profile`), as the array
    parameter `gasMix` of the regenerated `initialize_chemistry` -/
noncomputable def gasMixOf (traces : List (List ℝ)) : Nat → Nat → ℝ := fun k j => (traces.getD k []).getD j 0

theorem srcTraces_gasMixOf (n : Nat) (traces : List (List ℝ)) (h : ∀ r ∈ traces, r.length = n) :
    srcTraces n traces.length (gasMixOf traces) = traces := by
  unfold srcTraces rowsOf gasMixOf
  rw [List.map_map]
  apply List.ext_getElem
  · simp
  · intro k h1 h2
    simp only [List.getElem_map, List.getElem_range, Function.comp_def]
    have hk : traces.getD k [] = traces[k] := by
      rw [List.getD_eq_getElem?_getD, List.getElem?_eq_getElem h2]; rfl
    rw [hk]
    exact listOf_getD_self _ n (h _ (List.getElem_mem h2))

theorem src_profiles_total (rpow : ℝ → ℝ → ℝ) (hpow : ∀ x y, rpow x y = exp (y * log x)) (n : Nat)
    (pressure temperature : List ℝ) (hn : n = pressure.length) (hT : n = temperature.length) (h1 : 1 ≤ n) :
    ∀ (gases : List (Gas ℝ)), (∀ g ∈ gases, g.Admissible) →
      ∃ traces : List (List ℝ),
        List.Forall₂ (fun g row => srcGasProfile g rpow n pressure temperature = .ok row) gases traces ∧
        (∀ r ∈ traces, r.length = n) ∧ (∀ r ∈ traces, ∀ x ∈ r, 0 ≤ x)
  | [], _ => ⟨[], List.Forall₂.nil, by simp, by simp⟩
  | g :: gs, hadm => by
    obtain ⟨row, hrow, hl, hnn⟩ := src_profile_len g rpow hpow n pressure temperature (hadm g (by simp)) hn hT h1
    obtain ⟨rows, hf, hls, hnns⟩ := src_profiles_total rpow hpow n pressure temperature hn hT h1 gs
      (fun g' hg' => hadm g' (List.mem_cons_of_mem _ hg'))
    refine ⟨row :: rows, List.Forall₂.cons hrow hf, ?_, ?_⟩
    · intro r hr
      rcases List.mem_cons.1 hr with rfl | hr
      · exact hl
      · exact hls r hr
    · intro r hr
      rcases List.mem_cons.1 hr with rfl | hr
      · exact hnn
      · exact hnns r hr

/-- **end to end, about the regenerated source**: for admissible gas objects the regenerated `initialize_profile` of every
    gas returns a profile (one value per layer, none negative), and the regenerated `initialize_chemistry`, fed with these
    profiles, either raises `InvalidChemistryException` or leaves one row per gas whose layers are non-negative and sum to
    one -/
theorem src_chemistry_valid (nFill : Nat) (ratios : List ℝ) (gases : List (Gas ℝ)) (rpow : ℝ → ℝ → ℝ)
    (hpow : ∀ x y, rpow x y = exp (y * log x)) (n : Nat) (pressure temperature : List ℝ) (h1 : 1 ≤ nFill)
    (hcount : ¬ (1 < nFill ∧ ratios.length ≠ nFill - 1)) (hratio : ∀ r ∈ ratios, 0 ≤ r)
    (hadm : ∀ g ∈ gases, g.Admissible) (hn : n = pressure.length) (hT : n = temperature.length) (hn1 : 1 ≤ n) :
    ∃ traces : List (List ℝ),
      List.Forall₂ (fun g row => srcGasProfile g rpow n pressure temperature = .ok row) gases traces ∧
      (srcMix nFill ratios n gases.length (gasMixOf traces) = none ∨
       ∃ rows, srcMix nFill ratios n gases.length (gasMixOf traces) = some rows ∧
        rows.length = nFill + gases.length ∧ (∀ r ∈ rows, r.length = n) ∧
        (∀ r ∈ rows, ∀ x ∈ r, 0 ≤ x) ∧ ∀ j, j < n → sumL (column rows j) = 1) := by
  obtain ⟨traces, hf, hls, hnns⟩ := src_profiles_total rpow hpow n pressure temperature hn hT hn1 gases hadm
  refine ⟨traces, hf, ?_⟩
  have hlen : gases.length = traces.length := hf.length_eq
  have htr : srcTraces n gases.length (gasMixOf traces) = traces := by
    rw [hlen]; exact srcTraces_gasMixOf n traces hls
  cases hm : srcMix nFill ratios n gases.length (gasMixOf traces) with
  | none => exact Or.inl rfl
  | some rows =>
    refine Or.inr ⟨rows, rfl, ?_⟩
    have hok := (srcMix_ok nFill ratios n gases.length (gasMixOf traces) hcount rows).1 hm
    rw [htr] at hok
    have hr := mix_rows nFill ratios traces rows n h1 hls hok
    exact ⟨by rw [hr.1, hlen], hr.2.1, mix_nonneg nFill ratios traces rows n hratio hnns hok,
      mix_sum_one nFill ratios traces rows n h1 hls hratio hok⟩

end Taurex.C10SrcProps
