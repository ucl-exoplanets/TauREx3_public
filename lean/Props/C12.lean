/-
  C12 — temperature profiles are finite, positive and bounded by their control values.
  Every `theorem` of this file is an audited obligation about the definitions of TaurexModel/Temperature.lean
  (the ones `driver_c12` executes on Float), here at the real carrier.
-/
import Proofs.C12Lemmas
import Proofs.C12Guillot

namespace Taurex.C12
open Taurex.NpInterp Taurex.Temperature

/-- Isothermal: one value per layer, all equal to the control temperature. -/
theorem iso_const (t : ℝ) (n : Nat) : (isothermal t n).length = n ∧ ∀ v ∈ isothermal t n, v = t := by
  unfold isothermal
  exact ⟨List.length_replicate, fun v hv => (List.mem_replicate.1 hv).2⟩

example : isothermal (1500 : ℝ) 3 = [1500, 1500, 1500] := rfl

/-- NPoint is rejected as an invalid model exactly when two consecutive pressure nodes are not strictly
    decreasing or a segment's slope |ΔT / Δlog10 P| reaches the limit — never NaN, never another error. -/
theorem npoint_rejects (q : NPointParams ℝ) (n : Nat) (pressure : List ℝ) :
    nPoint q n pressure = .invalid ↔
      (∃ i, ∃ h : i + 1 < (q.pNodes pressure).length, (q.pNodes pressure)[i] ≤ (q.pNodes pressure)[i + 1]) ∨
      (∃ i, ∃ hp : i + 1 < (q.pNodes pressure).length, ∃ ht : i + 1 < q.tNodes.length,
        q.limitSlope ≤ |(q.tNodes[i + 1] - q.tNodes[i]) /
          (log10 (q.pNodes pressure)[i + 1] - log10 (q.pNodes pressure)[i])|) := by
  rw [nPoint_invalid_iff, NPointParams.rejected, Bool.or_eq_true, pressureInverted_iff, slopeTooHigh_iff]

/-- the 4-node profile used in the non-vacuity examples: 9 layers, nodes 1e5 > 1e3 > 10 > 0.1 Pa -/
noncomputable def exampleNPoint : NPointParams ℝ :=
  { tSurface := 1500, tTop := 300, pSurface := some 100000, pTop := some (1 / 10), tPoints := [1200, 800],
    pPoints := [1000, 10], window := 34, limitSlope := 9999999 }

example : pressureInverted (exampleNPoint.pNodes []) = false := by
  simp only [exampleNPoint, NPointParams.pNodes, resolveP, pressureInverted, List.cons_append, List.nil_append]
  norm_num

/-- NPoint with a smoothing window that is a percentage (0..100) never fails for any layer count: a profile
    that passes the node check yields exactly one value per layer. -/
theorem npoint_len (q : NPointParams ℝ) (n : Nat) (pressure : List ℝ) (hn : n = pressure.length)
    (hw0 : 0 ≤ q.window) (hw1 : q.window ≤ 100) (hv : q.rejected pressure = false) :
    ∃ prof, nPoint q n pressure = .ok prof ∧ prof.length = n := by
  unfold nPoint
  simp only [hv, Bool.false_eq_true, if_false]
  obtain ⟨r, hr, hl⟩ := smooth_ok (q.interpolated pressure) n q.window
    (by rw [interpolated_length]; exact hn) hw1 _ rfl
  exact ⟨r, hr, by rw [hl, interpolated_length, hn]⟩

example : (0 : ℝ) ≤ exampleNPoint.window ∧ exampleNPoint.window ≤ 100 := by
  simp only [exampleNPoint]; norm_num

/-- NPoint, smoothing included, never leaves the range `[lo, hi]` spanned by its node temperatures (so positive
    nodes give a positive profile).  Guards: as many temperature as pressure points (enforced by the constructor)
    and a positive top pressure node (log10 is taken of the nodes; the accepted ones are strictly decreasing). -/
theorem npoint_between (q : NPointParams ℝ) (n : Nat) (pressure prof : List ℝ) (lo hi : ℝ)
    (hlen : q.tPoints.length = q.pPoints.length)
    (hpos : 0 < resolveP q.pTop (pressure.getD (pressure.length - 1) 0))
    (hT : ∀ t ∈ q.tNodes, lo ≤ t ∧ t ≤ hi) (hok : nPoint q n pressure = .ok prof) :
    ∀ t ∈ prof, lo ≤ t ∧ t ≤ hi := by
  unfold nPoint at hok
  split_ifs at hok with hrej
  have hv : pressureInverted (q.pNodes pressure) = false := by
    unfold NPointParams.rejected at hrej
    rw [Bool.not_eq_true, Bool.or_eq_false_iff] at hrej
    exact hrej.1
  have hraw : Within lo hi (q.interpolated pressure) :=
    interpolated_within q pressure hlen (pNodes_pos q pressure hv hpos) hv hT
  exact smooth_within _ _ _ hraw (movingAverage_between _ _ hraw) (assembleSmoothed_sound _ _ _ hok).2

example : 0 < resolveP exampleNPoint.pTop (([] : List ℝ).getD (([] : List ℝ).length - 1) 0) := by
  simp only [exampleNPoint, resolveP]; norm_num

example : exampleNPoint.tPoints.length = exampleNPoint.pPoints.length ∧
    (∀ t ∈ exampleNPoint.tNodes, (300 : ℝ) ≤ t ∧ t ≤ 1500) := by
  refine ⟨rfl, ?_⟩
  intro t ht
  simp [exampleNPoint, NPointParams.tNodes] at ht
  rcases ht with rfl | rfl | rfl | rfl <;> norm_num

/-- all node temperatures equal ⇒ the NPoint profile is that constant -/
theorem npoint_const (q : NPointParams ℝ) (n : Nat) (pressure prof : List ℝ) (c : ℝ)
    (hlen : q.tPoints.length = q.pPoints.length)
    (hpos : 0 < resolveP q.pTop (pressure.getD (pressure.length - 1) 0))
    (hT : ∀ t ∈ q.tNodes, t = c) (hok : nPoint q n pressure = .ok prof) : ∀ t ∈ prof, t = c := by
  intro t ht
  have := npoint_between q n pressure prof c c hlen hpos
    (fun t ht => ⟨(hT t ht).ge, (hT t ht).le⟩) hok t ht
  exact le_antisymm this.2 this.1

example : ∀ t ∈ ({ exampleNPoint with tSurface := 700, tTop := 700, tPoints := [700, 700] } : NPointParams ℝ).tNodes,
    t = 700 := by
  intro t ht
  simp [NPointParams.tNodes] at ht
  exact ht

/-- Rodgers 2000 with the default covariance: one value per layer, each inside the range of the layer
    temperatures.  Guards: positive pressures (log of ratios), one temperature per layer.  (The correlation length
    only has to be a number; `h = 0` is excluded by the harness because IEEE gives NaN where ℝ gives `x/0 = 0`.) -/
theorem rodgers_between (tl : List ℝ) (h : ℝ) (pressure : List ℝ) (lo hi : ℝ) (_hh : h ≠ 0)
    (hp : ∀ x ∈ pressure, 0 < x) (hlen : tl.length = pressure.length) (hT : ∀ t ∈ tl, lo ≤ t ∧ t ≤ hi) :
    (rodgers tl h none pressure).length = pressure.length ∧
      ∀ t ∈ rodgers tl h none pressure, lo ≤ t ∧ t ≤ hi :=
  ⟨rodgers_default_length tl h pressure, rodgers_default_within tl h pressure hp hlen hT⟩

example : (∀ x ∈ [(100000 : ℝ), 1000, 10], 0 < x) ∧ [(1500 : ℝ), 1000, 700].length = [(100000 : ℝ), 1000, 10].length ∧
    (∀ t ∈ [(1500 : ℝ), 1000, 700], (700 : ℝ) ≤ t ∧ t ≤ 1500) := by
  refine ⟨?_, rfl, ?_⟩
  · intro x hx; simp at hx; rcases hx with rfl | rfl | rfl <;> norm_num
  · intro x hx; simp at hx; rcases hx with rfl | rfl | rfl <;> norm_num

/-- Rodgers: equal layer temperatures give a constant profile -/
theorem rodgers_const (tl : List ℝ) (h : ℝ) (pressure : List ℝ) (c : ℝ) (hh : h ≠ 0)
    (hp : ∀ x ∈ pressure, 0 < x) (hlen : tl.length = pressure.length) (hT : ∀ t ∈ tl, t = c) :
    ∀ t ∈ rodgers tl h none pressure, t = c := by
  intro t ht
  have := (rodgers_between tl h pressure c c hh hp hlen
    (fun t ht => ⟨(hT t ht).ge, (hT t ht).le⟩)).2 t ht
  exact le_antisymm this.2 this.1

example : ∀ t ∈ [(900 : ℝ), 900, 900], t = 900 := by
  intro t ht; simp at ht; exact ht

/-- Rodgers with a user covariance: row-normalised non-negative weights (row sums equal to the column sums the
    code divides by, e.g. any symmetric matrix) keep the profile inside the range of the layer temperatures. -/
theorem rodgers_user_between (tl : List ℝ) (h : ℝ) (cov : List (List ℝ)) (pressure : List ℝ) (lo hi : ℝ)
    (hnn : ∀ row ∈ cov, ∀ c ∈ row, 0 ≤ c) (hlen : ∀ row ∈ cov, row.length ≤ tl.length)
    (hbal : ∀ i (h1 : i < cov.length) (h2 : i < (colSums cov).length),
      (colSums cov)[i] = sumL cov[i] ∧ 0 < sumL cov[i])
    (hT : ∀ t ∈ tl, lo ≤ t ∧ t ≤ hi) : ∀ t ∈ rodgers tl h (some cov) pressure, lo ≤ t ∧ t ≤ hi := by
  unfold rodgers
  exact correlateTemp_within cov tl hnn hlen hbal hT

/- a symmetric 2×2 covariance: column sums [3, 4] = row sums, all positive -/
example : colSums [[(2 : ℝ), 1], [1, 3]] = [3, 4] ∧ sumL [(2 : ℝ), 1] = 3 ∧ sumL [(1 : ℝ), 3] = 4 := by
  simp only [colSums, sumL, List.getD_cons_zero, List.length_cons, List.length_nil, List.range_succ, List.range_zero,
    List.nil_append, List.cons_append, List.map_cons, List.map_nil, List.getD_cons_succ, List.foldl_cons, List.foldl_nil]
  norm_num

/-- TemperatureArray (both code paths, optional reversal): one value per layer, inside the range of the
    tabulated temperatures. -/
theorem array_between (tp : List ℝ) (pp : Option (List ℝ)) (rev : Bool) (n : Nat) (pressure : List ℝ)
    (lo hi : ℝ) (hne : 0 < tp.length) (hpp : ∀ pts, pp = some pts → 0 < pts.length)
    (hn : n = pressure.length) (hT : ∀ t ∈ tp, lo ≤ t ∧ t ≤ hi) :
    (tempArray tp pp rev n pressure).length = n ∧ ∀ t ∈ tempArray tp pp rev n pressure, lo ≤ t ∧ t ≤ hi := by
  have hT' : Within lo hi (if rev then tp.reverse else tp) := by
    split_ifs
    · exact within_reverse hT
    · exact hT
  have hne' : 0 < (if rev then tp.reverse else tp).length := by
    split_ifs <;> simpa using hne
  unfold tempArray
  cases pp with
  | none => exact ⟨tempArrayPlain_length _ _, tempArrayPlain_within _ _ hne' hT'⟩
  | some pts =>
    refine ⟨by rw [tempArrayPressure_length, hn], tempArrayPressure_within _ _ _ hne' ?_ hT'⟩
    have := hpp pts rfl
    split_ifs <;> simpa using this

example : (0 < [(2000 : ℝ), 1000].length) ∧ (∀ t ∈ [(2000 : ℝ), 1000], (1000 : ℝ) ≤ t ∧ t ≤ 2000) := by
  refine ⟨by simp, ?_⟩
  intro x hx; simp at hx; rcases hx with rfl | rfl <;> norm_num

/-- Guillot 2010 is rejected as an invalid model exactly for zero opacities (`kappa_ir = 0`, or a zero
    `gamma = kappa_v / kappa_ir`) or a negative irradiation / internal temperature; otherwise it returns a value
    for every layer for which an `E2` pair is supplied. -/
theorem guillot_rejects (q : GuillotParams ℝ) (g : ℝ) (pressure e21 e22 : List ℝ) :
    (guillot q g pressure e21 e22 = .invalid ↔
      q.kappaIr = 0 ∨ q.kappaV1 = 0 ∨ q.kappaV2 = 0 ∨ q.tIrr < 0 ∨ q.tInt < 0) ∧
    (guillot q g pressure e21 e22 ≠ .invalid →
      ∃ prof, guillot q g pressure e21 e22 = .ok prof ∧
        prof.length = min pressure.length (min e21.length e22.length)) := by
  rw [← guillot_rejected_iff q]
  unfold guillot
  cases q.rejected
  · exact ⟨⟨nofun, nofun⟩, fun _ => ⟨_, rfl, by rw [List.length_zipWith, List.length_zip]⟩⟩
  · exact ⟨⟨fun _ => rfl, fun _ => rfl⟩, fun h => absurd rfl h⟩

example : ¬ ((1 / 100 : ℝ) = 0 ∨ (5 / 1000 : ℝ) = 0 ∨ (5 / 1000 : ℝ) = 0 ∨ (1500 : ℝ) < 0 ∨ (100 : ℝ) < 0) := by
  norm_num

/-- **Guillot positivity**: for positive opacities, non-negative temperatures not both zero, `0 ≤ alpha ≤ 1`,
    positive gravity and non-negative pressures, and ANY function `E2` with the exponential-integral bounds
    `0 ≤ E2 x ≤ exp(-x)/(1+x)` on `x ≥ 0`, the profile is accepted and has one strictly positive temperature per layer. -/
theorem guillot_positive (q : GuillotParams ℝ) (g : ℝ) (pressure : List ℝ) (E2 : ℝ → ℝ)
    (hE : ∀ x, 0 ≤ x → 0 ≤ E2 x ∧ E2 x ≤ Real.exp (-x) / (1 + x))
    (hg : 0 < g) (hp : ∀ p ∈ pressure, 0 ≤ p)
    (hk : 0 < q.kappaIr) (h1 : 0 < q.kappaV1) (h2 : 0 < q.kappaV2)
    (hirr : 0 ≤ q.tIrr) (hint : 0 ≤ q.tInt) (hpos : q.tIrr ≠ 0 ∨ q.tInt ≠ 0)
    (ha0 : 0 ≤ q.alpha) (ha1 : q.alpha ≤ 1) :
    ∃ prof, guillot q g pressure
        (pressure.map fun p => E2 (q.kappaV1 / q.kappaIr * (q.kappaIr * p / g)))
        (pressure.map fun p => E2 (q.kappaV2 / q.kappaIr * (q.kappaIr * p / g))) = .ok prof ∧
      prof.length = pressure.length ∧ ∀ t ∈ prof, 0 < t := by
  have hnr : q.rejected = false := by
    rw [← Bool.not_eq_true, guillot_rejected_iff]
    rintro (h | h | h | h | h)
    exacts [hk.ne' h, h1.ne' h, h2.ne' h, hirr.not_gt h, hint.not_gt h]
  unfold guillot
  simp only [hnr, Bool.false_eq_true, if_false]
  refine ⟨_, rfl, ?_, ?_⟩
  · rw [List.length_zipWith, List.length_zip, List.length_map, List.length_map, Nat.min_self, Nat.min_self]
  · rw [C12G.zipWith_map_zip]
    intro t ht
    obtain ⟨p, hpm, rfl⟩ := List.mem_map.1 ht
    have hp0 := hp p hpm
    have htau : 0 ≤ q.kappaIr * p / g := div_nonneg (mul_nonneg hk.le hp0) hg.le
    have hg1 : 0 < q.kappaV1 / q.kappaIr := div_pos h1 hk
    have hg2 : 0 < q.kappaV2 / q.kappaIr := div_pos h2 hk
    have b1 := hE (q.kappaV1 / q.kappaIr * (q.kappaIr * p / g)) (mul_nonneg hg1.le htau)
    have b2 := hE (q.kappaV2 / q.kappaIr * (q.kappaIr * p / g)) (mul_nonneg hg2.le htau)
    have hT4 := C12G.guillotT4_pos q (q.kappaIr * p / g) _ _ hk h1 h2 hpos ha0 ha1 htau b1.1 b1.2 b2.1 b2.2
    simp only [sqrt_real]
    exact Real.sqrt_pos.2 (Real.sqrt_pos.2 hT4)

/-- non-vacuity: the documented default parameters (T_irr 1500, kappa_ir 0.01, kappa_v 0.005, alpha 0.5, T_int 100) -/
example : (0:ℝ) < 1/100 ∧ (0:ℝ) < 5/1000 ∧ (0:ℝ) ≤ 1500 ∧ (0:ℝ) ≤ 100 ∧ ((1500:ℝ) ≠ 0 ∨ (100:ℝ) ≠ 0) ∧ (0:ℝ) ≤ 1/2 ∧ (1/2:ℝ) ≤ 1 := by
  norm_num

/-- non-vacuity of the `E2` hypothesis: the upper bound itself is an admissible `E2` -/
example : ∀ x : ℝ, 0 ≤ x → 0 ≤ Real.exp (-x) / (1 + x) ∧ Real.exp (-x) / (1 + x) ≤ Real.exp (-x) / (1 + x) :=
  fun x hx => ⟨div_nonneg (Real.exp_pos _).le (by linarith), le_refl _⟩


/-! ### the scaling mixin (`tempscalar+<profile>`, `enhance_class(<profile>, TempScaler)`) -/

/-- `TempScaler` over any wrapped profile: one value per layer of the wrapped profile; for a scale factor `≥ 0` every value
    lies in the range spanned by the wrapped profile's control temperatures times the scale factor. -/
theorem scaler_between (s : ℝ) (prof : List ℝ) (lo hi : ℝ) (hs : 0 ≤ s) (hT : ∀ t ∈ prof, lo ≤ t ∧ t ≤ hi) :
    (tempScaler s prof).length = prof.length ∧ ∀ t ∈ tempScaler s prof, lo * s ≤ t ∧ t ≤ hi * s := by
  unfold tempScaler
  refine ⟨List.length_map _, ?_⟩
  intro t ht
  obtain ⟨x, hx, rfl⟩ := List.mem_map.1 ht
  exact ⟨mul_le_mul_of_nonneg_right (hT x hx).1 hs, mul_le_mul_of_nonneg_right (hT x hx).2 hs⟩

example : tempScaler (11 / 10 : ℝ) [1000, 2000] = [1100, 2200] := by
  simp [tempScaler]; norm_num

/-- a positive scale factor keeps a positive profile positive; equal wrapped temperatures stay equal (a constant profile
    scales to a constant profile) -/
theorem scaler_positive_const (s : ℝ) (prof : List ℝ) (hs : 0 < s) :
    ((∀ t ∈ prof, 0 < t) → ∀ t ∈ tempScaler s prof, 0 < t) ∧
    (∀ c, (∀ t ∈ prof, t = c) → ∀ t ∈ tempScaler s prof, t = c * s) := by
  unfold tempScaler
  refine ⟨?_, ?_⟩
  · intro h t ht
    obtain ⟨x, hx, rfl⟩ := List.mem_map.1 ht
    exact mul_pos (h x hx) hs
  · intro c h t ht
    obtain ⟨x, hx, rfl⟩ := List.mem_map.1 ht
    rw [h x hx]

example : (0 : ℝ) < 11 / 10 ∧ ∀ t ∈ [(1300 : ℝ), 1300], t = 1300 := by
  refine ⟨by norm_num, ?_⟩
  intro t ht; simp at ht; exact ht

/-- **the scaled TemperatureArray / TemperatureFile, however often it is evaluated**: every one of `k` successive
    evaluations of `.profile` has one value per layer inside the range of the tabulated temperatures times the scale factor
    (the k-th evaluation is the first one: evaluating the profile leaves the stored controls alone). -/
theorem scaler_array_reads (s : ℝ) (tp : List ℝ) (pp : Option (List ℝ)) (rev : Bool) (n : Nat) (pressure : List ℝ)
    (lo hi : ℝ) (k : Nat) (hs : 0 ≤ s) (hne : 0 < tp.length) (hpp : ∀ pts, pp = some pts → 0 < pts.length)
    (hn : n = pressure.length) (hT : ∀ t ∈ tp, lo ≤ t ∧ t ≤ hi) :
    (tempScalerReads s tp pp rev n pressure k).length = k ∧
    ∀ prof ∈ tempScalerReads s tp pp rev n pressure k,
      prof = tempScaler s (tempArray tp pp rev n pressure) ∧ prof.length = n ∧
        ∀ t ∈ prof, lo * s ≤ t ∧ t ≤ hi * s := by
  have ha := array_between tp pp rev n pressure lo hi hne hpp hn hT
  have hb := scaler_between s (tempArray tp pp rev n pressure) lo hi hs ha.2
  unfold tempScalerReads
  refine ⟨List.length_replicate, ?_⟩
  intro prof hprof
  obtain rfl := (List.mem_replicate.1 hprof).2
  exact ⟨rfl, by rw [hb.1, ha.1], hb.2⟩

example : tempScalerReads (11 / 10 : ℝ) [1000, 2000] none false 2 [100000, 10] 2 = [[1100, 2200], [1100, 2200]] := by
  simp [tempScalerReads, tempScaler, tempArray, tempArrayPlain, List.replicate]; norm_num

/-! ### the input-file route: `create_temperature_profile(section)` (taurex/parameter/factory.py)

A profile built from a `[Temperature]` section is the class's constructor applied to the section's values over the
constructor's defaults (`Section.resolve`).  The rule never inspects a value (`ν` is arbitrary): an explicit `0`, `0.0`,
`[]` or `False` is a value like any other; and the object built from a section does not depend on what was built before it
in the same session.  The closed forms, bounds and rejections above then apply to the resolved parameters. -/
section SectionRoute
open Taurex.Section

/-- **section_given**: a keyword the section gives reaches the constructor with the section's value — whatever the value
    is (zero, an empty list, `False`: `ν` is arbitrary). -/
theorem section_given {κ ν : Type} [BEq κ] [LawfulBEq κ] (defaults sec r : List (κ × ν))
    (h : resolve defaults sec = some r) (k : κ) (v : ν) (hk : known defaults k = true)
    (hv : sec.lookup k = some v) : r.lookup k = some v := by
  obtain ⟨d, hd⟩ := Option.isSome_iff_exists.1 hk
  rw [resolve_lookup h, hv, hd]
  rfl

-- an explicit zero (default 1) is what the constructor gets
example : ([("alpha", (0 : Nat)), ("T_int", 100)] : List (String × Nat)).lookup "alpha" = some 0 :=
  section_given _ _ _ nv_resolve "alpha" 0 (by decide) (by decide)

/-- **section_default**: a keyword the section omits reaches the constructor with the constructor's own default. -/
theorem section_default {κ ν : Type} [BEq κ] [LawfulBEq κ] (defaults sec r : List (κ × ν))
    (h : resolve defaults sec = some r) (k : κ) (d : ν) (hd : defaults.lookup k = some d)
    (hv : sec.lookup k = none) : r.lookup k = some d := by
  rw [resolve_lookup h, hv, hd]
  rfl

example : ([("alpha", (0 : Nat)), ("T_int", 100)] : List (String × Nat)).lookup "T_int" = some 100 :=
  section_default _ _ _ nv_resolve "T_int" 100 (by decide) (by decide)

/-- **section_keys**: the constructor gets each of its keywords exactly once, in its own order. -/
theorem section_keys {κ ν : Type} [BEq κ] (defaults sec r : List (κ × ν))
    (h : resolve defaults sec = some r) : r.map Prod.fst = defaults.map Prod.fst := by
  rw [resolve_eq_some h, List.map_map]
  rfl

example : ([("alpha", (0 : Nat)), ("T_int", 100)] : List (String × Nat)).map Prod.fst = ["alpha", "T_int"] :=
  section_keys _ _ _ nv_resolve

/-- **section_history**: what is built from a section does not depend on the sections built before it in the session. -/
theorem section_history {κ ν : Type} [BEq κ] (defaults : List (κ × ν)) (before : List (List (κ × ν)))
    (sec : List (κ × ν)) :
    (session defaults (before ++ [sec]))[before.length]? = some (resolve defaults sec) := by
  simp [session]

-- the second object of a session that first built one with alpha = 0, T_int = 7 and then one from a section giving only T_int
example : (session [("alpha", (1 : Nat)), ("T_int", 100)] ([[("alpha", 0), ("T_int", 7)]] ++ [[("T_int", 9)]]))[1]? =
    some (some [("alpha", 1), ("T_int", 9)]) := by
  rw [show (1 : Nat) = [[("alpha", (0 : Nat)), ("T_int", 7)]].length from rfl, section_history]
  decide

example : resolve [("alpha", (1 : Nat)), ("T_int", 100)] [("alpha", 0)] = some [("alpha", 0), ("T_int", 100)] := nv_resolve

/-- a zero opacity given explicitly in a Guillot section reaches the constructor as zero, hence the profile is rejected as
    an invalid model (it is not replaced by the non-zero default) -/
theorem section_guillot_zero_rejected (defaults sec r : List (String × ℝ)) (h : resolve defaults sec = some r)
    (k : String) (hk : k = "kappa_irr" ∨ k = "kappa_v1" ∨ k = "kappa_v2") (hkn : known defaults k = true)
    (hz : sec.lookup k = some 0) (q : GuillotParams ℝ)
    (hq : r.lookup "kappa_irr" = some q.kappaIr ∧ r.lookup "kappa_v1" = some q.kappaV1 ∧
      r.lookup "kappa_v2" = some q.kappaV2) (g : ℝ) (pressure e21 e22 : List ℝ) :
    guillot q g pressure e21 e22 = .invalid := by
  have h0 := section_given defaults sec r h k 0 hkn hz
  refine (guillot_rejects q g pressure e21 e22).1.2 ?_
  rcases hk with rfl | rfl | rfl
  · rw [hq.1] at h0; exact Or.inl (Option.some.inj h0)
  · rw [hq.2.1] at h0; exact Or.inr (Or.inl (Option.some.inj h0))
  · rw [hq.2.2] at h0; exact Or.inr (Or.inr (Or.inl (Option.some.inj h0)))

example : resolve [("kappa_irr", (1 / 100 : ℝ)), ("kappa_v1", 5 / 1000), ("kappa_v2", 5 / 1000)] [("kappa_v1", 0)] =
    some [("kappa_irr", 1 / 100), ("kappa_v1", 0), ("kappa_v2", 5 / 1000)] := rfl

end SectionRoute

end Taurex.C12
