/-
  C13 — the property theorems restated about the REGENERATED source.  `Props/C13Src.lean` proves that the definitions
  translated on every run from `taurex/util/util.py:clip_native_to_wngrid` (with `compute_bin_edges`),
  `taurex/opacity/opacity.py:Opacity.opacity` and `taurex/opacity/ktables/ktable.py:KTable.opacity` compute the model's
  `clipNative` and `opacityOnGrid`; `Props/C13.lean` proves the property about those.  The corollaries below compose the
  two: statements about the text of the code, over ℝ.

  Source expressions (instantiated exactly as the tie theorems instantiate them):
  * `srcClip native wngrid` — the regenerated `clip_native_to_wngrid(native, wngrid)`, the float literal `1.25` = `5/4`;
  * `srcOpacity nativeWn vals req` — the regenerated `Opacity.opacity(T, P, wngrid=req)` with `compute_opacity(T, P, idx)` =
    the native values `vals` at the indices `idx` and `np.interp` = `npInterp`;
  * `srcKtOpacity nativeWn vals req` — the regenerated `KTable.opacity`, one g-point column, scipy's `interp1d` (clamped
    ends) = `npInterp` mapped over the request.
  Guards of the ties that stay visible (`src_opacity_on_grid_real`): one value per native point, strictly increasing
  non-empty native grid, non-empty request.

  Not restated (no tie in `Props/C13Src.lean`):
  * `column_independent_trans`, `column_within_cutoff`, `column_within_clamp_emission`: statements about the forward models
    of C01 / C02 (`Taurex.Transmission`, `Taurex.Emission`), whose ties are `Props/C01Src.lean`, `Props/C02Src.lean`;
  * `bin_clip_eq_partial`, `bin_clip_eq`, `bin_clip_eq_uniform`, `bin_clip_eq_uniform_condition`, `bin_clip_eq_condition`,
    `bin_clip_eq_condition_ratio`: statements about `fluxBinVal` / `nativeBins` on an abstract clip interval (C05's model
    of `FluxBinner`, tied in `Props/C05Src.lean`); they involve no function of this property's source.  Their corollaries
    for the code's clip (`bin_clip_eq_property`, `…_ratio`, `bin_clip_eq_uniform_property`) are restated with the regenerated
    `clip_native_to_wngrid` naming the centres of the restricted run;
  * `clip_rows_eq_clipNativePinned`, `bin_clip_eq_pinned`, `bin_clip_condition_sharp`: about the pre-fix clip
    (`clipNativePinned`, margin `W`): the pinned tree's clip, not a function of this tree's source.
-/
import Props.C13
import Props.C13Src
set_option linter.unusedSectionVars false

namespace Taurex.C13SrcProps
open Taurex.Binning Taurex.Grid Taurex.Gen Taurex.C13L Taurex.C13 Taurex.C13Src

/-- the regenerated `clip_native_to_wngrid(native, wngrid)` -/
noncomputable def srcClip (native wngrid : List ℝ) : List ℝ :=
  SrcC13.clip_native_to_wngrid native wngrid (c1p25 := 5 / 4)

/-- the regenerated `Opacity.opacity(T, P, wngrid=req)` on a molecule with native grid `nativeWn` and values `vals` -/
noncomputable def srcOpacity (nativeWn vals req : List ℝ) : List ℝ :=
  SrcC13.opacity_on_grid req (fun idx => Np.take 0 vals idx) (fun x xp fp => NpInterp.npInterp xp fp x) nativeWn

/-- the regenerated `KTable.opacity(T, P, wngrid=req)`, one g-point column -/
noncomputable def srcKtOpacity (nativeWn vals req : List ℝ) : List ℝ :=
  SrcC13.ktable_opacity_on_grid req (fun idx => Np.take 0 vals idx)
    (fun xp fp _ _ _ _ _ r => r.map (NpInterp.npInterp xp fp)) nativeWn

theorem srcClip_eq (native wngrid : List ℝ) : srcClip native wngrid = clipNative native wngrid :=
  src_clip_native native wngrid

theorem srcOpacity_eq (nativeWn vals req : List ℝ) (hlen : vals.length = nativeWn.length)
    (hs : nativeWn.Pairwise (· < ·)) (hne : nativeWn ≠ []) (hreq : req ≠ []) :
    srcOpacity nativeWn vals req = opacityOnGrid nativeWn vals req :=
  src_opacity_on_grid_real nativeWn vals req hlen hs hne hreq

theorem srcKtOpacity_eq (nativeWn vals req : List ℝ) (hlen : vals.length = nativeWn.length)
    (hs : nativeWn.Pairwise (· < ·)) (hne : nativeWn ≠ []) (hreq : req ≠ []) :
    srcKtOpacity nativeWn vals req = opacityOnGrid nativeWn vals req :=
  src_ktable_opacity_on_grid_real nativeWn vals req hlen hs hne hreq

/-! ### the clip of the native grid -/

/-- the clipped grid is an ordered sub-list of the native grid, about the regenerated `clip_native_to_wngrid` -/
theorem src_clip_sub (native wngrid : List ℝ) : (srcClip native wngrid).Sublist native := by
  rw [srcClip_eq]; exact clip_sub native wngrid

/-- exactly the native points within the request range widened by the margin survive the regenerated clip -/
theorem src_clip_mem_iff (native wngrid : List ℝ) (x : ℝ) :
    x ∈ srcClip native wngrid ↔
      x ∈ native ∧ minL wngrid - clipMargin wngrid ≤ x ∧ x ≤ maxL wngrid + clipMargin wngrid := by
  rw [srcClip_eq]; exact clip_mem_iff native wngrid x

/-- every native point inside the requested range is kept by the regenerated clip: the margin is never negative -/
theorem src_clip_keeps_requested (native wngrid : List ℝ) (x : ℝ) (hx : x ∈ native)
    (hlo : minL wngrid ≤ x) (hhi : x ≤ maxL wngrid) : x ∈ srcClip native wngrid := by
  rw [srcClip_eq]; exact clip_keeps_requested native wngrid x hx hlo hhi

/-- clipping twice with the same request is clipping once (the restricted run is stable), regenerated clip -/
theorem src_clip_idem (native wngrid : List ℝ) :
    srcClip (srcClip native wngrid) wngrid = srcClip native wngrid := by
  rw [srcClip_eq native wngrid, srcClip_eq]; exact clip_idem native wngrid

/-! ### opacities on a requested grid -/

/-- **own_grid_identity**: when the native points inside the requested range are the request itself, the regenerated
    `Opacity.opacity` and `KTable.opacity` return the opacities of those points unchanged (no interpolation) -/
theorem src_own_grid_identity (nativeWn vals req : List ℝ) (hlen : vals.length = nativeWn.length)
    (hs : nativeWn.Pairwise (· < ·)) (hne : nativeWn ≠ []) (hreq : req ≠ [])
    (h : ((nativeWn.zip vals).filter (fun p => inRange req p.1)).map (·.1) = req) :
    srcOpacity nativeWn vals req = ((nativeWn.zip vals).filter (fun p => inRange req p.1)).map (·.2) ∧
    srcKtOpacity nativeWn vals req = ((nativeWn.zip vals).filter (fun p => inRange req p.1)).map (·.2) := by
  rw [srcOpacity_eq nativeWn vals req hlen hs hne hreq, srcKtOpacity_eq nativeWn vals req hlen hs hne hreq]
  exact ⟨own_grid_identity nativeWn vals req h, own_grid_identity nativeWn vals req h⟩

/-- **other_grid_between**: on any other request every opacity the regenerated `Opacity.opacity` / `KTable.opacity`
    returns lies between the smallest and largest of the native values (request overlapping the native grid) -/
theorem src_other_grid_between (nativeWn vals req : List ℝ) (lo hi : ℝ) (hlen : vals.length = nativeWn.length)
    (hs : nativeWn.Pairwise (· < ·)) (hne' : nativeWn ≠ []) (hreq : req ≠ [])
    (hv : ∀ v ∈ vals, lo ≤ v ∧ v ≤ hi)
    (hne : 0 < ((nativeWn.drop (Interp.searchRight nativeWn (minL req) - 1)).take
      (min (Interp.searchLeft nativeWn (maxL req)) (nativeWn.length - 1) + 1 -
        (Interp.searchRight nativeWn (minL req) - 1))).length) :
    (∀ y ∈ srcOpacity nativeWn vals req, lo ≤ y ∧ y ≤ hi) ∧ (∀ y ∈ srcKtOpacity nativeWn vals req, lo ≤ y ∧ y ≤ hi) := by
  rw [srcOpacity_eq nativeWn vals req hlen hs hne' hreq, srcKtOpacity_eq nativeWn vals req hlen hs hne' hreq]
  have h := other_grid_between nativeWn vals req lo hi hlen.symm (hs.imp le_of_lt) hv hne
  exact ⟨h, h⟩

/-! ### binning the restricted run -/

/-- the rows whose centre survives the code's clip have the centres the regenerated `clip_native_to_wngrid` returns -/
theorem src_clip_rows (full : List (Row ℝ)) (obs : List ℝ) :
    (full.filter (fun r => inClip obs r.c)).map Row.c = srcClip (full.map Row.c) obs := by
  rw [srcClip_eq]; exact clip_rows_eq_clipNative full obs

/-- **bin_clip_eq — the property's statement, for the code as it is**: the restricted run holds the native rows whose
    centres the regenerated `clip_native_to_wngrid(native, obs)` returns; with every native spacing `≤ W/2` (`W` the
    widest mid-point bin of the observation), ordered mid-point bins (native and kept grid), an observation bin `[a, b]`
    reaching at most `W/2` beyond the outermost requested centres and overlapping the data, binning the restricted run
    equals binning the full run -/
theorem src_bin_clip_eq_property (val : Row ℝ → ℝ) (full : List (Row ℝ)) (obs : List ℝ) (a b : ℝ)
    (hg : (full.map Row.c).Pairwise (· < ·))
    (hokF : MidpointSpacingOK (full.map Row.c))
    (hokC : MidpointSpacingOK (srcClip (full.map Row.c) obs))
    (hsp : ∀ j, j + 1 < (full.map Row.c).length → spacing (full.map Row.c) j ≤ widestBin obs / 2)
    (hab : a < b) (ha : minL obs - widestBin obs / 2 ≤ a) (hb : b ≤ maxL obs + widestBin obs / 2)
    (hkept : 2 ≤ (srcClip (full.map Row.c) obs).length)
    (hposF : 0 < sumL ((nativeBins false full).map (overlap a b))) :
    (full.filter (fun r => inClip obs r.c)).map Row.c = srcClip (full.map Row.c) obs ∧
    fluxBinVal val (nativeBins false full) a b =
      fluxBinVal val (nativeBins false (full.filter (fun r => inClip obs r.c))) a b := by
  rw [srcClip_eq] at hokC hkept
  exact ⟨src_clip_rows full obs, bin_clip_eq_property val full obs a b hg hokF hokC hsp hab ha hb hkept hposF⟩

/-- the same with the hereditary spacing condition `RatioOK` (linear, logarithmic and constant-R native grids with step
    ratio `≤ 4`) instead of the two `MidpointSpacingOK` -/
theorem src_bin_clip_eq_property_ratio (val : Row ℝ → ℝ) (full : List (Row ℝ)) (obs : List ℝ) (a b : ℝ)
    (hg : (full.map Row.c).Pairwise (· < ·)) (hr : RatioOK (full.map Row.c))
    (hsp : ∀ j, j + 1 < (full.map Row.c).length → spacing (full.map Row.c) j ≤ widestBin obs / 2)
    (hab : a < b) (ha : minL obs - widestBin obs / 2 ≤ a) (hb : b ≤ maxL obs + widestBin obs / 2)
    (hkept : 2 ≤ (srcClip (full.map Row.c) obs).length)
    (hposF : 0 < sumL ((nativeBins false full).map (overlap a b))) :
    (full.filter (fun r => inClip obs r.c)).map Row.c = srcClip (full.map Row.c) obs ∧
    fluxBinVal val (nativeBins false full) a b =
      fluxBinVal val (nativeBins false (full.filter (fun r => inClip obs r.c))) a b := by
  rw [srcClip_eq] at hkept
  exact ⟨src_clip_rows full obs, bin_clip_eq_property_ratio val full obs a b hg hr hsp hab ha hb hkept hposF⟩

/-- **bin_clip_eq on a uniform native grid, for the regenerated clip**: constant native spacing `d ≤ 3/2·W` -/
theorem src_bin_clip_eq_uniform_property (val : Row ℝ → ℝ) (full : List (Row ℝ)) (obs : List ℝ) (d a b : ℝ)
    (hd0 : 0 < d) (hd : ∀ j, j + 1 < (full.map Row.c).length → spacing (full.map Row.c) j = d)
    (hdW : d ≤ 3 / 2 * widestBin obs) (hab : a < b)
    (ha : minL obs - widestBin obs / 2 ≤ a) (hb : b ≤ maxL obs + widestBin obs / 2)
    (hkept : 2 ≤ (srcClip (full.map Row.c) obs).length)
    (hposF : 0 < sumL ((nativeBins false full).map (overlap a b)))
    (hposC : 0 < sumL ((nativeBins false (full.filter (fun r => inClip obs r.c))).map (overlap a b))) :
    (full.filter (fun r => inClip obs r.c)).map Row.c = srcClip (full.map Row.c) obs ∧
    fluxBinVal val (nativeBins false full) a b =
      fluxBinVal val (nativeBins false (full.filter (fun r => inClip obs r.c))) a b := by
  rw [srcClip_eq] at hkept
  exact ⟨src_clip_rows full obs,
    bin_clip_eq_uniform_property val full obs d a b hd0 hd hdW hab ha hb hkept hposF hposC⟩

end Taurex.C13SrcProps
