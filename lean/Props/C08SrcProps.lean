/-
  C08 — the property theorems restated about the REGENERATED source.  `Props/C08Src.lean` proves that the methods translated
  on every run from taurex/core/priors.py (`Prior.prior`, `Uniform.set_bounds/sample/boundaries`, `Gaussian.sample/boundaries`
  and the five constructors) equal the model's `Prior.back`, `mkUniform`/`mkLogUniform`/`mkGaussian`/`mkLogGaussian`/
  `mkLogUniformLin`, `Prior.sample`, `Prior.boundaries`; `Props/C08.lean` proves the property about those.  The corollaries
  below compose the two: they are statements about the text of the code, over ℝ.

  Source expressions (instantiated exactly as the tie theorems instantiate them):
  * `srcUniformSample b0 b1 u`   — `Uniform(bounds=[b0,b1]).sample(u)` = `LogUniform(bounds=[b0,b1]).sample(u)`: the translated
    `Uniform.sample` on the attributes the translated `set_bounds` left behind, `scipy.stats.uniform.ppf` = `uPpf`;
  * `srcUniformBoundaries b0 b1` — `Uniform.boundaries()` on those attributes;
  * `srcGaussianSample ppf mean std u`, `srcGaussianBoundaries ppf mean std` — `Gaussian.sample/boundaries` (inherited by
    `LogGaussian`) with `_loc = mean`, `_scale = std`, `scipy.stats.norm.ppf` = `nPpf ppf` (`ppf` = `ndtri`, a parameter);
  * `Gen.SrcC08.Prior_prior x (modeCode m)` — `Prior.prior(x)` of an object whose `_prior_mode` is `m`;
  * `Gen.SrcC08.Uniform_init`, `LogUniform_init`, `Gaussian_init`, `LogGaussian_init` — the attribute tuples the constructors
    leave behind; `srcLogLinValue l0 l1 b0 b1 u` — `prior(sample(u))` of `LogUniform(bounds=[b0,b1], lin_bounds=[l0,l1])`
    evaluated on the attributes of the translated constructor.

  Hypotheses of the ties that stay visible: the translation's `math.log10` is total whereas Python raises for non-positive
  arguments, so every corollary about `lin_bounds` / `lin_mean` / `lin_std` carries the positivity of those arguments.

  Not restated (no tie):
  * `log_lin_equiv`, second half (non-positive `lin_bounds` are refused): the `ValueError` of `math.log10` is not in the
    translation (the tie `src_loguniform_init_lin` only speaks where the model constructs an object);
  * `default_from_bounds`: `defaultPrior` (the default-prior dispatch inside `compile_params`) has no tie;
  * `parse_print_tokens`, `parse_print`: `parsePrior`/`printPrior` (`parse_priors`, `create_prior`) have no tie;
  * `declaration_tuple`, `default_from_declaration`, `default_from_declaration_classes` (declared parameters,
    `FittableTable`), `text_prior_is_fresh_object`, `object_changed_by_own_set_bounds_only` (the heap of prior objects,
    `PriorObjects`: no translated source), `file_prior_after_enable`, `api_prior_after_history`,
    `explicit_priors_changed_by_set_prior_only`, `api_back_through_prior` (the optimizer's state machine and the
    `[Fitting]` section, models of C07: what is tied of them is in `Props/C07Src.lean`).
-/
import Props.C08
import Props.C08Src
set_option linter.unusedSectionVars false

namespace Taurex.C08SrcProps
open Taurex.Priors Taurex.C08 Taurex.C08Src

/-! ### the instantiated source expressions -/

/-- `Uniform(bounds=[b0,b1]).sample(u)` (also `LogUniform(bounds=[b0,b1]).sample(u)`: inherited), regenerated source -/
noncomputable def srcUniformSample (b0 b1 u : ℝ) : ℝ :=
  Gen.SrcC08.Uniform_sample u (low_bounds := (Gen.SrcC08.Uniform_set_bounds b0 b1).1)
    (scale := (Gen.SrcC08.Uniform_set_bounds b0 b1).2.2) (uniform_ppf := uPpf)

/-- `Uniform(bounds=[b0,b1]).boundaries()` (inherited by `LogUniform`), regenerated source -/
noncomputable def srcUniformBoundaries (b0 b1 : ℝ) : ℝ × ℝ :=
  Gen.SrcC08.Uniform_boundaries (low_bounds := (Gen.SrcC08.Uniform_set_bounds b0 b1).1)
    (up_bounds := (Gen.SrcC08.Uniform_set_bounds b0 b1).2.1)

/-- `Gaussian(mean, std).sample(u)` (inherited by `LogGaussian`), regenerated source -/
noncomputable def srcGaussianSample (ppf : ℝ → ℝ) (mean std u : ℝ) : ℝ :=
  Gen.SrcC08.Gaussian_sample u (loc := mean) (scale := std) (norm_ppf := nPpf ppf)

/-- `Gaussian(mean, std).boundaries()` (inherited by `LogGaussian`), regenerated source -/
noncomputable def srcGaussianBoundaries (ppf : ℝ → ℝ) (mean std : ℝ) : ℝ × ℝ :=
  Gen.SrcC08.Gaussian_boundaries (c0p1 := 0.1) (c0p9 := 0.9) (loc := mean) (scale := std) (norm_ppf := nPpf ppf)

/-- `p.prior(p.sample(u))` for `p = LogUniform(bounds=[b0,b1], lin_bounds=[l0,l1])`: the translated `Prior.prior` and
    `Uniform.sample` on the attributes `(_prior_mode, _low_bounds, _up_bounds, _scale)` of the translated constructor -/
noncomputable def srcLogLinValue (l0 l1 b0 b1 u : ℝ) : ℝ :=
  Gen.SrcC08.Prior_prior
    (Gen.SrcC08.Uniform_sample u (low_bounds := (Gen.SrcC08.LogUniform_init b0 b1 (some (l0, l1))).2.1)
      (scale := (Gen.SrcC08.LogUniform_init b0 b1 (some (l0, l1))).2.2.2) (uniform_ppf := uPpf))
    (Gen.SrcC08.LogUniform_init b0 b1 (some (l0, l1))).1

theorem srcUniformSample_eq (ppf : ℝ → ℝ) (b0 b1 u : ℝ) :
    srcUniformSample b0 b1 u = (mkUniform b0 b1).sample ppf u := src_uniform_sample ppf b0 b1 u

theorem srcUniformSample_eq_log (ppf : ℝ → ℝ) (b0 b1 u : ℝ) :
    srcUniformSample b0 b1 u = (mkLogUniform b0 b1).sample ppf u := src_loguniform_sample ppf b0 b1 u

theorem srcUniformSample_fun_eq (ppf : ℝ → ℝ) (b0 b1 : ℝ) :
    srcUniformSample b0 b1 = (mkUniform b0 b1).sample ppf ∧ srcUniformSample b0 b1 = (mkLogUniform b0 b1).sample ppf :=
  ⟨funext (srcUniformSample_eq ppf b0 b1), funext (srcUniformSample_eq_log ppf b0 b1)⟩

theorem srcUniformBoundaries_eq (ppf : ℝ → ℝ) (b0 b1 : ℝ) :
    srcUniformBoundaries b0 b1 = (mkUniform b0 b1).boundaries ppf ∧
    srcUniformBoundaries b0 b1 = (mkLogUniform b0 b1).boundaries ppf := src_uniform_boundaries ppf b0 b1

theorem srcGaussianSample_eq (ppf : ℝ → ℝ) (mean std u : ℝ) :
    srcGaussianSample ppf mean std u = (mkGaussian mean std).sample ppf u ∧
    srcGaussianSample ppf mean std u = (Prior.logGaussian mean std).sample ppf u := src_gaussian_sample ppf mean std u

theorem srcGaussianSample_fun_eq (ppf : ℝ → ℝ) (mean std : ℝ) :
    srcGaussianSample ppf mean std = (mkGaussian mean std).sample ppf ∧
    srcGaussianSample ppf mean std = (Prior.logGaussian mean std).sample ppf :=
  ⟨funext fun u => (srcGaussianSample_eq ppf mean std u).1, funext fun u => (srcGaussianSample_eq ppf mean std u).2⟩

theorem srcGaussianBoundaries_eq (ppf : ℝ → ℝ) (mean std : ℝ) :
    srcGaussianBoundaries ppf mean std = (mkGaussian mean std).boundaries ppf ∧
    srcGaussianBoundaries ppf mean std = (Prior.logGaussian mean std).boundaries ppf :=
  src_gaussian_boundaries ppf mean std

/-! ### uniform priors -/

/-- the order of the two bounds is irrelevant: the attributes `set_bounds` stores, the constructed objects
    (`Uniform` and `LogUniform`) and every sample are the same for `[a, b]` and `[b, a]` -/
theorem src_uniform_order_free (a b : ℝ) :
    Gen.SrcC08.Uniform_set_bounds a b = Gen.SrcC08.Uniform_set_bounds b a ∧
    Gen.SrcC08.Uniform_init a b = Gen.SrcC08.Uniform_init b a ∧
    Gen.SrcC08.LogUniform_init a b none = Gen.SrcC08.LogUniform_init b a none ∧
    (∀ u, srcUniformSample a b u = srcUniformSample b a u) := by
  have h := (uniform_order_free a b).1
  simp only [mkUniform, Prior.uniform.injEq] at h
  obtain ⟨h1, h2⟩ := h
  refine ⟨?_, ?_, ?_, ?_⟩
  · rw [src_set_bounds, src_set_bounds, h1, h2]
  · rw [src_uniform_init, src_uniform_init, h1, h2]; rfl
  · rw [src_loguniform_init, src_loguniform_init, h1, h2]; rfl
  · intro u
    rw [srcUniformSample_eq id, srcUniformSample_eq id, (uniform_order_free a b).1]

/-- the stored bounds are (min, max) whatever the order given, about the regenerated source -/
theorem src_uniform_boundaries_minmax (a b : ℝ) : srcUniformBoundaries a b = (min a b, max a b) := by
  rw [(srcUniformBoundaries_eq id a b).1]; exact (uniform_boundaries a b id).1

/-- `sample` of a uniform (and log-uniform) prior is `low + (high - low) * u`, about the regenerated source -/
theorem src_uniform_sample_formula (a b u : ℝ) : srcUniformSample a b u = min a b + (max a b - min a b) * u := by
  rw [srcUniformSample_eq id]; exact (uniform_sample a b u id).1

/-- monotone in `u`, strictly when the bounds differ, about the regenerated source -/
theorem src_uniform_mono (a b : ℝ) :
    Monotone (srcUniformSample a b) ∧ (a ≠ b → StrictMono (srcUniformSample a b)) := by
  rw [(srcUniformSample_fun_eq id a b).1]
  exact ⟨(uniform_mono a b id).1, (uniform_mono a b id).2.1⟩

/-- the unit interval is mapped onto `[low, high]`: end points, range, surjectivity, about the regenerated source -/
theorem src_uniform_onto (a b : ℝ) :
    srcUniformSample a b 0 = min a b ∧ srcUniformSample a b 1 = max a b ∧
    (∀ u, 0 ≤ u → u ≤ 1 → min a b ≤ srcUniformSample a b u ∧ srcUniformSample a b u ≤ max a b) ∧
    (∀ x, min a b ≤ x → x ≤ max a b → ∃ u, 0 ≤ u ∧ u ≤ 1 ∧ srcUniformSample a b u = x) := by
  rw [(srcUniformSample_fun_eq id a b).1]
  exact uniform_onto a b id

/-- inverse-CDF identity of the uniform distribution on `[low, high]`, about the regenerated source -/
theorem src_uniform_inverse_cdf (a b u : ℝ) (h : a ≠ b) :
    (srcUniformSample a b u - min a b) / (max a b - min a b) = u := by
  rw [srcUniformSample_eq id]; exact uniform_inverse_cdf a b u id h

/-! ### log space -/

/-- `lin_bounds = [l0, l1]` (both positive) leaves behind exactly the attributes of `bounds = [log10 l0, log10 l1]`,
    whatever `bounds` was given alongside, about the regenerated constructor -/
theorem src_log_lin_equiv (b0 b1 l0 l1 : ℝ) (h0 : 0 < l0) (h1 : 0 < l1) :
    Gen.SrcC08.LogUniform_init b0 b1 (some (l0, l1)) = Gen.SrcC08.LogUniform_init (log10 l0) (log10 l1) none :=
  -- the translated constructor takes `log10` of `lin_bounds` itself (a total `log10`: the positivity hypotheses are
  -- where Python's `math.log10` does not raise)
  rfl

/-- `lin_mean = m` is the same object as `mean = log10 m`, `lin_std = s` as `std = log10 s`, absent ones keep
    `mean`/`std`, about the regenerated constructor -/
theorem src_log_lin_equiv_gaussian (mean std lm ls : ℝ) (hm : 0 < lm) (hs : 0 < ls) :
    Gen.SrcC08.LogGaussian_init mean std (some lm) none = Gen.SrcC08.LogGaussian_init (log10 lm) std none none ∧
    Gen.SrcC08.LogGaussian_init mean std none (some ls) = Gen.SrcC08.LogGaussian_init mean (log10 ls) none none ∧
    Gen.SrcC08.LogGaussian_init mean std none none = (modeCode .log, mean, std) :=
  ⟨rfl, rfl, rfl⟩

/-- what reaches the model: `x` for the linear classes, `10 ** x` for the log classes, so a log-space coordinate
    `log10 v` comes back as `v`, about the regenerated `Prior.prior` -/
theorem src_prior_back_value (p : Prior ℝ) (x v : ℝ) (hv : 0 < v) :
    (p.mode = .linear → Gen.SrcC08.Prior_prior x (modeCode p.mode) = x) ∧
    (p.mode = .log → Gen.SrcC08.Prior_prior x (modeCode p.mode) = (10 : ℝ) ^ x ∧
      Gen.SrcC08.Prior_prior (log10 v) (modeCode p.mode) = v) := by
  rw [src_prior_back, src_prior_back]; exact prior_back p x v hv

/-- the two `Log…` constructors and only they set `_prior_mode = LOG`, about the regenerated constructors -/
theorem src_mode_of_class (a b : ℝ) :
    (Gen.SrcC08.Uniform_init a b).1 = modeCode .linear ∧ (Gen.SrcC08.LogUniform_init a b none).1 = modeCode .log ∧
    (Gen.SrcC08.Gaussian_init a b).1 = modeCode .linear ∧
    (Gen.SrcC08.LogGaussian_init a b none none).1 = modeCode .log :=
  ⟨rfl, rfl, rfl, rfl⟩

theorem srcLogLinValue_eq (ppf : ℝ → ℝ) (l0 l1 b0 b1 u : ℝ) (h0 : 0 < l0) (h1 : 0 < l1) :
    srcLogLinValue l0 l1 b0 b1 u =
      (mkLogUniform (log10 l0) (log10 l1)).back ((mkLogUniform (log10 l0) (log10 l1)).sample ppf u) :=
  rfl

/-- a log-uniform prior given by linear bounds hands the model values from exactly `[min l, max l]`: the end points
    come back as the linear bounds and `u ↦ prior(sample u)` is monotone, about the regenerated constructor,
    `Uniform.sample` and `Prior.prior` -/
theorem src_log_uniform_linear_range (l0 l1 b0 b1 : ℝ) (h0 : 0 < l0) (h1 : 0 < l1) :
    srcLogLinValue l0 l1 b0 b1 0 = min l0 l1 ∧ srcLogLinValue l0 l1 b0 b1 1 = max l0 l1 ∧
      Monotone (srcLogLinValue l0 l1 b0 b1) := by
  obtain ⟨p, hp, e0, e1, hm⟩ := log_uniform_linear_range l0 l1 h0 h1 id
  rw [(log_lin_equiv l0 l1).1 h0 h1] at hp
  cases Option.some.inj hp
  have hf : srcLogLinValue l0 l1 b0 b1 = fun u =>
      (mkLogUniform (log10 l0) (log10 l1)).back ((mkLogUniform (log10 l0) (log10 l1)).sample id u) :=
    funext fun u => srcLogLinValue_eq id l0 l1 b0 b1 u h0 h1
  rw [hf]
  exact ⟨e0, e1, hm⟩

/-! ### Gaussian priors -/

/-- with a positive width and a monotone standard-normal quantile function, `sample` is monotone (strictly if `ppf` is),
    about the regenerated `Gaussian.sample` (which `LogGaussian` inherits) -/
theorem src_gaussian_mono (mean std : ℝ) (hs : 0 < std) (ppf : ℝ → ℝ) :
    (Monotone ppf → Monotone (srcGaussianSample ppf mean std)) ∧
    (StrictMono ppf → StrictMono (srcGaussianSample ppf mean std)) := by
  rw [(srcGaussianSample_fun_eq ppf mean std).1]
  exact ⟨(gaussian_mono mean std hs ppf).1, (gaussian_mono mean std hs ppf).2.1⟩

/-- inverse-CDF identity: if `ppf` is a right inverse of the standard normal CDF `Φ` at `u`, the CDF of N(mean, std²)
    at `sample u` is `u`, about the regenerated `Gaussian.sample` -/
theorem src_gaussian_inverse_cdf (mean std u : ℝ) (hs : 0 < std) (ppf Φ : ℝ → ℝ) (hΦ : Φ (ppf u) = u) :
    Φ ((srcGaussianSample ppf mean std u - mean) / std) = u := by
  rw [(srcGaussianSample_eq ppf mean std u).1]; exact gaussian_inverse_cdf mean std u hs ppf Φ hΦ

/-- `boundaries()` of a Gaussian are its 10 % and 90 % quantiles, about the regenerated `Gaussian.boundaries` -/
theorem src_gaussian_boundaries_quantiles (mean std : ℝ) (ppf : ℝ → ℝ) :
    srcGaussianBoundaries ppf mean std = (ppf 0.1 * std + mean, ppf 0.9 * std + mean) := by
  rw [(srcGaussianBoundaries_eq ppf mean std).1]; exact gaussian_boundaries mean std ppf

end Taurex.C08SrcProps
