/-
  C13 — restricting the spectral grid never changes the values computed on it.
  Theorems about `Taurex.Grid` (clip of the native grid, opacity on a requested grid) and about the forward
  models of C01/C02 (`Taurex.Transmission`, `Taurex.Emission`): they are column-wise, the saturation cut-off
  being the only coupling between wavenumbers.
-/
import Props.C01
import Props.C02
import Proofs.C13Cast

namespace Taurex.C13
open Taurex.Grid Taurex.C13L

/-- the clipped grid is an ordered sub-list of the native grid -/
theorem clip_sub (native wngrid : List ℝ) : (clipNative native wngrid).Sublist native := by
  unfold clipNative; exact List.filter_sublist

/-- exactly the native points within the request range widened by the margin survive the clip -/
theorem clip_mem_iff (native wngrid : List ℝ) (x : ℝ) :
    x ∈ clipNative native wngrid ↔
      x ∈ native ∧ minL wngrid - clipMargin wngrid ≤ x ∧ x ≤ maxL wngrid + clipMargin wngrid := by
  unfold clipNative inClip
  simp [List.mem_filter]

/-- every native point inside the requested range (between the smallest and largest requested wavenumber)
    is kept: the margin is never negative -/
theorem clip_keeps_requested (native wngrid : List ℝ) (x : ℝ) (hx : x ∈ native)
    (hlo : minL wngrid ≤ x) (hhi : x ≤ maxL wngrid) : x ∈ clipNative native wngrid := by
  rw [clip_mem_iff]
  have := clipMargin_nonneg wngrid
  exact ⟨hx, by linarith, by linarith⟩

/-- clipping twice with the same request is clipping once (the restricted run is stable) -/
theorem clip_idem (native wngrid : List ℝ) :
    clipNative (clipNative native wngrid) wngrid = clipNative native wngrid := by
  unfold clipNative; simp [List.filter_filter]

/-- **own_grid_identity**: when the native points inside the requested range are the request itself, the
    opacities of those points are returned unchanged (no interpolation) -/
theorem own_grid_identity (nativeWn vals req : List ℝ)
    (h : ((nativeWn.zip vals).filter (fun p => inRange req p.1)).map (·.1) = req) :
    opacityOnGrid nativeWn vals req = ((nativeWn.zip vals).filter (fun p => inRange req p.1)).map (·.2) := by
  unfold opacityOnGrid
  simp only
  rw [if_pos ((eqL_iff _ _).2 h)]

/-- **other_grid_between**: on any other request every returned opacity lies in any interval `[lo, hi]` that
    holds all the native values (native grid non-decreasing, request overlapping it) -/
theorem other_grid_between (nativeWn vals req : List ℝ) (lo hi : ℝ)
    (hlen : nativeWn.length = vals.length) (hs : nativeWn.Pairwise (· ≤ ·))
    (hv : ∀ v ∈ vals, lo ≤ v ∧ v ≤ hi)
    (hne : 0 < ((nativeWn.drop (Interp.searchRight nativeWn (minL req) - 1)).take
      (min (Interp.searchLeft nativeWn (maxL req)) (nativeWn.length - 1) + 1 -
        (Interp.searchRight nativeWn (minL req) - 1))).length) :
    ∀ y ∈ opacityOnGrid nativeWn vals req, lo ≤ y ∧ y ≤ hi :=
  opacityOnGrid_between nativeWn vals req lo hi hlen hs hv hne

-- hypothesis `hs` of `other_grid_between` on a 4-point native grid
example : ([1, 2, 3, 4] : List ℝ).Pairwise (· ≤ ·) := by norm_num

/-! ### the forward model is column-wise (transmission; the C01 model) -/

open Taurex.Transmission in
/-- **column_independent (no early exit)**: evaluating the transmission model on any selection `σ` of the
    wavenumber columns (a sub-range, a clipped grid, any subset in any order) gives, at every selected column,
    exactly the value of the full computation at that wavenumber — optical depth and transit depth alike. -/
theorem column_independent_trans (σ : ℕ → ℕ) (newMethod : Bool) (rp rs : ℝ) (n nwn nwn' : ℕ)
    (zb z dz dens : ℕ → ℝ) (cs : List (Contrib ℝ)) (w : ℕ) :
    (∀ l, modelTrans false newMethod rp n nwn' zb z dz dens (cs.map (reindex σ)) l w
        = modelTrans false newMethod rp n nwn zb z dz dens cs l (σ w)) ∧
    modelDepth false newMethod rp rs n nwn' zb z dz dens (cs.map (reindex σ)) w
      = modelDepth false newMethod rp rs n nwn zb z dz dens cs (σ w) := by
  have h : ∀ l, modelTrans false newMethod rp n nwn' zb z dz dens (cs.map (reindex σ)) l w
        = modelTrans false newMethod rp n nwn zb z dz dens cs l (σ w) := by
    intro l
    simp only [modelTrans, Bool.false_eq_true, if_false, tauFull]
    rw [tauFullFrom_reindex σ n _ dens l cs (fun _ => 0) (fun _ => 0) (fun _ => rfl) w]
  refine ⟨h, ?_⟩
  unfold modelDepth
  simp only [h]

open Taurex.Transmission in
/-- **column_within_cutoff**: with the `tau.min() > 10` early exit (the only coupling between wavenumbers), the
    optical depth of a selected column in the restricted run and in the full run are both bounded by the full
    sum and each either equals it or is already above 10 — so the two transmittances differ by at most
    `exp(-10)` (the licensed band of C01). -/
theorem column_within_cutoff (σ : ℕ → ℕ) (n nwn nwn' : ℕ) (path dens : ℕ → ℝ) (l : ℕ)
    (hp : ∀ k < n - l, 0 ≤ path k) (hd : ∀ j < n, 0 ≤ dens j) (cs : List (Contrib ℝ))
    (hcs : ∀ c ∈ cs, c.Nonneg) (w : ℕ) (hw : w < nwn') (hσ : σ w < nwn) :
    let full := tauFull n path dens l cs (σ w)
    let tR := tauCut n nwn' path dens l (cs.map (reindex σ)) w
    let tF := tauCut n nwn path dens l cs (σ w)
    tR ≤ full ∧ (tR = full ∨ 10 < tR) ∧ tF ≤ full ∧ (tF = full ∨ 10 < tF) := by
  have hcs' : ∀ c ∈ cs.map (reindex σ), c.Nonneg := by
    intro c hc
    obtain ⟨c0, h0, rfl⟩ := List.mem_map.1 hc
    intro l' wn'; exact hcs c0 h0 l' (σ wn')
  obtain ⟨a1, a2⟩ := Taurex.C01.cutoff_licensed n nwn' path dens l hp hd (cs.map (reindex σ)) hcs'
  obtain ⟨b1, b2⟩ := Taurex.C01.cutoff_licensed n nwn path dens l hp hd cs hcs
  have e : tauFull n path dens l (cs.map (reindex σ)) w = tauFull n path dens l cs (σ w) := by
    unfold tauFull
    exact tauFullFrom_reindex σ n path dens l cs (fun _ => 0) (fun _ => 0) (fun _ => rfl) w
  refine ⟨by rw [← e]; exact a1 w, ?_, b1 (σ w), ?_⟩
  · rcases a2 with h | h
    · left; rw [← e]; exact h w
    · right; exact h w hw
  · rcases b2 with h | h
    · left; exact h (σ w)
    · right; exact h (σ w) hσ

/-! ### emission (the C02 model) -/

open Taurex.Emission in
/-- **column_within_clamp (emission)**: the documented (unclamped) emission intensity of a column,
    `intensityUncut`, does not take the other columns as an argument at all; the code's clamped intensity does, only
    through the `x.min() < 10` clamp, and for any two sets of computed columns `cols₁`, `cols₂` (the full native grid
    and a restricted grid, say) containing the column the two results differ by at most `exp(-10)` times the source
    functions of the layers clamped in either run. -/
theorem column_within_clamp_emission (k : PC ℝ) (cols₁ cols₂ : List (Col ℝ)) (dz dens temps : List ℝ) (col : Col ℝ)
    (tmin tmax m : ℝ) (hv₁ : Taurex.C02.Valid k cols₁ dz dens temps col tmin tmax)
    (hv₂ : Taurex.C02.Valid k cols₂ dz dens temps col tmin tmax) (hm : 1 ≤ m) :
    |intensity k cols₁ dz dens temps m col - intensity k cols₂ dz dens temps m col|
      ≤ Real.exp (-10) * (((rowsOf k cols₁ dz dens temps col).map (fun r => if r.keepD then 0 else r.b)).sum
          + ((rowsOf k cols₂ dz dens temps col).map (fun r => if r.keepD then 0 else r.b)).sum) := by
  have h1 := Taurex.C02.clamp_band k cols₁ dz dens temps col tmin tmax m hv₁ hm
  have h2 := Taurex.C02.clamp_band k cols₂ dz dens temps col tmin tmax m hv₂ hm
  have e : intensity k cols₁ dz dens temps m col - intensity k cols₂ dz dens temps m col
      = (intensity k cols₁ dz dens temps m col - intensityUncut k dz dens temps m col)
        - (intensity k cols₂ dz dens temps m col - intensityUncut k dz dens temps m col) := by ring
  rw [e, mul_add]
  exact le_trans (abs_sub _ _) (add_le_add h1 h2)

/-! ### binning the restricted run -/

open Taurex.Binning in
/-- **bin_clip_eq_partial**: the value `FluxBinner` computes for a target bin `[a, b]` depends only on the
    native bins that overlap it: if the native bins of the full run and of
    the restricted run (both ordered, both overlapping the target) have the same overlapping bins — same centres,
    widths and values — the two binned values are equal.
    That the property's width condition (no observation bin wider than the widest mid-point bin `W`, native spacing
    below `W/2`) makes the overlapping bins of the clipped grid (margin `5/4·W`, edge bins re-derived from their
    neighbours) coincide with those of the full grid is `bin_clip_eq_property` below. -/
theorem bin_clip_eq_partial (val : Row ℝ → ℝ) (full clipped : List (Row ℝ)) (a b : ℝ) (hab : a < b)
    (hf : full ≠ []) (hc : clipped ≠ [])
    (hordF : OrderedBins full) (hordC : OrderedBins clipped)
    (hwF : ∀ r ∈ full, r.lo ≤ r.hi) (hwC : ∀ r ∈ clipped, r.lo ≤ r.hi)
    (hposF : 0 < sumL (full.map (overlap a b))) (hposC : 0 < sumL (clipped.map (overlap a b)))
    (hsame : overlapping a b full = overlapping a b clipped) :
    fluxBinVal val full a b = fluxBinVal val clipped a b :=
  flux_eq_of_overlapping val full clipped a b hordF hordC hwF hwC hposF hsame

open Taurex.Binning in
/-- **bin_clip_eq**: binning the restricted run equals binning the full run.  `full` are the native points in
    increasing wavenumber (with their spectrum values), the restricted run computes the contiguous sub-range
    `(full.drop i).take m`; in both runs the bins are the mid-point bins (`nativeBins false`).  If both grids satisfy
    the mid-point spacing condition of C05 (linear, logarithmic and constant-R grids do: `linear_spacing_ok`,
    `geometric_spacing_ok`), the target bin `[a, b]` overlaps the data, and it does not reach (i) the two outermost
    bins of the restricted run — the only ones whose width is re-derived from one neighbour — nor (ii) any bin of the
    full grid outside the interior of the sub-range, then the two binned values are equal.
    (The property's width condition — observation bins no wider than the widest mid-point bin `W`, clip margin
    `5/4·W`, native spacing at most `W/2` — makes (i) and (ii) true for every observation bin:
    `bin_clip_eq_condition`, `bin_clip_eq_property`.) -/
theorem bin_clip_eq (val : Row ℝ → ℝ) (full : List (Row ℝ)) (i m : Nat) (a b : ℝ) (hab : a < b)
    (hg : (full.map Row.c).Pairwise (· < ·)) (hm : 2 ≤ m) (him : i + m ≤ full.length)
    (hokF : MidpointSpacingOK (full.map Row.c))
    (hokC : MidpointSpacingOK (((full.drop i).take m).map Row.c))
    (hposF : 0 < sumL ((nativeBins false full).map (overlap a b)))
    (hposC : 0 < sumL ((nativeBins false ((full.drop i).take m)).map (overlap a b)))
    (hc1 : ∀ r ∈ (nativeBins false ((full.drop i).take m)).take 1, overlap a b r = 0)
    (hc2 : ∀ r ∈ (nativeBins false ((full.drop i).take m)).drop (m - 1), overlap a b r = 0)
    (hf1 : ∀ r ∈ (nativeBins false full).take (i + 1), overlap a b r = 0)
    (hf2 : ∀ r ∈ (nativeBins false full).drop (i + m - 1), overlap a b r = 0) :
    fluxBinVal val (nativeBins false full) a b = fluxBinVal val (nativeBins false ((full.drop i).take m)) a b :=
  clip_flux_eq val full i m a b hg hm him hokF hokC hposF
    (clip_overlapping_eq full i m a b hg hm him hc1 hc2 hf1 hf2)

open Taurex.Binning in
/-- **bin_clip_eq (uniform native grid)**: with constant native spacing the restricted run has *exactly* the bins of
    the full run on the sub-range, so the binned values agree as soon as the target reaches no full-grid bin outside
    the sub-range — no condition on the outermost restricted bins. -/
theorem bin_clip_eq_uniform (val : Row ℝ → ℝ) (full : List (Row ℝ)) (i m : Nat) (a b d : ℝ) (hab : a < b) (hd0 : 0 < d)
    (hd : ∀ j, j + 1 < (full.map Row.c).length → spacing (full.map Row.c) j = d)
    (hm : 2 ≤ m) (him : i + m ≤ full.length)
    (hposF : 0 < sumL ((nativeBins false full).map (overlap a b)))
    (hposC : 0 < sumL ((nativeBins false ((full.drop i).take m)).map (overlap a b)))
    (hf1 : ∀ r ∈ (nativeBins false full).take i, overlap a b r = 0)
    (hf2 : ∀ r ∈ (nativeBins false full).drop (i + m), overlap a b r = 0) :
    fluxBinVal val (nativeBins false full) a b = fluxBinVal val (nativeBins false ((full.drop i).take m)) a b := by
  have hg : (full.map Row.c).Pairwise (· < ·) := linear_increasing _ d hd0 hd
  exact clip_flux_eq val full i m a b hg hm him (linear_spacing_ok _ d hd0.le hd)
    (linear_spacing_ok _ d hd0.le (sub_spacing_of_all (Q := (· = d)) full i m hd him))
    hposF (clip_uniform_overlapping_eq full i m a b d hd0 hd hm him hf1 hf2)

open Taurex.Binning in
/-- **bin_clip_eq on a uniform native grid, interval form** — with no hypothesis about which bins overlap.
    `full` are the native points in increasing wavenumber with constant spacing `d`; the restricted run keeps the
    native points in a clip interval `[L, U]`.  If the target `[a, b]` stays `W/2` inside the interval
    (`L + W/2 ≤ a`, `b ≤ U - W/2`) for some `W ≥ d`, then binning the restricted run equals binning the full run.
    For the code (`L = min(obs) - 5/4·W'`, `U = max(obs) + 5/4·W'`, `W'` the widest requested bin, a requested bin
    reaching at most `W'/2` beyond the outermost centres) take `W = 3/2·W'`: `bin_clip_eq_uniform_property`. -/
theorem bin_clip_eq_uniform_condition (val : Row ℝ → ℝ) (full : List (Row ℝ)) (d W L U a b : ℝ)
    (hd0 : 0 < d) (hd : ∀ j, j + 1 < (full.map Row.c).length → spacing (full.map Row.c) j = d)
    (hdW : d ≤ W) (hab : a < b) (ha : L + W / 2 ≤ a) (hb : b ≤ U - W / 2)
    (hkept : 2 ≤ (full.filter (inside L U)).length)
    (hposF : 0 < sumL ((nativeBins false full).map (overlap a b)))
    (hposC : 0 < sumL ((nativeBins false (full.filter (inside L U))).map (overlap a b))) :
    fluxBinVal val (nativeBins false full) a b = fluxBinVal val (nativeBins false (full.filter (inside L U))) a b := by
  have hg : (full.map Row.c).Pairwise (· < ·) := linear_increasing _ d hd0 hd
  obtain ⟨i, m, him, hfil, hlen, hlo, hhi⟩ := filter_interval_sorted L U full hg
  have hm : 2 ≤ m := hlen ▸ hkept
  have hn : 2 ≤ full.length := by omega
  rw [hfil] at hposC ⊢
  refine bin_clip_eq_uniform val full i m a b d hab hd0 hd hm him hposF hposC ?_ ?_
  · intro r hr
    rw [nativeBins_uniform full d hd0 hd hn, ← List.map_take] at hr
    obtain ⟨r0, h0, rfl⟩ := List.mem_map.1 hr
    exact overlap_zero_left a b L W _ ha (hlo r0 h0) hdW
  · intro r hr
    rw [nativeBins_uniform full d hd0 hd hn, ← List.map_drop] at hr
    obtain ⟨r0, h0, rfl⟩ := List.mem_map.1 hr
    exact overlap_zero_right a b U W _ hb (hhi r0 h0) hdW

-- non-vacuity of `bin_clip_eq_uniform_condition`: five native points 1..5 (d = 1), W = 1, clip interval [2, 4],
-- target [2.5, 3.5]: constant spacing, d ≤ W, the target sticks out of [3, 3] by W/2, and three points survive the clip
open Taurex.Binning in
example :
    let full : List (Row ℝ) := [⟨1, 0, 10, 0⟩, ⟨2, 0, 20, 0⟩, ⟨3, 0, 30, 0⟩, ⟨4, 0, 40, 0⟩, ⟨5, 0, 50, 0⟩]
    (∀ j, j + 1 < (full.map Row.c).length → spacing (full.map Row.c) j = 1) ∧ (1 : ℝ) ≤ 1 ∧ (2.5 : ℝ) < 3.5 ∧
    (2 : ℝ) + 1 / 2 ≤ 2.5 ∧ (3.5 : ℝ) ≤ 4 - 1 / 2 ∧ 2 ≤ (full.filter (inside 2 4)).length := by
  intro full
  refine ⟨?_, le_refl _, by norm_num, by norm_num, by norm_num, ?_⟩
  · intro j hj
    simp only [full, List.map_cons, List.map_nil, List.length_cons, List.length_nil] at hj
    have : j = 0 ∨ j = 1 ∨ j = 2 ∨ j = 3 := by omega
    rcases this with rfl | rfl | rfl | rfl <;> norm_num [full, spacing]
  · norm_num [full, inside, List.filter]

open Taurex.Binning in
/-- **bin_clip_eq on a uniform native grid, for the code's clip**: constant native spacing `d ≤ 3/2·W` (`W` the
    widest requested bin; the property asks for `d < W/2`), requested bin `[a, b]` reaching at most `W/2` beyond the
    outermost requested centres, the restricted run = the rows kept by `clip_native_to_wngrid` (margin `5/4·W`):
    binning the restricted run equals binning the full run. -/
theorem bin_clip_eq_uniform_property (val : Row ℝ → ℝ) (full : List (Row ℝ)) (obs : List ℝ) (d a b : ℝ)
    (hd0 : 0 < d) (hd : ∀ j, j + 1 < (full.map Row.c).length → spacing (full.map Row.c) j = d)
    (hdW : d ≤ 3 / 2 * widestBin obs) (hab : a < b)
    (ha : minL obs - widestBin obs / 2 ≤ a) (hb : b ≤ maxL obs + widestBin obs / 2)
    (hkept : 2 ≤ (clipNative (full.map Row.c) obs).length)
    (hposF : 0 < sumL ((nativeBins false full).map (overlap a b)))
    (hposC : 0 < sumL ((nativeBins false (full.filter (fun r => inClip obs r.c))).map (overlap a b))) :
    fluxBinVal val (nativeBins false full) a b =
      fluxBinVal val (nativeBins false (full.filter (fun r => inClip obs r.c))) a b := by
  rw [filter_inClip] at hposC ⊢
  rw [← filter_inside_clipNative, List.length_map] at hkept
  obtain ⟨ha', hb'⟩ := inside_margin (clipMargin_reach_uniform obs) ha hb
  exact bin_clip_eq_uniform_condition val full d (3 / 2 * widestBin obs) _ _ a b hd0 hd hdW hab ha' hb' hkept hposF hposC

open Taurex.Binning in
/-- **bin_clip_eq, interval form (any native grid)** — the general geometric statement, with no hypothesis about
    which bins overlap.  `full` are the native points in strictly increasing wavenumber (linear, logarithmic,
    constant-R or arbitrary) whose mid-point bins are ordered: `MidpointSpacingOK` for the native grid and for the
    kept points (the end clauses of that condition look at one neighbour only, so a sub-range does not inherit it;
    `bin_clip_eq_condition_ratio` replaces both by one hereditary condition).  The restricted run keeps the native
    points of a clip interval `[L, U]`.  If every native spacing is at most `d` and the target `[a, b]` stays
    `3/2·d` inside the interval (`L + 3/2·d ≤ a`, `b ≤ U - 3/2·d`) and overlaps the data, then binning the
    restricted run equals binning the full run.
    Where the clip cuts nothing at an end, the outermost restricted bin *is* the outermost full bin; where it cuts,
    the re-derived edge bin (centre less than one spacing inside `[L, U]`, width one spacing) and its full-grid
    counterpart both end within `3/2·d` of the interval's end.
    Corollaries: `bin_clip_eq_property` (the code: margin `5/4·W`, spacing `≤ W/2`), `bin_clip_eq_pinned` (the
    pre-fix margin `W` needs spacing `≤ W/3`; `bin_clip_condition_sharp`: no weaker bound would do). -/
theorem bin_clip_eq_condition (val : Row ℝ → ℝ) (full : List (Row ℝ)) (d L U a b : ℝ)
    (hg : (full.map Row.c).Pairwise (· < ·))
    (hokF : MidpointSpacingOK (full.map Row.c))
    (hokC : MidpointSpacingOK ((full.filter (inside L U)).map Row.c))
    (hd : ∀ j, j + 1 < (full.map Row.c).length → spacing (full.map Row.c) j ≤ d)
    (hab : a < b) (ha : L + 3 / 2 * d ≤ a) (hb : b ≤ U - 3 / 2 * d)
    (hkept : 2 ≤ (full.filter (inside L U)).length)
    (hposF : 0 < sumL ((nativeBins false full).map (overlap a b))) :
    fluxBinVal val (nativeBins false full) a b = fluxBinVal val (nativeBins false (full.filter (inside L U))) a b := by
  obtain ⟨i, m, him, hfil, hlen, hlo, hhi⟩ := filter_interval_sorted L U full hg
  have hm : 2 ≤ m := hlen ▸ hkept
  rw [hfil] at hokC ⊢
  have hsame := clip_condition_overlapping_eq full i m d L U a b hg hm him hd ha hb hlo hhi
  exact clip_flux_eq val full i m a b hg hm him hokF hokC hposF hsame

open Taurex.Binning in
/-- the same with one hereditary hypothesis on the native grid instead of the two `MidpointSpacingOK`:
    neighbouring spacings within a factor 4 of each other (`RatioOK`; linear grids, and logarithmic / constant-R
    grids with step ratio `≤ 4`: `geometric_ratio_ok`) -/
theorem bin_clip_eq_condition_ratio (val : Row ℝ → ℝ) (full : List (Row ℝ)) (d L U a b : ℝ)
    (hg : (full.map Row.c).Pairwise (· < ·)) (hr : RatioOK (full.map Row.c))
    (hd : ∀ j, j + 1 < (full.map Row.c).length → spacing (full.map Row.c) j ≤ d)
    (hab : a < b) (ha : L + 3 / 2 * d ≤ a) (hb : b ≤ U - 3 / 2 * d)
    (hkept : 2 ≤ (full.filter (inside L U)).length)
    (hposF : 0 < sumL ((nativeBins false full).map (overlap a b))) :
    fluxBinVal val (nativeBins false full) a b = fluxBinVal val (nativeBins false (full.filter (inside L U))) a b := by
  refine bin_clip_eq_condition val full d L U a b hg (ratio_spacing_ok _ hg hr) ?_ hd hab ha hb hkept hposF
  obtain ⟨i, m, him, hfil, _⟩ := filter_interval_sorted L U full hg
  rw [hfil, map_drop_take]
  exact ratio_spacing_ok _ (sub_increasing _ i m hg) (ratio_sub _ i m (by rw [List.length_map]; exact him) hr)

/-- the rows whose centre survives the code's clip (`L = min(obs) - 5/4·W`, `U = max(obs) + 5/4·W`) have the
    centres `clipNative` (= `clip_native_to_wngrid`, `Props/C13Src.lean:src_clip_native`) returns -/
theorem clip_rows_eq_clipNative (full : List (Binning.Row ℝ)) (obs : List ℝ) :
    (full.filter (fun r => inClip obs r.c)).map Binning.Row.c = clipNative (full.map Binning.Row.c) obs :=
  filter_inside_clipNative full obs

/-- the same for the pre-fix clip (margin `W`) -/
theorem clip_rows_eq_clipNativePinned (full : List (Binning.Row ℝ)) (obs : List ℝ) :
    (full.filter (fun r => inClipPinned obs r.c)).map Binning.Row.c =
      clipNativePinned (full.map Binning.Row.c) obs :=
  filter_inside_clipNativePinned full obs

open Taurex.Binning in
/-- **bin_clip_eq — the property's statement, for the code as it is**: "binning the restricted result to the
    observation equals binning the full result whenever no observation bin is wider than the widest bin implied by
    the mid-points between neighbouring bin centres and the native grid is finer than half that width".
    `obs` are the requested bin centres, `W = widestBin obs` the widest mid-point bin; `full` the native points in
    strictly increasing wavenumber with ordered mid-point bins (native and kept grid), **every native spacing
    `≤ W/2`**; the restricted run holds the rows kept by `clip_native_to_wngrid` (`clipNative`: margin `5/4·W`,
    `clip_rows_eq_clipNative`); the observation bin `[a, b]` reaches at most `W/2` beyond the smallest / largest
    requested centre (its centre is one of the requested centres and it is no wider than `W`) and overlaps the data.
    Then the two binned values are equal. -/
theorem bin_clip_eq_property (val : Row ℝ → ℝ) (full : List (Row ℝ)) (obs : List ℝ) (a b : ℝ)
    (hg : (full.map Row.c).Pairwise (· < ·))
    (hokF : MidpointSpacingOK (full.map Row.c))
    (hokC : MidpointSpacingOK (clipNative (full.map Row.c) obs))
    (hsp : ∀ j, j + 1 < (full.map Row.c).length → spacing (full.map Row.c) j ≤ widestBin obs / 2)
    (hab : a < b) (ha : minL obs - widestBin obs / 2 ≤ a) (hb : b ≤ maxL obs + widestBin obs / 2)
    (hkept : 2 ≤ (clipNative (full.map Row.c) obs).length)
    (hposF : 0 < sumL ((nativeBins false full).map (overlap a b))) :
    fluxBinVal val (nativeBins false full) a b =
      fluxBinVal val (nativeBins false (full.filter (fun r => inClip obs r.c))) a b := by
  rw [filter_inClip]
  rw [← filter_inside_clipNative] at hokC hkept
  rw [List.length_map] at hkept
  obtain ⟨ha', hb'⟩ := inside_margin (clipMargin_reach obs) ha hb
  exact bin_clip_eq_condition val full (widestBin obs / 2) _ _ a b hg hokF hokC hsp hab ha' hb' hkept hposF

open Taurex.Binning in
/-- the property's statement with the hereditary spacing condition `RatioOK` (linear, logarithmic and constant-R
    native grids with step ratio `≤ 4`) instead of the two `MidpointSpacingOK` -/
theorem bin_clip_eq_property_ratio (val : Row ℝ → ℝ) (full : List (Row ℝ)) (obs : List ℝ) (a b : ℝ)
    (hg : (full.map Row.c).Pairwise (· < ·)) (hr : RatioOK (full.map Row.c))
    (hsp : ∀ j, j + 1 < (full.map Row.c).length → spacing (full.map Row.c) j ≤ widestBin obs / 2)
    (hab : a < b) (ha : minL obs - widestBin obs / 2 ≤ a) (hb : b ≤ maxL obs + widestBin obs / 2)
    (hkept : 2 ≤ (clipNative (full.map Row.c) obs).length)
    (hposF : 0 < sumL ((nativeBins false full).map (overlap a b))) :
    fluxBinVal val (nativeBins false full) a b =
      fluxBinVal val (nativeBins false (full.filter (fun r => inClip obs r.c))) a b := by
  rw [filter_inClip]
  rw [← filter_inside_clipNative, List.length_map] at hkept
  obtain ⟨ha', hb'⟩ := inside_margin (clipMargin_reach obs) ha hb
  exact bin_clip_eq_condition_ratio val full (widestBin obs / 2) _ _ a b hg hr hsp hab ha' hb' hkept hposF

open Taurex.Binning in
/-- **bin_clip_eq for the pre-fix clip** (margin = the widest bin `W`, `clipNativePinned`): the statement needs
    every native spacing `≤ W/3` — a third, not the property's half (`bin_clip_condition_sharp`: spacing `7/20·W`
    already breaks it).  This is the defect repaired in /repo by the margin `5/4·W`. -/
theorem bin_clip_eq_pinned (val : Row ℝ → ℝ) (full : List (Row ℝ)) (obs : List ℝ) (a b : ℝ)
    (hg : (full.map Row.c).Pairwise (· < ·))
    (hokF : MidpointSpacingOK (full.map Row.c))
    (hokC : MidpointSpacingOK (clipNativePinned (full.map Row.c) obs))
    (hsp : ∀ j, j + 1 < (full.map Row.c).length → spacing (full.map Row.c) j ≤ widestBin obs / 3)
    (hab : a < b) (ha : minL obs - widestBin obs / 2 ≤ a) (hb : b ≤ maxL obs + widestBin obs / 2)
    (hkept : 2 ≤ (clipNativePinned (full.map Row.c) obs).length)
    (hposF : 0 < sumL ((nativeBins false full).map (overlap a b))) :
    fluxBinVal val (nativeBins false full) a b =
      fluxBinVal val (nativeBins false (full.filter (fun r => inClipPinned obs r.c))) a b := by
  rw [filter_inClipPinned]
  rw [← filter_inside_clipNativePinned] at hokC hkept
  rw [List.length_map] at hkept
  obtain ⟨ha', hb'⟩ := inside_margin (clipMarginPinned_reach obs) ha hb
  exact bin_clip_eq_condition val full (widestBin obs / 3) _ _ a b hg hokF hokC hsp hab ha' hb' hkept hposF

-- non-vacuity of `bin_clip_eq_condition` / `…_ratio`: a log-spaced native grid 1024·(5/4)^k, k = 0…5 (spacings
-- 256 … 625 = d), clip interval [1100, 4975]: the clip cuts the first point only, so the first restricted bin is
-- re-derived while the last one is the last full bin; target [2100, 3900] (1100 + 937.5 ≤ 2100, 3900 ≤ 4975 - 937.5)
open Taurex.Binning in
example :
    let full : List (Row ℝ) := [⟨1024, 0, 10, 0⟩, ⟨1280, 0, 20, 0⟩, ⟨1600, 0, 30, 0⟩, ⟨2000, 0, 40, 0⟩,
      ⟨2500, 0, 50, 0⟩, ⟨3125, 0, 60, 0⟩]
    (full.map Row.c).Pairwise (· < ·) ∧ RatioOK (full.map Row.c) ∧
    (∀ j, j + 1 < (full.map Row.c).length → spacing (full.map Row.c) j ≤ (625 : ℝ)) ∧
    (2100 : ℝ) < 3900 ∧ (1100 : ℝ) + 3 / 2 * 625 ≤ 2100 ∧ (3900 : ℝ) ≤ 4975 - 3 / 2 * 625 ∧
    (full.filter (inside 1100 4975)).map Row.c = [1280, 1600, 2000, 2500, 3125] ∧
    0 < sumL ((nativeBins false full).map (overlap 2100 3900)) := by
  intro full
  have hfull : full = log6Q.map Row.toReal := log6_eq
  have hs : ∀ j, j + 1 < (full.map Row.c).length → spacing (full.map Row.c) j ≤ 625 := log6_spacing_le
  rw [hfull, map_c_toReal] at hs ⊢
  refine ⟨(pairwise_lt_cast _).2 (by decide +kernel), ?_, hs, by norm_num, by norm_num, by norm_num, ?_, ?_⟩
  · intro j hj
    rw [spacing_cast, spacing_cast]
    exact_mod_cast (by decide +kernel : ∀ j < 4,
      (log6Q.map Row.c).getD (j + 1 + 1) 0 - (log6Q.map Row.c).getD (j + 1) 0
          ≤ 4 * ((log6Q.map Row.c).getD (j + 1) 0 - (log6Q.map Row.c).getD j 0) ∧
        (log6Q.map Row.c).getD (j + 1) 0 - (log6Q.map Row.c).getD j 0
          ≤ 4 * ((log6Q.map Row.c).getD (j + 1 + 1) 0 - (log6Q.map Row.c).getD (j + 1) 0)) j
      (Nat.lt_of_add_lt_add_right hj)
  · rw [← Rat.cast_ofNat (n := 1100), ← Rat.cast_ofNat (n := 4975), filter_inside_cast, map_c_toReal]
    exact_mod_cast congrArg (List.map ((↑) : ℚ → ℝ))
      (by decide +kernel : (log6Q.filter fun r => decide ((1100 : ℚ) ≤ r.c) && decide (r.c ≤ 4975)).map Row.c
        = [1280, 1600, 2000, 2500, 3125])
  · rw [nativeBins_cast, ← Rat.cast_ofNat (n := 2100), ← Rat.cast_ofNat (n := 3900), sum_overlap_cast, Rat.cast_pos]
    decide +kernel

-- non-vacuity of `bin_clip_eq_property` / `…_ratio`: the same native grid, observation centres 2700 and 3950
-- (widest mid-point bin W = 1250 = 2·625, so every native spacing is ≤ W/2; margin 5/4·W = 1562.5, clip interval
-- [1137.5, 5512.5]: drops the native point 1024), observation bin [2075, 3325] = 2700 ± W/2
open Taurex.Binning in
example :
    let full : List (Row ℝ) := [⟨1024, 0, 10, 0⟩, ⟨1280, 0, 20, 0⟩, ⟨1600, 0, 30, 0⟩, ⟨2000, 0, 40, 0⟩,
      ⟨2500, 0, 50, 0⟩, ⟨3125, 0, 60, 0⟩]
    let obs : List ℝ := [2700, 3950]
    widestBin obs = 1250 ∧ minL obs = 2700 ∧ maxL obs = 3950 ∧
    (∀ j, j + 1 < (full.map Row.c).length → spacing (full.map Row.c) j ≤ widestBin obs / 2) ∧
    minL obs - widestBin obs / 2 ≤ 2075 ∧ (3325 : ℝ) ≤ maxL obs + widestBin obs / 2 ∧
    clipNative (full.map Row.c) obs = [1280, 1600, 2000, 2500, 3125] := by
  intro full obs
  have hW : widestBin obs = 1250 := by
    norm_num [obs, widestBin, maxL, computeBinEdges, midEdges, diffs, absv]
  have hmin : minL obs = 2700 := by norm_num [obs, minL]
  have hmax : maxL obs = 3950 := by norm_num [obs, maxL]
  refine ⟨hW, hmin, hmax, ?_, by rw [hW, hmin]; norm_num, by rw [hW, hmax]; norm_num, ?_⟩
  · rw [hW, show (1250 : ℝ) / 2 = 625 by norm_num]
    exact log6_spacing_le
  · unfold clipNative inClip clipMargin
    rw [hW, hmin, hmax]
    norm_num [full, List.filter]

/-- **the pre-fix margin `W` is not enough for the property's condition** (exact counter-example over ℚ; the
    regression statement of the defect repaired by the margin `5/4·W`).  Observation grid `[30, 50]`: widest
    mid-point bin `W = 20`, pre-fix clip interval `[10, 70]` (`clipNativePinned`); native grid 2.9, 9.9, 16.9, 23.7,
    30.7, … with spacings 7, 7, 6.8, 7, 7, … — all `≤ 7 = 7/20·W < W/2` (the property's condition holds) but above
    `W/3`; observation bin `[20, 40]` (centre 30 = min(obs), width `W`).  The pre-fix clip drops 2.9 and 9.9; the first
    restricted bin is `16.9 ± 3.4` and reaches to 20.3 into the target while the full run has `16.9 ± 3.45` there, so
    the overlap weights, and the binned values, differ (1967/401 against 491/100; the pre-fix `clip_native_to_wngrid`
    + `FluxBinner` gave the same two values).  With the code's margin `5/4·W = 25` the clip interval is `[5, 75]`,
    the point 9.9 is kept, and the two binned values agree. -/
theorem bin_clip_condition_sharp :
    let full : List (Binning.Row Rat) := [⟨29/10, 0, 1, 0⟩, ⟨99/10, 0, 2, 0⟩, ⟨169/10, 0, 3, 0⟩, ⟨237/10, 0, 5, 0⟩,
      ⟨307/10, 0, 4, 0⟩, ⟨377/10, 0, 6, 0⟩, ⟨447/10, 0, 2, 0⟩, ⟨517/10, 0, 1, 0⟩, ⟨587/10, 0, 3, 0⟩, ⟨657/10, 0, 2, 0⟩]
    let obs : List Rat := [30, 50]
    let W := widestBin obs
    let clippedPinned := full.filter (fun r => inClipPinned obs r.c)
    let clipped := full.filter (fun r => inClip obs r.c)
    W = 20 ∧ clipMarginPinned obs = 20 ∧ clipMargin obs = 25 ∧ minL obs - W / 2 = 20 ∧ 40 ≤ maxL obs + W / 2 ∧
    (Binning.diffs (full.map Binning.Row.c)).all (fun d => decide (0 < d) && decide (d ≤ 7 * W / 20)) = true ∧
    clippedPinned.map Binning.Row.c = clipNativePinned (full.map Binning.Row.c) obs ∧
    clipped.map Binning.Row.c = clipNative (full.map Binning.Row.c) obs ∧
    Binning.fluxBinVal Binning.Row.s (Binning.nativeBins false full) 20 40 = 1967 / 401 ∧
    Binning.fluxBinVal Binning.Row.s (Binning.nativeBins false clippedPinned) 20 40 = 491 / 100 ∧
    Binning.fluxBinVal Binning.Row.s (Binning.nativeBins false full) 20 40 ≠
      Binning.fluxBinVal Binning.Row.s (Binning.nativeBins false clippedPinned) 20 40 ∧
    Binning.fluxBinVal Binning.Row.s (Binning.nativeBins false clipped) 20 40 =
      Binning.fluxBinVal Binning.Row.s (Binning.nativeBins false full) 20 40 := by
  decide +kernel

end Taurex.C13
