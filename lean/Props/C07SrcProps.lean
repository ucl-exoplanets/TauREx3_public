/-
  C07 — the property theorems restated about the REGENERATED source.  `Props/C07Src.lean` proves that the definitions
  translated on every run from taurex/optimizer/optimizer.py (`Optimizer.compile_params` with the module-level
  `compile_params`, `update_model`, `fit_values`, `fit_names`, `enable_fit`, `disable_fit`, `set_mode`, `set_boundary`,
  `set_factor_boundary`, `set_prior`, `enable_derived`, `disable_derived`; and, dialect `dyn`, from
  taurex/parameter/parameterparser.py `ParameterParser.setup_optimizer`, `generate_fitting_parameters`,
  `generate_derived_parameters`), run on the Python-object layout of a model state
  `s` (`fpDict` / `dpDict` = the `fittingParameters` / `derivedParameters` dicts, `entryTuple` = an element of
  `fitting_parameters`, getters / setters = handles into the world `s`), compute what the state machine `step s op` of
  `TaurexModel/OptimizerSM.lean` computes; `Props/C07.lean` proves the property about `step` / `run`.  The corollaries below
  compose the two: they are statements about the text of the code as it is now.  Like `Props/C07.lean` they are generic in
  the names `ν` and the carrier `α` (`src_writeback_id` over ℝ; `fit_names` has string names).

  What is composed.  Every method is tied on its own (one call = one `step`); a history is a `run` of the model, each step of
  which is one tied call.  The corollaries therefore speak of the regenerated method applied to the layout of ANY state a
  history reaches (`run init ops`), instantiated exactly as in the tie theorems:
    * `srcCompile lx s` = `Optimizer.compile_params()` (returns `(_fit_priors, fitting_parameters, fitting_priors,
      derived_parameters)` and the exception); the tie hypothesis (the keys of the dict `_user_priors` are distinct in the
      reached state) is PROVED along every history (`userPriors_nodup_run`, Proofs/C07.lean): it only remains as
      a hypothesis about the start state in `src_compile_history_free_from`, and not at all from a fresh optimizer.
    * `srcUpdate lx s v` = `Optimizer.update_model(v)` (the world afterwards and the exception).
    * `srcFitValues lx s`, `srcFitNames lx s` = the properties `fit_values`, `fit_names`.
    * the eight set-up methods on `fpDict` / `dpDict`; tie hypotheses kept visible: the keys of each dict are distinct.

  The `[Fitting]` / `[Derive]` glue (last section): `srcSetup mk pexc c s` = the regenerated
  `ParameterParser.setup_optimizer(optimizer)` in the world `s` (result / exception and the world afterwards), `srcGenFit` =
  the regenerated `generate_fitting_parameters()`, under the oracle `fext` of Proofs/C07SrcFitting.lean (`c` = the dict
  `self._raw_config.dict()`, `SecAt c "Fitting" fitting`: its section is `fitting` or absent; `create_prior(v)` = `mk v` /
  raises `pexc`; optimizer methods = `step`).  Hypothesis kept visible in the `setup_optimizer` corollaries: `hsup`, no
  `bounds` / `factor` / `mode` value of a shape outside the documented ones (the model's `unsupported`).
    * `src_fitting_section_implied` composes BOTH regenerated functions: `setup_optimizer` from the parser, then
      `Optimizer.compile_params()` from the optimizer, on a fresh optimizer.

  Not restated
    * `implied_names_order`: a statement about the specification `implied` alone (no function of the code in it); it applies
      to the `fitting_parameters` of `src_compile_history_free` as it stands.
    * `compiled_invariant`: about the model invariant `Inv` (a hypothesis builder); `src_writeback_id` takes `Inv` of the start
      state as a hypothesis and carries it along with `Inv_run` to discharge the guard of the `fit_values` tie.
    * `declared_table_live`, `modify_bounds_frame`: about `TaurexModel/FittableTable.lean`; taurex/data/fittable.py is not among
      the translated functions.
    * `stale_prior_witness_pinned`: regression witness about the model `runPinned` of the defect, which is not what the code does.
    * In `src_compile_history_free` the returned `_fit_priors` and the `derived_parameters` tuples are existentially
      quantified (`fp`, `D`): the model's `view` does not contain them (the names of `D` are pinned); on failure `_fit_priors`
      also holds default priors stored before the exception (`src_Optimizer_compile_params_error`).
-/
import Props.C07
import Props.C07Src
set_option linter.unusedSectionVars false

namespace Taurex.C07SrcProps
open Taurex.Priors Taurex.OptimizerSM Taurex.Gen Taurex.C07 Taurex.C07Src

theorem outE_eq_ok {o : Out} (h : outE o = Except.ok ()) : o = .ok := by
  cases o <;> simp [outE] at h ⊢

section
variable {ν α L : Type} [DecidableEq ν] [Add α] [Sub α] [Mul α] [Div α] [Neg α] [LT α] [LE α]
  [DecidableLT α] [DecidableLE α] [Taurex.Transc α] [OfNat α 0]

/-- the regenerated `Optimizer.compile_params()` on the layout of `s` -/
def srcCompile (lx : ν → L) (s : St ν α) :=
  Gen.SrcC07.Optimizer_compile_params logUniformLin uniformBounds (dpDict lx .model s.dmodel) (fpDict lx .model s.model)
    (dpDict lx .obs s.dobs) (fpDict lx .obs s.obs) s.userPriors

/-- the regenerated `Optimizer.update_model(v)` in the world `s` -/
def srcUpdate (lx : ν → L) (s : St ν α) (v : List α) : St ν α × Except Py.Err Unit :=
  Gen.SrcC07.Optimizer_update_model v callSet (s.compiled.map (entryTuple lx)) s.compiledPriors Prior.back s

theorem srcUpdate_eq (lx : ν → L) (s : St ν α) (v : List α) :
    srcUpdate lx s v = ((step s (.updateModel v)).1, outE (step s (.updateModel v)).2) :=
  src_update_model lx s v

/-- the regenerated property `Optimizer.fit_values` in the world `s` -/
def srcFitValues (lx : ν → L) (s : St ν α) : Except Py.Err (List α) :=
  Gen.SrcC07.Optimizer_fit_values callGet (s.compiled.map (entryTuple lx)) s.compiledPriors mathLog10
    (fun p => modeCode p.mode) s

/-- **History freedom**, about the regenerated `Optimizer.compile_params()`: run on the state reached by ANY operation
    sequence from ANY well-formed state whose `_user_priors` is a dict (distinct keys — a hypothesis about the START state
    only; `userPriors_nodup_run` carries it to the reached state), it returns as `fitting_parameters` (in order),
    `fitting_priors`, the names of `derived_parameters`, and as outcome (ok / ValueError) exactly what the specification
    `implied` computes from the current settings alone -/
theorem src_compile_history_free_from (lx : ν → L) (init : St ν α) (hwf : WF init)
    (hu0 : (init.userPriors.map (·.1)).Nodup) (ops : List (Op ν α)) :
    ∃ fp D, srcCompile lx (run init ops)
        = ((fp, (implied (settings (run init ops))).1.entries.map (entryTuple lx),
            (implied (settings (run init ops))).1.priors, D), outE (implied (settings (run init ops))).2) ∧
      D.map (·.1) = (implied (settings (run init ops))).1.derived := by
  have hu := userPriors_nodup_run ops init hu0
  have hI := compile_history_free init hwf ops
  rw [run_append] at hI
  simp only [run] at hI
  rw [← hI]
  by_cases hok : (step (run init ops) .compile).2 = .ok
  · obtain ⟨h1, h2⟩ := src_Optimizer_compile_params_ok lx (run init ops) hu hok
    refine ⟨(step (run init ops) .compile).1.fitPriors,
      derivedTuples lx .model (run init ops).dmodel ++ derivedTuples lx .obs (run init ops).dobs, ?_, h2⟩
    unfold srcCompile
    rw [h1]
    simp only [view, hok, outE]
  · obtain ⟨extra, D, h1, h2, _⟩ := src_Optimizer_compile_params_error lx (run init ops) hu hok
    exact ⟨_, D, h1, h2⟩

/-- **History freedom**, about the regenerated `Optimizer.compile_params()`, without any hypothesis on the reached state:
    run on the state reached by ANY operation sequence from a fresh optimizer over ANY two well-formed objects, it returns
    as `fitting_parameters` (in order), `fitting_priors`, the names of `derived_parameters`, and as outcome (ok /
    ValueError) exactly what the specification `implied` computes from the current settings alone.  (That the keys of
    `_user_priors` are distinct in the reached state — the hypothesis of the tie — is proved: `userPriors_nodup_run`, from a fresh optimizer's empty dict.) -/
theorem src_compile_history_free (lx : ν → L) (model obs : List (Param ν α)) (dm dob : List (Derived ν))
    (hwf : WF (initSt model obs dm dob)) (ops : List (Op ν α)) :
    ∃ fp D, srcCompile lx (run (initSt model obs dm dob) ops)
        = ((fp, (implied (settings (run (initSt model obs dm dob) ops))).1.entries.map (entryTuple lx),
            (implied (settings (run (initSt model obs dm dob) ops))).1.priors, D),
           outE (implied (settings (run (initSt model obs dm dob) ops))).2) ∧
      D.map (·.1) = (implied (settings (run (initSt model obs dm dob) ops))).1.derived :=
  src_compile_history_free_from lx _ hwf (by simp [initSt]) ops

/-- **Frame condition**, about the regenerated `update_model`: a successful update leaves every mode, fit flag and bound of
    both tables, the derived flags, both prior tables and the compiled view untouched, and every parameter that is not a
    compiled row keeps its value -/
theorem src_update_frame (lx : ν → L) (s : St ν α) (v : List α) (hok : (srcUpdate lx s v).2 = Except.ok ()) :
    frame (srcUpdate lx s v).1 = frame s ∧
    ∀ (o : Owner) (n : ν), (∀ e ∈ s.compiled, ¬ (e.owner = o ∧ e.name = n)) →
      getValue (srcUpdate lx s v).1 o n = getValue s o n := by
  rw [srcUpdate_eq] at hok ⊢
  exact update_frame s v (outE_eq_ok hok)

/-- **`update_model` sets exactly the fitted parameters**, about the regenerated method: in any state reached from a
    well-formed one satisfying the compiled-view invariant, a vector of the right length does not raise and sets the parameter
    of row `i` to `prior_i(v_i)` -/
theorem src_update_sets_fitted (lx : ν → L) (init : St ν α) (hwf : WF init) (hinv : Inv init) (ops : List (Op ν α))
    (v : List α) (hlen : v.length = (run init ops).compiled.length) :
    (srcUpdate lx (run init ops) v).2 = Except.ok () ∧
    ∀ epx ∈ (run init ops).compiled.zip ((run init ops).compiledPriors.zip v),
      getValue (srcUpdate lx (run init ops) v).1 epx.1.owner epx.1.name = some (epx.2.1.back epx.2.2) := by
  have h := update_sets_fitted init hwf hinv ops v hlen
  rw [srcUpdate_eq]
  exact ⟨by rw [h.1]; rfl, h.2⟩

/-- a vector of the wrong length is a `ValueError` of the regenerated `update_model` and changes nothing -/
theorem src_update_len_error (lx : ν → L) (s : St ν α) (v : List α) (h : v.length ≠ s.compiled.length) :
    srcUpdate lx s v = (s, Except.error Py.Err.valueError) := by
  rw [srcUpdate_eq, update_len_error s v h]
  rfl

/-- **Unknown names are errors**, about the eight regenerated set-up methods: each raises (`KeyError`; `set_prior`:
    `ValueError`) and returns the dicts it was given -/
theorem src_unknown_is_error (lx : ν → L) (s : St ν α) (hmN : (names s.model).Nodup) (hoN : (names s.obs).Nodup)
    (hdmN : (s.dmodel.map (·.name)).Nodup) (hdoN : (s.dobs.map (·.name)).Nodup)
    (n : ν) (hm : n ∉ names s.model) (ho : n ∉ names s.obs)
    (hdm : n ∉ s.dmodel.map (·.name)) (hdo : n ∉ s.dobs.map (·.name)) (m : String) (a b : α) (p : Prior α) :
    Gen.SrcC07.Optimizer_enable_fit n (fpDict lx .model s.model) (fpDict lx .obs s.obs)
      = ((fpDict lx .model s.model, fpDict lx .obs s.obs), Except.error Py.Err.keyError) ∧
    Gen.SrcC07.Optimizer_disable_fit n (fpDict lx .model s.model) (fpDict lx .obs s.obs)
      = ((fpDict lx .model s.model, fpDict lx .obs s.obs), Except.error Py.Err.keyError) ∧
    Gen.SrcC07.Optimizer_set_mode n m (fpDict lx .model s.model) (fpDict lx .obs s.obs)
      = ((fpDict lx .model s.model, fpDict lx .obs s.obs), Except.error Py.Err.keyError) ∧
    Gen.SrcC07.Optimizer_set_boundary n (a, b) (fpDict lx .model s.model) (fpDict lx .obs s.obs)
      = ((fpDict lx .model s.model, fpDict lx .obs s.obs), Except.error Py.Err.keyError) ∧
    Gen.SrcC07.Optimizer_set_factor_boundary n (a, b) callGet (fpDict lx .model s.model) (fpDict lx .obs s.obs) s
      = ((fpDict lx .model s.model, fpDict lx .obs s.obs), Except.error Py.Err.keyError) ∧
    Gen.SrcC07.Optimizer_set_prior n p s.fitPriors (fpDict lx .model s.model) (fpDict lx .obs s.obs) s.userPriors
      = ((s.userPriors, s.fitPriors), Except.error Py.Err.valueError) ∧
    Gen.SrcC07.Optimizer_enable_derived n (dpDict lx .model s.dmodel) (dpDict lx .obs s.dobs)
      = ((dpDict lx .model s.dmodel, dpDict lx .obs s.dobs), Except.error Py.Err.keyError) ∧
    Gen.SrcC07.Optimizer_disable_derived n (dpDict lx .model s.dmodel) (dpDict lx .obs s.dobs)
      = ((dpDict lx .model s.dmodel, dpDict lx .obs s.dobs), Except.error Py.Err.keyError) := by
  obtain ⟨h1, h2, h3, h4, h5, h6, h7, h8⟩ := unknown_is_error s n hm ho hdm hdo m a b p
  refine ⟨?_, ?_, ?_, ?_, ?_, ?_, ?_, ?_⟩
  · rw [src_enable_fit lx s hmN hoN n, h1]; rfl
  · rw [src_disable_fit lx s hmN hoN n, h2]; rfl
  · rw [src_set_mode lx s hmN hoN n m, h3]; rfl
  · rw [src_set_boundary lx s hmN hoN n a b, h4]; rfl
  · rw [src_set_factor_boundary lx s hmN hoN n a b, h5]; rfl
  · rw [src_set_prior lx s n p, h6]; rfl
  · rw [src_enable_derived lx s hdmN hdoN n, h7]; rfl
  · rw [src_disable_derived lx s hdmN hdoN n, h8]; rfl

end

/-! ### reported names (string names) -/

section
variable {α L : Type} [Add α] [Sub α] [Mul α] [Div α] [Neg α] [LT α] [LE α]
  [DecidableLT α] [DecidableLE α] [Taurex.Transc α] [OfNat α 0]

/-- the regenerated property `Optimizer.fit_names` on the layout of `s` -/
def srcFitNames (lx : String → L) (s : St String α) : Except Py.Err (List String) :=
  Gen.SrcC07.Optimizer_fit_names s.fitPriors (s.compiled.map (entryTuple lx)) (fun p => modeCode p.mode)

/-- **Consistent spaces (names)**, about the regenerated `fit_names`: right after a successful compilation the reported name
    of every row carries the `log_` prefix exactly when the prior of that row is a log-space prior -/
theorem src_spaces_consistent_names (lx : String → L) (s : St String α) (hwf : WF s)
    (hok : (step s .compile).2 = .ok) :
    srcFitNames lx (step s .compile).1
      = Except.ok ((impliedNames (view (step s .compile).1)).map Taurex.Ops.C07.fName) := by
  unfold srcFitNames
  rw [src_fit_names, spaces_consistent_names s hwf hok]
  rfl

/-- the regenerated `fit_names` never raises along any history of a fresh optimizer -/
theorem src_fit_names_total (lx : String → L) (model obs : List (Param String α)) (dm dob : List (Derived String))
    (hwf : WF (initSt model obs dm dob)) (ops : List (Op String α)) :
    ∃ ns, srcFitNames lx (run (initSt model obs dm dob) ops) = Except.ok ns := by
  have h := fit_names_total model obs dm dob hwf ops
  obtain ⟨r, hr⟩ := Option.isSome_iff_exists.1 h
  unfold srcFitNames
  rw [src_fit_names, hr]
  exact ⟨_, rfl⟩

end

/-! ### `[Fitting]` / `[Derive]` sections (`ParameterParser.setup_optimizer`, `generate_fitting_parameters`) -/

section
open Taurex.FittingSection Taurex.Gen.Dyn
variable {α L : Type} [Add α] [Sub α] [Mul α] [Div α] [Neg α] [LT α] [LE α]
  [DecidableLT α] [DecidableLE α] [Taurex.Transc α] [OfNat α 0] [BEq (FObj α)]

/-- the regenerated `ParameterParser.setup_optimizer(optimizer)` in the world `s`: what it returns / raises, and the world
    afterwards -/
def srcSetup (mk : FV α → Option (Prior α)) (pexc : Exc) (c : List (FV α × FV α)) (s : St String α) :
    Except Exc (FV α) × St String α :=
  Gen.SrcC07.setup_optimizer (fext mk pexc (.dict c)) (.obj .self) (.obj .optimizer) s

/-- the regenerated `ParameterParser.generate_fitting_parameters()` -/
def srcGenFit (mk : FV α → Option (Prior α)) (pexc : Exc) (c : List (FV α × FV α)) (s : St String α) :
    Except Exc (FV α) × St String α :=
  Gen.SrcC07.generate_fitting_parameters (fext mk pexc (.dict c)) (.obj .self) s

theorem srcSetup_eq (mk : FV α → Option (Prior α)) (pexc : Exc) (c : List (FV α × FV α))
    (fitting derive : List (String × OptVal α)) (hF : SecAt c "Fitting" fitting) (hD : SecAt c "Derive" derive)
    (s : St String α) (hsup : (setupOptimizer (fun v => mk (embV v)) s fitting derive).2.1 ≠ .unsupported) :
    srcSetup mk pexc c s = (resV pexc (setupOptimizer (fun v => mk (embV v)) s fitting derive).2.1,
                            (setupOptimizer (fun v => mk (embV v)) s fitting derive).1) :=
  src_setup_optimizer mk pexc c fitting derive hF hD s hsup

/-- **The set-up an input file asks for**, about the regenerated `setup_optimizer` AND the regenerated
    `Optimizer.compile_params()`: if `setup_optimizer` returns (raises nothing) on a fresh optimizer (names unique across
    the tables, derived names of model and observation disjoint), then `compile_params()` run on the world it leaves returns
    as `fitting_parameters` (in order), `fitting_priors`, names of `derived_parameters` and outcome exactly what `implied`
    computes from the settings the two sections DESCRIBE (`sectionSettings`) -/
theorem src_fitting_section_implied (lx : String → L) (mk : FV α → Option (Prior α)) (pexc : Exc) (c : List (FV α × FV α))
    (model obs : List (Param String α)) (dm dob : List (Derived String)) (fitting derive : List (String × OptVal α))
    (hF : SecAt c "Fitting" fitting) (hD : SecAt c "Derive" derive)
    (hwf : WF (initSt model obs dm dob)) (hdd : DisjD (initSt model obs dm dob : St String α))
    (hsup : (setupOptimizer (fun v => mk (embV v)) (initSt model obs dm dob) fitting derive).2.1 ≠ .unsupported)
    (hok : (srcSetup mk pexc c (initSt model obs dm dob)).1 = .ok .none) :
    ∃ grp dl, parseFitting (fun v => mk (embV v)) fitting [] = .ok grp ∧ splitAll derive = some dl ∧
      ∃ fp D, srcCompile lx (srcSetup mk pexc c (initSt model obs dm dob)).2
          = ((fp, (implied (sectionSettings (initSt model obs dm dob) grp (deriveRecs dl []))).1.entries.map (entryTuple lx),
              (implied (sectionSettings (initSt model obs dm dob) grp (deriveRecs dl []))).1.priors, D),
             outE (implied (sectionSettings (initSt model obs dm dob) grp (deriveRecs dl []))).2) ∧
        D.map (·.1) = (implied (sectionSettings (initSt model obs dm dob) grp (deriveRecs dl []))).1.derived := by
  rw [srcSetup_eq mk pexc c fitting derive hF hD _ hsup] at hok ⊢
  have hok' := (resV_ok_iff pexc _).1 hok
  obtain ⟨grp, dl, hp, hsd, hset, hw'⟩ :=
    setup_ok_settings (fun v => mk (embV v)) (initSt model obs dm dob) hwf hdd rfl fitting derive hok'
  refine ⟨grp, dl, hp, hsd, ?_⟩
  have hu : ((setupOptimizer (fun v => mk (embV v)) (initSt model obs dm dob) fitting derive).1.userPriors.map
      (·.1)).Nodup := by
    rw [setup_run]
    exact userPriors_nodup_run _ _ (by simp [initSt])
  have h := src_compile_history_free_from lx _ hw' hu []
  simp only [run] at h
  rw [hset] at h
  exact h

/-- **Unknown names and malformed keys in a section are errors**, about the regenerated `setup_optimizer` on any
    well-formed world: a `[Fitting]` key that is not `name:option` makes it raise and leaves the world untouched; a
    `[Fitting]` line naming a parameter found in neither table makes it raise; a `[Derive]` key that is not `name:option`
    makes it raise; a `[Derive]` line `name:compute` naming an unknown derived parameter makes it raise -/
theorem src_fitting_unknown_is_error (mk : FV α → Option (Prior α)) (pexc : Exc) (c : List (FV α × FV α))
    (s : St String α) (hw : WF s) (hd : DisjD s) (fitting derive : List (String × OptVal α))
    (hF : SecAt c "Fitting" fitting) (hD : SecAt c "Derive" derive)
    (hsup : (setupOptimizer (fun v => mk (embV v)) s fitting derive).2.1 ≠ .unsupported) :
    ((∃ kv ∈ fitting, splitKey kv.1 = none) →
      (∃ e, (srcSetup mk pexc c s).1 = .error e) ∧ (srcSetup mk pexc c s).2 = s) ∧
    ((∃ kv ∈ fitting, ∃ a b, splitKey kv.1 = some (a, b) ∧ ¬ Known s a) → ∃ e, (srcSetup mk pexc c s).1 = .error e) ∧
    ((∃ kv ∈ derive, splitKey kv.1 = none) → ∃ e, (srcSetup mk pexc c s).1 = .error e) ∧
    ((∃ kv ∈ derive, ∃ a, splitKey kv.1 = some (a, "compute") ∧ ¬ KnownD s a) →
      ∃ e, (srcSetup mk pexc c s).1 = .error e) := by
  obtain ⟨h1, h2, h3, h4⟩ := fitting_unknown_is_error (fun v => mk (embV v)) s hw hd fitting derive
  rw [srcSetup_eq mk pexc c fitting derive hF hD s hsup]
  exact ⟨fun h => ⟨resV_error pexc _ (h1 h).1, (h1 h).2.1⟩, fun h => resV_error pexc _ (h2 h),
    fun h => resV_error pexc _ (h3 h), fun h => resV_error pexc _ (h4 h)⟩

/-- **The order of the `[Fitting]` lines is irrelevant**, about the regenerated `generate_fitting_parameters`: on two
    input files whose `[Fitting]` lines (split at the colon) are permutations of each other, with keys unique as ConfigObj
    guarantees, it either raises the same exception on both, or returns two dicts that hold (`GrpSim`) records describing
    settings with the same `implied` set-up — which by `src_fitting_section_implied` is what the regenerated
    `setup_optimizer` + `compile_params` produce -/
theorem src_fitting_order_free (mk : FV α → Option (Prior α)) (pexc : Exc) (c c' : List (FV α × FV α))
    (s0 s : St String α) (ents ents' : List (String × OptVal α)) (ls ls' : List (Line α))
    (hF : SecAt c "Fitting" ents) (hF' : SecAt c' "Fitting" ents')
    (hs : splitAll ents = some ls) (hs' : splitAll ents' = some ls') (hperm : ls.Perm ls')
    (hnd : (ls.map lkey).Nodup) (drecs : List (String × Option (OptVal α))) :
    (∃ e, srcGenFit mk pexc c s = (.error e, s) ∧ srcGenFit mk pexc c' s = (.error e, s)) ∨
    (∃ D D' grp grp', srcGenFit mk pexc c s = (.ok (.dict D), s) ∧ srcGenFit mk pexc c' s = (.ok (.dict D'), s) ∧
      GrpSim D grp ∧ GrpSim D' grp' ∧
      implied (sectionSettings s0 grp drecs) = implied (sectionSettings s0 grp' drecs)) := by
  have h := fitting_order_free (fun v => mk (embV v)) s0 ents ents' ls ls' hs hs' hperm hnd drecs
  have g := src_generate_fitting_parameters mk pexc c ents hF s
  have g' := src_generate_fitting_parameters mk pexc c' ents' hF' s
  unfold srcGenFit
  cases hp : parseFitting (fun v => mk (embV v)) ents [] with
  | error e =>
    cases hp' : parseFitting (fun v => mk (embV v)) ents' [] with
    | error e' =>
      rw [hp, hp'] at h
      simp only at h
      subst h
      exact .inl ⟨_, fitOutcome_err hp g, fitOutcome_err hp' g'⟩
    | ok grp' => rw [hp, hp'] at h; exact h.elim
  | ok grp =>
    cases hp' : parseFitting (fun v => mk (embV v)) ents' [] with
    | error e' => rw [hp, hp'] at h; exact h.elim
    | ok grp' =>
      rw [hp, hp'] at h
      simp only at h
      obtain ⟨D, hD, hsim⟩ := fitOutcome_ok hp g
      obtain ⟨D', hD', hsim'⟩ := fitOutcome_ok hp' g'
      exact .inr ⟨D, D', grp, grp', hD, hD', hsim, hsim', h⟩

/-- non-vacuity of `src_fitting_section_implied` / `src_fitting_unknown_is_error`: for the example optimizer and sections of
    Props/C07.lean (`exInit`, `exFitting`, `exDerive`, no `prior` lines) the model's outcome is `ok` (so `hsup` holds), the
    sections are where `SecAt` wants them, and the regenerated `setup_optimizer` returns `None` (`hok`) -/
example [BEq (FObj ℝ)] :
    (setupOptimizer (fun v => (fun _ => none : FV ℝ → Option (Prior ℝ)) (embV v)) exInit exFitting exDerive).2.1 ≠ .unsupported ∧
    SecAt (α := ℝ) [(.str "Fitting", .dict (embSec exFitting)), (.str "Derive", .dict (embSec exDerive))] "Fitting" exFitting ∧
    SecAt (α := ℝ) [(.str "Fitting", .dict (embSec exFitting)), (.str "Derive", .dict (embSec exDerive))] "Derive" exDerive ∧
    (srcSetup (fun _ => none) Exc.ValueError
      [(.str "Fitting", .dict (embSec exFitting)), (.str "Derive", .dict (embSec exDerive))] exInit).1 = .ok .none := by
  -- `fun v => (fun _ => none) (embV v)` is reduced first: `srcSetup_eq` asks for `hsup` in the reduced spelling, and the
  -- unifier would compare the two spellings by evaluating `setupOptimizer`
  beta_reduce
  have hok : (setupOptimizer (fun _ => none) exInit exFitting exDerive).2.1 = .ok := by decide +kernel
  have hs := secAt_cfgOf (α := ℝ) exFitting exDerive
  have hsup : (setupOptimizer (fun _ => none) exInit exFitting exDerive).2.1 ≠ .unsupported := by rw [hok]; decide
  refine ⟨hsup, hs.1, hs.2, ?_⟩
  rw [srcSetup_eq (fun _ => none) Exc.ValueError _ exFitting exDerive hs.1 hs.2 exInit hsup, hok]
  rfl

end

/-! ### write-back identity (over ℝ) -/

section
variable {ν L : Type} [DecidableEq ν]

theorem getValue_isSome_of_mem (s : St ν ℝ) (o : Owner) (n : ν) (h : n ∈ names (table s o)) :
    (getValue s o n).isSome = true :=
  getValue_isSome s o n h

/-- **Write-back identity**, about the regenerated `fit_values` and `update_model`: if `fit_values` returns a vector at all,
    writing it back with `update_model` succeeds and changes nothing -/
theorem src_writeback_id (lx : ν → L) (init : St ν ℝ) (hwf : WF init) (hinv : Inv init) (ops : List (Op ν ℝ))
    (v : List ℝ) (hv : srcFitValues lx (run init ops) = Except.ok v) :
    srcUpdate lx (run init ops) v = (run init ops, Except.ok ()) := by
  obtain ⟨_, _, hex⟩ := Inv_run ops init hwf hinv
  unfold srcFitValues at hv
  rw [src_fit_values lx (run init ops)
    (fun e he => getValue_isSome_of_mem _ _ _ (hex e he))] at hv
  cases hf : fitValues (run init ops) with
  | none => simp [hf, optE] at hv
  | some w =>
    simp only [hf, optE, Except.ok.injEq] at hv
    subst hv
    rw [srcUpdate_eq, writeback_id init hwf hinv ops w hf]
    rfl

end

end Taurex.C07SrcProps
