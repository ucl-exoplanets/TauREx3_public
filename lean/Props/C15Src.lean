/-
  C15 — source tie.  `TaurexModel/Gen/SrcC15.lean` is regenerated on every run by the `dyn` dialect of the source translator
  (`harness/translate_dyn.py`) from the source text of taurex/parameter/parameterparser.py, taurex/parameter/factory.py and
  taurex/mixin/core.py.  The regenerated definitions are DYNAMICALLY TYPED Python (values `Dyn.Val`, exceptions `Dyn.Exc`,
  primitives of `TaurexModel/Gen/DynPrelude.lean`), polymorphic in the monad and in one oracle `ext` that answers what the
  code asks of classes, modules and other objects.  The theorems below instantiate the monad with `Except Dyn.Exc` and the
  oracle with `World.ext` (`Proofs/C15SrcOracle.lean`: the registry of the model seen as `ClassFactory`, `inspect`, class
  objects; FOR EVERY world, i.e. whatever the constructors do, whichever exception a class without keywords raises, whatever
  the parameters without default are called) and state that, on the embedding `emb` / `embCfg` of the model's data, each
  regenerated function returns the embedding of what the hand-written function of `TaurexModel/Factory.lean` returns — the
  function `driver_c15` executes and the C15 theorems are about.  A model error corresponds to the exception class
  `errExc` names.  Dictionaries are association lists with distinct keys (`KeysNodup`, which a Python `dict` guarantees).
  A source change that alters one of these functions makes the corresponding theorem fail.

  `create_chemistry`, the thin wrappers `create_temperature_profile` / `create_pressure_profile` and the glue of
  `ParameterParser` (`generate_chemistry_profile / pressure_profile / temperature_profile / planet / star / optimizer /
  observation / instrument / model`, `create_snr`) are tied too: the parser object is `Obj.parser f` (`f` = the typed file,
  `self._raw_config.dict()` = `embFile f`, a fresh dictionary on every call), each `generate_<x>` is the corresponding slot
  of `Factory.expected` (`optV`: `None` for an absent section) with the constructor calls left to the world
  (`profileV`, `lenientV`, `observationV`, `instrumentV`, `modelV`); the `…_eq_…` theorems identify these with
  `Factory.createProfile / createLenient / createChemistry / generateObservation / generateInstrument / createModel` for
  every world whose constructor calls are the model's `instantiate`.  In `generate_observation` / `generate_instrument`
  the names `observation_config` / `inst_config` alias an entry of the private copy `config` (spec key `unshared`): the
  copy is not read again before the function returns.
-/
import Proofs.C15SrcDetect
import Props.C15
import Proofs.FoldCore
set_option linter.unusedVariables false

namespace Taurex.C15Src
open Taurex.Gen Taurex.Gen.Dyn
open Taurex.Factory (Scalar Value Config Klass Registry SectionReg Resolved Err Customs Component Sec InputFile)

/-! ## `ParameterParser.transform` -/

/-- **`ParameterParser.transform(section, key)`** types the raw value exactly as `Factory.transform`: a list becomes the
    list of its floats when every element converts (`float()` = `toFloat`, i.e. `parseNumber` on strings) and is left alone
    otherwise, a string becomes a bool by the two word lists (lower-cased), else a float if `float()` accepts it, else
    stays; anything else is untouched.  The typed value is returned AND stored back under the same key. -/
theorem src_transform (w : World) (sec : List (V × V)) (key : V) (v : Value) (hk : key.hashable = true)
    (h : dictGet? sec key = some (emb v)) :
    SrcC15.transform w.ext (.dict sec) key
      = .ok (emb (Factory.transform v), .dict (dictSet sec key (emb (Factory.transform v)))) := by
  unfold SrcC15.transform
  simp only [getItem_dict, hk, if_true, h, pure_ok, bind_ok, setItem_dict]
  cases v with
  | scalar s =>
    cases s with
    | str t =>
      have e1 : (Dyn.Val.list [(Dyn.Val.str "true"), (Dyn.Val.str "yes"), (Dyn.Val.str "yeah"), (Dyn.Val.str "yup"),
          (Dyn.Val.str "certainly"), (Dyn.Val.str "uh-huh")] : V) = .list (Factory.trueWords.map .str) := rfl
      have e2 : (Dyn.Val.list [(Dyn.Val.str "false"), (Dyn.Val.str "no"), (Dyn.Val.str "nope"), (Dyn.Val.str "no-way"),
          (Dyn.Val.str "hell-no")] : V) = .list (Factory.falseWords.map .str) := rfl
      have hv : emb (Value.scalar (Scalar.str t)) = .str t := rfl
      have hl : Dyn.strLower t = Factory.lower t := rfl
      simp only [hv, Dyn.Val.isTy, Bool.false_eq_true, if_false, if_true, m_lower_str, pure_ok, bind_ok, e1, e2,
        contains_words, Factory.transform, hl, List.contains_iff_mem]
      by_cases h1 : Factory.lower t ∈ Factory.trueWords
      · simp only [h1, if_true, bind_ok]; rfl
      · by_cases h2 : Factory.lower t ∈ Factory.falseWords
        · simp only [h1, h2, if_true, if_false, bind_ok]; rfl
        · simp only [h1, h2, if_false, float_str, ext_parseFloat]
          cases hp : Factory.parseNumber t with
          | none => simp only [throw_err, bind_err, try_err, isa_exception, if_true, bind_ok, hv]
          | some x =>
            have hx : emb (Value.scalar x) = .float x := parseNumber_float t x hp
            simp only [pure_ok, bind_ok, try_ok, hx]
    | _ => rfl
  | list l =>
    simp only [emb, Dyn.Val.isTy, if_true, iter_list, pure_ok, bind_ok, bind_ok_right, Factory.transform]
    obtain ⟨e, he⟩ := mapM_float w (fun a => Dyn.float_ w.ext a) (fun _ => rfl) l
    cases hm : l.mapM Factory.toFloat <;> simp [he, hm, isa_exception]
  | other r => rfl
  | ref r => rfl

/-! ## constructor keywords and the strict key check -/

/-- **`get_keywordarg_dict(klass)`** (`is_mixin=False`): the trailing parameters of `klass.__init__` with their defaults
    are the `kwargs` column of the registry (`Factory.kwargDict (.plain k)`; `dictOfPairs` is the identity on a list with
    distinct names, which Python's syntax guarantees for parameters) -/
theorem src_get_keywordarg_dict (w : World) (k : Klass) :
    SrcC15.get_keywordarg_dict w.ext (kobj k) (.bool false) = .ok (.dict (embCfg (Factory.dictOfPairs k.kwargs))) := by
  unfold SrcC15.get_keywordarg_dict
  simp only [dyn_eval, ext_global_inspect, kobj, ext_getattr_init, ext_getfullargspec, ext_getslice4]
  rcases argspec_cases w k false with ⟨he, hd⟩ | ⟨he, hd, hs⟩
  · have he' : k.kwargs = [] := he
    simp [hd, he', isNone_none, Factory.dictOfPairs, embCfg]
  · simp only [dyn_eval, hd, argspecArgs, List.length_map, hs]
    have h0 : (Dyn.Val.dict [] : V) = .dict (embCfg []) := rfl
    rw [h0, forM_zip_set w _ _ (specKwargs k false) [] keysNodup_nil]
    · rfl
    · intro acc k v
      simp only [dyn_eval]

/-- **`create_klass(config, klass, False)`**: the strict key check is `Factory.createKlass` over the constructor defaults;
    a config that passes reaches `klass(**kwargs)` with exactly the keyword arguments `createKlass` computes (for EVERY
    behaviour `w.call` of the constructor); an unknown key raises `KeyError` before the class is called. -/
theorem src_create_klass (w : World) (k : Klass) (cfg : Config) (hc : KeysNodup cfg) :
    SrcC15.create_klass w.ext (.dict (embCfg cfg)) (kobj k) (.bool false)
      = match Factory.createKlass (Factory.dictOfPairs k.kwargs) cfg with
        | .ok kw => w.call (.klass k) [] (embKw kw)
        | .error e => .error (errExc e) := by
  exact create_klass_core w (kobj k) (.bool false) _ cfg hc (keysNodup_dictOfPairs _) (src_get_keywordarg_dict w k)
    ⟨_, rfl⟩

/-! ## the class factories -/

theorem src_gas_factory (w : World) (hw : WorldOK w) (kw : String) :
    SrcC15.gas_factory w.ext (.str kw) = embE kobj (Factory.factory (w.reg.sec "gas") kw) := by
  unfold SrcC15.gas_factory
  exact factory_core w hw kw "gasKlasses" "gas" false (by table) _ (fun _ => rfl) _ (fun _ => rfl) rfl

theorem src_temp_factory (w : World) (hw : WorldOK w) (kw : String) :
    SrcC15.temp_factory w.ext (.str kw) = embE kobj (Factory.factory (w.reg.sec "temperature") kw) := by
  unfold SrcC15.temp_factory
  exact factory_core w hw kw "temperatureKlasses" "temperature" false (by table) _ (fun _ => rfl) _ (fun _ => rfl) rfl

theorem src_chemistry_factory (w : World) (hw : WorldOK w) (kw : String) :
    SrcC15.chemistry_factory w.ext (.str kw) = embE kobj (Factory.factory (w.reg.sec "chemistry") kw) := by
  unfold SrcC15.chemistry_factory
  exact factory_core w hw kw "chemistryKlasses" "chemistry" false (by table) _ (fun _ => rfl) _ (fun _ => rfl) rfl

theorem src_pressure_factory (w : World) (hw : WorldOK w) (kw : String) :
    SrcC15.pressure_factory w.ext (.str kw) = embE kobj (Factory.factory (w.reg.sec "pressure") kw) := by
  unfold SrcC15.pressure_factory
  exact factory_core w hw kw "pressureKlasses" "pressure" false (by table) _ (fun _ => rfl) _ (fun _ => rfl) rfl

theorem src_star_factory (w : World) (hw : WorldOK w) (kw : String) :
    SrcC15.star_factory w.ext (.str kw) = embE kobj (Factory.factory (w.reg.sec "star") kw) := by
  unfold SrcC15.star_factory
  exact factory_core w hw kw "starKlasses" "star" false (by table) _ (fun _ => rfl) _ (fun _ => rfl) rfl

theorem src_model_factory (w : World) (hw : WorldOK w) (kw : String) :
    SrcC15.model_factory w.ext (.str kw) = embE kobj (Factory.factory (w.reg.sec "model") kw) := by
  unfold SrcC15.model_factory
  exact factory_core w hw kw "modelKlasses" "model" false (by table) _ (fun _ => rfl) _ (fun _ => rfl) rfl

theorem src_planet_factory (w : World) (hw : WorldOK w) (kw : String) :
    SrcC15.planet_factory w.ext (.str kw) = embE kobj (Factory.factory (w.reg.sec "planet") kw) := by
  unfold SrcC15.planet_factory
  exact factory_core w hw kw "planetKlasses" "planet" false (by table) _ (fun _ => rfl) _ (fun _ => rfl) rfl

theorem src_optimizer_factory (w : World) (hw : WorldOK w) (kw : String) :
    SrcC15.optimizer_factory w.ext (.str kw) = embE kobj (Factory.factory (w.reg.sec "optimizer") kw) := by
  unfold SrcC15.optimizer_factory
  exact factory_core w hw kw "optimizerKlasses" "optimizer" false (by table) _ (fun _ => rfl) _ (fun _ => rfl) rfl

theorem src_observation_factory (w : World) (hw : WorldOK w) (kw : String) :
    SrcC15.observation_factory w.ext (.str kw) = embE kobj (Factory.factory (w.reg.sec "observation") kw) := by
  unfold SrcC15.observation_factory
  exact factory_core w hw kw "observationKlasses" "observation" false (by table) _ (fun _ => rfl) _ (fun _ => rfl) rfl

theorem src_instrument_factory (w : World) (hw : WorldOK w) (kw : String) :
    SrcC15.instrument_factory w.ext (.str kw) = embE kobj (Factory.factory (w.reg.sec "instrument") kw) := by
  unfold SrcC15.instrument_factory
  exact factory_core w hw kw "instrumentKlasses" "instrument" false (by table) _ (fun _ => rfl) _ (fun _ => rfl) rfl

/-- `generic_factory`'s table: `baseclass.__name__` → registry section -/
def genericBases : List (String × String) :=
  [("TemperatureProfile", "temperature"), ("Chemistry", "chemistry"), ("Gas", "gas"), ("PressureProfile", "pressure"),
   ("BasePlanet", "planet"), ("Star", "star"), ("Instrument", "instrument"), ("ForwardModel", "model"),
   ("Contribution", "contribution"), ("Optimizer", "optimizer"), ("BaseSpectrum", "observation")]

/-- **`generic_factory(kw, baseclass)`**: the dictionary `baseclass.__name__ → ClassFactory attribute` composed with the
    attribute's class list is the registry section of that base class; the loop is `Factory.factory` -/
theorem src_generic_factory (w : World) (hw : WorldOK w) (kw name sec : String) (h : (name, sec) ∈ genericBases) :
    SrcC15.generic_factory w.ext (.str kw) (.obj (.base name sec)) = embE kobj (Factory.factory (w.reg.sec sec) kw) := by
  obtain ⟨attr, h1, h2⟩ := attr_of_base genericAttrs genericBases false (by decide +kernel) name sec h
  unfold SrcC15.generic_factory
  exact base_factory w hw kw name sec attr false genericAttrs h1 h2 _ (fun _ => rfl) _ (fun _ => rfl) rfl

/-- **`mixin_factory(kw, baseclass)`** is `Factory.mixinFactory` on the mixin list of the section -/
theorem src_mixin_factory (w : World) (hw : WorldOK w) (kw name sec : String) (h : (name, sec) ∈ mixinBases) :
    SrcC15.mixin_factory w.ext (.str kw) (.obj (.base name sec))
      = embE kobj (Factory.mixinFactory (w.reg.sec sec) kw) := by
  obtain ⟨attr, h1, h2⟩ := attr_of_base mixinAttrs mixinBases true (by decide +kernel) name sec h
  unfold SrcC15.mixin_factory
  exact base_factory w hw kw name sec attr true mixinAttrs h1 h2 _ (fun _ => rfl) _ (fun _ => rfl) rfl

/-! ## composite (`+`) classes -/

/-- **`determine_mixin_args(klasses)`**: the defaults of every base — `__init_mixin__`'s for a mixin, `__init__`'s otherwise,
    classes without defaults skipped — merged in order, a later name overriding the value of an earlier one:
    `Factory.determineMixinArgs` -/
theorem src_determine_mixin_args (w : World) (bases : List Klass) :
    SrcC15.determine_mixin_args w.ext (.tuple (bases.map kobj))
      = .ok (.dict (embCfg (Factory.determineMixinArgs bases))) := by
  unfold SrcC15.determine_mixin_args
  simp only [iter_tuple, pure_ok, bind_ok]
  have h0 : ((Dyn.Val.list [] : V), (Dyn.Val.list [] : V)) = mixState [] := rfl
  rw [h0, forIn_sim kobj mixState _ (fun acc k => acc ++ specKwargs k k.isMixin) bases]
  · simp only [dyn_eval, foldl_append_flatMap, List.nil_append, mixState]
    have h1 : (Dyn.Val.dict [] : V) = .dict (embCfg []) := rfl
    rw [h1, forM_zip_set w _ _ _ [] keysNodup_nil]
    · simp only [Factory.determineMixinArgs, Factory.dictOfPairs, specKwargs]
    · intro acc k v
      simp only [dyn_eval]
  · intro acc k
    -- the argspec consulted is `__init_mixin__`'s for a mixin and `__init__`'s otherwise: that of `specKwargs k k.isMixin`
    have hsel : ∀ b : Bool, (if b = true then (Except.ok (Dyn.Val.obj (Obj.argspec k true)) : M V)
        else .ok (.obj (.argspec k false))) = .ok (.obj (.argspec k b)) := fun b => by cases b <;> rfl
    simp only [dyn_eval, ext_global_inspect, kobj, ext_getattr_init, ext_global_mixin, ext_getattr_init_mixin,
      ext_getfullargspec, mixState, ext_issubclass, hsel, ext_getattr_defaults]
    rcases argspec_cases w k k.isMixin with ⟨he, hd⟩ | ⟨he, hd, hs⟩
    · right
      simp only [dyn_eval, hd, ↓reduceIte, he, List.append_nil]
    · left
      simp only [dyn_eval, hd, ext_getattr_args, argspecArgs, List.length_map, hs, List.isEmpty_map,
        List.isEmpty_eq_false_iff.mpr he, ↓reduceIte, List.map_append]

/-- **`get_keywordarg_dict(klass, is_mixin=True)`** on a class built by `build_new_mixed_class`: the merged defaults of its
    bases (mixins first, base class last) — `Factory.kwargDict (.mixed ms b)` -/
theorem src_get_keywordarg_dict_mixed (w : World) (ms : List Klass) (b : Klass) :
    SrcC15.get_keywordarg_dict w.ext (.obj (.mixed ms b)) (.bool true)
      = .ok (.dict (embCfg (Factory.kwargDict (.mixed ms b)))) := by
  unfold SrcC15.get_keywordarg_dict
  simp only [dyn_eval, ext_getattr_bases, src_determine_mixin_args, Factory.kwargDict]

/-! ## `determine_klass` -/

/-- the class object a resolved selector stands for -/
def robj : Resolved → V
  | .plain k => kobj k
  | .mixed ms b => .obj (.mixed ms b)

def isMixed : Resolved → Bool
  | .plain _ => false
  | .mixed _ _ => true

/-- what `determine_klass` returns: `(config, klass, is_mixin)`, and the popped config (its first argument, mutated) -/
def embDKx (extra : List (V × V)) (p : Config × Resolved) : V × V :=
  (.tuple [.dict (embCfg p.1 ++ extra), robj p.2, .bool (isMixed p.2)], .dict (embCfg p.1 ++ extra))

/-- … for a section without sub-sections -/
def embDK (p : Config × Resolved) : V × V :=
  (.tuple [.dict (embCfg p.1), robj p.2, .bool (isMixed p.2)], .dict (embCfg p.1))

/-- **`determine_klass(config, field, factory, baseclass)`** is `Factory.determineKlass`: the selector is popped
    (`KeyError` when missing, `AttributeError` when it was typed as a number / bool / list), lower-cased; `custom` pops
    `python_file` and asks `detect_and_return_klass`; otherwise the selector is split at `+`: one part → `factory(part)`,
    several → the LAST part is the base class (`factory`), the others are mixins (`mixin_factory`, in order, after the
    base), combined by `build_new_mixed_class` (a repeated mixin is a `TypeError`).  The function returns the popped config,
    the class and the mixin flag; `f` is the section's factory (`src_*_factory`). -/
theorem src_determine_klass_ext (w : World) (hw : WorldOK w) (name sec field : String) (cfg : Config) (f : V → M V)
    (extra : List (V × V)) (hx1 : KeyFree extra field) (hx2 : KeyFree extra "python_file")
    (hf : ∀ kw, f (.str kw) = embE kobj (Factory.factory (w.reg.sec sec) kw)) (hb : (name, sec) ∈ mixinBases) :
    SrcC15.determine_klass w.ext (.dict (embCfg cfg ++ extra)) (.str field) f (.obj (.base name sec))
      = embE (embDKx extra) (Factory.determineKlass (w.reg.sec sec) w.customs sec field cfg) := by
  unfold SrcC15.determine_klass
  have hsel := C15.unknown_selector_error (w.reg.sec sec) w.customs sec field cfg
  have hk : Exc.isaAny .KeyError [.KeyError] = true := rfl
  have ha : Exc.isaAny .AttributeError [.KeyError] = false := rfl
  cases hl : cfg.lookup field with
  | none =>
    simp only [m_pop_append w _ extra field hx1, Factory.popKey, hl, hsel.2.2 hl, bind_err, try_err, hk, if_true,
      throw_err]
    rfl
  | some v =>
    simp only [m_pop_append w _ extra field hx1, Factory.popKey, hl, bind_ok]
    by_cases hv : ∃ sel, v = .scalar (.str sel)
    case neg =>
      have hv' : ∀ s, v ≠ .scalar (.str s) := fun s h => hv ⟨s, h⟩
      simp only [hsel.2.1 v hl hv', m_lower_not_str w v hv', bind_err, try_err, ha, Bool.false_eq_true, if_false,
        throw_err]
      rfl
    obtain ⟨sel, rfl⟩ := hv
    have hp : Factory.popKey cfg field = some (.scalar (.str sel), cfg.filter (·.1 != field)) := by
      simp only [Factory.popKey, hl]
    have hgd : w.ext.global "detect_and_return_klass" = .ok (.obj (.fn "detect_and_return_klass")) :=
      ext_global_fn w _ (by table) (by table) (by table)
    have hgb : w.ext.global "build_new_mixed_class" = .ok (.obj (.fn "build_new_mixed_class")) :=
      ext_global_fn w _ (by table) (by table) (by table)
    unfold Factory.determineKlass
    simp only [hp, m_lower_emb, bind_ok, pure_ok, try_ok, eqB_str]
    generalize cfg.filter (·.1 != field) = cfg1
    by_cases hc : Factory.lower sel = "custom"
    · simp only [hc, beq_self_eq_true, if_true, m_pop_append w _ extra "python_file" hx2, Factory.popKey]
      cases cfg1.lookup "python_file" with
      | none => simp only [bind_err, try_err, hk, if_true, throw_err]; rfl
      | some v2 =>
        simp only [dyn_eval, hgd, ext_call_detect]
        cases v2 with
        | scalar s2 =>
          cases s2 with
          | str file =>
            simp only []
            cases w.customs.lookup file with
            | none => rfl
            | some members => simp only []; cases Factory.detectKlass members sec <;> rfl
          | _ => rfl
        | _ => rfl
    · simp only [beq_eq_false_iff_ne.mpr hc, if_neg hc, Bool.false_eq_true, if_false, m_split_plus, bind_ok, len_list,
        pure_ok, List.length_map, eqB_int]
      have hne := C15L.splitPlus_ne_nil (Factory.lower sel)
      have hone := C15L.splitPlus_single (Factory.lower sel)
      generalize Factory.splitPlus (Factory.lower sel) = parts at hne hone
      match parts, hne, hone with
      | [], hne, _ => exact absurd rfl hne
      | [one], _, hone =>
        cases hone one rfl
        have hlen : ((([Factory.lower sel].length : Nat) : Int) == 1) = true := rfl
        simp only [hlen, if_true, hf]
        cases Factory.factory (w.reg.sec sec) (Factory.lower sel) <;> rfl
      | a :: b :: rest, _, _ =>
        have hlen : ((((a :: b :: rest).length : Nat) : Int) == 1) = false := by
          simp only [List.length_cons, beq_eq_false_iff_ne, ne_eq]; omega
        simp only [hlen, Bool.false_eq_true, if_false, getItem_last w (a :: b :: rest) (List.cons_ne_nil _ _), bind_ok, hf,
          getSlice_init, iter_list, pure_ok, hgb, call_obj]
        cases Factory.factory (w.reg.sec sec) (Factory.lastOf (a :: b :: rest)) with
        | error e => rfl
        | ok base =>
          simp only [embE, bind_ok]
          rw [mapM_sim _ (Factory.mixinFactory (w.reg.sec sec)) (fun s => src_mixin_factory w hw s name sec hb)]
          cases (Factory.initOf (a :: b :: rest)).mapM (Factory.mixinFactory (w.reg.sec sec)) with
          | error e => rfl
          | ok ms =>
            simp only [embE, bind_ok, ext_call_build]
            cases hd : Factory.hasDup (ms.map (·.path)) <;>
              simp only [hd, bind, Except.bind, pure, Except.pure, throw, throwThe, MonadExceptOf.throw, Bool.false_eq_true,
                if_false, if_true] <;> rfl

/-- `determine_klass` on a section without sub-sections -/
theorem src_determine_klass (w : World) (hw : WorldOK w) (name sec field : String) (cfg : Config) (f : V → M V)
    (hf : ∀ kw, f (.str kw) = embE kobj (Factory.factory (w.reg.sec sec) kw)) (hb : (name, sec) ∈ mixinBases) :
    SrcC15.determine_klass w.ext (.dict (embCfg cfg)) (.str field) f (.obj (.base name sec))
      = embE embDK (Factory.determineKlass (w.reg.sec sec) w.customs sec field cfg) := by
  have h := src_determine_klass_ext w hw name sec field cfg f [] (fun _ h => nomatch h) (fun _ h => nomatch h) hf hb
  simp only [List.append_nil] at h
  rw [h]
  cases Factory.determineKlass (w.reg.sec sec) w.customs sec field cfg with
  | error e => rfl
  | ok p => simp [embE, embDKx, embDK]

/-! ## creators -/

/-- the object (not yet wrapped as a value) of a resolved selector -/
def robjO : Resolved → Obj
  | .plain k => .klass k
  | .mixed ms b => .mixed ms b

/-- `get_keywordarg_dict` of a resolved selector as Python computes it (`Factory.kwargDict` when the constructor's
    parameter names are distinct, which the language guarantees: `kwargDictP_eq`) -/
def kwargDictP : Resolved → Config
  | .plain k => Factory.dictOfPairs k.kwargs
  | .mixed ms b => Factory.kwargDict (.mixed ms b)

theorem dictOfPairs_nodup (l : Config) (h : KeysNodup l) : Factory.dictOfPairs l = l := by
  unfold Factory.dictOfPairs
  suffices hs : ∀ (acc : Config), KeysNodup (acc ++ l) →
      l.foldl (fun d kv => Factory.dictSet d kv.1 kv.2) acc = acc ++ l from by simpa using hs [] (by simpa using h)
  clear h
  induction l with
  | nil => intro acc _; simp
  | cons x t ih =>
    intro acc hn
    have hx : Factory.hasKey acc x.1 = false := by
      simp only [KeysNodup, List.map_append, List.map_cons] at hn
      have := (List.nodup_append.mp hn).2.2
      simp only [Factory.hasKey, Bool.eq_false_iff, ne_eq, List.any_eq_true, not_exists, not_and]
      intro kv hm he
      exact this kv.1 (List.mem_map_of_mem hm) x.1 List.mem_cons_self (by simpa using he)
    have hstep : Factory.dictSet acc x.1 x.2 = acc ++ [x] := by
      simp only [Factory.dictSet, hx, Bool.false_eq_true, if_false]
    rw [List.foldl_cons, hstep, ih (acc ++ [x]) (by simpa using hn)]
    simp

theorem kwargDictP_eq (r : Resolved) (h : ∀ k, r = .plain k → KeysNodup k.kwargs) :
    kwargDictP r = Factory.kwargDict r := by
  cases r with
  | plain k => exact dictOfPairs_nodup _ (h k rfl)
  | mixed ms b => rfl

theorem keysNodup_kwargDictP (r : Resolved) : KeysNodup (kwargDictP r) := by
  cases r with
  | plain k => exact keysNodup_dictOfPairs _
  | mixed ms b => exact keysNodup_dictOfPairs _

theorem get_keywordarg_dict_r (w : World) (r : Resolved) :
    SrcC15.get_keywordarg_dict w.ext (robj r) (.bool (isMixed r)) = .ok (.dict (embCfg (kwargDictP r))) := by
  cases r with
  | plain k => exact src_get_keywordarg_dict w k
  | mixed ms b => exact src_get_keywordarg_dict_mixed w ms b

/-- **`create_klass(config, klass, is_mixin)`** for a plain or a composite class: the strict key check over
    `get_keywordarg_dict`, then the class is called with the merged keyword arguments -/
theorem src_create_klass_resolved (w : World) (r : Resolved) (cfg : Config) (hc : KeysNodup cfg) :
    SrcC15.create_klass w.ext (.dict (embCfg cfg)) (robj r) (.bool (isMixed r))
      = match Factory.createKlass (kwargDictP r) cfg with
        | .ok kw => w.call (robjO r) [] (embKw kw)
        | .error e => .error (errExc e) := by
  rw [create_klass_core w (robj r) _ _ cfg hc (keysNodup_kwargDictP r) (get_keywordarg_dict_r w r)
    (by cases r <;> exact ⟨_, rfl⟩)]
  cases Factory.createKlass (kwargDictP r) cfg with
  | error e => rfl
  | ok kw => cases r <;> rfl

/-- what the lenient creators (`klass(**config)`) and `create_profile` return next to the popped config -/
def withCfg (cfg1 : Config) (x : M V) : M (V × V) := x >>= fun o => pure (o, .dict (embCfg cfg1))

/-- `create_star / create_optimizer / create_observation / create_instrument`: `determine_klass`, then `klass(**config)` with
    what is left of the section (`lenient_creator`) -/
theorem src_create_star (w : World) (hw : WorldOK w) (cfg : Config) :
    SrcC15.create_star w.ext (.dict (embCfg cfg))
      = match Factory.determineKlass (w.reg.sec "star") w.customs "star" "star_type" cfg with
        | .error e => .error (errExc e)
        | .ok (cfg1, r) => withCfg cfg1 (w.call (robjO r) [] (embKw cfg1)) := by
  have hm : ("Star", "star") ∈ mixinBases := by table
  unfold SrcC15.create_star
  rw [lenient_creator w "Star" _ (ext_global_base w _ _ hm) _ _ _ _ _
    (src_determine_klass w hw "Star" "star" "star_type" cfg _ (src_star_factory w hw) hm)]
  cases Factory.determineKlass (w.reg.sec "star") w.customs "star" "star_type" cfg with
  | error e => rfl
  | ok p => obtain ⟨cfg1, r⟩ := p; cases r <;> rfl

theorem src_create_optimizer (w : World) (hw : WorldOK w) (cfg : Config) :
    SrcC15.create_optimizer w.ext (.dict (embCfg cfg))
      = match Factory.determineKlass (w.reg.sec "optimizer") w.customs "optimizer" "optimizer" cfg with
        | .error e => .error (errExc e)
        | .ok (cfg1, r) => withCfg cfg1 (w.call (robjO r) [] (embKw cfg1)) := by
  have hm : ("Optimizer", "optimizer") ∈ mixinBases := by table
  unfold SrcC15.create_optimizer
  rw [lenient_creator w "Optimizer" _ (ext_global_base w _ _ hm) _ _ _ _ _
    (src_determine_klass w hw "Optimizer" "optimizer" "optimizer" cfg _ (src_optimizer_factory w hw) hm)]
  cases Factory.determineKlass (w.reg.sec "optimizer") w.customs "optimizer" "optimizer" cfg with
  | error e => rfl
  | ok p => obtain ⟨cfg1, r⟩ := p; cases r <;> rfl

theorem src_create_observation (w : World) (hw : WorldOK w) (cfg : Config) :
    SrcC15.create_observation w.ext (.dict (embCfg cfg))
      = match Factory.determineKlass (w.reg.sec "observation") w.customs "observation" "observation" cfg with
        | .error e => .error (errExc e)
        | .ok (cfg1, r) => withCfg cfg1 (w.call (robjO r) [] (embKw cfg1)) := by
  have hm : ("BaseSpectrum", "observation") ∈ mixinBases := by table
  unfold SrcC15.create_observation
  rw [lenient_creator w "BaseSpectrum" _ (ext_global_base w _ _ hm) _ _ _ _ _
    (src_determine_klass w hw "BaseSpectrum" "observation" "observation" cfg _ (src_observation_factory w hw) hm)]
  cases Factory.determineKlass (w.reg.sec "observation") w.customs "observation" "observation" cfg with
  | error e => rfl
  | ok p => obtain ⟨cfg1, r⟩ := p; cases r <;> rfl

theorem src_create_instrument (w : World) (hw : WorldOK w) (cfg : Config) :
    SrcC15.create_instrument w.ext (.dict (embCfg cfg))
      = match Factory.determineKlass (w.reg.sec "instrument") w.customs "instrument" "instrument" cfg with
        | .error e => .error (errExc e)
        | .ok (cfg1, r) => withCfg cfg1 (w.call (robjO r) [] (embKw cfg1)) := by
  have hm : ("Instrument", "instrument") ∈ mixinBases := by table
  unfold SrcC15.create_instrument
  rw [lenient_creator w "Instrument" _ (ext_global_base w _ _ hm) _ _ _ _ _
    (src_determine_klass w hw "Instrument" "instrument" "instrument" cfg _ (src_instrument_factory w hw) hm)]
  cases Factory.determineKlass (w.reg.sec "instrument") w.customs "instrument" "instrument" cfg with
  | error e => rfl
  | ok p => obtain ⟨cfg1, r⟩ := p; cases r <;> rfl

/-- `create_planet`: `planet_type` defaults to `simple` (appended to the section: `cfg'`, as in `Factory.createPlanet`),
    then as the other lenient creators -/
theorem src_create_planet (w : World) (hw : WorldOK w) (cfg cfg' : Config) (hc : KeysNodup cfg)
    (hcfg' : cfg' = if Factory.hasKey cfg "planet_type" then cfg else cfg ++ [("planet_type", .scalar (.str "simple"))]) :
    SrcC15.create_planet w.ext (.dict (embCfg cfg))
      = match Factory.determineKlass (w.reg.sec "planet") w.customs "planet" "planet_type" cfg' with
        | .error e => .error (errExc e)
        | .ok (cfg1, r) => withCfg cfg1 (w.call (robjO r) [] (embKw cfg1)) := by
  have hm : ("Planet", "planet") ∈ mixinBases := by table
  unfold SrcC15.create_planet
  -- the default is applied first: what follows (`K`) runs on `cfg'`
  have hpre : ∀ (K : V → M (V × V)), (do
        let t__1 ← Dyn.contains w.ext (Dyn.Val.str "planet_type") (Dyn.Val.dict (embCfg cfg))
        let config ← (if (!t__1) then do
            let config ← Dyn.setItem w.ext (Dyn.Val.dict (embCfg cfg)) (Dyn.Val.str "planet_type") (Dyn.Val.str "simple")
            pure config
          else pure (Dyn.Val.dict (embCfg cfg)) : M V)
        K config) = K (.dict (embCfg cfg')) := by
    intro K
    have hset : (Dyn.Val.str "simple" : V) = emb (.scalar (.str "simple")) := rfl
    simp only [dyn_eval, hset, hc, hcfg', Factory.dictSet]
    cases Factory.hasKey cfg "planet_type" <;> rfl
  rw [hpre]
  rw [lenient_creator w "Planet" _ (ext_global_base w _ _ hm) _ _ _ _ _
    (src_determine_klass w hw "Planet" "planet" "planet_type" cfg' _ (src_planet_factory w hw) hm)]
  cases Factory.determineKlass (w.reg.sec "planet") w.customs "planet" "planet_type" cfg' with
  | error e => rfl
  | ok p => obtain ⟨cfg1, r⟩ := p; cases r <;> rfl

theorem filter_nodup (c : Config) (p : String × Value → Bool) (h : KeysNodup c) : KeysNodup (c.filter p) := by
  unfold KeysNodup at *
  exact List.Nodup.sublist (List.Sublist.map _ List.filter_sublist) h

theorem determineKlass_sublist (sr : SectionReg) (customs : Customs) (sec field : String) (cfg cfg1 : Config) (r : Resolved)
    (h : Factory.determineKlass sr customs sec field cfg = .ok (cfg1, r)) : cfg1.Sublist cfg := by
  obtain ⟨sel, c1, hp, h⟩ := C15L.determineKlass_ok h
  have hc1 := C15L.popKey_sublist _ _ _ _ hp
  rcases h with ⟨file, members, k, hp2, _⟩ | ⟨rfl, _⟩ | ⟨rfl, _⟩
  · exact (C15L.popKey_sublist _ _ _ _ hp2).trans hc1
  · exact hc1
  · exact hc1

theorem determineKlass_nodup (sr : SectionReg) (customs : Customs) (sec field : String) (cfg cfg1 : Config) (r : Resolved)
    (hc : KeysNodup cfg) (h : Factory.determineKlass sr customs sec field cfg = .ok (cfg1, r)) : KeysNodup cfg1 :=
  List.Nodup.sublist (List.Sublist.map _ (determineKlass_sublist sr customs sec field cfg cfg1 r h)) hc

/-- **`create_profile(config, factory, baseclass, keyword_type)`** (temperature, pressure, chemistry, gas) is
    `Factory.createProfile` up to the constructor call: `determine_klass` with `generic_factory`, the strict key check over
    what is left of the section, then `klass(**kwargs)`.  (The parameter `factory` is not used by the code.) -/
theorem src_create_profile (w : World) (hw : WorldOK w) (name sec field : String) (cfg : Config) (f : V → M V)
    (hc : KeysNodup cfg) (h1 : (name, sec) ∈ genericBases) (h2 : (name, sec) ∈ mixinBases) :
    SrcC15.create_profile w.ext (.dict (embCfg cfg)) f (.obj (.base name sec)) (.str field)
      = match Factory.determineKlass (w.reg.sec sec) w.customs sec field cfg with
        | .error e => .error (errExc e)
        | .ok (cfg1, r) =>
          match Factory.createKlass (kwargDictP r) cfg1 with
          | .error e => .error (errExc e)
          | .ok kw => withCfg cfg1 (w.call (robjO r) [] (embKw kw)) := by
  unfold SrcC15.create_profile
  rw [src_determine_klass w hw name sec _ _ _ (fun kw => src_generic_factory w hw kw name sec h1) h2]
  cases hd : Factory.determineKlass (w.reg.sec sec) w.customs sec field cfg with
  | error e => rfl
  | ok p =>
    obtain ⟨cfg1, r⟩ := p
    have hc1 := determineKlass_nodup _ _ _ _ _ _ _ hc hd
    simp only [embE, embDK, bind_ok, unpack3_tuple, src_create_klass_resolved w r cfg1 hc1, withCfg]
    cases Factory.createKlass (kwargDictP r) cfg1 <;> rfl

/-! ## priors -/

theorem forIn_find (cls : List Klass) (P : Klass → Bool) (R : Klass → M V) (body : Unit → V → M (LFlow Unit V))
    (hb : ∀ k, body () (kobj k) = if P k then (R k >>= fun r => .ok (.ret r)) else .ok (.next ())) :
    Dyn.forIn (cls.map kobj) () body =
      match cls.find? P with
      | some k => R k >>= fun r => .ok (.ret r)
      | none => .ok (.next ()) := by
  induction cls with
  | nil => rfl
  | cons k t ih =>
    simp only [List.map_cons, Dyn.forIn, hb k, List.find?_cons]
    by_cases h : P k = true
    · simp only [h, if_true]
      cases R k <;> rfl
    · simp only [h, Bool.false_eq_true, if_false, bind_ok]
      exact ih

theorem ext_call_fn (w : World) (name : String) (a : List V) (kw : List (String × V))
    (h1 : name ≠ "build_new_mixed_class") (h2 : name ≠ "detect_and_return_klass") :
    w.ext.call (.fn name) a kw = w.call (.fn name) a kw :=
  (if_neg h1).trans (if_neg h2)

/-- **`create_prior(prior)`**: the prior class is the first one whose `__name__` equals the parsed name as written,
    lower-cased or upper-cased (`Factory.lookupPrior`); it is called with the parsed arguments; no such class is a
    `ValueError`.  (`parse_priors` itself is not translated: its result is the hypothesis `hparse`.) -/
theorem src_create_prior (w : World) (prior : V) (pname : String) (args : Config)
    (hparse : w.call (.fn "parse_priors") [prior] [] = .ok (.tuple [.str pname, .dict (embCfg args)])) :
    SrcC15.create_prior w.ext prior
      = match Factory.lookupPrior (w.reg.sec "prior").classes pname with
        | .ok k => w.call (.klass k) [] (embKw args)
        | .error e => .error (errExc e) := by
  unfold SrcC15.create_prior
  have hg : w.ext.global "parse_priors" = .ok (.obj (.fn "parse_priors")) :=
    ext_global_fn w _ (by table) (by table) (by table)
  have hc := ext_call_fn w "parse_priors" [prior] [] (by table) (by table)
  simp only [dyn_eval, hg, hc, hparse, ext_global_cf, ext_call_cf,
    ext_getattr_cf w "priorKlasses" "prior" false (by table)]
  rw [forIn_find _ (Factory.priorClaims · pname) (fun k => w.call (.klass k) [] (embKw args))]
  · unfold Factory.lookupPrior
    cases (w.reg.sec "prior").classes.find? (Factory.priorClaims · pname) with
    | none => rfl
    | some k =>
      simp only []
      cases w.call (.klass k) [] (embKw args) <;> rfl
  · intro k
    have hu : Dyn.strUpper k.name = Factory.upper k.name := rfl
    have hl : Dyn.strLower k.name = Factory.lower k.name := rfl
    simp only [dyn_eval, kobj, ext_getattr_name, List.any_cons, List.any_nil, Bool.or_false, hu, hl, Factory.priorClaims,
      ext_call_klass]
    have hcomm : ∀ a b : String, (a == b) = decide (b = a) := fun a b =>
      BEq.comm.trans (Bool.beq_eq_decide_eq b a)
    rw [hcomm k.name, hcomm (Factory.lower k.name), hcomm (Factory.upper k.name)]
    simp only [Bool.or_assoc]

/-! ## contributions -/

theorem forIn_find_brk {σ : Type} (cls : List Klass) (P : Klass → Bool) (R : σ → Klass → M σ) (st : σ)
    (body : σ → V → M (LFlow σ Unit))
    (hb : ∀ k, body st (kobj k) = if P k then (R st k >>= fun s => .ok (.brk s)) else .ok (.next st)) :
    Dyn.forIn (cls.map kobj) st body =
      match cls.find? P with
      | some k => R st k >>= fun s => .ok (.next s)
      | none => .ok (.next st) := by
  induction cls with
  | nil => rfl
  | cons k t ih =>
    simp only [List.map_cons, Dyn.forIn, hb k, List.find?_cons]
    by_cases h : P k = true
    · simp only [h, if_true]
      cases R st k <;> rfl
    · simp only [h, Bool.false_eq_true, if_false, bind_ok]
      exact ih

/-- the contributions `generate_contributions` builds, constructor calls left to the world -/
def contribsV (w : World) (cls : List Klass) : List (String × Config) → M (List V)
  | [] => .ok []
  | sub :: rest =>
    match Factory.lookup cls sub.1 with
    | some k =>
      match Factory.createKlass (Factory.dictOfPairs k.kwargs) sub.2 with
      | .error e => .error (errExc e)
      | .ok kw => do
        let c ← w.call (.klass k) [] (embKw kw)
        let cs ← contribsV w cls rest
        pure (c :: cs)
    | none => contribsV w cls rest

theorem forM_append {σ ι : Type} (l1 l2 : List ι) (s : σ) (body : σ → ι → M σ) :
    Dyn.forM (l1 ++ l2) s body = (Dyn.forM l1 s body >>= fun s' => Dyn.forM l2 s' body) :=
  Dyn.forM_append l1 l2 s body

/-- `check_key.index(k)` / `check_key.pop(i)` on a list of distinct names -/
theorem index_pop (w : World) (u rest : List String) (k : String) (hk : k ∉ u) :
    Dyn.m_index w.ext (Dyn.Val.list ((u ++ k :: rest).map (fun s => (Dyn.Val.str s : V)))) (.str k)
      = .ok (.int (u.length : Int)) ∧
    Dyn.m_pop w.ext (Dyn.Val.list ((u ++ k :: rest).map (fun s => (Dyn.Val.str s : V)))) (.int (u.length : Int))
      = .ok (.str k, .list ((u ++ rest).map (fun s => (Dyn.Val.str s : V)))) := by
  constructor
  · simp only [m_index_list]
    have : ((u ++ k :: rest).map (fun s => (Dyn.Val.str s : V))).findIdx? (fun y => Dyn.Val.beq y (.str k))
        = some u.length := by
      induction u with
      | nil => simp [List.findIdx?_cons]
      | cons a t ih =>
        have ha : a ≠ k := fun e => hk (by simp [e])
        have ht : k ∉ t := fun hm => hk (by simp [hm])
        have hb : (a == k) = false := by simp [ha]
        simp only [List.cons_append, List.map_cons, List.findIdx?_cons, beq_str, hb, Bool.false_eq_true, if_false,
          ih ht, Option.map_some, List.length_cons]
    rw [this]; rfl
  · simp only [m_pop_list, normIndex, List.length_map, List.length_append, List.length_cons]
    have h1 : (0 : Int) ≤ u.length := Int.natCast_nonneg _
    have h2 : u.length < u.length + (rest.length + 1) := Nat.lt_add_of_pos_right rest.length.succ_pos
    simp only [h1, if_true, Int.toNat_natCast, h2]
    have h3 : ((u ++ k :: rest).map (fun s => (Dyn.Val.str s : V)))[u.length]? = some (.str k) := by
      simp
    have h4 : ((u ++ k :: rest).map (fun s => (Dyn.Val.str s : V))).eraseIdx u.length
        = (u ++ rest).map (fun s => (Dyn.Val.str s : V)) := by
      simp [List.map_append, List.eraseIdx_append_of_length_le]
    simp only [h3, h4, pure_ok]

/-- constructors do not raise the two exception classes the factory loops swallow -/
def CallOK (w : World) : Prop :=
  ∀ o a kw e, w.call o a kw = .error e →
    e.isaAny [Exc.NotImplementedError] = false ∧ e.isaAny [Exc.AttributeError] = false

def unclaimed (cls : List Klass) (subs : List (String × Config)) : List String :=
  (subs.filter (fun sub => (Factory.lookup cls sub.1).isNone)).map (·.1)

/-- the list `check_key`: names of the sub-sections -/
theorem check_key_comp (w : World) (scalars : Config) (subs : List (String × Config))
    (body : List V → V → M (List V))
    (hb : ∀ acc k v, body acc (.tuple [k, v]) = if Dyn.Val.isTy .dict v then pure (acc ++ [k]) else pure acc) :
    Dyn.forM ((embSec scalars subs).map (fun e => Dyn.Val.tuple [e.1, e.2])) ([] : List V) body
      = .ok (subs.map (fun sc => (Dyn.Val.str sc.1 : V))) := by
  rw [forM_collect (Dyn.Val.isTy .dict) (fun k _ => k) body hb, filter_dict_embSec, subsEmb, List.map_map]
  rfl

/-- the loop state of `generate_contributions`: (contributions, check_key) -/
def encCS (cs : List V) (ck : List String) : V × V := (.list cs, .list (ck.map (fun s => (Dyn.Val.str s : V))))

/-- what one pass of the outer loop does for the sub-section `sub` when `u ++ sub.1 :: names` is still to be claimed -/
def passSub (w : World) (cls : List Klass) (sub : String × Config) (acc : List V) (u names : List String) : M (V × V) :=
  match Factory.lookup cls sub.1 with
  | some k =>
    match Factory.createKlass (Factory.dictOfPairs k.kwargs) sub.2 with
    | .error e => .error (errExc e)
    | .ok kw => w.call (.klass k) [] (embKw kw) >>= fun c => .ok (encCS (acc ++ [c]) (u ++ names))
  | none => .ok (encCS acc (u ++ sub.1 :: names))

/-- the outer loop over the sub-section keys -/
theorem forM_subs (w : World) (cls : List Klass) (body : V × V → V → M (V × V))
    (all : List (String × Config))
    (hb : ∀ sub ∈ all, ∀ acc u names, sub.1 ∉ u →
      body (encCS acc (u ++ sub.1 :: names)) (.str sub.1) = passSub w cls sub acc u names) :
    ∀ (rest : List (String × Config)) (acc : List V) (u : List String), (∀ sub ∈ rest, sub ∈ all) →
      (rest.map (·.1)).Nodup → (∀ x ∈ u, x ∉ rest.map (·.1)) →
      Dyn.forM (rest.map (fun sc => (Dyn.Val.str sc.1 : V))) (encCS acc (u ++ rest.map (·.1))) body
        = contribsV w cls rest >>= fun cs => .ok (encCS (acc ++ cs) (u ++ unclaimed cls rest))
  | [], acc, u, _, _, _ => by simp [Dyn.forM, contribsV, unclaimed]
  | sub :: rest, acc, u, hall, hnd, hdis => by
    have hnd' : (rest.map (·.1)).Nodup := (List.nodup_cons.mp hnd).2
    have hsub : sub.1 ∉ rest.map (·.1) := (List.nodup_cons.mp hnd).1
    have hu : sub.1 ∉ u := fun h => hdis _ h (by simp)
    have hdis' : ∀ x ∈ u, x ∉ rest.map (·.1) := fun x hx hr => hdis x hx (by simp [hr])
    simp only [List.map_cons, Dyn.forM, hb sub (hall sub List.mem_cons_self) _ _ _ hu, passSub, contribsV, unclaimed,
      List.filter_cons]
    cases hl : Factory.lookup cls sub.1 with
    | none =>
      have := forM_subs w cls body all hb rest acc (u ++ [sub.1]) (fun x hx => hall x (List.mem_cons_of_mem _ hx)) hnd'
        (by
          intro x hx hr
          rcases List.mem_append.mp hx with h | h
          · exact hdis' x h hr
          · simp only [List.mem_singleton] at h; subst h; exact hsub hr)
      simp only [List.append_assoc, List.cons_append, List.nil_append, unclaimed] at this
      simp only [bind_ok, Option.isNone_none, if_true, List.map_cons, this]
    | some k =>
      simp only [Option.isNone_some, Bool.false_eq_true, if_false]
      cases Factory.createKlass (Factory.dictOfPairs k.kwargs) sub.2 with
      | error e => rfl
      | ok kw =>
        simp only []
        cases w.call (.klass k) [] (embKw kw) with
        | error e => rfl
        | ok c =>
          have := forM_subs w cls body all hb rest (acc ++ [c]) u (fun x hx => hall x (List.mem_cons_of_mem _ hx)) hnd' hdis'
          simp only [bind_ok, this, unclaimed]
          cases contribsV w cls rest with
          | error e => rfl
          | ok cs => simp [bind_ok, List.append_assoc]

theorem dictGet_embSec_sub (scalars : Config) (subs : List (String × Config)) (sub : String × Config)
    (hm : sub ∈ subs) (hn : ((scalars.map (·.1)) ++ subs.map (·.1)).Nodup) :
    dictGet? (embSec scalars subs) (.str sub.1) = some (.dict (embCfg sub.2)) := by
  have hns : sub.1 ∉ scalars.map (·.1) := fun h => (List.nodup_append.mp hn).2.2 _ h _ (List.mem_map_of_mem hm) rfl
  rw [embSec, dictGet?_append, dictGet_emb, C15L.lookup_none_of_not_mem _ _ hns,
    dictGet_map_str (fun c => .dict (embCfg c)), lookup_of_mem_nodup (List.nodup_append.mp hn).2.1 hm]
  rfl

/-- an exception the factory loops do not swallow -/
def Unswallowed (e : Exc) : Prop :=
  e.isaAny [Exc.NotImplementedError] = false ∧ e.isaAny [Exc.AttributeError] = false

/-- the inner loop of `generate_contributions` for one key: the first class that claims the key runs `T` (which ends in
    `break` or raises), the others are passed -/
theorem inner_loop (w : World) (hw : WorldOK w) (key : String) (st : V × V) (cls : List Klass)
    (T : Klass → M (LFlow (V × V) Unit)) (body : V × V → V → M (LFlow (V × V) Unit))
    (hbody : ∀ k, body st (kobj k) =
      tryCatch (do
          let t ← Dyn.callMethod w.ext (kobj k) "input_keywords" [] []
          let c ← Dyn.contains w.ext (.str key) t
          if c then T k else pure (LFlow.next st))
        (fun e => if e.isaAny [Exc.NotImplementedError] then pure (LFlow.next st)
                  else if e.isaAny [Exc.AttributeError] then pure (LFlow.next st) else throw e))
    (hT : ∀ k ∈ cls, Factory.claims k key = true → (∃ s, T k = .ok (.brk s)) ∨ (∃ e, T k = .error e ∧ Unswallowed e)) :
    Dyn.forIn (cls.map kobj) st body =
      match Factory.lookup cls key with
      | some k => (match T k with
        | .ok (.brk s) => .ok (.next s)
        | .error e => .error e
        | _ => .ok (.next st))
      | none => .ok (.next st) := by
  rw [claim_loop w hw key st cls T body hbody (fun k hk hc =>
    (hT k hk hc).elim (fun h => .inr (.inl h)) (fun ⟨e, he, hu⟩ => .inr (.inr ⟨e, he, hu⟩)))]
  cases hl : Factory.lookup cls key with
  | none => rfl
  | some k =>
    have hc : Factory.claims k key = true := List.find?_some (p := (Factory.claims · key)) hl
    rcases hT k (List.mem_of_find?_eq_some hl) hc with ⟨s, hs⟩ | ⟨e, he, _⟩
    · simp only [hs, leave]
    · simp only [he, leave]

/-- the outer loop over the scalar keys: nothing happens -/
theorem forM_scalars (body : V × V → V → M (V × V)) (all : Config) (st : V × V)
    (hb : ∀ kv ∈ all, body st (.str kv.1) = .ok st) :
    ∀ (sc : Config), (∀ kv ∈ sc, kv ∈ all) → Dyn.forM (sc.map (fun kv => (Dyn.Val.str kv.1 : V))) st body = .ok st :=
  fun sc hall => forM_fixed _ st body (List.forall_mem_map.mpr fun kv hkv => hb kv (hall kv hkv))

/-- **`generate_contributions(config)`** on a `[Model]` section (scalars, then sub-sections): every sub-section whose
    header is claimed by a contribution class is checked strictly against that class (`createKlass`) and the class is
    called with the merged keyword arguments (`contribsV`, the model's `contribsOf` with the constructor calls left to the
    world); afterwards a sub-section no class claims is an `Exception` — `Factory.generateContributions`.  Hypotheses: no
    scalar key of the section is a contribution keyword, keys are distinct, constructors do not raise the two exception
    classes the loop swallows. -/
theorem src_generate_contributions (w : World) (hw : WorldOK w) (hcall : CallOK w) (scalars : Config)
    (subs : List (String × Config)) (hn : ((scalars.map (·.1)) ++ subs.map (·.1)).Nodup)
    (hsubs : ∀ sub ∈ subs, KeysNodup sub.2)
    (hscal : ∀ kv ∈ scalars, Factory.lookup (w.reg.sec "contribution").classes kv.1 = none) :
    SrcC15.generate_contributions w.ext (.dict (embSec scalars subs))
      = contribsV w (w.reg.sec "contribution").classes subs >>= fun cs =>
          if subs.all (fun sub => (Factory.lookup (w.reg.sec "contribution").classes sub.1).isSome)
          then .ok (.list cs) else .error .Exception := by
  unfold SrcC15.generate_contributions
  simp only [ext_global_cf, bind_ok, call_obj, ext_call_cf, m_items_dict, pure_ok]
  rw [check_key_comp w scalars subs _ (fun acc k v => by
    simp only [unpack2_tuple, bind_ok, pure_ok])]
  simp only [bind_ok, m_keys_dict, pure_ok]
  have hkeys : (embSec scalars subs).map (·.1)
      = scalars.map (fun kv => (Dyn.Val.str kv.1 : V)) ++ subs.map (fun sc => (Dyn.Val.str sc.1 : V)) := by
    simp only [embSec, embCfg, List.map_append, List.map_map]
    rfl
  have hst : ((Dyn.Val.list [] : V), (Dyn.Val.list (subs.map (fun sc => (Dyn.Val.str sc.1 : V))) : V))
      = encCS [] ([] ++ subs.map (·.1)) := by simp [encCS]
  have hcf := ext_getattr_cf w "contributionKlasses" "contribution" false (by table)
  rw [hkeys, forM_append, hst, forM_scalars _ scalars _ ?hs scalars (fun _ h => h), bind_ok,
    forM_subs w (w.reg.sec "contribution").classes _ subs ?hb subs [] [] (fun _ h => h)
      (List.nodup_append.mp hn).2.1 (by simp)]
  case hs =>
    intro kv hkv
    simp only [getAttr_obj, hcf, Bool.false_eq_true,
      if_false, bind_ok, iter_list, pure_ok]
    rw [inner_loop w hw kv.1 _ _ _ _ (fun k => rfl) ?hT]
    · rw [hscal kv hkv]; rfl
    case hT =>
      intro k hk hc
      have := List.find?_eq_none.mp (hscal kv hkv) k hk
      simp [hc] at this
  case hb =>
    intro sub hsub acc u names hu
    simp only [getAttr_obj, hcf, Bool.false_eq_true,
      if_false, bind_ok, iter_list, pure_ok]
    rw [inner_loop w hw sub.1 _ _ _ _ (fun k => rfl) ?hT]
    case hT =>
      intro k hk hc
      simp only [getItem_dict, hashable_str, if_true, dictGet_embSec_sub scalars subs sub hsub hn, pure_ok, bind_ok,
        src_create_klass w k sub.2 (hsubs sub hsub)]
      have hip := index_pop w u names sub.1 hu
      simp only [encCS, m_append_list, pure_ok, bind_ok, hip.1, hip.2]
      cases hck : Factory.createKlass (Factory.dictOfPairs k.kwargs) sub.2 with
      | error e =>
        right
        refine ⟨errExc e, rfl, ?_⟩
        have hke := ((C15.create_strict (Factory.dictOfPairs k.kwargs) sub.2).2.1 e hck)
        obtain ⟨kv, _, _, he⟩ := hke
        subst he
        simp [Unswallowed, errExc, Exc.isaAny, Exc.isa, Exc.base]
      | ok kw =>
        cases hcl : w.call (Obj.klass k) [] (embKw kw) with
        | error e => right; exact ⟨e, by simp [hcl], hcall _ _ _ _ hcl⟩
        | ok c => left; exact ⟨_, by simp [hcl]; rfl⟩
    simp only [passSub]
    cases hl : Factory.lookup (w.reg.sec "contribution").classes sub.1 with
    | none => rfl
    | some k =>
      have hip := index_pop w u names sub.1 hu
      simp only [getItem_dict, hashable_str, if_true, dictGet_embSec_sub scalars subs sub hsub hn, pure_ok, bind_ok,
        src_create_klass w k sub.2 (hsubs sub hsub), encCS, m_append_list, hip.1, hip.2]
      cases hck : Factory.createKlass (Factory.dictOfPairs k.kwargs) sub.2 with
      | error e => rfl
      | ok kw =>
        cases hcl : w.call (Obj.klass k) [] (embKw kw) with
        | error e => simp [hcl]
        | ok c => simp [hcl]
  · cases contribsV w (w.reg.sec "contribution").classes subs with
    | error e => rfl
    | ok cs =>
      simp only [bind_ok, encCS, List.nil_append, len_list, pure_ok, List.length_map, compare_gt_int, truthy_bool]
      have hlen : ∀ l : List (String × Config),
          (0 < (unclaimed (w.reg.sec "contribution").classes l).length) ↔
            ¬ (l.all (fun sub => (Factory.lookup (w.reg.sec "contribution").classes sub.1).isSome) = true) := by
        intro l
        simp only [unclaimed, List.length_map, List.length_pos_iff, ne_eq, List.filter_eq_nil_iff, List.all_eq_true,
          Option.isNone_iff_eq_none, Option.isSome_iff_ne_none]
      simp only [decide_eq_true_eq, Int.natCast_pos, hlen subs, throw_err]
      by_cases ha : (subs.all fun sub => (Factory.lookup (w.reg.sec "contribution").classes sub.1).isSome) = true
      · simp [ha]
      · simp [ha]

/-- `contribsV` is the model's `contribsOf` once the constructor calls are the model's `instantiate`
    (`comp` = how a constructed component is seen as a value); parameter names of the classes are distinct -/
theorem contribsV_eq_contribsOf (w : World) (sr : SectionReg) (comp : Component → V)
    (hinst : ∀ k kw, w.call (.klass k) [] (embKw kw) = embE comp (Factory.instantiate (.plain k) kw))
    (hnd : ∀ k ∈ sr.classes, KeysNodup k.kwargs) (subs : List (String × Config)) :
    contribsV w sr.classes subs = embE (fun cs => cs.map comp) (Factory.contribsOf sr subs) := by
  induction subs with
  | nil => rfl
  | cons sub rest ih =>
    simp only [contribsV, Factory.contribsOf]
    cases hl : Factory.lookup sr.classes sub.1 with
    | none => simpa using ih
    | some k =>
      have hk : k ∈ sr.classes := List.mem_of_find?_eq_some hl
      simp only [dictOfPairs_nodup _ (hnd k hk)]
      cases Factory.createKlass k.kwargs sub.2 with
      | error e => rfl
      | ok kw =>
        simp only [hinst, ih, bind, Except.bind]
        cases Factory.instantiate (.plain k) kw with
        | error e => rfl
        | ok c =>
          simp only [embE]
          cases Factory.contribsOf sr rest with
          | error e => rfl
          | ok cs => rfl

/-! ## the model -/

theorem embSec_eq (scalars : Config) (subs : List (String × Config)) :
    embSec scalars subs = embCfg scalars ++ subsEmb subs := rfl

/-- `kwargs.update(dict([(k, v) for k, v in config.items() if not isinstance(v, dict)]))`, first half: the scalar
    entries of the section -/
theorem scalar_items (scalars : Config) (subs : List (String × Config)) (body : List V → V → M (List V))
    (hb : ∀ acc k v, body acc (.tuple [k, v]) = if (!Dyn.Val.isTy .dict v) then pure (acc ++ [.tuple [k, v]]) else pure acc) :
    Dyn.forM ((embSec scalars subs).map (fun e => Dyn.Val.tuple [e.1, e.2])) ([] : List V) body
      = .ok (scalars.map (fun kv => (Dyn.Val.tuple [.str kv.1, emb kv.2] : V))) := by
  rw [forM_collect (fun v => !Dyn.Val.isTy .dict v) (fun k v => .tuple [k, v]) body hb, filter_not_dict_embSec, embCfg,
    List.map_map]
  rfl

/-- … second half: `dict(pairs)` then `kwargs.update(·)` is the fold of `dictSet` -/
theorem dict_of_pairs (w : World) (c : Config) (hc : KeysNodup c) (body : V → V → M V)
    (hb : ∀ acc k v, body acc (.tuple [k, v]) = Dyn.setItem w.ext acc k v) :
    Dyn.forM (c.map (fun kv => (Dyn.Val.tuple [.str kv.1, emb kv.2] : V))) (Dyn.Val.dict []) body
      = .ok (.dict (embCfg c)) := by
  have := forM_zip_set w body hb c [] keysNodup_nil
  rw [List.zipWith_map, List.zipWith_self] at this
  have hd : c.foldl (fun d kv => Factory.dictSet d kv.1 kv.2) [] = c := dictOfPairs_nodup c hc
  simpa [embCfg, hd] using this

theorem update_emb (w : World) (kw c : Config) (hk : KeysNodup kw) :
    Dyn.m_update w.ext (.dict (embCfg kw)) (.dict (embCfg c))
      = .ok (.dict (embCfg (c.foldl (fun d kv => Factory.dictSet d kv.1 kv.2) kw))) := by
  simp only [dyn_eval]
  congr 2
  induction c generalizing kw with
  | nil => rfl
  | cons x t ih =>
    simp only [embCfg, List.map_cons, List.foldl_cons] at ih ⊢
    have := dictSet_emb kw hk x.1 x.2
    simp only [embCfg] at this
    rw [this]
    exact ih _ (nodup_dictSet kw hk _ _)

/-- one of the six `if 'name' in kwargs: kwargs['name'] = component` steps of `create_model`, with what follows (`K`) -/
theorem ref_step {β : Type} (w : World) (kw : Config) (hk : KeysNodup kw) (name ref : String) (K : V → M β) :
    (do
      let t ← Dyn.contains w.ext (Dyn.Val.str name) (Dyn.Val.dict (embCfg kw))
      let kwargs ← (if t then Dyn.setItem w.ext (Dyn.Val.dict (embCfg kw)) (Dyn.Val.str name) (emb (.ref ref))
        else Except.ok (Dyn.Val.dict (embCfg kw)) : M V)
      K kwargs)
    = K (.dict (embCfg (if Factory.hasKey kw name then Factory.dictSet kw name (.ref ref) else kw))) := by
  rw [contains_cfg, bind_ok, setItem_cfg w kw hk]
  cases Factory.hasKey kw name <;> rfl

theorem nodup_refstep (kw : Config) (hk : KeysNodup kw) (name ref : String) :
    KeysNodup (if Factory.hasKey kw name then Factory.dictSet kw name (.ref ref) else kw) := by
  split
  · exact nodup_dictSet kw hk _ _
  · exact hk

/-- the model object with its contributions added: what `create_model` does after the constructor call -/
def addContribs (w : World) (obj : V) (cs : List V) : M V :=
  Dyn.forM cs () (fun _ c => Dyn.callMethod w.ext obj "add_contribution" [c] [] >>= fun _ => pure ()) >>= fun _ =>
    pure obj

/-- the keyword arguments `create_model` passes: the constructor defaults, the components the class knows, then every
    scalar key of the section — `kw2` of `Factory.createModel` -/
def modelKwargs (r : Resolved) (cfg1 : Config) : Config :=
  cfg1.foldl (fun kw kv => Factory.dictSet kw kv.1 kv.2)
    (Factory.modelRefs.foldl (fun kw p => if Factory.hasKey kw p.1 then Factory.dictSet kw p.1 (.ref p.2) else kw)
      (kwargDictP r))

/-- after the constructor call: the contributions of the sub-sections are generated and added -/
def modelTail (w : World) (subs : List (String × Config)) (cfg1 : Config) (obj : V) : M (V × V) :=
  contribsV w (w.reg.sec "contribution").classes subs >>= fun cs =>
    if subs.all (fun sub => (Factory.lookup (w.reg.sec "contribution").classes sub.1).isSome)
    then addContribs w obj cs >>= fun o => pure (o, .dict (embSec cfg1 subs))
    else .error .Exception

/-- the chemistry argument: the component, or `None` when the file has no `[Chemistry]` section -/
def gasArg (hasChemistry : Bool) : V := if hasChemistry then emb (.ref "chemistry") else .none

/-- **`create_model(config, gas, temperature, pressure, planet, star, observation)`** is `Factory.createModel` (constructor
    calls left to the world): `determine_klass` on the scalar part of the section, the constructor defaults, the
    `activeGases` access of the debug line (an `AttributeError` without a chemistry), the six component keywords the class
    knows, every scalar key of the section, the constructor call, `generate_contributions` over the sub-sections, and
    `add_contribution` for each. -/
theorem src_create_model (w : World) (hw : WorldOK w) (hcall : CallOK w) (scalars : Config)
    (subs : List (String × Config)) (hasChemistry : Bool)
    (hn : ((scalars.map (·.1)) ++ subs.map (·.1)).Nodup) (hsubs : ∀ sub ∈ subs, KeysNodup sub.2)
    (hscal : ∀ kv ∈ scalars, Factory.lookup (w.reg.sec "contribution").classes kv.1 = none)
    (hx1 : KeyFree (subsEmb subs) "model_type") (hx2 : KeyFree (subsEmb subs) "python_file") :
    SrcC15.create_model w.ext (.dict (embSec scalars subs)) (gasArg hasChemistry) (emb (.ref "temperature"))
        (emb (.ref "pressure")) (emb (.ref "planet")) (emb (.ref "star")) (emb (.ref "observation"))
      = match Factory.determineKlass (w.reg.sec "model") w.customs "model" "model_type" scalars with
        | .error e => .error (errExc e)
        | .ok (cfg1, r) =>
          if !hasChemistry then .error .AttributeError
          else w.call (robjO r) [] (embKw (modelKwargs r cfg1)) >>= modelTail w subs cfg1 := by
  unfold SrcC15.create_model
  have hm : ("ForwardModel", "model") ∈ mixinBases := by table
  have hg := ext_global_base w _ _ hm
  simp only [hg, bind_ok, embSec_eq]
  rw [dk_unpack w _ _ _ _ _ (src_determine_klass_ext w hw "ForwardModel" "model" "model_type" scalars _ (subsEmb subs)
    hx1 hx2 (src_model_factory w hw) hm)]
  cases hd : Factory.determineKlass (w.reg.sec "model") w.customs "model" "model_type" scalars with
  | error e => rfl
  | ok p =>
    obtain ⟨cfg1, r⟩ := p
    dsimp only []
    rw [get_keywordarg_dict_r, bind_ok]
    simp only [pure_ok]
    cases hasChemistry with
    | false => rfl
    | true =>
      have hga : gasArg true = emb (.ref "chemistry") := rfl
      have hgas : Dyn.getAttr w.ext (emb (.ref "chemistry")) "activeGases" = .ok .none := ext_getattr_activeGases w _
      simp only [hga, hgas, bind_ok, Bool.not_true, Bool.false_eq_true, if_false]
      have k0 := keysNodup_kwargDictP r
      rw [ref_step w _ k0 "planet" "planet"]
      have k1 := nodup_refstep _ k0 "planet" "planet"
      rw [ref_step w _ k1 "star" "star"]
      have k2 := nodup_refstep _ k1 "star" "star"
      rw [ref_step w _ k2 "chemistry" "chemistry"]
      have k3 := nodup_refstep _ k2 "chemistry" "chemistry"
      rw [ref_step w _ k3 "temperature_profile" "temperature"]
      have k4 := nodup_refstep _ k3 "temperature_profile" "temperature"
      rw [ref_step w _ k4 "pressure_profile" "pressure"]
      have k5 := nodup_refstep _ k4 "pressure_profile" "pressure"
      rw [ref_step w _ k5 "observation" "observation"]
      have k6 := nodup_refstep _ k5 "observation" "observation"
      generalize hkw6 : (if Factory.hasKey _ "observation" = true then Factory.dictSet _ "observation" (Value.ref "observation")
        else _) = kw6 at k6 ⊢
      have hitems : Dyn.m_items w.ext (Dyn.Val.dict (embCfg cfg1 ++ subsEmb subs))
          = .ok ((embSec cfg1 subs).map (fun e => Dyn.Val.tuple [e.1, e.2])) := rfl
      simp only [hitems, bind_ok]
      rw [scalar_items cfg1 subs _ (fun acc k v => by
        simp only [unpack2_tuple, bind_ok, pure_ok])]
      simp only [bind_ok, iter_list, pure_ok]
      rw [dict_of_pairs w cfg1 (determineKlass_nodup _ _ _ _ _ _ _ ?hsc hd) _ (fun acc k v => by
        simp only [unpack2_tuple, bind_ok])]
      case hsc => exact (List.nodup_append.mp hn).1
      simp only [bind_ok, update_emb w kw6 cfg1 k6, starStar_emb]
      have hcallr : Dyn.call w.ext (robj r) [] (embKw (List.foldl (fun d kv => Factory.dictSet d kv.1 kv.2) kw6 cfg1))
          = w.call (robjO r) [] (embKw (List.foldl (fun d kv => Factory.dictSet d kv.1 kv.2) kw6 cfg1)) := by
        cases r <;> rfl
      rw [hcallr]
      have hmk : List.foldl (fun d kv => Factory.dictSet d kv.1 kv.2) kw6 cfg1 = modelKwargs r cfg1 := by
        simp only [← hkw6, modelKwargs, Factory.modelRefs, List.foldl_cons, List.foldl_nil]
      rw [hmk]
      cases w.call (robjO r) [] (embKw (modelKwargs r cfg1)) with
      | error e => rfl
      | ok obj =>
        simp only [bind_ok, modelTail]
        have hsl := determineKlass_sublist _ _ _ _ _ _ _ hd
        have hn1 : ((cfg1.map (·.1)) ++ subs.map (·.1)).Nodup :=
          List.Nodup.sublist (List.Sublist.append (List.Sublist.map _ hsl) (List.Sublist.refl _)) hn
        have hscal1 : ∀ kv ∈ cfg1, Factory.lookup (w.reg.sec "contribution").classes kv.1 = none :=
          fun kv hkv => hscal kv (hsl.subset hkv)
        rw [← embSec_eq, src_generate_contributions w hw hcall cfg1 subs hn1 hsubs hscal1]
        cases contribsV w (w.reg.sec "contribution").classes subs with
        | error e => rfl
        | ok cs =>
          simp only [bind_ok]
          by_cases ha : (subs.all fun sub => (Factory.lookup (w.reg.sec "contribution").classes sub.1).isSome) = true
          · simp only [ha, if_true, bind_ok, iter_list, addContribs, bind_assoc, pure_ok]
          · simp only [ha, Bool.false_eq_true, if_false, bind_err]

/-! ## `create_chemistry` -/

/-- `create_profile` up to the constructor call (the RHS of `src_create_profile` without the popped config) -/
def profileV (w : World) (sec field : String) (cfg : Config) : M V :=
  match Factory.determineKlass (w.reg.sec sec) w.customs sec field cfg with
  | .error e => .error (errExc e)
  | .ok (cfg1, r) =>
    match Factory.createKlass (kwargDictP r) cfg1 with
    | .error e => .error (errExc e)
    | .ok kw => w.call (robjO r) [] (embKw kw)

/-- the popped config `create_profile` hands back next to the object -/
def poppedCfg (w : World) (sec field : String) (cfg : Config) : Config :=
  match Factory.determineKlass (w.reg.sec sec) w.customs sec field cfg with
  | .error _ => []
  | .ok (cfg1, _) => cfg1

/-- `src_create_profile` with the two results (object, popped section) separated -/
theorem src_create_profile_split (w : World) (hw : WorldOK w) (name sec field : String) (cfg : Config) (f : V → M V)
    (hc : KeysNodup cfg) (h1 : (name, sec) ∈ genericBases) (h2 : (name, sec) ∈ mixinBases) :
    SrcC15.create_profile w.ext (.dict (embCfg cfg)) f (.obj (.base name sec)) (.str field)
      = profileV w sec field cfg >>= fun o => pure (o, .dict (embCfg (poppedCfg w sec field cfg))) := by
  rw [src_create_profile w hw name sec field cfg f hc h1 h2]
  unfold profileV poppedCfg
  cases Factory.determineKlass (w.reg.sec sec) w.customs sec field cfg with
  | error e => rfl
  | ok p =>
    obtain ⟨cfg1, r⟩ := p
    simp only []
    cases Factory.createKlass (kwargDictP r) cfg1 with
    | error e => rfl
    | ok kw => rfl

/-- the gas profiles `create_chemistry` builds from the sub-sections, constructor calls left to the world -/
def gasesV (w : World) : List (String × Config) → M (List V)
  | [] => .ok []
  | sub :: rest => do
    let g ← profileV w "gas" "gas_type" (Factory.dictSet sub.2 "molecule_name" (.scalar (.str sub.1)))
    let gs ← gasesV w rest
    pure (g :: gs)

/-- first loop of `create_chemistry`, scalar entries: nothing happens -/
theorem chem_scalars (body : V × V → V → M (V × V)) (st : V × V)
    (hb : ∀ k v, Dyn.Val.isTy .dict v = false → body st (.tuple [k, v]) = .ok st) :
    ∀ (sc : Config), Dyn.forM ((embCfg sc).map (fun e => Dyn.Val.tuple [e.1, e.2])) st body = .ok st :=
  fun sc => forM_fixed _ st body
    (List.forall_mem_map.mpr (List.forall_mem_map.mpr fun kv _ => hb _ _ (isTy_dict_emb kv.2)))

/-- first loop of `create_chemistry`, sub-sections: the key is recorded, the gas is built and appended -/
theorem chem_subs (w : World) (body : V × V → V → M (V × V)) (all : List (String × Config))
    (hb : ∀ sub ∈ all, ∀ ck gs, body (.list ck, .list gs) (.tuple [.str sub.1, .dict (embCfg sub.2)])
      = profileV w "gas" "gas_type" (Factory.dictSet sub.2 "molecule_name" (.scalar (.str sub.1))) >>= fun g =>
          .ok (.list (ck ++ [.str sub.1]), .list (gs ++ [g]))) :
    ∀ (subs : List (String × Config)) (ck gs : List V), (∀ sub ∈ subs, sub ∈ all) →
      Dyn.forM ((subsEmb subs).map (fun e => Dyn.Val.tuple [e.1, e.2])) (.list ck, .list gs) body
        = gasesV w subs >>= fun gl => .ok (.list (ck ++ subs.map (fun sc => (Dyn.Val.str sc.1 : V))), .list (gs ++ gl))
  | [], ck, gs, _ => by simp [subsEmb, Dyn.forM, gasesV]
  | sub :: rest, ck, gs, hall => by
    simp only [subsEmb, List.map_cons, Dyn.forM, hb sub (hall sub List.mem_cons_self), gasesV]
    cases profileV w "gas" "gas_type" (Factory.dictSet sub.2 "molecule_name" (.scalar (.str sub.1))) with
    | error e => rfl
    | ok g =>
      have := chem_subs w body all hb rest (ck ++ [.str sub.1]) (gs ++ [g]) (fun x hx => hall x (List.mem_cons_of_mem _ hx))
      simp only [subsEmb] at this
      simp only [bind_ok, this]
      cases gasesV w rest with
      | error e => rfl
      | ok gl => simp [List.append_assoc]

/-- second loop of `create_chemistry`: `del config[k]` for every recorded sub-section key leaves the scalar entries -/
theorem chem_del (w : World) (sc : Config) (body : V → V → M V)
    (hb : ∀ c k, body c k = Dyn.delItem w.ext c k) :
    ∀ (subs : List (String × Config)), ((sc.map (·.1)) ++ subs.map (·.1)).Nodup →
      Dyn.forM (subs.map (fun s => (Dyn.Val.str s.1 : V))) (.dict (embCfg sc ++ subsEmb subs)) body
        = .ok (.dict (embCfg sc))
  | [], _ => by simp [subsEmb, Dyn.forM]
  | sub :: rest, hn => by
    have hn' : ((sc.map (·.1)) ++ rest.map (·.1)).Nodup := by
      apply List.Nodup.sublist _ hn
      exact List.Sublist.append (List.Sublist.refl _) (by simp)
    have hsc : sub.1 ∉ sc.map (·.1) := by
      intro h
      exact (List.nodup_append.mp hn).2.2 _ h _ (by simp) rfl
    have hrest : sub.1 ∉ rest.map (·.1) := by
      have := (List.nodup_append.mp hn).2.1
      simp only [List.map_cons] at this
      exact (List.nodup_cons.mp this).1
    have hfree : KeyFree (subsEmb rest) sub.1 := by
      intro e he
      simp only [subsEmb, List.mem_map] at he
      obtain ⟨x, hx, rfl⟩ := he
      refine ⟨x.1, rfl, ?_⟩
      intro heq
      exact hrest (heq ▸ List.mem_map_of_mem (f := (·.1)) hx)
    have hfilter : sc.filter (·.1 != sub.1) = sc := by
      apply List.filter_eq_self.mpr
      intro kv hkv
      have : kv.1 ≠ sub.1 := fun heq => hsc (heq ▸ List.mem_map_of_mem (f := (·.1)) hkv)
      simp [this]
    have hdel : Dyn.delItem w.ext (.dict (embCfg sc ++ subsEmb (sub :: rest))) (.str sub.1)
        = .ok (.dict (embCfg sc ++ subsEmb rest)) := by
      have hhas : dictHas (embCfg sc ++ subsEmb (sub :: rest)) (.str sub.1) = true := by
        simp [dictHas, subsEmb]
      have hd : dictDel (embCfg sc ++ subsEmb (sub :: rest)) (.str sub.1) = embCfg sc ++ subsEmb rest := by
        have h1 := dictDel_append sc (subsEmb rest) sub.1 hfree
        rw [hfilter] at h1
        have h2 : dictDel (embCfg sc ++ subsEmb (sub :: rest)) (.str sub.1)
            = dictDel (embCfg sc ++ subsEmb rest) (.str sub.1) := by
          simp [dictDel, subsEmb, List.filter_append]
        rw [h2, h1]
      simp only [dyn_eval, hhas, hd]
    simp only [List.map_cons, Dyn.forM, hb, hdel, bind_ok]
    exact chem_del w sc body hb rest hn'

/-- `obj.addGas(g)` for every gas profile -/
def addGases (w : World) (obj : V) (gs : List V) : M Unit :=
  Dyn.forM gs () (fun _ g => Dyn.callMethod w.ext obj "addGas" [g] [] >>= fun _ => pure ())

/-- **`create_chemistry(config)`** on a `[Chemistry]` section (scalars, then sub-sections): every sub-section is a gas
    profile — `molecule_name` set to its header, then the strict `create_profile` with selector `gas_type` (`gasesV`, in
    file order; the first failure ends the function); the sub-section keys are deleted from the section; what is left is
    the chemistry, built by the strict `create_profile` with selector `chemistry_type`; the gases are added
    (`obj.addGas(g)`, in order) exactly when `hasattr(obj, 'addGas')`; the popped section is handed back.
    ALIAS (`unshared=['new_value']` in the spec): `new_value = value` is a second reference to the entry `config[key]`; the
    translation re-binds only `new_value`.  That is faithful because the entry is never read again: the only later uses of
    `config` are `del config[k]` for exactly these keys and, after that, `create_profile(config, …)`. -/
theorem src_create_chemistry (w : World) (hw : WorldOK w) (scalars : Config) (subs : List (String × Config))
    (hn : ((scalars.map (·.1)) ++ subs.map (·.1)).Nodup) (hsubs : ∀ sub ∈ subs, KeysNodup sub.2) :
    SrcC15.create_chemistry w.ext (.dict (embSec scalars subs))
      = gasesV w subs >>= fun gs =>
        profileV w "chemistry" "chemistry_type" scalars >>= fun obj =>
        (if w.hasattr obj "addGas" then addGases w obj gs else pure ()) >>= fun _ =>
        pure (obj, .dict (embCfg (poppedCfg w "chemistry" "chemistry_type" scalars))) := by
  unfold SrcC15.create_chemistry
  have hitems : Dyn.m_items w.ext (Dyn.Val.dict (embSec scalars subs))
      = .ok ((embCfg scalars).map (fun e => Dyn.Val.tuple [e.1, e.2]) ++ (subsEmb subs).map (fun e => Dyn.Val.tuple [e.1, e.2])) := by
    simp [m_items_dict, embSec, subsEmb]
  have hmg : ("Gas", "gas") ∈ mixinBases := by table
  have hmc : ("Chemistry", "chemistry") ∈ mixinBases := by table
  have hgas := ext_global_base w _ _ hmg
  have hchem := ext_global_base w _ _ hmc
  simp only [hitems, bind_ok, forM_append]
  rw [chem_scalars _ _ ?hs scalars, bind_ok, chem_subs w _ subs ?hb subs [] [] (fun _ h => h)]
  case hs =>
    intro k v hv
    simp only [unpack2_tuple, bind_ok, pure_ok, hv, Bool.false_eq_true, if_false]
  case hb =>
    intro sub hsub ck gs
    have hset : (Dyn.Val.str sub.1 : V) = emb (.scalar (.str sub.1)) := rfl
    simp only [dyn_eval, Dyn.Val.isTy, hgas]
    rw [hset, dictSet_emb sub.2 (hsubs sub hsub), src_create_profile_split w hw "Gas" "gas" "gas_type" _ _
      (nodup_dictSet sub.2 (hsubs sub hsub) _ _) (by unfold genericBases; table) hmg]
    cases profileV w "gas" "gas_type" (Factory.dictSet sub.2 "molecule_name" (Value.scalar (Scalar.str sub.1))) with
    | error e => rfl
    | ok g => rfl
  cases gasesV w subs with
  | error e => rfl
  | ok gs =>
    simp only [bind_ok, List.nil_append, iter_list, pure_ok]
    have hsec : (Dyn.Val.dict (embSec scalars subs) : V) = .dict (embCfg scalars ++ subsEmb subs) := rfl
    rw [hsec, chem_del w scalars _ (fun c k => rfl) subs hn]
    simp only [bind_ok, hchem]
    rw [src_create_profile_split w hw "Chemistry" "chemistry" "chemistry_type" scalars _ (List.nodup_append.mp hn).1
      (by unfold genericBases; table) hmc]
    cases profileV w "chemistry" "chemistry_type" scalars with
    | error e => rfl
    | ok obj =>
      simp only [dyn_eval, ext_hasattr]
      cases w.hasattr obj "addGas" with
      | false => rfl
      | true =>
        simp only [if_true, addGases, pure_ok]
        generalize (Dyn.forM gs () _ : M Unit) = x
        cases x <;> rfl

/-- `profileV` is the model's `createProfile` once the constructor calls are the model's `instantiate` (`comp` = how a
    constructed component is seen as a value) and parameter names are distinct -/
theorem profileV_eq_createProfile (w : World) (comp : Component → V)
    (hinst : ∀ r kw, w.call (robjO r) [] (embKw kw) = embE comp (Factory.instantiate r kw))
    (sec field : String) (cfg : Config)
    (hnd : ∀ cfg1 k, Factory.determineKlass (w.reg.sec sec) w.customs sec field cfg = .ok (cfg1, .plain k) →
      KeysNodup k.kwargs) :
    profileV w sec field cfg = embE comp (Factory.createProfile (w.reg.sec sec) w.customs sec field cfg) := by
  unfold profileV Factory.createProfile
  cases hd : Factory.determineKlass (w.reg.sec sec) w.customs sec field cfg with
  | error e => rfl
  | ok p =>
    obtain ⟨cfg1, r⟩ := p
    have hk : kwargDictP r = Factory.kwargDict r := kwargDictP_eq r (fun k hr => hnd cfg1 k (hr ▸ hd))
    simp only [hk, bind, Except.bind]
    cases Factory.createKlass (Factory.kwargDict r) cfg1 with
    | error e => rfl
    | ok kw =>
      simp only [hinst]

/-- distinct parameter names for every plain class a selector resolves to (the language guarantees it) -/
def ParamsNodup (w : World) : Prop :=
  ∀ sec field cfg cfg1 k, Factory.determineKlass (w.reg.sec sec) w.customs sec field cfg = .ok (cfg1, .plain k) →
    KeysNodup k.kwargs

theorem gasesV_eq (w : World) (comp : Component → V)
    (hinst : ∀ r kw, w.call (robjO r) [] (embKw kw) = embE comp (Factory.instantiate r kw)) (hnd : ParamsNodup w)
    (subs : List (String × Config)) :
    gasesV w subs = embE (fun gs => gs.map comp) (subs.mapM (fun sub =>
      Factory.createProfile (w.reg.sec "gas") w.customs "gas" "gas_type"
        (Factory.dictSet sub.2 "molecule_name" (.scalar (.str sub.1))))) := by
  induction subs with
  | nil => rfl
  | cons sub rest ih =>
    simp only [gasesV, List.mapM_cons, ih, profileV_eq_createProfile w comp hinst "gas" "gas_type" _ (hnd _ _ _)]
    cases Factory.createProfile (w.reg.sec "gas") w.customs "gas" "gas_type"
        (Factory.dictSet sub.2 "molecule_name" (.scalar (.str sub.1))) with
    | error e => rfl
    | ok g =>
      simp only [embE, bind_ok]
      cases rest.mapM (fun sub => Factory.createProfile (w.reg.sec "gas") w.customs "gas" "gas_type"
        (Factory.dictSet sub.2 "molecule_name" (.scalar (.str sub.1)))) <;> rfl

/-- **`create_chemistry(config)`** is `Factory.createChemistry` (for every world whose constructor calls are the model's
    `instantiate`, `comp` being how a component is seen as a value, and whose `hasattr(obj, 'addGas')` is the class's
    `hasAddGas` column): every sub-section is a gas profile named by its header (`molecule_name`), built by the strict
    `create_profile` with selector `gas_type`; the sub-sections are deleted, the rest is the chemistry, built by the strict
    `create_profile` with selector `chemistry_type`; the gases are added exactly when the chemistry has `addGas` -/
theorem src_create_chemistry_model (w : World) (hw : WorldOK w) (scalars : Config) (subs : List (String × Config))
    (hn : ((scalars.map (·.1)) ++ subs.map (·.1)).Nodup) (hsubs : ∀ sub ∈ subs, KeysNodup sub.2)
    (comp : Component → V)
    (hinst : ∀ r kw, w.call (robjO r) [] (embKw kw) = embE comp (Factory.instantiate r kw)) (hnd : ParamsNodup w)
    (hattr : ∀ r kw c, Factory.instantiate r kw = .ok c → w.hasattr (comp c) "addGas" = Factory.resolvedHasAddGas r) :
    (SrcC15.create_chemistry w.ext (.dict (embSec scalars subs)) >>= fun p => pure p.1)
      = match Factory.createChemistry w.reg w.customs ⟨scalars, subs⟩ with
        | .error e => .error (errExc e)
        | .ok g => (if g.added then addGases w (comp g.chemistry) (g.gases.map comp) else pure ()) >>= fun _ =>
            pure (comp g.chemistry) := by
  rw [src_create_chemistry w hw scalars subs hn hsubs, gasesV_eq w comp hinst hnd]
  unfold Factory.createChemistry profileV
  simp only [bind, Except.bind]
  cases subs.mapM (fun sub => Factory.createProfile (w.reg.sec "gas") w.customs "gas" "gas_type"
        (Factory.dictSet sub.2 "molecule_name" (.scalar (.str sub.1)))) with
  | error e => rfl
  | ok gs =>
    simp only [embE]
    cases hd : Factory.determineKlass (w.reg.sec "chemistry") w.customs "chemistry" "chemistry_type" scalars with
    | error e => rfl
    | ok p =>
      obtain ⟨cfg1, r⟩ := p
      have hk : kwargDictP r = Factory.kwargDict r := kwargDictP_eq r (fun k hr => hnd _ _ _ cfg1 k (hr ▸ hd))
      simp only [hk]
      cases Factory.createKlass (Factory.kwargDict r) cfg1 with
      | error e => rfl
      | ok kw =>
        simp only [hinst]
        cases hi : Factory.instantiate r kw with
        | error e => rfl
        | ok c =>
          simp only [embE, hattr r kw c hi, pure, Except.pure]
          cases Factory.resolvedHasAddGas r with
          | false => rfl
          | true =>
            simp only [if_true]
            cases addGases w (comp c) (gs.map comp) <;> rfl

/-! ## the thin wrappers and `ParameterParser.generate_*` -/

/-- `create_temperature_profile(config)` is `create_profile` on the registry section "temperature", selector `profile_type` -/
theorem src_create_temperature_profile (w : World) (hw : WorldOK w) (cfg : Config) (hc : KeysNodup cfg) :
    SrcC15.create_temperature_profile w.ext (.dict (embCfg cfg))
      = profileV w "temperature" "profile_type" cfg >>= fun o =>
          pure (o, .dict (embCfg (poppedCfg w "temperature" "profile_type" cfg))) := by
  unfold SrcC15.create_temperature_profile
  have hm : ("TemperatureProfile", "temperature") ∈ mixinBases := by table
  have hg := ext_global_base w _ _ hm
  simp only [hg, bind_ok]
  rw [src_create_profile_split w hw "TemperatureProfile" "temperature" "profile_type" cfg _ hc (by unfold genericBases; table) hm]
  cases profileV w "temperature" "profile_type" cfg <;> rfl

/-- `create_pressure_profile(config)` is `create_profile` on the registry section "pressure", selector `profile_type` -/
theorem src_create_pressure_profile (w : World) (hw : WorldOK w) (cfg : Config) (hc : KeysNodup cfg) :
    SrcC15.create_pressure_profile w.ext (.dict (embCfg cfg))
      = profileV w "pressure" "profile_type" cfg >>= fun o =>
          pure (o, .dict (embCfg (poppedCfg w "pressure" "profile_type" cfg))) := by
  unfold SrcC15.create_pressure_profile
  have hm : ("PressureProfile", "pressure") ∈ mixinBases := by table
  have hg := ext_global_base w _ _ hm
  simp only [hg, bind_ok]
  rw [src_create_profile_split w hw "PressureProfile" "pressure" "profile_type" cfg _ hc (by unfold genericBases; table) hm]
  cases profileV w "pressure" "profile_type" cfg <;> rfl

/-- a lenient creator (`klass(**config)`) up to the constructor call -/
def lenientV (w : World) (sec field : String) (cfg : Config) : M V :=
  match Factory.determineKlass (w.reg.sec sec) w.customs sec field cfg with
  | .error e => .error (errExc e)
  | .ok (cfg1, r) => w.call (robjO r) [] (embKw cfg1)

/-- the lenient creators with the two results (object, popped section) separated -/
theorem src_create_star_split (w : World) (hw : WorldOK w) (cfg : Config) :
    SrcC15.create_star w.ext (.dict (embCfg cfg))
      = lenientV w "star" "star_type" cfg >>= fun o => pure (o, .dict (embCfg (poppedCfg w "star" "star_type" cfg))) := by
  rw [src_create_star w hw, lenientV, poppedCfg]
  cases Factory.determineKlass (w.reg.sec "star") w.customs "star" "star_type" cfg with
  | error e => rfl
  | ok p => rfl

theorem src_create_optimizer_split (w : World) (hw : WorldOK w) (cfg : Config) :
    SrcC15.create_optimizer w.ext (.dict (embCfg cfg))
      = lenientV w "optimizer" "optimizer" cfg >>= fun o =>
          pure (o, .dict (embCfg (poppedCfg w "optimizer" "optimizer" cfg))) := by
  rw [src_create_optimizer w hw, lenientV, poppedCfg]
  cases Factory.determineKlass (w.reg.sec "optimizer") w.customs "optimizer" "optimizer" cfg with
  | error e => rfl
  | ok p => rfl

theorem src_create_observation_split (w : World) (hw : WorldOK w) (cfg : Config) :
    SrcC15.create_observation w.ext (.dict (embCfg cfg))
      = lenientV w "observation" "observation" cfg >>= fun o =>
          pure (o, .dict (embCfg (poppedCfg w "observation" "observation" cfg))) := by
  rw [src_create_observation w hw, lenientV, poppedCfg]
  cases Factory.determineKlass (w.reg.sec "observation") w.customs "observation" "observation" cfg with
  | error e => rfl
  | ok p => rfl

theorem src_create_instrument_split (w : World) (hw : WorldOK w) (cfg : Config) :
    SrcC15.create_instrument w.ext (.dict (embCfg cfg))
      = lenientV w "instrument" "instrument" cfg >>= fun o =>
          pure (o, .dict (embCfg (poppedCfg w "instrument" "instrument" cfg))) := by
  rw [src_create_instrument w hw, lenientV, poppedCfg]
  cases Factory.determineKlass (w.reg.sec "instrument") w.customs "instrument" "instrument" cfg with
  | error e => rfl
  | ok p => rfl

/-- the section `create_planet` works on: `planet_type` defaults to `simple` (as in `Factory.createPlanet`) -/
def planetCfg (cfg : Config) : Config :=
  if Factory.hasKey cfg "planet_type" then cfg else cfg ++ [("planet_type", .scalar (.str "simple"))]

theorem src_create_planet_split (w : World) (hw : WorldOK w) (cfg : Config) (hc : KeysNodup cfg) :
    SrcC15.create_planet w.ext (.dict (embCfg cfg))
      = lenientV w "planet" "planet_type" (planetCfg cfg) >>= fun o =>
          pure (o, .dict (embCfg (poppedCfg w "planet" "planet_type" (planetCfg cfg)))) := by
  rw [src_create_planet w hw cfg (planetCfg cfg) hc rfl, lenientV, poppedCfg]
  cases Factory.determineKlass (w.reg.sec "planet") w.customs "planet" "planet_type" (planetCfg cfg) with
  | error e => rfl
  | ok p => rfl

/-- what `generate_<x>` returns: `None` for an absent section -/
def optV : Option (M V) → M V
  | none => .ok .none
  | some x => x

/-- `'Name' in config` / `config['Name']` on the file dictionary are the model's `sectionOf` -/
theorem sectionOf_embFile (f : InputFile) (name : String) :
    dictHas (embFile f) (.str name) = (Factory.sectionOf f name).isSome ∧
    dictGet? (embFile f) (.str name) = (Factory.sectionOf f name).map (fun s => .dict (embSec s.scalars s.subs)) :=
  embFile_section f name

/-- the common frame of every `generate_<x>`: `config = self._raw_config.dict()`, then the section `name` if present -/
theorem parser_section {β : Type} (w : World) (f : InputFile) (name : String) (K : V → M β) (none_ : M β) :
    (do
      let t1 ← Dyn.getAttr w.ext (.obj (.parser f)) "_raw_config"
      let t2 ← Dyn.callMethod w.ext t1 "dict" [] []
      let t3 ← Dyn.contains w.ext (.str name) t2
      if t3 then do
        let t4 ← Dyn.getItem w.ext t2 (.str name)
        K t4
      else none_)
    = match Factory.sectionOf f name with
      | none => none_
      | some s => K (.dict (embSec s.scalars s.subs)) :=
  parser_frame w f name K none_

theorem embSec_nil (sc : Config) : embSec sc [] = embCfg sc := by simp [embSec]

/-- no sub-sections, distinct keys: what the harness's generator guarantees for every section but `[Chemistry]` / `[Model]`
    (a `dict` guarantees the distinct keys) -/
def FlatSection (f : InputFile) (name : String) : Prop :=
  ∀ s, Factory.sectionOf f name = some s → s.subs = [] ∧ KeysNodup s.scalars

/-- **`generate_temperature_profile()`**: `None` without a `[Temperature]` section, else `create_temperature_profile` on it
    (the `temperature` slot of `Factory.expected`) -/
theorem src_generate_temperature_profile (w : World) (hw : WorldOK w) (f : InputFile) (hf : FlatSection f "Temperature") :
    SrcC15.generate_temperature_profile w.ext (.obj (.parser f))
      = optV ((Factory.sectionOf f "Temperature").map (fun s => profileV w "temperature" "profile_type" s.scalars)) := by
  unfold SrcC15.generate_temperature_profile
  exact generate_flat w f "Temperature" _ _ _ optV rfl (fun _ => rfl) hf
    (fun c hc => src_create_temperature_profile w hw c hc)

/-- **`generate_pressure_profile()`**: the `pressure` slot of `Factory.expected` -/
theorem src_generate_pressure_profile (w : World) (hw : WorldOK w) (f : InputFile) (hf : FlatSection f "Pressure") :
    SrcC15.generate_pressure_profile w.ext (.obj (.parser f))
      = optV ((Factory.sectionOf f "Pressure").map (fun s => profileV w "pressure" "profile_type" s.scalars)) := by
  unfold SrcC15.generate_pressure_profile
  exact generate_flat w f "Pressure" _ _ _ optV rfl (fun _ => rfl) hf
    (fun c hc => src_create_pressure_profile w hw c hc)

/-- **`generate_star()`**: the `star` slot of `Factory.expected` -/
theorem src_generate_star (w : World) (hw : WorldOK w) (f : InputFile) (hf : FlatSection f "Star") :
    SrcC15.generate_star w.ext (.obj (.parser f))
      = optV ((Factory.sectionOf f "Star").map (fun s => lenientV w "star" "star_type" s.scalars)) := by
  unfold SrcC15.generate_star
  exact generate_flat w f "Star" _ _ _ optV rfl (fun _ => rfl) hf (fun c _ => src_create_star_split w hw c)

/-- **`generate_optimizer()`**: the `optimizer` slot of `Factory.expected` -/
theorem src_generate_optimizer (w : World) (hw : WorldOK w) (f : InputFile) (hf : FlatSection f "Optimizer") :
    SrcC15.generate_optimizer w.ext (.obj (.parser f))
      = optV ((Factory.sectionOf f "Optimizer").map (fun s => lenientV w "optimizer" "optimizer" s.scalars)) := by
  unfold SrcC15.generate_optimizer
  exact generate_flat w f "Optimizer" _ _ _ optV rfl (fun _ => rfl) hf
    (fun c _ => src_create_optimizer_split w hw c)

/-- **`generate_planet()`**: the `planet` slot of `Factory.expected` -/
theorem src_generate_planet (w : World) (hw : WorldOK w) (f : InputFile) (hf : FlatSection f "Planet") :
    SrcC15.generate_planet w.ext (.obj (.parser f))
      = optV ((Factory.sectionOf f "Planet").map (fun s => lenientV w "planet" "planet_type" (planetCfg s.scalars))) := by
  unfold SrcC15.generate_planet
  exact generate_flat w f "Planet" _ (fun c => lenientV w "planet" "planet_type" (planetCfg c)) _ optV rfl
    (fun _ => rfl) hf (fun c hc => src_create_planet_split w hw c hc)

/-- a section with sub-sections whose keys are all distinct (a `dict`) -/
def DictSection (f : InputFile) (name : String) : Prop :=
  ∀ s, Factory.sectionOf f name = some s →
    ((s.scalars.map (·.1)) ++ s.subs.map (·.1)).Nodup ∧ ∀ sub ∈ s.subs, KeysNodup sub.2

/-- **`generate_chemistry_profile()`**: `None` without a `[Chemistry]` section, else `create_chemistry` on it -/
theorem src_generate_chemistry_profile (w : World) (hw : WorldOK w) (f : InputFile) (hf : DictSection f "Chemistry") :
    SrcC15.generate_chemistry_profile w.ext (.obj (.parser f))
      = optV ((Factory.sectionOf f "Chemistry").map (fun s =>
          gasesV w s.subs >>= fun gs =>
          profileV w "chemistry" "chemistry_type" s.scalars >>= fun obj =>
          (if w.hasattr obj "addGas" then addGases w obj gs else pure ()) >>= fun _ => pure obj)) := by
  unfold SrcC15.generate_chemistry_profile
  rw [parser_section w f "Chemistry"]
  cases hs : Factory.sectionOf f "Chemistry" with
  | none => rfl
  | some s =>
    obtain ⟨h1, h2⟩ := hf s hs
    simp only [src_create_chemistry w hw _ _ h1 h2, Option.map_some, optV, bind_assoc, bind_ok, pure_ok]

/-- `lenientV` is the model's `createLenient` once the constructor calls are the model's `instantiate` -/
theorem lenientV_eq_createLenient (w : World) (comp : Component → V)
    (hinst : ∀ r kw, w.call (robjO r) [] (embKw kw) = embE comp (Factory.instantiate r kw))
    (sec field : String) (cfg : Config) :
    lenientV w sec field cfg = embE comp (Factory.createLenient (w.reg.sec sec) w.customs sec field cfg) := by
  unfold lenientV Factory.createLenient
  cases Factory.determineKlass (w.reg.sec sec) w.customs sec field cfg with
  | error e => rfl
  | ok p =>
    obtain ⟨cfg1, r⟩ := p
    simp only [hinst, bind, Except.bind]

/-! ## `generate_observation` -/

/-- a value of an input file (after `transform`): a scalar or a flat list -/
def IsData : Value → Prop
  | .scalar _ => True
  | .list _ => True
  | _ => False

/-- the names `generate_observation` imports for the four file keys, in their order of precedence -/
def obsGlobals : List (String × String) :=
  [("lightcurve", "ObservedLightCurve"), ("observed_spectrum", "ObservedSpectrum"),
   ("taurex_spectrum", "TaurexSpectrum"), ("iraclis_spectrum", "IraclisSpectrum")]

/-- `Factory.generateObservation` with the constructor calls left to the world -/
def observationV (w : World) (cfg : Config) : M V :=
  match obsGlobals.find? (fun p => Factory.hasKey cfg p.1) with
  | some (key, cls) =>
    if cfg.length > 1 then .error .KeyError
    else
      let v := (cfg.lookup key).getD (.scalar .none)
      if key = "taurex_spectrum" && v = .scalar (.str "self") then .ok (.str "self")
      else w.call (.fn cls) [emb v] []
  | none => lenientV w "observation" "observation" cfg

theorem lookup_some_of_hasKey (cfg : Config) (key : String) (h : Factory.hasKey cfg key = true) :
    ∃ v, cfg.lookup key = some v :=
  Option.isSome_iff_exists.mp (C15L.hasKey_eq_isSome_lookup cfg key ▸ h)

/-- `config[key]` for a key that is present (whatever default the model's `getD` names) -/
theorem getItem_of_hasKey_default (w : World) (cfg : Config) (key : String) (d : Value) (h : Factory.hasKey cfg key = true) :
    Dyn.getItem w.ext (.dict (embCfg cfg)) (.str key) = .ok (emb ((cfg.lookup key).getD d)) := by
  obtain ⟨v, hv⟩ := lookup_some_of_hasKey cfg key h
  rw [getItem_cfg, hv]; rfl

theorem getItem_of_hasKey (w : World) (cfg : Config) (key : String) (h : Factory.hasKey cfg key = true) :
    Dyn.getItem w.ext (.dict (embCfg cfg)) (.str key) = .ok (emb ((cfg.lookup key).getD (.scalar .none))) :=
  getItem_of_hasKey_default w cfg key _ h

theorem lookup_none_of_hasKey (cfg : Config) (key : String) (h : Factory.hasKey cfg key = false) :
    cfg.lookup key = none :=
  Option.isNone_iff_eq_none.mp (Option.isSome_eq_false_iff.mp (C15L.hasKey_eq_isSome_lookup cfg key ▸ h))

theorem mem_of_lookup (c : Config) (k : String) (v : Value) (h : c.lookup k = some v) : (k, v) ∈ c :=
  Taurex.mem_of_lookup h

theorem eqB_emb_str (w : World) (v : Value) (hv : IsData v) (s : String) :
    Dyn.eqB w.ext (emb v) (.str s) = .ok (decide (v = .scalar (.str s))) := by
  cases v with
  | scalar x =>
    cases x with
    | str a =>
      simp only [emb, embS, eqB_str, pure_ok]
      congr 1
      by_cases h : a = s <;> simp [h]
    | _ => simp only [emb, embS, Dyn.eqB, Dyn.Val.beq, pure_ok] <;> simp
  | list l => simp only [emb, Dyn.eqB, Dyn.Val.beq, pure_ok]; simp
  | other r => exact absurd hv (by simp [IsData])
  | ref r => exact absurd hv (by simp [IsData])

theorem length_embCfg (c : Config) : (embCfg c).length = c.length := by simp [embCfg]

/-- the list comprehension in the error message never raises -/
theorem keys_comp_ok (cfg : Config) (body : List V → V → M (List V))
    (hb : ∀ acc k, ∃ acc', body acc (.str k) = .ok acc') :
    ∀ acc, ∃ r, Dyn.forM ((embCfg cfg).map (·.1)) acc body = .ok r := by
  induction cfg with
  | nil => intro acc; exact ⟨acc, rfl⟩
  | cons kv t ih =>
    intro acc
    obtain ⟨acc', h⟩ := hb acc kv.1
    obtain ⟨r, hr⟩ := ih acc'
    exact ⟨r, by simp only [embCfg, List.map_cons, Dyn.forM, h, bind_ok] at hr ⊢; exact hr⟩

/-- the loop over the four file keys: a file key next to any other key is a `KeyError` -/
theorem obs_loop (cfg : Config) (body : Unit → V → M Unit)
    (hb : ∀ key, body () (.str key)
      = if Factory.hasKey cfg key && decide (1 < cfg.length) then .error .KeyError else .ok ()) :
    Dyn.forM [(Dyn.Val.str "lightcurve" : V), .str "observed_spectrum", .str "taurex_spectrum", .str "iraclis_spectrum"] ()
        body
      = if obsGlobals.any (fun p => Factory.hasKey cfg p.1) && decide (1 < cfg.length) then .error .KeyError
        else .ok () := by
  refine (forM_guard (fun p : String × String => (Dyn.Val.str p.1 : V)) _ .KeyError body (fun p => hb p.1) obsGlobals).trans ?_
  cases decide (1 < cfg.length) <;> simp [obsGlobals]

/-- **`generate_observation()`** is `Factory.generateObservation` (constructor calls left to the world): `None` without an
    `[Observation]` section; a file key (`lightcurve`, `observed_spectrum`, `taurex_spectrum`, `iraclis_spectrum`, in this
    order of precedence) next to any other key is a `KeyError`; alone it builds the class of that key from the file name
    (`taurex_spectrum = self` gives the string `'self'`); without a file key `create_observation` -/
theorem src_generate_observation (w : World) (hw : WorldOK w) (f : InputFile) (hf : FlatSection f "Observation")
    (hdata : ∀ s, Factory.sectionOf f "Observation" = some s → ∀ kv ∈ s.scalars, IsData kv.2) :
    SrcC15.generate_observation w.ext (.obj (.parser f))
      = optV ((Factory.sectionOf f "Observation").map (fun s => observationV w s.scalars)) := by
  unfold SrcC15.generate_observation
  rw [parser_section w f "Observation"]
  cases hs : Factory.sectionOf f "Observation" with
  | none => rfl
  | some s =>
    obtain ⟨h1, h2⟩ := hf s hs
    have hd := hdata s hs
    simp only [h1, embSec_nil, Option.map_some, optV, iter_tuple, pure_ok, bind_ok]
    generalize s.scalars = cfg at h2 hd ⊢
    rw [obs_loop cfg _ ?hb]
    case hb =>
      intro key
      simp only [contains_cfg, pure_ok, bind_ok, len_dict, length_embCfg, compare_gt_int, truthy_bool, iter_dict]
      cases Factory.hasKey cfg key with
      | false => rfl
      | true =>
        by_cases hl : 1 < cfg.length
        · have hl' : (1 : Int) < cfg.length := Int.ofNat_lt.mpr hl
          obtain ⟨r, hr⟩ := keys_comp_ok cfg (fun acc__ k => do
              let t__12 ← Dyn.eqB w.ext k (Dyn.Val.str key)
              if (!t__12) then (pure (acc__ ++ [k])) else pure acc__) (by
            intro acc k
            simp only [eqB_str, pure_ok, bind_ok]
            split <;> exact ⟨_, rfl⟩) []
          simp only [pure_ok] at hr
          simp only [hl, hl', decide_true, if_true, hr, bind_ok, Bool.and_self, throw_err]
        · have hl' : ¬ (1 : Int) < cfg.length := mt Int.ofNat_lt.mp hl
          simp [hl, hl']
    -- the four classes are plain names to the oracle: `global` answers `.fn name`, a call goes to the world
    simp only [contains_cfg, bind_ok, observationV, obsGlobals,
      List.find?_cons, List.find?_nil, List.any_cons, List.any_nil, Bool.or_false, call_obj, ext_global_fn, ext_call_fn,
      ne_eq, String.reduceEq, not_false_eq_true, mixinBases, lookup_cons_ite, List.lookup_nil, ↓reduceIte]
    have hlen : (cfg.length > 1) = (1 < cfg.length) := rfl
    have hfin : (do
          let t__32 ← Dyn.getAttr w.ext (Dyn.Val.obj (Obj.parser f)) "_raw_config"
          let _ ← Dyn.callMethod w.ext t__32 "dict" [] []
          let __x ← SrcC15.create_observation w.ext (Dyn.Val.dict (embCfg cfg))
          (Except.ok __x.fst : M V)) = lenientV w "observation" "observation" cfg := by
      simp only [getAttr_obj, ext_getattr_raw_config, bind_ok, callMethod_obj, ext_method_dict,
        src_create_observation_split w hw]
      cases lenientV w "observation" "observation" cfg <;> rfl
    -- the first file key present decides; next to another key it is the `KeyError` of the loop
    simp only [guard_bind, hlen]
    cases hk1 : Factory.hasKey cfg "lightcurve" with
    | true =>
      simp only [Bool.true_or, Bool.true_and, decide_eq_true_eq, if_true, getItem_of_hasKey w cfg _ hk1, bind_ok,
        String.reduceEq, decide_false, Bool.false_and, Bool.false_eq_true, if_false]
    | false =>
      cases hk2 : Factory.hasKey cfg "observed_spectrum" with
      | true =>
        simp only [Bool.true_or, Bool.or_true, Bool.true_and, decide_eq_true_eq, if_true, Bool.false_eq_true, if_false,
          getItem_of_hasKey w cfg _ hk2, bind_ok, String.reduceEq, decide_false, Bool.false_and]
      | false =>
        cases hk3 : Factory.hasKey cfg "taurex_spectrum" with
        | true =>
          have hv : IsData ((cfg.lookup "taurex_spectrum").getD (.scalar .none)) := by
            cases hlk : cfg.lookup "taurex_spectrum" with
            | none => trivial
            | some v => exact hd _ (mem_of_lookup cfg _ _ hlk)
          simp only [Bool.true_or, Bool.or_true, Bool.true_and, decide_eq_true_eq, if_true, Bool.false_eq_true, if_false,
            getItem_of_hasKey w cfg _ hk3, bind_ok, eqB_emb_str w _ hv, decide_true]
        | false =>
          cases hk4 : Factory.hasKey cfg "iraclis_spectrum" with
          | true =>
            simp only [Bool.or_true, Bool.true_and, decide_eq_true_eq, if_true, Bool.false_eq_true, if_false,
              getItem_of_hasKey w cfg _ hk4, bind_ok, String.reduceEq, decide_false, Bool.false_and]
          | false => simp only [Bool.or_self, Bool.false_and, Bool.false_eq_true, if_false, hfin]

/-- how the result of `generate_observation` is seen as a value -/
def obsOut (comp : Component → V) : Factory.ObsGraph → V
  | .self => .str "self"
  | .comp c => comp c

/-- `observationV` is the model's `generateObservation` once the constructor calls are the model's: the class imported for a
    file key, called with the file name, is the component `obsKeyClasses` names for that key -/
theorem observationV_eq_generateObservation (w : World) (comp : Component → V)
    (hinst : ∀ r kw, w.call (robjO r) [] (embKw kw) = embE comp (Factory.instantiate r kw))
    (hfile : ∀ p ∈ obsGlobals.zip Factory.obsKeyClasses, ∀ v, w.call (.fn p.1.2) [emb v] []
      = .ok (comp { cls := p.2.2, kwargs := [("filename", v)], mixins := [] }))
    (cfg : Config) :
    observationV w cfg = embE (obsOut comp) (Factory.generateObservation w.reg w.customs cfg) := by
  -- the four rows of `obsGlobals.zip obsKeyClasses`, each found at its position (no string is compared)
  have hf1 := hfile _ (List.mem_of_getElem? (i := 0) rfl)
  have hf2 := hfile _ (List.mem_of_getElem? (i := 1) rfl)
  have hf3 := hfile _ (List.mem_of_getElem? (i := 2) rfl)
  have hf4 := hfile _ (List.mem_of_getElem? (i := 3) rfl)
  simp only at hf1 hf2 hf3 hf4
  unfold observationV Factory.generateObservation
  simp only [obsGlobals, Factory.obsKeyClasses, List.find?_cons, List.find?_nil]
  -- the first file key present decides; next to another key it is a `KeyError` on both sides
  cases Factory.hasKey cfg "lightcurve" with
  | true => by_cases hl : cfg.length > 1 <;> simp [hl, hf1, embE, obsOut, errExc]
  | false =>
    cases Factory.hasKey cfg "observed_spectrum" with
    | true => by_cases hl : cfg.length > 1 <;> simp [hl, hf2, embE, obsOut, errExc]
    | false =>
      cases Factory.hasKey cfg "taurex_spectrum" with
      | true =>
        by_cases hl : cfg.length > 1 <;>
          by_cases hv : (List.lookup "taurex_spectrum" cfg).getD (Value.scalar Scalar.none) = Value.scalar (Scalar.str "self") <;>
          simp [hl, hv, hf3, embE, obsOut, errExc]
      | false =>
        cases Factory.hasKey cfg "iraclis_spectrum" with
        | true => by_cases hl : cfg.length > 1 <;> simp [hl, hf4, embE, obsOut, errExc]
        | false =>
          simp only [lenientV_eq_createLenient w comp hinst]
          cases Factory.createLenient (w.reg.sec "observation") w.customs "observation" "observation" cfg <;> rfl

/-! ## `create_snr`, `generate_instrument` -/

/-- the key check of `create_snr`: the first key other than `instrument` / `SNR` is a `KeyError` -/
theorem snr_loop (cfg : Config) (body : Unit → V → M Unit)
    (hb : ∀ k, body () (.str k) = if (k != "instrument" && k != "SNR") then .error .KeyError else .ok ()) :
    Dyn.forM ((embCfg cfg).map (·.1)) () body
      = match cfg.find? (fun kv => kv.1 != "instrument" && kv.1 != "SNR") with
        | some _ => .error .KeyError
        | none => .ok () := by
  rw [keys_embCfg, forM_guard _ (fun kv : String × Value => kv.1 != "instrument" && kv.1 != "SNR") .KeyError body
    (fun kv => hb kv.1)]
  cases h : cfg.find? (fun kv => kv.1 != "instrument" && kv.1 != "SNR") with
  | none => rw [if_neg fun ha => let ⟨x, hx, hp⟩ := List.any_eq_true.mp ha; List.find?_eq_none.mp h x hx hp]
  | some kv => rw [if_pos (List.any_eq_true.mpr ⟨kv, List.mem_of_find?_eq_some h, List.find?_some h⟩)]

/-- **`ParameterParser.create_snr(binner, config)`**: a key other than `instrument` / `SNR` is a `KeyError`; otherwise
    `SNRInstrument(SNR=config.get('SNR', 10), binner=binner)` -/
theorem src_create_snr (w : World) (binner : V) (hb : Dyn.Val.isNone binner = false) (cfg : Config) :
    SrcC15.create_snr w.ext binner (.dict (embCfg cfg))
      = match cfg.find? (fun kv => kv.1 != "instrument" && kv.1 != "SNR") with
        | some _ => .error .KeyError
        | none => w.call (.fn "SNRInstrument") []
            [("SNR", emb ((cfg.lookup "SNR").getD (.scalar (.int 10)))), ("binner", binner)] := by
  unfold SrcC15.create_snr
  simp only [hb, Bool.false_eq_true, if_false, iter_dict, pure_ok, bind_ok]
  rw [snr_loop cfg _ ?hbody]
  case hbody =>
    intro k
    simp only [contains_tuple, List.any_cons, List.any_nil, beq_str, Bool.or_false, pure_ok, bind_ok]
    have e1 : ("instrument" == k) = (k == "instrument") := BEq.comm
    have e2 : ("SNR" == k) = (k == "SNR") := BEq.comm
    rw [e1, e2]
    by_cases h1 : k = "instrument" <;> by_cases h2 : k = "SNR" <;> simp [bne, h1, h2]
  cases cfg.find? (fun kv => kv.1 != "instrument" && kv.1 != "SNR") with
  | some kv => rfl
  | none =>
    simp only [bind_ok, contains_cfg, call_obj, ext_global_fn, ext_call_fn,
      ne_eq, String.reduceEq, not_false_eq_true, mixinBases, lookup_cons_ite, List.lookup_nil, ↓reduceIte]
    cases hk : Factory.hasKey cfg "SNR" with
    | true => simp only [if_true, getItem_of_hasKey_default w cfg _ (.scalar (.int 10)) hk, bind_ok]
    | false =>
      simp only [Bool.false_eq_true, if_false, bind_ok, lookup_none_of_hasKey cfg _ hk, Option.getD_none]
      rfl

@[simp] theorem ext_truthy (w : World) (o : Obj) : w.ext.truthy o = .ok true := rfl

/-- `Factory.generateInstrument` with the constructor calls left to the world -/
def instrumentV (w : World) (cfg : Config) : M V :=
  let p : Value × Config := match Factory.popKey cfg "num_observations" with
    | some (v, c) => (v, c)
    | none => (.scalar (.int 1), cfg)
  match p.2.lookup "instrument" with
  | some (.scalar (.str sel)) =>
    if Factory.lower sel = "snr" || Factory.lower sel = "signalnoise" then
      match p.2.find? (fun kv => kv.1 != "instrument" && kv.1 != "SNR") with
      | some _ => .error .KeyError
      | none => w.call (.fn "SNRInstrument") []
          [("SNR", emb ((p.2.lookup "SNR").getD (.scalar (.int 10)))), ("binner", emb (.ref "binner"))] >>= fun i =>
            .ok (.tuple [i, emb p.1])
    else lenientV w "instrument" "instrument" p.2 >>= fun i => .ok (.tuple [i, emb p.1])
  | some _ => .error .AttributeError
  | none => lenientV w "instrument" "instrument" p.2 >>= fun i => .ok (.tuple [i, emb p.1])

theorem src_create_instrument_fst (w : World) (hw : WorldOK w) (cfg : Config) :
    (SrcC15.create_instrument w.ext (.dict (embCfg cfg)) >>= fun p => pure p.1)
      = lenientV w "instrument" "instrument" cfg := by
  rw [src_create_instrument_split w hw]
  cases lenientV w "instrument" "instrument" cfg <;> rfl

theorem instr_tail (w : World) (hw : WorldOK w) (c : Config) (n : V) :
    (do
      let x ← SrcC15.create_instrument w.ext (.dict (embCfg c))
      (pure (Dyn.Val.tuple [x.1, n]) : M V))
    = lenientV w "instrument" "instrument" c >>= fun i => .ok (.tuple [i, n]) := by
  rw [← src_create_instrument_fst w hw]
  cases SrcC15.create_instrument w.ext (.dict (embCfg c)) <;> rfl

/-- `generate_instrument` once `num_observations` has been popped -/
theorem instrument_core (w : World) (hw : WorldOK w) (cfg1 : Config) (nobs : V) (k : Flow Unit V → M V)
    (hk1 : ∀ v, k (.ret v) = .ok v)
    (hk2 : k (.next ()) = (do
      let x ← SrcC15.create_instrument w.ext (.dict (embCfg cfg1))
      pure (Dyn.Val.tuple [x.1, nobs]))) :
    (do
      let t6 ← Dyn.contains w.ext (Dyn.Val.str "instrument") (.dict (embCfg cfg1))
      let t14 ← (if t6 = true then do
          let t8 ← Dyn.truthy w.ext (emb (Value.ref "binner"))
          let t9 ← (if t8 = true then pure (emb (Value.ref "binner")) else w.ext.global "NativeBinner" : M V)
          let t10 ← Dyn.getItem w.ext (.dict (embCfg cfg1)) (Dyn.Val.str "instrument")
          let t11 ← Dyn.m_lower w.ext t10
          let t12 ← Dyn.contains w.ext t11 (Dyn.Val.tuple [Dyn.Val.str "snr", Dyn.Val.str "signalnoise"])
          if t12 = true then do
            let t13 ← SrcC15.create_snr w.ext t9 (.dict (embCfg cfg1))
            pure (Flow.ret (Dyn.Val.tuple [t13, nobs]))
          else pure (Flow.next ())
        else pure (Flow.next ()) : M (Flow Unit V))
      k t14)
    = match cfg1.lookup "instrument" with
      | some (.scalar (.str sel)) =>
        if Factory.lower sel = "snr" || Factory.lower sel = "signalnoise" then
          match cfg1.find? (fun kv => kv.1 != "instrument" && kv.1 != "SNR") with
          | some _ => .error .KeyError
          | none => w.call (.fn "SNRInstrument") []
              [("SNR", emb ((cfg1.lookup "SNR").getD (.scalar (.int 10)))), ("binner", emb (.ref "binner"))] >>= fun i =>
                .ok (.tuple [i, nobs])
        else lenientV w "instrument" "instrument" cfg1 >>= fun i => .ok (.tuple [i, nobs])
      | some _ => .error .AttributeError
      | none => lenientV w "instrument" "instrument" cfg1 >>= fun i => .ok (.tuple [i, nobs]) := by
  simp only [contains_cfg, pure_ok, bind_ok]
  cases hk : Factory.hasKey cfg1 "instrument" with
  | false =>
    simp only [Bool.false_eq_true, if_false, bind_ok, lookup_none_of_hasKey cfg1 _ hk, hk2]
    exact instr_tail w hw cfg1 nobs
  | true =>
    obtain ⟨v, hv⟩ := lookup_some_of_hasKey cfg1 _ hk
    have hget := getItem_of_hasKey w cfg1 _ hk
    simp only [hv, Option.getD_some] at hget
    have hbin : Dyn.truthy w.ext (emb (Value.ref "binner")) = .ok true := ext_truthy w _
    simp only [if_true, hbin, bind_ok, hget, m_lower_emb, hv]
    cases v with
    | scalar x =>
      cases x with
      | str sel =>
        simp only [dyn_eval, List.any_cons, List.any_nil, Bool.or_false]
        have e1 : ("snr" == Factory.lower sel) = decide (Factory.lower sel = "snr") := by
          rw [BEq.comm]; rfl
        have e2 : ("signalnoise" == Factory.lower sel) = decide (Factory.lower sel = "signalnoise") := by
          rw [BEq.comm]; rfl
        rw [e1, e2]
        cases hsn : (decide (Factory.lower sel = "snr") || decide (Factory.lower sel = "signalnoise")) with
        | true =>
          simp only [if_true, src_create_snr w (emb (Value.ref "binner")) rfl cfg1]
          cases cfg1.find? (fun kv => kv.1 != "instrument" && kv.1 != "SNR") with
          | some kv => rfl
          | none =>
            simp only []
            cases w.call (.fn "SNRInstrument") []
              [("SNR", emb ((cfg1.lookup "SNR").getD (.scalar (.int 10)))), ("binner", emb (.ref "binner"))] with
            | error e => rfl
            | ok i => simp only [bind_ok, hk1]
        | false =>
          simp only [Bool.false_eq_true, if_false, bind_ok, hk2]
          exact instr_tail w hw cfg1 nobs
      | _ => rfl
    | _ => rfl

/-- **`generate_instrument(binner)`** is `Factory.generateInstrument` (constructor calls left to the world): `None`
    without an `[Instrument]` section; `num_observations` is popped (default 1); the selectors `snr` / `signalnoise` (any
    letter case) go to `create_snr` with the given binner, everything else to `create_instrument`; the result is the pair
    `(instrument, num_observations)` -/
theorem src_generate_instrument (w : World) (hw : WorldOK w) (f : InputFile) (hf : FlatSection f "Instrument") :
    SrcC15.generate_instrument w.ext (.obj (.parser f)) (emb (.ref "binner"))
      = optV ((Factory.sectionOf f "Instrument").map (fun s => instrumentV w s.scalars)) := by
  unfold SrcC15.generate_instrument
  rw [parser_section w f "Instrument"]
  cases hs : Factory.sectionOf f "Instrument" with
  | none => rfl
  | some s =>
    obtain ⟨h1, h2⟩ := hf s hs
    simp only [h1, embSec_nil, Option.map_some, optV]
    generalize s.scalars = cfg at h2 ⊢
    unfold instrumentV
    simp only [m_pop_emb]
    cases hp : Factory.popKey cfg "num_observations" with
    | none =>
      have hi : Exc.isaAny Exc.KeyError [Exc.KeyError] = true := rfl
      simp only [throw_err, bind_err, try_err, hi, if_true, pure_ok, bind_ok]
      exact instrument_core w hw cfg (emb (.scalar (.int 1))) _ (fun v => rfl) rfl
    | some p =>
      obtain ⟨nobs, cfg1⟩ := p
      simp only [bind_ok, pure_ok, try_ok]
      exact instrument_core w hw cfg1 (emb nobs) _ (fun v => rfl) rfl

/-- how the result of `generate_instrument` is seen as a value: the pair `(instrument, num_observations)` -/
def instOut (comp : Component → V) (g : Factory.InstrumentGraph) : V := .tuple [comp g.instrument, emb g.numObs]

/-- `instrumentV` is the model's `generateInstrument` once the constructor calls are the model's -/
theorem instrumentV_eq_generateInstrument (w : World) (comp : Component → V)
    (hinst : ∀ r kw, w.call (robjO r) [] (embKw kw) = embE comp (Factory.instantiate r kw))
    (hsnr : ∀ v, w.call (.fn "SNRInstrument") [] [("SNR", emb v), ("binner", emb (.ref "binner"))]
      = .ok (comp { cls := "taurex.instruments.snr.SNRInstrument", kwargs := [("SNR", v), ("binner", .ref "binner")],
                    mixins := [] }))
    (cfg : Config) :
    instrumentV w cfg = embE (instOut comp) (Factory.generateInstrument w.reg w.customs cfg) := by
  unfold instrumentV Factory.generateInstrument
  have hlen : ∀ (c : Config) (n : Value),
      (lenientV w "instrument" "instrument" c >>= fun i => (Except.ok (Dyn.Val.tuple [i, emb n]) : M V))
        = embE (instOut comp) ((Factory.createLenient (w.reg.sec "instrument") w.customs "instrument" "instrument" c).map
            (fun c => { instrument := c, numObs := n })) := by
    intro c n
    rw [lenientV_eq_createLenient w comp hinst]
    cases Factory.createLenient (w.reg.sec "instrument") w.customs "instrument" "instrument" c <;> rfl
  -- both sides go on with the same pair `(n, c)`: `num_observations` popped from the section, or 1 and the section itself
  rcases Factory.popKey cfg "num_observations" with _ | ⟨n, c⟩
  case' none => generalize Value.scalar (Scalar.int 1) = n, cfg = c
  all_goals
    dsimp only
    cases c.lookup "instrument" with
    | none => exact hlen c n
    | some v =>
      cases v with
      | scalar x =>
        cases x with
        | str sel =>
          dsimp only
          split
          · cases c.find? (fun kv => kv.1 != "instrument" && kv.1 != "SNR") with
            | some kv => rfl
            | none => simp only [hsnr, bind_ok]; rfl
          · exact hlen c n
        | _ => rfl
      | _ => rfl

/-! ## `generate_model` -/

/-- **`generate_model()`** (no component given): `None` without a `[Model]` section; otherwise the chemistry, the pressure
    profile, the temperature profile, the planet and the star are generated — in this order, each by its own
    `generate_<x>` — and `create_model` is called on the section with (chemistry, temperature, pressure, planet, star) and
    the given observation -/
theorem src_generate_model (w : World) (f : InputFile) (obs : V) :
    SrcC15.generate_model w.ext (.obj (.parser f)) .none .none .none .none .none obs
      = optV ((Factory.sectionOf f "Model").map (fun s => do
          let chem ← SrcC15.generate_chemistry_profile w.ext (.obj (.parser f))
          let pres ← SrcC15.generate_pressure_profile w.ext (.obj (.parser f))
          let temp ← SrcC15.generate_temperature_profile w.ext (.obj (.parser f))
          let planet ← SrcC15.generate_planet w.ext (.obj (.parser f))
          let star ← SrcC15.generate_star w.ext (.obj (.parser f))
          let p ← SrcC15.create_model w.ext (.dict (embSec s.scalars s.subs)) chem temp pres planet star obs
          pure p.1)) := by
  unfold SrcC15.generate_model
  obtain ⟨h1, h2⟩ := sectionOf_embFile f "Model"
  simp only [dyn_eval, ext_getattr_raw_config, ext_method_dict, h1, h2]
  cases Factory.sectionOf f "Model" with
  | none => rfl
  | some s =>
    simp only [Option.isSome_some, if_true, Option.map_some, optV, bind_ok, bind_assoc]

/-- `Factory.createModel` on a `[Model]` section with the constructor calls left to the world (the RHS of `src_create_model`) -/
def modelV (w : World) (hasChemistry : Bool) (s : Sec) : M V :=
  match Factory.determineKlass (w.reg.sec "model") w.customs "model" "model_type" s.scalars with
  | .error e => .error (errExc e)
  | .ok (cfg1, r) =>
    if !hasChemistry then .error .AttributeError
    else (w.call (robjO r) [] (embKw (modelKwargs r cfg1)) >>= modelTail w s.subs cfg1) >>= fun p => pure p.1

/-- the hypotheses of `src_create_model` for the `[Model]` section of a file -/
def ModelSection (w : World) (f : InputFile) : Prop :=
  ∀ s, Factory.sectionOf f "Model" = some s →
    ((s.scalars.map (·.1)) ++ s.subs.map (·.1)).Nodup ∧ (∀ sub ∈ s.subs, KeysNodup sub.2) ∧
    (∀ kv ∈ s.scalars, Factory.lookup (w.reg.sec "contribution").classes kv.1 = none) ∧
    KeyFree (subsEmb s.subs) "model_type" ∧ KeyFree (subsEmb s.subs) "python_file"

/-- **`generate_model()`** is the `model` slot of `Factory.expected` — `createModel` on the `[Model]` section, told
    whether the file has a `[Chemistry]` section — in a world where the generated components are the values the model's
    `Value.ref` names stand for (`None` for the chemistry of a file without `[Chemistry]`) -/
theorem src_generate_model_refs (w : World) (hw : WorldOK w) (hcall : CallOK w) (f : InputFile) (hm : ModelSection w f)
    (hchem : SrcC15.generate_chemistry_profile w.ext (.obj (.parser f))
      = .ok (gasArg (Factory.sectionOf f "Chemistry").isSome))
    (hpres : SrcC15.generate_pressure_profile w.ext (.obj (.parser f)) = .ok (emb (.ref "pressure")))
    (htemp : SrcC15.generate_temperature_profile w.ext (.obj (.parser f)) = .ok (emb (.ref "temperature")))
    (hplanet : SrcC15.generate_planet w.ext (.obj (.parser f)) = .ok (emb (.ref "planet")))
    (hstar : SrcC15.generate_star w.ext (.obj (.parser f)) = .ok (emb (.ref "star"))) :
    SrcC15.generate_model w.ext (.obj (.parser f)) .none .none .none .none .none (emb (.ref "observation"))
      = optV ((Factory.sectionOf f "Model").map (modelV w (Factory.sectionOf f "Chemistry").isSome)) := by
  rw [src_generate_model]
  cases hs : Factory.sectionOf f "Model" with
  | none => rfl
  | some s =>
    obtain ⟨a1, a2, a3, a4, a5⟩ := hm s hs
    simp only [Option.map_some, optV, hchem, hpres, htemp, hplanet, hstar, bind_ok,
      src_create_model w hw hcall s.scalars s.subs _ a1 a2 a3 a4 a5, modelV]
    cases Factory.determineKlass (w.reg.sec "model") w.customs "model" "model_type" s.scalars with
    | error e => rfl
    | ok p =>
      obtain ⟨cfg1, r⟩ := p
      simp only []
      cases (Factory.sectionOf f "Chemistry").isSome <;> rfl

/-- `modelV` is the model's `createModel` once the constructor calls are the model's `instantiate` (parameter names
    distinct): the model component and its contributions, each contribution then added by `add_contribution` -/
theorem modelV_eq_createModel (w : World) (comp : Component → V)
    (hinst : ∀ r kw, w.call (robjO r) [] (embKw kw) = embE comp (Factory.instantiate r kw)) (hnd : ParamsNodup w)
    (hndc : ∀ k ∈ (w.reg.sec "contribution").classes, KeysNodup k.kwargs) (hasChemistry : Bool) (s : Sec) :
    modelV w hasChemistry s
      = match Factory.createModel w.reg w.customs hasChemistry s with
        | .error e => .error (errExc e)
        | .ok g => addContribs w (comp g.model) (g.contributions.map comp) := by
  unfold modelV Factory.createModel
  cases hd : Factory.determineKlass (w.reg.sec "model") w.customs "model" "model_type" s.scalars with
  | error e => rfl
  | ok p =>
    obtain ⟨cfg1, r⟩ := p
    have hk : kwargDictP r = Factory.kwargDict r := kwargDictP_eq r (fun k hr => hnd _ _ _ cfg1 k (hr ▸ hd))
    cases hasChemistry with
    | false => rfl
    | true =>
      simp only [modelKwargs, hk, hinst, bind, Except.bind, Bool.not_true, Bool.false_eq_true, if_false, modelTail,
        contribsV_eq_contribsOf w (w.reg.sec "contribution") comp (fun k kw => hinst (.plain k) kw) hndc,
        Factory.generateContributions]
      cases Factory.instantiate r _ with
      | error e => rfl
      | ok m =>
        simp only [embE]
        cases Factory.contribsOf (w.reg.sec "contribution") s.subs with
        | error e => rfl
        | ok cs =>
          simp only []
          by_cases ha : (s.subs.all fun sub => (Factory.lookup (w.reg.sec "contribution").classes sub.1).isSome) = true
          · simp only [ha, if_true, pure, Except.pure]
            cases addContribs w (comp m) (cs.map comp) <;> rfl
          · simp only [ha, Bool.false_eq_true, if_false]
            rfl

/-! ## `detect_and_return_klass` and `build_new_mixed_class` themselves

  `determine_klass` (above) reaches these two functions through the oracle, which answers with the model's `detectKlass` /
  `Resolved.mixed`.  Here the two functions are translated themselves and run against the lower-level oracle `detectExt`
  (Proofs/C15SrcDetect.lean) that only knows what THEY delegate to — importlib's file loading, `inspect.getmembers` (the
  classes of the module sorted by name, with whatever section base classes the file has imported in between),
  `issubclass`, `type(name, bases, namespace)`, `hasattr(·, '__len__')`.  The theorems: the regenerated function returns
  exactly what the main oracle answers for it, for every world and every placement of imported base classes. -/

/-- **`detect_and_return_klass(python_file, baseclass)`**: load the file, `classes = [m[1] for m in
    inspect.getmembers(foo, inspect.isclass) if m[1] is not baseclass and issubclass(m[1], baseclass)]` — the candidates are
    the classes that derive from the section's base, the base class itself (usually imported into the file) is excluded by
    identity, other sections' bases do not derive from it —, `Exception` when there is none, else `classes[0]`: the first
    candidate in `getmembers`' name order.  That is the model's `detectKlass` (which selects, then sorts:
    `filter_sortByName`); a file the world does not have makes `exec_module` raise. -/
theorem src_detect_and_return_klass (w : World) (imp : String → Imports) (file n sec : String) :
    Gen.SrcC15.detect_and_return_klass (detectExt w imp) (.str file) (.obj (.base n sec))
      = w.ext.call (.fn "detect_and_return_klass") [.str file, .obj (.base n sec)] [] := by
  rw [ext_call_detect_str]
  unfold Gen.SrcC15.detect_and_return_klass
  simp only [dx_global_importlib, dx_global_inspect, bind_ok, getAttr_obj, dx_getattr_util, callMethod_obj, dx_spec,
    dx_module_from_spec, dx_getattr_loader, dx_exec_module, dx_getattr_isclass, dx_getmembers]
  cases hl : w.customs.lookup file with
  | none => rfl
  | some members =>
    simp only [bind_ok, iter_list, pure_ok]
    unfold membersOf
    rw [comprehension w imp (imp file) n sec _ (pass_member w imp n sec)]
    simp only [bind_ok, List.nil_append]
    rw [pick_first w imp members sec, C15L.filter_sortByName]
    rfl

/-- **`build_new_mixed_class(base_klass, mixins)`** for a list of mixins: `all_classes = tuple(mixins) + (base_klass,)` — the
    bases of the new class in MRO order, mixins first, the base class LAST —, `new_name = '+'.join(x.__name__[:10] …)`,
    `type(new_name, all_classes, {'__init__': mixed_init})`: the class `mixed ms b` of the model, `TypeError` for a repeated
    mixin (`hb`: the base class is not one of the mixins — the registries keep mixins and classes apart). -/
theorem src_build_new_mixed_class (w : World) (imp : String → Imports) (b : Klass) (ms : List Klass)
    (hb : (ms.map (·.path)).contains b.path = false) :
    Gen.SrcC15.build_new_mixed_class (detectExt w imp) (kobj b) (.list (ms.map kobj))
      = w.ext.call (.fn "build_new_mixed_class") [kobj b, .list (ms.map kobj)] [] := by
  rw [ext_call_build]
  unfold Gen.SrcC15.build_new_mixed_class
  simp only [dx_hasattr_list, bind_ok, truthy_bool, pure_ok, Bool.not_true, Bool.false_eq_true, if_false, iter_list,
    add_tuple, iter_tuple]
  have hmap : (ms.map kobj ++ [kobj b]) = (ms ++ [b]).map kobj := by simp
  rw [hmap, names_join]
  simp only [bind_ok]
  rw [join_strs]
  simp only [bind_ok, dx_global_mixed_init, dx_type3]
  unfold typeOf
  rw [mapM_unKlass (ms ++ [b])]
  simp only [List.getLast?_append, List.getLast?_singleton, Option.some_or, List.dropLast_concat, List.map_append,
    List.map_cons, List.map_nil, hasDup_snoc, hb, Bool.or_false, bind_ok_right]

end Taurex.C15Src
