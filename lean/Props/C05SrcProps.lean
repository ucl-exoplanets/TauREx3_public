/-
  C05 — the property theorems restated about the REGENERATED source.  `Props/C05Src.lean` proves that the definitions
  translated on every run from `FluxBinner.bindown` (its calling patterns: `grid_width` absent, an array or one number, each with / without
  `error`), `FluxBinner.__init__` (three width modes), `util.bindown` and `NativeBinner.bindown` compute the model's
  `fluxBindown`, `fluxBindownErr`, `targetBins`, `histMean1`, `nativeBindown`; `Props/C05.lean` proves the property about
  these.  The corollaries below compose the two: they are statements about the text of the code, at the real
  carrier.

  What is composed.  The arrays the code receives are the columns of the rows (`wngrid = rows.map Row.c`, `spectrum =
  rows.map Row.s`, `grid_width = rows.map Row.w`, `error = rows.map Row.e`), exactly as in the tie theorems.
    * `srcBindown explicit rows targets` = the binned spectrum `FluxBinner.bindown(…)[1]` of the regenerated method
      (`explicit`: `grid_width` passed; otherwise mid-point widths from the regenerated `compute_bin_edges`), for a binner
      whose attributes are the columns of `targets`; `srcBin … i` its entry `i`, the model's `fluxBinVal Row.s (nativeBins
      explicit rows) t.lo t.hi` for the target `t = targets[i]` (hypothesis `targets[i]? = some t` kept visible).
      `srcErr … i`: entry `i` of the binned error `…[2]` when `error` is passed.
    * `srcInit mode ts` = what the regenerated `FluxBinner.__init__` stores (`_wngrid`, `_wngrid_width`); tie hypothesis:
      a non-empty grid when no widths are given.
    * `srcHist rows nb` = the regenerated `util.bindown` on 1-D data, with `np.histogram` instantiated by its documented
      behaviour (`npHistogram`, `npHistogramW`: the ASSUMPTION of the tie); tie hypothesis `nb ≠ []`.
    * `Gen.SrcC05.nativebinner_bindown`.
    * `srcHistN rows nb` = the regenerated `util.bindown` on ONE ROW of 2-D data (the `np.digitize` path: the leading axis is
      lifted by the translator, the code is point-wise in it), `np.digitize(…, right=True)` instantiated by numpy's
      evaluation for increasing edges (`npDigitize`: the number of edges below the point — the ASSUMPTION of the tie);
      `= histMeanN` for strictly increasing edges (`srcHistN_eq`; tie hypotheses `nb ≠ []`, `(histEdges nb).Pairwise (<)`);
      the `histMeanN` conjuncts of `hist_mean` / `hist_perm_native` are restated (`src_hist_mean_nd`,
      `src_hist_perm_native_nd`).
    * `Gen.SrcC05.fluxbinner_bindown_s`: `FluxBinner.bindown` called with ONE number as `grid_width`; it is `srcBindown true`
      of the rows with every width set to that number (`src_bindown_scalar_eq`), so every statement about `srcBindown true`
      applies.
  The spectrum of the source is always the column `Row.s`, the error the column `Row.e` (the model theorems quantify over
  an arbitrary `val : Row ℝ → ℝ`; every such spectrum is the `s` column of some rows).  `src_linear` therefore takes the two
  spectra to be the columns `s` and `e` of the rows (two arbitrary spectra on one grid) and `withSpectrum` to put a
  combination of them in the spectrum column; `fluxBinVal_map` / `nativeBins_map` (the binned value only reads a row's
  spectrum through `val`) carry this through the sort.

  Not restated (no tie)
    * `window_is_overlap`, the second conjunct of `outside_is_zero` and the first of `outside_range_is_skipped`: about the
      model's `window` / `slice`, loop-internal values `bindown` does not return (the conjuncts about the returned value ARE
      restated, the others kept as they are, about the model).
    * `sorted_is_perm`: the source sorts columns, not rows; there is no regenerated expression for the sorted row list.
    * `Binner.generate_spectrum_output`: no statement of C05 is about it; it is regenerated and tied for all four binner classes
      in `Props/C16Src.lean` / `Props/C16SrcProps.lean` (generic in `self.bindown`, which is the function tied here).
    * `disjoint_bins_are_ordered`, `midpoint_bins_ordered`, `linear_grid_ordered`, `geometric_grid_ordered`, `perm_spec`:
      statements about the guard `OrderedBins` / the specification `overlapMeanSpec` only (no function of the code in the
      conclusion); the grid-family results they feed, `flux_is_overlap_mean_linear / _geometric`, are restated.
-/
import Props.C05
import Props.C05Src
set_option linter.unusedSectionVars false

namespace Taurex.C05SrcProps
open Taurex.Binning Taurex.Gen Taurex.C05 Taurex.C05Src

/-! ### `FluxBinner.bindown` -/

/-- `FluxBinner.bindown(wngrid, spectrum[, grid_width])[1]` of the regenerated method for a binner with attributes
    `attrs = (_wngrid, _wngrid_width)` -/
noncomputable def srcBindownAttr (explicit : Bool) (rows : List (Row ℝ)) (attrs : List ℝ × List ℝ) : List ℝ :=
  if explicit then
    (SrcC05.fluxbinner_bindown_w (rows.map Row.c) (rows.map Row.s) (rows.map Row.w) attrs.1 attrs.2).2.1
  else (SrcC05.fluxbinner_bindown (rows.map Row.c) (rows.map Row.s) attrs.1 attrs.2).2.1

/-- … for the binner whose (sorted) bins are `targets` -/
noncomputable def srcBindown (explicit : Bool) (rows : List (Row ℝ)) (targets : List (TBin ℝ)) : List ℝ :=
  srcBindownAttr explicit rows (targets.map TBin.c, targets.map TBin.w)

theorem srcBindown_eq (explicit : Bool) (rows : List (Row ℝ)) (targets : List (TBin ℝ)) :
    srcBindown explicit rows targets = fluxBindown explicit Row.s rows targets := by
  cases explicit
  · simp only [srcBindown, srcBindownAttr, Bool.false_eq_true, if_false]
    exact src_bindown_midpoint rows targets
  · simp only [srcBindown, srcBindownAttr, if_true]
    exact src_bindown_widths rows targets

noncomputable def srcBin (explicit : Bool) (rows : List (Row ℝ)) (targets : List (TBin ℝ)) (i : ℕ) : ℝ :=
  (srcBindown explicit rows targets).getD i 0

theorem srcBin_eq (explicit : Bool) (rows : List (Row ℝ)) (targets : List (TBin ℝ)) (i : ℕ) (t : TBin ℝ)
    (ht : targets[i]? = some t) :
    srcBin explicit rows targets i = fluxBinVal Row.s (nativeBins explicit rows) t.lo t.hi := by
  unfold srcBin
  rw [srcBindown_eq]
  simp [fluxBindown, List.getD_eq_getElem?_getD, List.getElem?_map, ht]

/-- entry `i` of the binned error `FluxBinner.bindown(wngrid, spectrum[, grid_width], error=…)[2]` -/
noncomputable def srcErr (explicit : Bool) (rows : List (Row ℝ)) (targets : List (TBin ℝ)) (i : ℕ) : ℝ :=
  (if explicit then
    (SrcC05.fluxbinner_bindown_we (rows.map Row.c) (rows.map Row.s) (rows.map Row.w) (rows.map Row.e)
      (targets.map TBin.c) (targets.map TBin.w)).2.2.1
   else (SrcC05.fluxbinner_bindown_e (rows.map Row.c) (rows.map Row.s) (rows.map Row.e)
      (targets.map TBin.c) (targets.map TBin.w)).2.2.1).getD i 0

theorem srcErr_eq (explicit : Bool) (rows : List (Row ℝ)) (targets : List (TBin ℝ)) (i : ℕ) (t : TBin ℝ)
    (ht : targets[i]? = some t) :
    srcErr explicit rows targets i = fluxBinErr Row.e (nativeBins explicit rows) t.lo t.hi := by
  cases explicit
  · simp only [srcErr, Bool.false_eq_true, if_false]
    rw [src_bindown_midpoint_err]
    simp [fluxBindownErr, List.getD_eq_getElem?_getD, List.getElem?_map, ht]
  · simp only [srcErr, if_true]
    rw [src_bindown_widths_err]
    simp [fluxBindownErr, List.getD_eq_getElem?_getD, List.getElem?_map, ht]

section bin
variable (explicit : Bool) (rows : List (Row ℝ)) (targets : List (TBin ℝ)) (i : ℕ) (t : TBin ℝ)

/-- **flux_is_overlap_mean**, about the regenerated `FluxBinner.bindown`: for every target bin that overlaps the native
    grid the code returns `Σ overlap·s / Σ overlap` over all native bins -/
theorem src_flux_is_overlap_mean (ht : targets[i]? = some t) (hne : nativeBins explicit rows ≠ [])
    (hord : OrderedBins (nativeBins explicit rows)) (hw : ∀ r ∈ nativeBins explicit rows, r.lo ≤ r.hi)
    (hab : t.lo < t.hi) (hpos : 0 < sumL ((nativeBins explicit rows).map (overlap t.lo t.hi))) :
    srcBin explicit rows targets i = overlapMeanSpec Row.s (nativeBins explicit rows) t.lo t.hi := by
  rw [srcBin_eq explicit rows targets i t ht]
  exact flux_is_overlap_mean Row.s _ _ _ hne hord hw hab hpos

/-- **const_preserved**, about the regenerated `FluxBinner.bindown`: a constant spectrum stays constant -/
theorem src_const_preserved (ht : targets[i]? = some t) (k : ℝ) (hne : nativeBins explicit rows ≠ [])
    (hord : OrderedBins (nativeBins explicit rows)) (hw : ∀ r ∈ nativeBins explicit rows, r.lo ≤ r.hi)
    (hab : t.lo < t.hi) (hpos : 0 < sumL ((nativeBins explicit rows).map (overlap t.lo t.hi)))
    (hk : ∀ r ∈ nativeBins explicit rows, r.s = k) :
    srcBin explicit rows targets i = k := by
  rw [srcBin_eq explicit rows targets i t ht]
  exact const_preserved Row.s _ _ _ k hne hord hw hab hpos hk

/-- **between_min_max**, about the regenerated `FluxBinner.bindown`: the binned value lies between the smallest and largest
    native values among the bins that overlap the target -/
theorem src_between_min_max (ht : targets[i]? = some t) (m M : ℝ) (hne : nativeBins explicit rows ≠ [])
    (hord : OrderedBins (nativeBins explicit rows)) (hw : ∀ r ∈ nativeBins explicit rows, r.lo ≤ r.hi)
    (hab : t.lo < t.hi) (hpos : 0 < sumL ((nativeBins explicit rows).map (overlap t.lo t.hi)))
    (hb : ∀ r ∈ nativeBins explicit rows, 0 < overlap t.lo t.hi r → m ≤ r.s ∧ r.s ≤ M) :
    m ≤ srcBin explicit rows targets i ∧ srcBin explicit rows targets i ≤ M := by
  rw [srcBin_eq explicit rows targets i t ht]
  exact between_min_max Row.s _ _ _ m M hne hord hw hab hpos hb

/-- **error_quadrature**, about the regenerated `FluxBinner.bindown(…, error=…)`: `sqrt(Σ overlap²·e²) / Σ overlap` -/
theorem src_error_quadrature (ht : targets[i]? = some t) (hne : nativeBins explicit rows ≠ [])
    (hord : OrderedBins (nativeBins explicit rows)) (hw : ∀ r ∈ nativeBins explicit rows, r.lo ≤ r.hi)
    (hab : t.lo < t.hi) (hpos : 0 < sumL ((nativeBins explicit rows).map (overlap t.lo t.hi))) :
    srcErr explicit rows targets i = quadErrSpec Row.e (nativeBins explicit rows) t.lo t.hi := by
  rw [srcErr_eq explicit rows targets i t ht]
  exact error_quadrature Row.e _ _ _ hne hord hw hab hpos

/-- **outside_is_zero**, about the regenerated `FluxBinner.bindown`: a target bin strictly outside every native bin comes
    out as 0 (second conjunct: about the model's loop, the slice is empty — no division happened) -/
theorem src_outside_is_zero (ht : targets[i]? = some t) (hne : nativeBins explicit rows ≠ [])
    (hord : OrderedBins (nativeBins explicit rows))
    (hout : ∀ r ∈ nativeBins explicit rows, r.hi < t.lo ∨ t.hi < r.lo) :
    srcBin explicit rows targets i = 0 ∧
    (∀ s u, window (nativeBins explicit rows) t.lo t.hi = some (s, u) → slice (nativeBins explicit rows) s u = []) := by
  rw [srcBin_eq explicit rows targets i t ht]
  exact outside_is_zero Row.s _ _ _ hne hord hout

/-- beyond either end of the native range the bin is skipped: the regenerated `FluxBinner.bindown` returns 0 for the
    spectrum and 0 for the error -/
theorem src_outside_range_is_skipped (ht : targets[i]? = some t) (hne : nativeBins explicit rows ≠ [])
    (hout : (∀ r ∈ nativeBins explicit rows, r.hi < t.lo) ∨ (∀ r ∈ nativeBins explicit rows, t.hi < r.lo)) :
    window (nativeBins explicit rows) t.lo t.hi = none ∧ srcBin explicit rows targets i = 0 ∧
    srcErr explicit rows targets i = 0 := by
  rw [srcBin_eq explicit rows targets i t ht, srcErr_eq explicit rows targets i t ht]
  have h := outside_range_is_skipped (nativeBins explicit rows) t.lo t.hi hne hout
  exact ⟨h.1, h.2.1 Row.s, h.2.2 Row.e⟩

end bin

/-- **flux_is_overlap_mean_linear**, about the regenerated `FluxBinner.bindown(wngrid, spectrum)` (mid-point widths from the
    regenerated `compute_bin_edges`): on a linear native grid no per-case guard is needed -/
theorem src_flux_is_overlap_mean_linear (rows : List (Row ℝ)) (targets : List (TBin ℝ)) (i : ℕ) (t : TBin ℝ)
    (ht : targets[i]? = some t) (d : ℝ) (hn : 2 ≤ rows.length) (hd : 0 < d)
    (hlin : ∀ i, i + 1 < (rows.map Row.c).length → spacing (rows.map Row.c) i = d) (hab : t.lo < t.hi)
    (hpos : 0 < sumL ((nativeBins false rows).map (overlap t.lo t.hi))) :
    srcBin false rows targets i = overlapMeanSpec Row.s (nativeBins false rows) t.lo t.hi := by
  rw [srcBin_eq false rows targets i t ht]
  exact flux_is_overlap_mean_linear Row.s rows _ _ d hn hd hlin hab hpos

/-- **flux_is_overlap_mean_geometric**, likewise on a geometric native grid (`1 < r ≤ 4`) -/
theorem src_flux_is_overlap_mean_geometric (rows : List (Row ℝ)) (targets : List (TBin ℝ)) (i : ℕ) (t : TBin ℝ)
    (ht : targets[i]? = some t) (r : ℝ) (hn : 2 ≤ rows.length) (h0 : 0 < (rows.map Row.c).getD 0 0) (hr1 : 1 < r)
    (hr4 : r ≤ 4)
    (hgeo : ∀ i, i + 1 < (rows.map Row.c).length →
      (rows.map Row.c).getD (i + 1) 0 = r * (rows.map Row.c).getD i 0) (hab : t.lo < t.hi)
    (hpos : 0 < sumL ((nativeBins false rows).map (overlap t.lo t.hi))) :
    srcBin false rows targets i = overlapMeanSpec Row.s (nativeBins false rows) t.lo t.hi := by
  rw [srcBin_eq false rows targets i t ht]
  exact flux_is_overlap_mean_geometric Row.s rows _ _ r hn h0 hr1 hr4 hgeo hab hpos

/-! ### linearity in the spectrum -/

/-- the same native points with `h(spectrum, error)` in the spectrum column -/
def withSpectrum (h : ℝ → ℝ → ℝ) (r : Row ℝ) : Row ℝ := { r with s := h r.s r.e }

theorem fluxBinVal_map (g : Row ℝ → Row ℝ) (hlo : ∀ r, (g r).lo = r.lo) (hhi : ∀ r, (g r).hi = r.hi)
    (val : Row ℝ → ℝ) (R : List (Row ℝ)) (a b : ℝ) :
    fluxBinVal val (R.map g) a b = fluxBinVal (fun r => val (g r)) R a b := by
  simp only [fluxBinVal_rows, List.map_map, show Row.lo ∘ g = Row.lo from funext hlo,
    show Row.hi ∘ g = Row.hi from funext hhi]
  rfl

theorem nativeBins_map (explicit : Bool) (h : ℝ → ℝ → ℝ) (rows : List (Row ℝ)) :
    nativeBins explicit (rows.map (withSpectrum h)) = (nativeBins explicit rows).map (withSpectrum h) := by
  have hs : sortBy Row.c (rows.map (withSpectrum h)) = (sortBy Row.c rows).map (withSpectrum h) :=
    Np.sortBy_map Row.c (withSpectrum h) rows
  have hc : ∀ R : List (Row ℝ), (R.map (withSpectrum h)).map Row.c = R.map Row.c := by
    intro R; rw [List.map_map]; exact List.map_congr_left (fun r _ => rfl)
  cases explicit
  · simp only [nativeBins, Bool.false_eq_true, if_false, hs, hc]
    simp only [withWidths, List.zipWith_map_left, List.map_zipWith]
    rfl
  · simp only [nativeBins, if_true, hs]

/-- **linear**, about the regenerated `FluxBinner.bindown`: binning `k₁·x + k₂·y` (the two spectra `x`, `y` being the
    columns `s` and `e` of the rows) gives `k₁·bin(x) + k₂·bin(y)` — no guard at all -/
theorem src_linear (explicit : Bool) (rows : List (Row ℝ)) (targets : List (TBin ℝ)) (i : ℕ) (t : TBin ℝ)
    (ht : targets[i]? = some t) (k₁ k₂ : ℝ) :
    srcBin explicit (rows.map (withSpectrum (fun x y => k₁ * x + k₂ * y))) targets i
      = k₁ * srcBin explicit rows targets i
        + k₂ * srcBin explicit (rows.map (withSpectrum (fun _ y => y))) targets i := by
  rw [srcBin_eq explicit _ targets i t ht, srcBin_eq explicit _ targets i t ht, srcBin_eq explicit _ targets i t ht,
    nativeBins_map, nativeBins_map,
    fluxBinVal_map (withSpectrum (fun x y => k₁ * x + k₂ * y)) (fun _ => rfl) (fun _ => rfl),
    fluxBinVal_map (withSpectrum (fun _ y => y)) (fun _ => rfl) (fun _ => rfl)]
  exact linear Row.s Row.e (nativeBins explicit rows) t.lo t.hi k₁ k₂

/-! ### order independence -/

/-- **perm_native**, about the regenerated `FluxBinner.bindown`: the binned spectrum does not depend on the order of the
    native points (distinct wavenumbers) -/
theorem src_perm_native (explicit : Bool) (rows₁ rows₂ : List (Row ℝ)) (targets : List (TBin ℝ))
    (hp : List.Perm rows₁ rows₂) (hd : (rows₁.map Row.c).Nodup) :
    srcBindown explicit rows₁ targets = srcBindown explicit rows₂ targets := by
  rw [srcBindown_eq, srcBindown_eq]
  exact perm_native explicit Row.s rows₁ rows₂ targets hp hd

/-- what the regenerated `FluxBinner.__init__` stores as `(_wngrid, _wngrid_width)` for each way of giving the widths -/
noncomputable def srcInit (mode : WidthMode ℝ) (ts : List (TBin ℝ)) : List ℝ × List ℝ :=
  match mode with
  | .array => SrcC05.fluxbinner_init_array (ts.map TBin.c) (ts.map TBin.w)
  | .scalar w => SrcC05.fluxbinner_init_scalar (ts.map TBin.c) w
  | .none => SrcC05.fluxbinner_init_none (ts.map TBin.c)

theorem srcInit_eq (mode : WidthMode ℝ) (ts : List (TBin ℝ)) (hne : mode = WidthMode.none → ts ≠ []) :
    srcInit mode ts = ((targetBins mode ts).map TBin.c, (targetBins mode ts).map TBin.w) := by
  cases mode with
  | none => exact src_init_none ts (hne rfl)
  | scalar w => exact src_init_scalar one_mul ts w
  | array => exact src_init_array ts

/-- **perm_target**, about the regenerated `FluxBinner.__init__` and `bindown`: the binner built from a permuted target grid
    (distinct wavenumbers) stores the same attributes, so the output is the same -/
theorem src_perm_target (mode : WidthMode ℝ) (ts₁ ts₂ : List (TBin ℝ)) (hp : List.Perm ts₁ ts₂)
    (hd : (ts₁.map TBin.c).Nodup) (hne : mode = WidthMode.none → ts₁ ≠ []) (explicit : Bool) (rows : List (Row ℝ)) :
    srcInit mode ts₁ = srcInit mode ts₂ ∧
    srcBindownAttr explicit rows (srcInit mode ts₁) = srcBindownAttr explicit rows (srcInit mode ts₂) := by
  have hne₂ : mode = WidthMode.none → ts₂ ≠ [] := by
    intro hm h2
    rw [h2] at hp
    exact hne hm hp.eq_nil
  have e : srcInit mode ts₁ = srcInit mode ts₂ := by
    rw [srcInit_eq mode ts₁ hne, srcInit_eq mode ts₂ hne₂, (perm_target mode ts₁ ts₂ hp hd true Row.s []).1]
  exact ⟨e, by rw [e]⟩

/-! ### histogram binner, native binner -/

/-- the regenerated `util.bindown(original_bin, original_data, new_bin)` on 1-D data -/
noncomputable def srcHist (rows : List (Row ℝ)) (nb : List ℝ) : List ℝ :=
  SrcC05.util_bindown (rows.map Row.c) (rows.map Row.s) nb npHistogram npHistogramW

theorem srcHist_eq (rows : List (Row ℝ)) (nb : List ℝ) (hne : nb ≠ []) : srcHist rows nb = histMean1 Row.s rows nb :=
  src_util_bindown rows nb hne

/-- **hist_mean** (1-D path), about the regenerated `util.bindown`: for every bin the plain mean `Σ s / count` of the native
    points strictly between the two mid-point edges (no native point exactly on an edge) -/
theorem src_hist_mean (rows : List (Row ℝ)) (nb : List ℝ) (hne : nb ≠ [])
    (hno : ∀ r ∈ rows, ∀ e ∈ histEdges nb, r.c ≠ e) :
    srcHist rows nb = (edgePairs (histEdges nb)).map (fun p =>
      ((rows.filter (fun r => decide (p.1 < r.c ∧ r.c < p.2.1))).map Row.s).sum /
        ((rows.filter (fun r => decide (p.1 < r.c ∧ r.c < p.2.1))).length : ℝ)) := by
  rw [srcHist_eq rows nb hne]
  exact (hist_mean Row.s rows nb hno).1

/-- **hist_perm_native** (1-D path), about the regenerated `util.bindown`: independent of the order of the native points -/
theorem src_hist_perm_native (rows₁ rows₂ : List (Row ℝ)) (hp : List.Perm rows₁ rows₂) (nb : List ℝ) (hne : nb ≠ []) :
    srcHist rows₁ nb = srcHist rows₂ nb := by
  rw [srcHist_eq rows₁ nb hne, srcHist_eq rows₂ nb hne]
  exact (hist_perm_native Row.s rows₁ rows₂ hp nb).1

/-- **native_identity**, about the regenerated `NativeBinner.bindown`: it returns its input unchanged (in the order
    grid, spectrum, error, width) -/
theorem src_native_identity (wn s w e : List ℝ) : SrcC05.nativebinner_bindown wn s w e = (wn, s, e, w) := by
  rw [src_nativebinner_bindown]
  exact native_identity _

/-! ### `util.bindown` on N-D data (the `np.digitize` path) -/

theorem sorted_prefix (x : ℝ) : ∀ (l : List ℝ), l.Pairwise (· < ·) →
    (∀ j, j < l.countP (fun e => decide (e < x)) → l.getD j 0 < x) ∧
    (∀ j, l.countP (fun e => decide (e < x)) ≤ j → j < l.length → x ≤ l.getD j 0)
  := by
  intro l h
  have key := lt_countP_iff (· < ·) (· < x) (fun _ _ hab hb => lt_trans hab hb) l h
  refine ⟨fun j hj => ?_, fun j hj hjl => ?_⟩
  · have hjl : j < l.length := hj.trans_le List.countP_le_length
    rw [List.getD_eq_getElem _ _ hjl]
    exact (key j hjl).1 hj
  · rw [List.getD_eq_getElem _ _ hjl]
    exact not_lt.1 (mt (key j hjl).2 (Nat.not_lt.2 hj))

/-- `np.digitize(x, edges, right=True) == i` for strictly increasing edges: `edges[i-1] < x <= edges[i]` -/
theorem sorted_countP_iff (x : ℝ) (l : List ℝ) (h : l.Pairwise (· < ·)) (i : ℕ) (h1 : 1 ≤ i) (hi : i < l.length) :
    l.countP (fun e => decide (e < x)) = i ↔ l.getD (i - 1) 0 < x ∧ x ≤ l.getD i 0 := by
  obtain ⟨p1, p2⟩ := sorted_prefix x l h
  constructor
  · intro hc
    exact ⟨p1 (i - 1) (by omega), p2 i (by omega) hi⟩
  · rintro ⟨ha, hb⟩
    have h3 : i - 1 < l.countP (fun e => decide (e < x)) :=
      lt_of_not_ge (fun hcon => not_le_of_gt ha (p2 (i - 1) hcon (by omega)))
    have h4 : ¬ i < l.countP (fun e => decide (e < x)) := fun hcon => not_le_of_gt (p1 i hcon) hb
    omega

theorem edgePairs_map_range {β : Type} (H : ℝ → ℝ → β) : ∀ (E : List ℝ),
    (edgePairs E).map (fun p => H p.1 p.2.1)
      = (List.range' 1 (E.length - 1)).map (fun i => H (E.getD (i - 1) 0) (E.getD i 0))
  | [] => rfl
  | [_] => rfl
  | [a, b] => rfl
  | a :: b :: c :: t => by
    have ih := edgePairs_map_range H (b :: c :: t)
    simp only [List.length_cons, Nat.add_sub_cancel] at ih ⊢
    have hr : List.range' 1 (t.length + 1 + 1) = 1 :: (List.range' 1 (t.length + 1)).map (1 + ·) := by
      rw [List.range'_succ, List.map_add_range']
    have he : edgePairs (a :: b :: c :: t) = (a, b, false) :: edgePairs (b :: c :: t) := rfl
    rw [he, List.map_cons, ih, hr, List.map_cons, List.map_map]
    congr 1
    apply List.map_congr_left
    intro i hi
    obtain ⟨k, rfl⟩ : ∃ k, i = k + 1 := ⟨i - 1, by have := (List.mem_range'_1.1 hi).1; omega⟩
    show _ = H ((a :: b :: c :: t).getD (1 + (k + 1) - 1) 0) ((a :: b :: c :: t).getD (1 + (k + 1)) 0)
    rw [Nat.add_comm 1 (k + 1)]
    rfl

/-- the regenerated `util.bindown(original_bin, original_data, new_bin)` on one row of 2-D data (the `np.digitize` path;
    `np.digitize` instantiated by `npDigitize`) -/
noncomputable def srcHistN (rows : List (Row ℝ)) (nb : List ℝ) : List ℝ :=
  SrcC05.util_bindown_nd (rows.map Row.c) (rows.map Row.s) nb npDigitize

/-- for strictly increasing bin edges (a strictly increasing `new_bin` of at least two points) the regenerated N-D path is
    the model's `histMeanN`: selecting the points whose `np.digitize` index is `i` selects the points in `(e_{i-1}, e_i]` -/
theorem srcHistN_eq (rows : List (Row ℝ)) (nb : List ℝ) (hne : nb ≠ []) (hs : (histEdges nb).Pairwise (· < ·)) :
    srcHistN rows nb = histMeanN Row.s rows nb := by
  unfold srcHistN histMeanN
  rw [src_util_bindown_nd rows nb hne,
    edgePairs_map_range (fun lo hi => meanOf Row.s (rows.filter (fun r => inDigit lo hi r.c))) (histEdges nb),
    length_histEdges nb hne, Nat.add_sub_cancel]
  apply List.map_congr_left
  intro i hi
  have hi' := List.mem_range'_1.1 hi
  congr 1
  apply List.filter_congr
  intro r _
  have := sorted_countP_iff r.c (histEdges nb) hs i hi'.1 (by rw [length_histEdges nb hne]; omega)
  rw [Bool.eq_iff_iff]
  simp only [inDigit, Bool.and_eq_true, decide_eq_true_eq]
  exact this

/-- **hist_mean** (N-D path), about the regenerated `util.bindown`: with no native point exactly on an edge the
    `np.digitize` path returns what the regenerated 1-D `np.histogram` path returns — for every bin the plain mean of the
    native points strictly between its two mid-point edges -/
theorem src_hist_mean_nd (rows : List (Row ℝ)) (nb : List ℝ) (hne : nb ≠ []) (hs : (histEdges nb).Pairwise (· < ·))
    (hno : ∀ r ∈ rows, ∀ e ∈ histEdges nb, r.c ≠ e) :
    srcHistN rows nb = srcHist rows nb ∧
    srcHistN rows nb = (edgePairs (histEdges nb)).map (fun p =>
      ((rows.filter (fun r => decide (p.1 < r.c ∧ r.c < p.2.1))).map Row.s).sum /
        ((rows.filter (fun r => decide (p.1 < r.c ∧ r.c < p.2.1))).length : ℝ)) := by
  obtain ⟨h1, h2⟩ := hist_mean Row.s rows nb hno
  rw [srcHistN_eq rows nb hne hs, srcHist_eq rows nb hne, h2]
  exact ⟨rfl, h1⟩

/-- **hist_perm_native** (N-D path), about the regenerated `util.bindown`: independent of the order of the native points -/
theorem src_hist_perm_native_nd (rows₁ rows₂ : List (Row ℝ)) (hp : List.Perm rows₁ rows₂) (nb : List ℝ) (hne : nb ≠ [])
    (hs : (histEdges nb).Pairwise (· < ·)) : srcHistN rows₁ nb = srcHistN rows₂ nb := by
  rw [srcHistN_eq rows₁ nb hne hs, srcHistN_eq rows₂ nb hne hs]
  exact (hist_perm_native Row.s rows₁ rows₂ hp nb).2

/-- target points 4, 8, 12: the edges 2, 6, 10, 14 are strictly increasing -/
example : (histEdges ([4, 8, 12] : List ℝ)).Pairwise (· < ·) := by
  rw [nv_histEdges]; norm_num

/-! ### `FluxBinner.bindown` with one width for all native bins -/

/-- the regenerated `FluxBinner.bindown(wngrid, spectrum, grid_width=<one number>)` returns what the array form returns for
    the rows with every width equal to that number: every statement above about `srcBindown true` applies to it -/
theorem src_bindown_scalar_eq (rows : List (Row ℝ)) (w : ℝ) (targets : List (TBin ℝ)) :
    (SrcC05.fluxbinner_bindown_s (rows.map Row.c) (rows.map Row.s) w (targets.map TBin.c) (targets.map TBin.w)).2.1
      = srcBindown true (rows.map (setWidth w)) targets := by
  rw [src_bindown_scalar, srcBindown_eq]

/-- the native bins of that form are `[c - w/2, c + w/2]` -/
theorem src_scalar_width_bins (rows : List (Row ℝ)) (w : ℝ) :
    ∀ r ∈ nativeBins true (rows.map (setWidth w)), r.lo = r.c - w / 2 ∧ r.hi = r.c + w / 2 := by
  intro r hr
  simp only [nativeBins, if_true] at hr
  obtain ⟨r0, _, rfl⟩ := List.mem_map.1 ((Binning.mem_sortBy Row.c r _).1 hr)
  exact ⟨rfl, rfl⟩

end Taurex.C05SrcProps
