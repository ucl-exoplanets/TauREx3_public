/-
  C09 — posterior summaries are the weighted statistics of the stored samples.
  Theorems about `TaurexModel/Posterior.lean` (the definitions `driver_c09` executes), real carrier.
  Guards: equal lengths, at least one sample, weights `≥ 0` with positive sum — the regime in which the model stands
  for the code (`cdf /= cdf[-1]` divides by the total weight; `np.interp` needs a non-decreasing `cdf`).
-/
import Proofs.C09Lemmas
import Proofs.C09Chains

namespace Taurex.C09
open Taurex.Posterior

/-- every weighted quantile lies between the smallest and the largest sample -/
theorem quantile_between (x w : List ℝ) (q lo hi : ℝ) (hlen : x.length = w.length) (hne : x ≠ [])
    (_hw : ∀ b ∈ w, 0 ≤ b) (_htot : 0 < w.sum) (hlo : ∀ a ∈ x, lo ≤ a) (hhi : ∀ a ∈ x, a ≤ hi) :
    lo ≤ quantileCorner x w q ∧ quantileCorner x w q ≤ hi :=
  quantileCorner_between x w q hlen hne hlo hhi

example : ∃ x w : List ℝ, x.length = w.length ∧ x ≠ [] ∧ (∀ b ∈ w, 0 ≤ b) ∧ 0 < w.sum ∧
    (∀ a ∈ x, (1 : ℝ) ≤ a) ∧ (∀ a ∈ x, a ≤ 5) :=
  ⟨[3, 1, 2, 5], [1, 1, 0, 2], rfl, by simp, by norm_num, by norm_num, by norm_num, by norm_num⟩

/-- the quantile is non-decreasing in `q` -/
theorem quantile_mono_q (x w : List ℝ) (q q' : ℝ) (_hlen : x.length = w.length)
    (_hw : ∀ b ∈ w, 0 ≤ b) (_htot : 0 < w.sum) (hq : q ≤ q') :
    quantileCorner x w q ≤ quantileCorner x w q' :=
  quantileCorner_mono x w hq

example : ((16 : ℝ) / 100 ≤ 50 / 100) ∧ ((50 : ℝ) / 100 ≤ 84 / 100) := by norm_num

/-- The weighted-quantile rule itself.  `nodes x w` (Proofs/C09Lemmas.lean) is the list of pairs
    (cumulative weight fraction, value) of the samples sorted by value.  With strictly positive weights the quantile
    at each cumulative fraction is exactly the corresponding sorted sample. -/
theorem quantile_at_node (x w : List ℝ) (hw : ∀ b ∈ w, 0 < b) :
    ∀ p ∈ nodes x w, quantileCorner x w p.1 = p.2 := by
  intro p hp
  rw [quantileCorner_eq]
  exact interpPairs_node _ (nodes_absStrict x w hw) p hp

/-- … and between two consecutive nodes `a`, `b` (`a.1 ≤ q < b.1`: `a` is the last node whose fraction is `≤ q`) it
    is the linear interpolant, left of the first node the smallest sample, from the last node on the largest:
    this is `np.interp(q, cdf, xsorted)`.  The statement is about `interpPairs` on any node list with non-decreasing
    abscissae (`AbsSorted`; for `nodes x w` with positive weights: `nodes_absSorted`); `quantileCorner x w q` is
    `interpPairs q (nodes x w)` (`quantileCorner_eq`). -/
theorem quantile_is_interp (q : ℝ) (pre post : List (ℝ × ℝ)) (a b : ℝ × ℝ) (ps : List (ℝ × ℝ)) :
    (AbsSorted (pre ++ a :: b :: post) → a.1 ≤ q → q < b.1 →
      interpPairs q (pre ++ a :: b :: post) =
        if a.1 < q then ((b.2 - a.2) / (b.1 - a.1)) * (q - a.1) + a.2 else a.2) ∧
    (AbsSorted (a :: ps) → q < a.1 → interpPairs q (a :: ps) = a.2) ∧
    (∀ hne : ps ≠ [], (∀ p ∈ ps, p.1 ≤ q) → interpPairs q ps = (ps.getLast hne).2) :=
  ⟨fun hs ha hb => interpPairs_cell q a b post ha hb pre hs,
   fun hs hx => interpPairs_left q a ps hs hx,
   fun hne hall => interpPairs_right q ps hne hall⟩

/-- the nodes of 4 samples with positive weights (rational carrier): fractions 1/5, 2/5, 3/5, 1 -/
example : (let s := sortPairs (α := Rat) (List.zip [3, 1, 2, 5] [1, 1, 1, 2]);
    List.zip (cdfOf (s.map Prod.snd)) (s.map Prod.fst)) = [(1 / 5, 1), (2 / 5, 2), (3 / 5, 3), (1, 5)] := by
  decide +kernel

/-- value / lower error / upper error are the 50 %, 50 − 16 % and 84 − 50 % weighted quantiles, the mean the
    weighted mean -/
theorem summary_is_quantiles (t w : List ℝ) :
    (summary t w).value = quantileCorner t w (50 / 100) ∧
    (summary t w).sigmaM = quantileCorner t w (50 / 100) - quantileCorner t w (16 / 100) ∧
    (summary t w).sigmaP = quantileCorner t w (84 / 100) - quantileCorner t w (50 / 100) ∧
    (summary t w).mean = wmean t w := ⟨rfl, rfl, rfl, rfl⟩

/-- the exact summary of 4 samples with a tie in the weights and a zero weight (rational carrier, kernel-evaluated) -/
example : (summary (α := Rat) [3, 1, 2, 5] [1, 1, 0, 2]).value = 3 ∧
    (summary (α := Rat) [3, 1, 2, 5] [1, 1, 0, 2]).sigmaM = 2 ∧
    (summary (α := Rat) [3, 1, 2, 5] [1, 1, 0, 2]).mean = 7 / 2 := by decide +kernel

/-- both errors are non-negative -/
theorem summary_signs (t w : List ℝ) (hlen : t.length = w.length) (hw : ∀ b ∈ w, 0 ≤ b) (htot : 0 < w.sum) :
    0 ≤ (summary t w).sigmaM ∧ 0 ≤ (summary t w).sigmaP := by
  obtain ⟨_, h2, h3, _⟩ := summary_is_quantiles t w
  rw [h2, h3]
  exact ⟨sub_nonneg.2 (quantile_mono_q t w (16 / 100) (50 / 100) hlen hw htot (by norm_num)),
    sub_nonneg.2 (quantile_mono_q t w (50 / 100) (84 / 100) hlen hw htot (by norm_num))⟩

/-- jointly permuting samples and weights changes no quantile when the sample values are distinct -/
theorem quantile_perm (x w x' w' : List ℝ) (q : ℝ) (hlen : x.length = w.length)
    (hp : (List.zip x w).Perm (List.zip x' w')) (hd : x.Nodup) :
    quantileCorner x w q = quantileCorner x' w' q := by
  have hfst : (List.zip x w).map Prod.fst = x := List.map_fst_zip (le_of_eq hlen)
  have h := sortPairs_perm_eq hp (by rw [hfst]; exact hd)
  unfold quantileCorner
  rw [h]

example : ([3, 1, 2, 5] : List ℝ).Nodup ∧
    (List.zip ([3, 1, 2, 5] : List ℝ) ([1, 1, 0, 2] : List ℝ)).Perm
      (List.zip ([5, 2, 1, 3] : List ℝ) ([2, 0, 1, 1] : List ℝ)) := by
  refine ⟨by norm_num, ?_⟩
  have h := List.reverse_perm ([(5, 2), (2, 0), (1, 1), (3, 1)] : List (ℝ × ℝ))
  simpa using h

/-- with tied values the result may depend on the order inside the tie group (why `quantile_perm` needs distinct
    values): two samples of equal value, different weights, rational carrier -/
example : quantileCorner (α := Rat) [1, 2, 2] [1, 1, 2] (3 / 10) ≠ quantileCorner (α := Rat) [1, 2, 2] [1, 2, 1] (3 / 10) := by
  decide +kernel

/-- the MAP index is a valid index, no weight exceeds the weight there, and every earlier weight is smaller:
    it is the first sample of greatest weight -/
theorem map_is_heaviest (w : List ℝ) (hne : w ≠ []) :
    argmaxFirst w < w.length ∧ (∀ j, j < w.length → w.getD j 0 ≤ w.getD (argmaxFirst w) 0) ∧
    (∀ j, j < argmaxFirst w → w.getD j 0 < w.getD (argmaxFirst w) 0) :=
  argmaxFirst_spec w hne

example : argmaxFirst (α := Rat) [1, 4, 0, 4, 2] = 1 := by decide +kernel

/-- the weighted mean lies between the smallest and the largest sample -/
theorem wmean_between (x w : List ℝ) (lo hi : ℝ) (hlen : x.length = w.length) (hw : ∀ b ∈ w, 0 ≤ b)
    (htot : 0 < w.sum) (hlo : ∀ a ∈ x, lo ≤ a) (hhi : ∀ a ∈ x, a ≤ hi) :
    lo ≤ wmean x w ∧ wmean x w ≤ hi := by
  obtain ⟨h1, h2⟩ := Convex.zipWith_between x w hw fun a ha => ⟨hlo a ha, hhi a ha⟩
  rw [List.map_snd_zip hlen.ge] at h1 h2
  unfold wmean sumL
  rw [← List.sum_eq_foldl, ← List.sum_eq_foldl]
  exact ⟨(le_div_iff₀ htot).2 h1, (div_le_iff₀ htot).2 h2⟩

/-- what is stored is the sampler's output unchanged; the MAP vector is the stored sample of greatest weight,
    the trace of parameter `i` is column `i` of the stored samples, the median vector holds the 50 % quantiles -/
theorem traces_unchanged (ndim : Nat) (samples : List (List ℝ)) (weights : List ℝ) :
    (storeOutput ndim samples weights).tracedata = samples ∧
    (storeOutput ndim samples weights).weights = weights ∧
    mapVector (storeOutput ndim samples weights) = samples.getD (argmaxFirst weights) [] ∧
    (∀ i, i < ndim → (storeOutput ndim samples weights).params[i]? = some (summary (column samples i) weights)) ∧
    (∀ (i k : Nat), (column samples i)[k]? = (samples[k]?).map (fun (row : List ℝ) => row.getD i 0)) := by
  refine ⟨rfl, rfl, rfl, ?_, ?_⟩
  · intro i hi
    simp [storeOutput, hi]
  · intro i k
    simp [column]

/-- A derived trace has one entry per sample, entry `i` being the derived value at sample `i`.  The re-ordering step
    of `compute_derived_trace` (`restore = all_index.argsort(); gathered[restore]`) returns the values in sample
    order for **every** gather order: if entry `k` of the gathered list is the value `g` of sample `index[k]` and
    `index` lists every sample once (one process: `0 … n-1`; several ranks: the blocks `r, r+size, …`
    concatenated), the result is `g 0, g 1, …, g (n-1)` — ties or zeros among the weights play no role.
    In one process nothing moves. -/
theorem derived_trace_in_sample_order {γ β : Type} (f : γ → β) (samples : List γ) (g : Nat → β)
    (index : List Nat) (n : Nat) (hp : index.Perm (List.range n)) :
    (derivedTrace f samples).length = samples.length ∧
    (∀ (i : Nat), (derivedTrace f samples)[i]? = (samples[i]?).map f) ∧
    restoreOrder index (index.map g) = (List.range n).map g ∧
    restoreOrder (List.range (derivedTrace f samples).length) (derivedTrace f samples) = derivedTrace f samples :=
  ⟨by simp [derivedTrace], fun i => by simp [derivedTrace], restoreOrder_map g index n hp, restoreOrder_range _⟩

/-- two ranks, five samples: rank 0 holds samples 0, 2, 4, rank 1 holds 1, 3 -/
example : ([0, 2, 4, 1, 3] : List Nat).Perm (List.range 5) ∧
    restoreOrder [0, 2, 4, 1, 3] ["s0", "s2", "s4", "s1", "s3"] = ["s0", "s1", "s2", "s3", "s4"] := by
  decide

/-- **The samples the MultiNest / PolyChord wrappers summarise are the samples of the chains files, unchanged and in file
    order.**  A chains table (`<base>.txt`, `1-.txt`, `clusters/1-_k.txt`: weight, -2 logL, parameter values) gives one
    solution whose samples are the columns `2:` and whose weights are column `0` of the table; `<base>post_separate.dat` in
    MultiNest's layout (`fileOf blocks`: before every mode two empty lines, then one line per sample; modes non-empty, every
    line with its weight, likelihood and at least one parameter, `n` parameters throughout) gives one solution per mode, in
    file order, each with exactly the samples and weights of its lines; PolyChord with several clusters gives one solution
    per cluster file. -/
theorem chain_files_unchanged :
    (∀ data : List (List ℝ), nestChainsSingle data = ([data.map (fun r => r.drop 2)], [data.map (fun r => r.getD 0 0)])) ∧
    (∀ (blocks : List (List (List ℝ))) (n : ℕ), blocks ≠ [] → (∀ b ∈ blocks, b ≠ []) → 1 ≤ n →
      (∀ b ∈ blocks, ∀ r ∈ b, r.length = n + 2) →
      nestChainsModes (fileOf blocks)
        = (blocks.map (fun b => b.map (fun r => r.drop 2)), blocks.map (fun b => b.map (fun r => r.getD 0 0)))) ∧
    (∀ (nfit nc : ℕ) (data : List (List ℝ)) (cluster : ℕ → List (List ℝ)), nc ≠ 1 →
      polyChains nfit true nc data cluster
        = ((List.range nc).map (fun k => (cluster k).map (fun r => (r.drop 2).take nfit)),
           (List.range nc).map (fun k => (cluster k).map (fun r => r.getD 0 0)), nc)) ∧
    (∀ (nfit nc : ℕ) (dc : Bool) (data : List (List ℝ)) (cluster : ℕ → List (List ℝ)), dc = false ∨ nc = 1 →
      polyChains nfit dc nc data cluster
        = ([data.map (fun r => (r.drop 2).take nfit)], [data.map (fun r => r.getD 0 0)], 1)) := by
  refine ⟨fun _ => rfl, ?_, ?_, ?_⟩
  · intro blocks n hne hb hn hlen
    have hrows : ∀ b ∈ blocks, ∀ r ∈ b, 2 < r.length := fun b hb' r hr => by rw [hlen b hb' r hr]; omega
    unfold nestChainsModes
    rw [splitModes_fileOf blocks hne hb hrows]
    simp only [List.map_map]
    congr 1
    apply List.map_congr_left
    intro b hb'
    exact modeArray_rect _ n (fun r hr => by
      obtain ⟨r0, hr0, rfl⟩ := List.mem_map.1 hr
      rw [List.length_drop, hlen b hb' r0 hr0]; omega)
  · intro nfit nc data cluster h1
    rw [polyChains_eq]
    simp only [h1, ne_eq, not_false_eq_true, and_self, if_true]
    rfl
  · intro nfit nc dc data cluster h
    have hn : ¬ (dc = true ∧ nc ≠ 1) := fun hh => h.elim (fun hd => by rw [hd] at hh; exact Bool.false_ne_true hh.1) hh.2
    rw [polyChains_eq]
    simp only [hn, if_false]
    rfl

example : nestChainsModes (fileOf [[[(1 : ℝ), 0, 7, 8], [3, 0, 9, 10]], [[2, 0, 5, 6]]])
    = ([[[7, 8], [9, 10]], [[5, 6]]], [[1, 3], [2]]) :=
  (chain_files_unchanged.2.1 [[[(1 : ℝ), 0, 7, 8], [3, 0, 9, 10]], [[2, 0, 5, 6]]] 2 (by simp) (by decide) (by norm_num)
    (by decide))

/-- **The solution is evaluated where each parameter's own prior says.**  `update_model` hands the model, for the sampled
    vector `v` (the MAP, the median, every sample of a derived trace), the vector `modelPoint bs v`: it has one entry per
    fitted parameter and entry `i` is `prior_i.prior(v_i)` — the map of the prior object of THAT parameter, whatever the
    other priors are.  For the built-in classes the map is `x` or `10 ** x`; a user-defined prior that overrides `prior`
    (here: natural-log space, scaled units) is applied as it is — it is not re-derived from the prior's log / linear mode —
    so a parameter sampled as `ln y` (resp. `log10 y`) reaches the model as `y`. -/
theorem model_point_through_prior (bs : List (Back ℝ)) (v : List ℝ) (hlen : bs.length = v.length) :
    (modelPoint bs v).length = v.length ∧
    (∀ (i : ℕ) (b : Back ℝ) (x : ℝ), bs[i]? = some b → v[i]? = some x → (modelPoint bs v)[i]? = some (b.apply x)) ∧
    (∀ x : ℝ, Back.identity.apply x = x ∧ Back.pow10.apply x = (10 : ℝ) ^ x ∧ Back.expNat.apply x = Real.exp x) ∧
    (∀ a b x : ℝ, (Back.affine a b).apply x = a * x + b) ∧
    (∀ y : ℝ, 0 < y → Back.expNat.apply (Real.log y) = y ∧ Back.pow10.apply (Real.log y / Real.log 10) = y) := by
  refine ⟨by simp [modelPoint, hlen], ?_, fun x => ⟨rfl, rfl, rfl⟩, fun a b x => rfl, ?_⟩
  · intro i b x hb hx
    simp [modelPoint, List.getElem?_zipWith, hb, hx]
  · exact fun y hy => ⟨Real.exp_log hy, pow10_log10 hy⟩

/-- three fitted parameters: a built-in linear prior, a built-in log prior and a user-defined prior in scaled units -/
example : modelPoint [Back.identity, Back.pow10, Back.affine 2 (-1)] [(3 : ℝ), 2, 5] = [3, 100, 9] := by
  simp [modelPoint, Back.apply]
  norm_num

/-- a parameter sampled in natural-log space through a user-defined prior reaches the model in linear space, and the
    user-defined map is not the identity a linear-mode prior would otherwise stand for -/
example : Back.expNat.apply (Real.log 7) = (7 : ℝ) ∧ (Back.affine 2 (-1)).apply (5 : ℝ) ≠ Back.identity.apply 5 := by
  refine ⟨((model_point_through_prior [] [] rfl).2.2.2.2 7 (by norm_num)).1, ?_⟩
  simp [Back.apply]
  norm_num

end Taurex.C09
