/-
  C18 — source tie.  `TaurexModel/Gen/SrcC18.lean` is regenerated on every run by `harness/translate.py` (dialect `obj`)
  from the source text of taurex/util/math.py:OnlineVariance.  The theorems below state, for EVERY carrier (no algebra is
  used), that the regenerated methods are the hand-written model functions of `TaurexModel/Variance.lean` that the C18
  theorems are about and that `driver_c18` executes.

  How the Python state is related to the model's `Acc`:
  * `self.mean` / `self.M2` are `None` until the first `update` (`Option α` in the translation).  The model keeps plain
    numbers and the invariant "`mean is None` ⇔ `count = 0`" (`reset` clears, `update` sets): `pyOpt a v` is the Python
    attribute of the accumulator `a` whose model field is `v`.  `src_update_stream` shows that the translated `reset`
    followed by the translated `update`s stays inside that encoding, so the invariant is a theorem about the translated
    code, not an assumption;
  * `self.count` is a Python float that `update` increments by one, `self.wcount2` accumulates `weight*weight`; the model
    counts in `Nat` and has no `wcount2` (nothing reads it).  The tie carries them as the free components `c`, `w2`;
  * `try: … except ZeroDivisionError` in `update`: whether `weight / self.wcount` raises is the parameter
    `raised_ZeroDivisionError`; it is `false` inside the quantified domain (numpy scalars never raise; the optimizer adds
    1e-300 to every weight, the C18 theorems assume positive weights) — the same reading as the model's doc comment;
  * a `TypeError` (`None` used in arithmetic) is never reached from an encoded state.

  Second half (dialect `par`, harness/translate_par.py): the PARALLEL code —
  `OnlineVariance.parallelVariance`, the generator `sample_iter` of `Optimizer.generate_profiles` and
  `Optimizer.compute_derived_trace` (taurex/optimizer/optimizer.py).
  * An MPI collective is matched across the ranks by the order of the calls: the k-th collective call of a function is the
    parameter `allgather k x` / `allreduce k x` (x = what THIS rank contributes, the value = what the collective returns on this
    rank).  The ties quantify over the local states of ALL ranks and over the calling rank `r`, and instantiate the k-th
    collective with the list, in rank order, of what every rank contributes to it — the calling rank's entry being the `x` the
    regenerated code computed (`gatherAt`, `concatAt` in `Proofs/C18SrcPar.lean`).  That the calling rank's `x` is what the
    model says it sends is proved from the regenerated code, for every `r`; so every entry of the list is what the
    regenerated code sends on that rank.
  * `range(rank, n, size)` / `sample_list[rank::size]` are translated to `List.range' rank ((n - rank + size - 1) / size) size`
    (and the elements at those indices); `strided_range_eq` / `slice_eq_strided` prove that this is the model's `strided`.
    `rank < size` is what MPI guarantees.
  * the objects the optimizer acts on (`update_model`, `initialize_profiles`, `derived_values`) are one opaque state `W`
    threaded through the calls (the translator's `world`).
-/
import TaurexModel.Gen.SrcC18
import TaurexModel.Variance
import Proofs.C18SrcPar
set_option linter.unusedSectionVars false
set_option linter.unusedVariables false
set_option linter.unusedSimpArgs false

namespace Taurex.C18Src
open Taurex.Variance

section
variable {α : Type} [Add α] [Sub α] [Mul α] [Div α] [Neg α] [LT α] [LE α]
  [DecidableLT α] [DecidableLE α] [Taurex.Transc α] [BEq α] [OfNat α 0] [OfNat α 1] [OfNat α 2]

/-- the Python attribute (`self.mean`, `self.M2`) of an accumulator whose model field is `v`: `None` before the first update -/
def pyOpt (a : Acc α) (v : α) : Option α := if a.count = 0 then none else some v

/-- the five attributes `(count, wcount, wcount2, mean, M2)` of the Python object that the accumulator `a` stands for -/
def enc (a : Acc α) (c w2 : α) : α × α × α × Option α × Option α :=
  (c, a.wcount, w2, pyOpt a a.mean, pyOpt a a.m2)

/-- `OnlineVariance.update(value, weight)` applied to an attribute tuple -/
def pyUpdate (st : α × α × α × Option α × Option α) (p : α × α) : α × α × α × Option α × Option α :=
  Gen.SrcC18.OnlineVariance_update p.1 p.2 (M2 := st.2.2.2.2) (count := st.1) (mean := st.2.2.2.1)
    (raised_ZeroDivisionError := false) (wcount := st.2.1) (wcount2 := st.2.2.1)

/-- `OnlineVariance.reset()` is the encoding of `Acc.empty` -/
theorem src_reset : (Gen.SrcC18.OnlineVariance_reset : α × α × α × Option α × Option α) = enc Acc.empty 0 0 := rfl

/-- one `OnlineVariance.update` on the attributes of `a` gives the attributes of the model's `update a x w` -/
theorem src_update (a : Acc α) (x w c w2 : α) :
    pyUpdate (enc a c w2) (x, w) = enc (update a x w) (c + 1) (w2 + w * w) := by
  by_cases h : a.count = 0 <;>
    simp only [pyUpdate, enc, pyOpt, Gen.SrcC18.OnlineVariance_update, update, h, if_true, if_false,
      Nat.add_one_ne_zero, Bool.false_eq_true]

/-- a stream of updates from any encoded state -/
theorem src_update_fold (l : List (α × α)) (a : Acc α) (c w2 : α) :
    l.foldl pyUpdate (enc a c w2)
      = enc (l.foldl (fun a p => update a p.1 p.2) a) (l.foldl (fun c _ => c + 1) c)
          (l.foldl (fun s p => s + p.2 * p.2) w2) := by
  induction l generalizing a c w2 with
  | nil => rfl
  | cons p l ih =>
    obtain ⟨x, w⟩ := p
    simp only [List.foldl_cons]
    rw [src_update, ih]

/-- a whole stream: `reset()` then `update(x, w)` for every sample is the model's `accOf` — in particular the translated
    code keeps `mean`/`M2` None exactly while no sample has been seen -/
theorem src_update_stream (l : List (α × α)) :
    l.foldl pyUpdate Gen.SrcC18.OnlineVariance_reset
      = enc (accOf l) (l.foldl (fun c _ => c + 1) 0) (l.foldl (fun s p => s + p.2 * p.2) 0) := by
  rw [src_reset]
  exact src_update_fold l Acc.empty 0 0

/-- the `variance` property: the threshold `count < 2` and the quotient `M2 / wcount` are the model's; `hc` relates the
    Python float `count` (value `c`) to the model's natural `count`; `nanv` is whatever `np.nan` evaluates to -/
theorem src_variance (a : Acc α) (c w2 nanv : α) (hc : c < 2 ↔ a.count < 2) :
    variance a = if c < 2 then npNan
      else Obj.ofNum (Gen.SrcC18.OnlineVariance_variance (M2 := (enc a c w2).2.2.2.2) (count := c) (np_nan := nanv)
                        (wcount := (enc a c w2).2.1)) := by
  by_cases h : a.count < 2
  · simp [variance, h, hc]
  · have h0 : a.count ≠ 0 := by omega
    simp [variance, h, hc, enc, pyOpt, h0, Gen.SrcC18.OnlineVariance_variance]

/-- below two samples the property returns the `np.nan` object itself (whatever the attributes are) -/
theorem src_variance_nan (m2 : Option α) (c nanv wc : α) (h : c < 2) :
    Gen.SrcC18.OnlineVariance_variance (M2 := m2) (count := c) (np_nan := nanv) (wcount := wc) = nanv := by
  simp [Gen.SrcC18.OnlineVariance_variance, h]

/-! ## `combine_variance`

  The pooled combination is compared with the model at the carrier of Python float OBJECTS (`Variance.Obj α`, instances in
  `Proofs/C18SrcLemmas.lean`): the code distinguishes `avg is np.nan` (identity, parameter `is_np_nan` = the object's tag)
  from `var != var` (value).  `averages` / `variance` are the gathered objects, `counts` the gathered weights (numbers).
  `none` = the Python raises (`None /= size`, `None += …`).  Hypotheses: `hbeq` — the model tests `cnt == 0` with the
  carrier's `BEq`, the translation reads numpy's float `==` as `a ≤ b ∧ b ≤ a` (both hold of IEEE doubles and of ℝ);
  `hrefl` — a number is `≤` itself (so that `var != var` singles out NaN). -/

/-- `combine_variance(averages, variance, counts)` is the model's `combine` with the NaN-by-value test -/
theorem src_combine (hbeq : ∀ a b : α, (a == b) = (decide (a ≤ b) && decide (b ≤ a))) (hrefl : ∀ x : α, x ≤ x)
    (avgs vars : List (Obj α)) (counts : List α) :
    (Gen.SrcC18.combine_variance (α := Obj α) avgs vars (counts.map Obj.ofNum) (is_np_nan := fun o => o.isNpNan)).map
        (fun p => (p.1.val, p.2.val))
      = combine nanByValue avgs vars counts := by
  have hz : ∀ cnt : α, (decide (Obj.ofNum cnt ≤ (Obj.ofNum 0 : Obj α)) && decide ((Obj.ofNum 0 : Obj α) ≤ Obj.ofNum cnt))
      = (cnt == 0) := fun cnt => by
    rw [hbeq, decide_le, decide_le]; rfl
  unfold Gen.SrcC18.combine_variance combine
  dsimp only
  rw [show (0 : Obj α) = Obj.ofNum 0 from rfl, sum_ofNum]
  generalize hA : List.foldl _ none (List.zip avgs (counts.map Obj.ofNum)) = A
  have h1 : A.map Obj.val = loop1 (avgs.zip counts) none := by
    rw [← hA]
    refine loop1_gen _ ?_ avgs counts none
    intro g avg cnt
    simp only [hz, step1M]
    cases (cnt == 0) <;> cases avg.isNpNan <;> cases g <;> rfl
  rw [← h1]
  cases A with
  | none => rfl
  | some a =>
    simp only [Option.map_some]
    have hc : List.map (fun (x : Obj α) => x * (Obj.ofNum (List.foldl (fun x1 x2 => x1 + x2) 0 counts) /
          Obj.ofNum (List.foldl (fun x1 x2 => x1 + x2) 0 counts))) (List.map Obj.ofNum counts)
        = (counts.map (fun c => c * (sumList counts / sumList counts))).map Obj.ofNum := by
      rw [List.map_map, List.map_map]; rfl
    rw [hc]
    generalize hB : List.foldl _ (some none) (List.zip avgs (List.zip (List.map Obj.ofNum _) vars)) = B
    have h2 : B.map (Option.map Obj.val) = loop2 nanByValue (vdiv a.val (Val.fin (sumList counts)))
        (avgs.zip ((counts.map (fun c => c * (sumList counts / sumList counts))).zip vars)) none := by
      rw [← hB]
      refine loop2_gen nanByValue _ _ ?hn ?hf avgs vars _ none
      case hn => intro it; rfl
      case hf =>
        intro g avg cnt var
        have hp : decide ((Obj.ofNum 0 : Obj α) < Obj.ofNum cnt) = decide (0 < cnt) := by
          rw [decide_lt]; rfl
        have hv : (decide (var ≤ var) && decide (var ≤ var)) = !(nanByValue var) := by
          rw [decide_le]; unfold Obj.leB nanByValue; cases var.val <;> simp [hrefl]
        simp only [hz, hp, hv, step2M]
        by_cases hpos : 0 < cnt <;> simp only [hpos, decide_true, decide_false, if_true, if_false] <;>
          cases (cnt == 0) <;> cases nanByValue var <;> cases g <;> rfl
    rw [← h2]
    cases B with
    | none => rfl
    | some sq => cases sq <;> rfl

/-- the hypotheses of `src_combine` hold, e.g., of the natural numbers -/
example : (∀ a b : Nat, (a == b) = (decide (a ≤ b) && decide (b ≤ a))) ∧ (∀ x : Nat, x ≤ x) := by
  refine ⟨fun a b => ?_, fun x => Nat.le_refl x⟩
  by_cases h : a = b
  · simp [h]
  · have h1 : (a == b) = false := by simp [h]
    have h2 : (decide (a ≤ b) && decide (b ≤ a)) = false := by
      simp only [Bool.and_eq_false_iff, decide_eq_false_iff_not]; omega
    rw [h1, h2]

end

/-! ## the parallel code (dialect `par`) -/

section
variable {α : Type} [Add α] [Sub α] [Mul α] [Div α] [Neg α] [LT α] [LE α]
  [DecidableLT α] [DecidableLE α] [Taurex.Transc α] [BEq α] [OfNat α 0] [OfNat α 1] [OfNat α 2]

/-- the regenerated `variance` property at the carrier of float objects, on the attributes of `a`, is the model's `variance`
    (the object `np.nan` itself below two samples); `cnt n` = the Python float `self.count` after n updates -/
theorem src_variance_obj (a : Acc α) (cnt : ℕ → α) (hc1 : ∀ n, cnt n < 2 ↔ n < 2) :
    Gen.SrcC18.OnlineVariance_variance (α := Obj α) (M2 := (pyOpt a a.m2).map Obj.ofNum) (count := Obj.ofNum (cnt a.count))
        (np_nan := npNan) (wcount := Obj.ofNum a.wcount) = variance a := by
  unfold Gen.SrcC18.OnlineVariance_variance variance
  have h2 : decide (Obj.ofNum (cnt a.count) < (2 : Obj α)) = decide (a.count < 2) := by
    rw [decide_lt]
    show decide (cnt a.count < 2) = _
    exact decide_eq_decide.2 (hc1 a.count)
  rw [h2]
  by_cases h : a.count < 2
  · simp [h]
  · have h0 : a.count ≠ 0 := by omega
    simp [h, pyOpt, h0]
    rfl

/-- `OnlineVariance.parallelVariance()` on rank `r` of the ranks whose accumulators are `ranks` (`ranks[r] = a`: the attributes
    of the calling object are those of `a`), with the four `mpi.allgather`s returning the rank-ordered lists of what every rank
    contributes (`gatherAt`: its variance object, its mean object — `np.nan` for a `None` mean —, `wcount`, `count`; each
    through one exchange `exch`), is the model's `parallelVariance nanByValue exch ranks` — including the test
    `sum(all_counts) < 2 → np.nan` and the NaN mean object.  Hypotheses: `hbeq`, `hrefl` as in `src_combine`; `cnt` = the
    Python float of a count with `hc1`, `hcs` (comparing such floats / their left-to-right sum with 2 is comparing the
    naturals: exact in IEEE doubles below 2^53, and in ℝ); `hex`: an exchange returns a number as that number (pickling keeps
    the value; only the identity of `np.nan` is lost). -/
theorem src_parallelVariance (hbeq : ∀ a b : α, (a == b) = (decide (a ≤ b) && decide (b ≤ a))) (hrefl : ∀ x : α, x ≤ x)
    (cnt : ℕ → α) (hc1 : ∀ n, cnt n < 2 ↔ n < 2) (hcs : ∀ l : List ℕ, sumList (l.map cnt) < 2 ↔ l.sum < 2)
    (exch : Obj α → Obj α) (hex : ∀ x : α, exch (Obj.ofNum x) = Obj.ofNum x)
    (ranks : List (Acc α)) (r : ℕ) (a : Acc α) (hr : ranks[r]? = some a) :
    (Gen.SrcC18.parallelVariance (α := Obj α) (M2 := (pyOpt a a.m2).map Obj.ofNum) (count := Obj.ofNum (cnt a.count))
        (mean := (pyOpt a a.mean).map Obj.ofNum) (np_nan := npNan) (wcount := Obj.ofNum a.wcount)
        (allgather := gatherAt exch cnt ranks r) (is_np_nan := fun o => o.isNpNan)).map Obj.val
      = parallelVariance nanByValue exch ranks := by
  unfold Gen.SrcC18.parallelVariance parallelVariance
  dsimp only
  rw [src_variance_obj a cnt hc1]
  generalize hg1 : gatherAt exch cnt ranks r 1 _ = G1
  have hG1 : G1 = ranks.map (fun b => exch (sentBy cnt 1 b)) := by
    rw [← hg1]
    refine gatherAt_eq exch cnt ranks r 1 a _ hr ?_
    unfold pyOpt sentBy meanObj
    by_cases h : a.count = 0 <;> simp [h]
  rw [hG1, gatherAt_eq exch cnt ranks r 0 a (variance a) hr rfl,
    gatherAt_eq exch cnt ranks r 2 a (Obj.ofNum a.wcount) hr rfl,
    gatherAt_eq exch cnt ranks r 3 a (Obj.ofNum (cnt a.count)) hr rfl]
  have hcounts : ranks.map (fun b => exch (sentBy cnt 2 b)) = (ranks.map (·.wcount)).map Obj.ofNum := by
    rw [List.map_map]; apply List.map_congr_left; intro b _; exact hex _
  have hall : ranks.map (fun b => exch (sentBy cnt 3 b)) = ((ranks.map (·.count)).map cnt).map Obj.ofNum := by
    rw [List.map_map, List.map_map]; apply List.map_congr_left; intro b _; exact hex _
  rw [hcounts, hall]
  simp only [sentBy]
  rw [show (0 : Obj α) = Obj.ofNum 0 from rfl, sum_ofNum]
  have h2 : decide (Obj.ofNum (List.foldl (· + ·) 0 ((ranks.map (·.count)).map cnt)) < (2 : Obj α))
      = decide ((ranks.map (·.count)).sum < 2) := by
    rw [decide_lt]
    show decide (sumList ((ranks.map (·.count)).map cnt) < 2) = _
    exact decide_eq_decide.2 (hcs _)
  rw [h2]
  by_cases h : (ranks.map (·.count)).sum < 2
  · simp [h]; rfl
  · simp only [h, decide_false, Bool.false_eq_true, if_false]
    rw [← src_combine hbeq hrefl]
    generalize Gen.SrcC18.combine_variance (α := Obj α) _ _ _ _ = X
    cases X <;> rfl

/-- the hypotheses on `cnt` hold, e.g., of the natural numbers themselves -/
example : (∀ n : ℕ, id n < 2 ↔ n < 2) ∧ (∀ l : List ℕ, sumList (l.map id) < 2 ↔ l.sum < 2) := by
  refine ⟨fun _ => Iff.rfl, fun l => ?_⟩
  rw [List.map_id, sumList, ← List.sum_eq_foldl_nat]

end

/-- the generator `sample_iter` that `generate_profiles` hands to `compute_error`, on rank `rank` of `size`: it visits the
    samples `sample_list[rank::size]` — the model's `strided rank size sample_list` — in order; for each, `update_model`
    is applied to the state of the forward model and the weight is yielded (`walk`: the list of (state at the yield, weight)).
    Generic in the sample type, the weights' carrier and the state. -/
theorem src_sample_iter {α P W : Type} (sample_list : List (P × α)) (rank size : ℕ) (hr : rank < size)
    (um : W → P → W) (w0 : W) :
    Gen.SrcC18.sample_iter sample_list rank size um w0 = walk um w0 (strided rank size sample_list) := by
  unfold Gen.SrcC18.sample_iter
  dsimp only
  rw [show (List.length sample_list - rank + size - 1) / size = rangeCount rank sample_list.length size from rfl,
    slice_eq_strided hr, walk_fold]
  rfl

section
variable {α : Type} [OfNat α 0]

/-- what rank `j` contributes to the k-th `mpi.allreduce(…, op='SUM')` of `compute_derived_trace` for one derived parameter
    whose value on sample i is `tr i` and whose weight is `wt i` (k = 1: its trace, k = 2: its weights): the entries of its
    samples `range(j, n, size)` in order -/
def sentTrace (size n : ℕ) (tr wt : ℕ → α) (k j : ℕ) : List α :=
  strided j size ((List.range n).map (if k = 1 then tr else wt))

/-- `Optimizer.compute_derived_trace` for one derived parameter, on rank `r` of `size`, `n` samples: the loop over
    `range(rank, n, size)` evaluates the rank's samples in order; the three `mpi.allreduce(…, op='SUM')` return the
    concatenation in rank order (`concatAt`) of the ranks' index lists `range(j, n, size)` (= `strided j size (range n)`),
    traces and weights; `restore = all_index.argsort()` (`argsort`: the model's) and `[restore]`.  The stored 'trace' is the
    model's `derivedTraceGather size` of the trace in sample order.  `hdv`: the derived value read after
    `update_model(p)`, `initialize_profiles()` depends on `p` only (what C07 states of the update).  The quantile summary
    (`quantile_corner`, `np.average`, the literals) does not enter the stored trace: arbitrary. -/
theorem src_compute_derived_trace {P W : Type} (n size r : ℕ) (hr : r < size) (samples : ℕ → P) (weights : ℕ → α)
    (um : W → P → W) (ip : W → W) (dv : W → α) (value : P → α) (hdv : ∀ w p, dv (ip (um w p)) = value p) (w0 : W)
    (average : List α → List α → α) (quantile_corner : List α → List α → List α → List α) (q16 q50 q84 : α) :
    Gen.SrcC18.compute_derived_trace n
        (allreduce := fun k => concatAt size r (sentTrace size n (fun i => value (samples i)) weights k))
        (allreduce_nat := fun _ => concatAt size r (fun j => strided j size (List.range n)))
        (argsort_nat := argsort) (average := average) (c0p16 := q16) (c0p5 := q50) (c0p84 := q84) (derived_values := dv)
        (initialize_profiles := ip) (mpi_rank := r) (mpi_size := size) (quantile_corner := quantile_corner)
        (samples := samples) (update_model := um) (w__ := w0) (weights := weights)
      = derivedTraceGather size ((List.range n).map (fun i => value (samples i))) := by
  rw [compute_derived_trace_any n size r hr samples weights um ip dv value hdv w0 average quantile_corner q16 q50 q84
    (sentTrace size n (fun i => value (samples i)) weights) (fun _ => by simp [sentTrace]) argsort argsort_isArgsort]
  exact (derivedTraceGather_eq (by omega) _).symm

/-- the keys of the stored record: the translated component is the one stored under 'trace' -/
theorem src_compute_derived_trace_keys : Gen.SrcC18.compute_derived_trace_keys = ["trace"] := rfl

end

end Taurex.C18Src
