/-
  C19 — source tie.  `TaurexModel/Gen/SrcC19.lean` is regenerated on every run by `harness/translate.py` (dialect
  `shaped`, harness/translate_shaped.py) from the source text of
      taurex/contributions/simpleclouds.py   SimpleCloudsContribution.prepare_each, .contribute
      taurex/contributions/leemie.py         LeeMieContribution.prepare_each
      taurex/contributions/flatmie.py        FlatMieContribution.prepare_each
  (whole-array numpy code: masks, `a[mask, :] = v`, slices, `[::-1]`, `np.searchsorted`, `sorted`, `.max()`/`.min()`).
  The theorems state that each regenerated definition is the model function of `TaurexModel/Haze.lean` that the C19
  theorems are about and `driver_c19` executes — for EVERY carrier, with no algebra:
    * clouds, Lee haze: unconditional (both sides unfold to the same tests and the same arithmetic);
    * grey haze (FlatMie): for the layers `l < nLayers`, under the one order fact the code's `sorted([top, bottom])`
      relies on, `a ≤ b ↔ ¬ b < a`.  `Proofs/C19SrcFlat.lean` (`flat_prepare_each_of_bounds`) asks it of the two computed
      window bounds only, which a carrier with NaN meets whenever neither bound is NaN; `src_flat_prepare_each` asks it
      of EVERY pair of carrier values, which only a carrier without NaN meets (ℝ: `src_flat_prepare_each_real`).
      The window search (`np.searchsorted`), the slice arithmetic, the normalisation by `weight.max()` and the final
      `[::-1]` are matched index by index.
  Parameters read from attributes are instantiated with what the objects hold: `np.inf` ↦ `inf`, numpy's float power ↦
  the model's `powr` (C19's ASSUMPTIONS: `x**y = exp(y log x)`), the literals `0.2`, `1e-6` ↦ `1/5`, `1/1000000`
  (passed BY NAME: the parameter of a float literal is named after its value, so a changed literal breaks the tie).
  The `*_shapes` theorems discharge the companion obligations of the translator: every pair of axis lengths numpy
  requires to agree does agree and no slice stop exceeds its axis (so no slice is silently clipped or broadcast).
  The run the cloud theorems are about — `TransmissionModel.path_integral` (loop over the layers, loop over the contribution
  list with its `tau[layer].min() > 10` break), the `contribute` methods it dispatches to, the chord lengths and
  `compute_absorption` (`np.exp(-tau)`) — is re-translated here from C01's specs and tied, for EVERY carrier, to the model of
  `TaurexModel/Transmission.lean` (`src_path_integral*`, the statements of `Props/C01Src.lean` about `Gen.SrcC19`; the loops
  themselves are treated once, in `Proofs/C01SrcLemmas.lean`).  Being generic, these ties also hold at the extended carrier `XR` of `Proofs/C19Ext.lean`, where `np.inf`
  is a value: `src_cloudy_run*` state that the regenerated run with the regenerated cloud opacity first returns the model's
  `cloudyTrans` / `cloudyDepth`.
-/
import TaurexModel.Gen.SrcC19
import TaurexModel.Haze
import TaurexModel.Geometry
import Proofs.C01SrcLemmas
import Proofs.C19Ext
import Proofs.C19SrcFlat
set_option linter.unusedSectionVars false

namespace Taurex.C19Src
open Taurex.Transmission Taurex.Haze
open Taurex.C01Src (fold_kernel foldl_append_singleton cutLoop foldl_break fold_layers tauCutFrom_congr
  tauCutFrom_congr_path depth_congr)

section
variable {α : Type} [Add α] [Sub α] [Mul α] [Div α] [Neg α] [LT α] [LE α]
  [DecidableLT α] [DecidableLE α] [OfNat α 0] [OfNat α 1] [OfNat α 2] [OfNat α 10] [Transc α]
  [OfNat α 4] [OfNat α 5] [OfNat α 10000] [OfNat α 1000000]

/-! ### optically thick cloud deck -/

/-- the value the code stores for a model opacity: `np.inf` (the parameter `inf`) for `Ext.inf` -/
def Ext.toCarrier (inf : α) : Ext α → α
  | .fin x => x
  | .inf => inf

/-- `SimpleCloudsContribution.prepare_each`: `contrib[pressureProfile >= cloud_pressure, :] = np.inf` on zeros, at every
    layer and wavenumber -/
theorem src_clouds_prepare_each (nL nW : Nat) (P : Nat → α) (p0 inf : α) (l wn : Nat) :
    Gen.SrcC19.clouds_prepare_each nW P inf nL p0 l wn = Ext.toCarrier inf (cloudSigma P p0 l) := by
  unfold Gen.SrcC19.clouds_prepare_each cloudSigma
  by_cases h : p0 ≤ P l <;> simp [h, Ext.toCarrier]

/-- what the suspended `SimpleCloudsContribution.prepare_each` has PUBLISHED in `self.sigma_xsec` at its yield — the array
    `contribute` reads when `model_full_contrib` re-runs `path_integral` for the 'Clouds' component — IS the yielded deck
    (regression statement for the defect of DESIGN §6 in which the generator stores the deck in `self._contrib` only and
    `sigma_xsec` keeps the deck of the last `prepare()`) -/
theorem src_clouds_published (nL nW : Nat) (P : Nat → α) (p0 inf : α) :
    Gen.SrcC19.clouds_prepare_each_published nW P inf nL p0 = Gen.SrcC19.clouds_prepare_each nW P inf nL p0 := rfl

/-- … hence the deck the component route integrates is the documented one, at every layer and wavenumber -/
theorem src_clouds_published_deck (nL nW : Nat) (P : Nat → α) (p0 inf : α) (l wn : Nat) :
    Gen.SrcC19.clouds_prepare_each_published nW P inf nL p0 l wn = Ext.toCarrier inf (cloudSigma P p0 l) := by
  rw [src_clouds_published]; exact src_clouds_prepare_each nL nW P p0 inf l wn

/-- `SimpleCloudsContribution.contribute`: `tau[layer] += self.sigma_xsec[layer, :]` — the cloud adds the opacity of its
    own layer only, to the whole row (kind `layerOnly` of `Transmission.addContrib`) -/
theorem src_clouds_contribute (n l nL nW : Nat) (sigma : Nat → Nat → α) (dens path : Nat → α) (tau : Nat → Nat → α) :
    Gen.SrcC19.clouds_contribute l tau nL nW sigma
      = fun i j => if i = l then addContrib ⟨.layerOnly, sigma⟩ n path dens l (tau l) j else tau i j := rfl

/-- … on the zero row `path_integral` starts from this is the `0 + s` of `cloudyTau` -/
theorem src_clouds_contribute_first (l nL nW : Nat) (sigma : Nat → Nat → α) (wn : Nat) :
    Gen.SrcC19.clouds_contribute l (fun _ _ => 0) nL nW sigma l wn = 0 + sigma l wn := by
  simp [Gen.SrcC19.clouds_contribute]

/-! ### Lee et al. haze -/

/-- `LeeMieContribution.prepare_each`, every layer and wavenumber: the window test on the layer pressures (unset bound
    → first / last layer pressure) and the extinction law -/
theorem src_lee_prepare_each (n nW : Nat) (P wnv : Nat → α) (bottomRaw topRaw pi a q mix : α) (l wn : Nat) :
    Gen.SrcC19.lee_prepare_each wnv nW P (a := a) (bottomRaw := bottomRaw) (c0p2 := 1 / 5) (c1em06 := 1 / 1000000)
        (mix := mix) (nL := n) (pi := pi) (powf := powr) (q := q) (topRaw := topRaw) l wn
      = leeSigma n P bottomRaw topRaw pi a q mix wnv l wn := by
  unfold Gen.SrcC19.lee_prepare_each leeSigma leeBound leeLaw
  simp only [decide_eq_true_eq, Bool.and_eq_true]

theorem src_lee_prepare_each_shapes (n nW : Nat) (P wnv : Nat → α) (bottomRaw topRaw pi a q mix c1 c2 : α)
    (pw : α → α → α) : Gen.SrcC19.lee_prepare_each_shapes wnv nW P a bottomRaw c1 c2 mix n pi pw q topRaw := by
  unfold Gen.SrcC19.lee_prepare_each_shapes
  intros; rfl

/-! ### grey haze between two pressures -/

/-- `FlatMieContribution.prepare_each` on the layers of the atmosphere -/
theorem src_flat_prepare_each (hord : ∀ a b : α, a ≤ b ↔ ¬ b < a) (n nW : Nat) (plev : Nat → α)
    (bottomRaw topRaw mix : α) (l wn : Nat) (hl : l < n) :
    Gen.SrcC19.flat_prepare_each nW bottomRaw mix n plev topRaw l wn = flatSigma n plev bottomRaw topRaw mix l :=
  flat_prepare_each_of_bounds n nW plev bottomRaw topRaw mix (hord _ _) l wn hl

theorem countP_map_range_le (m : Nat) (f : Nat → α) (p : α → Bool) :
    ((List.range m).map f).countP p ≤ m := by
  have := List.countP_le_length (p := p) (l := (List.range m).map f)
  simpa using this

/-- the slices of `FlatMieContribution.prepare_each` stay inside their arrays (at least one layer) -/
theorem src_flat_prepare_each_shapes (n nW : Nat) (hn : 1 ≤ n) (plev : Nat → α) (bottomRaw topRaw mix : α) :
    Gen.SrcC19.flat_prepare_each_shapes nW bottomRaw mix n plev topRaw := by
  unfold Gen.SrcC19.flat_prepare_each_shapes
  refine ⟨by omega, ?_, ?_⟩
  · intros
    refine Nat.le_trans (Nat.add_le_add_right (countP_map_range_le _ _ _) 1) ?_
    omega
  · intros
    refine Nat.le_trans (Nat.add_le_add_right (countP_map_range_le _ _ _) 1) ?_
    show _ ≤ n
    omega

/-! ## the transmission run (C01's specs, re-translated into `Gen.SrcC19`) -/

/-! ### the optical-depth kernels -/

/-- `contribute_tau` (both loops): row `layer`, columns below `ngrid`, receive
    `Σ_{k = startK}^{endK-1} sigma[k+layer, wn] * path[k] * density[k+density_offset]` added in that order; every other
    entry of `tau` is untouched -/
theorem src_contribute_tau (s e off : Nat) (sigma : Nat → Nat → α) (dens path : Nat → α) (ngrid l : Nat)
    (tau : Nat → Nat → α) :
    Gen.SrcC19.contribute_tau s e off sigma dens path ngrid l tau
      = fun i j => if i = l ∧ j < ngrid then
          (List.range' s (e - s)).foldl (fun acc k => acc + sigma (k + l) j * path k * dens (k + off)) (tau l j)
        else tau i j :=
  fold_kernel l ngrid s (e - s) (fun k wn => sigma (k + l) wn * path k * dens (k + off)) tau

/-- `contribute_cia`: the same with the density squared -/
theorem src_contribute_cia (s e off : Nat) (sigma : Nat → Nat → α) (dens path : Nat → α) (ngrid l : Nat)
    (tau : Nat → Nat → α) :
    Gen.SrcC19.contribute_cia s e off sigma dens path ngrid l tau
      = fun i j => if i = l ∧ j < ngrid then
          (List.range' s (e - s)).foldl
            (fun acc k => acc + sigma (k + l) j * path k * dens (k + off) * dens (k + off)) (tau l j)
        else tau i j :=
  fold_kernel l ngrid s (e - s) (fun k wn => sigma (k + l) wn * path k * dens (k + off) * dens (k + off)) tau

/-- `Contribution.contribute` hands `self.sigma_xsec`, `self._ngrid` to `contribute_tau` -/
theorem src_contribution_contribute (s e off l : Nat) (dens path : Nat → α) (tau sigma : Nat → Nat → α) (ngrid : Nat) :
    Gen.SrcC19.contribution_contribute s e off l dens tau path ngrid sigma
      = Gen.SrcC19.contribute_tau s e off sigma dens path ngrid l tau := rfl

/-- `CIAContribution.contribute` with at least one pair (`self._total_cia > 0`) runs `contribute_cia`; with no pair it
    leaves `tau` alone (its `sigma_xsec` is then identically zero) -/
theorem src_cia_contribute (s e off l : Nat) (dens path : Nat → α) (tau sigma : Nat → Nat → α) (ngrid total : Nat) :
    Gen.SrcC19.cia_contribute s e off l dens tau path ngrid sigma total
      = if 0 < total then Gen.SrcC19.contribute_cia s e off sigma dens path ngrid l tau else tau := by
  unfold Gen.SrcC19.cia_contribute
  by_cases h : 0 < total <;> simp [h]

/-- the kernel as `path_integral` calls it, for a prepared contribution of kind `lin`: the new row is `addContrib` -/
theorem src_contribute_tau_call (n l ngrid : Nat) (sigma : Nat → Nat → α) (dens path : Nat → α) (tau : Nat → Nat → α) :
    Gen.SrcC19.contribute_tau 0 (n - l) l sigma dens path ngrid l tau
      = fun i j => if i = l ∧ j < ngrid then addContrib ⟨.lin, sigma⟩ n path dens l (tau l) j else tau i j :=
  C01Src.fold_kernel_call ⟨.lin, sigma⟩ n l ngrid dens path tau

theorem src_contribute_cia_call (n l ngrid : Nat) (sigma : Nat → Nat → α) (dens path : Nat → α) (tau : Nat → Nat → α) :
    Gen.SrcC19.contribute_cia 0 (n - l) l sigma dens path ngrid l tau
      = fun i j => if i = l ∧ j < ngrid then addContrib ⟨.sq, sigma⟩ n path dens l (tau l) j else tau i j :=
  C01Src.fold_kernel_call ⟨.sq, sigma⟩ n l ngrid dens path tau

/-! ### transit depth and chord lengths -/

/-- `compute_absorption(tau, dz)`: the pair (`depth` per wavenumber, `exp(-tau)`) -/
theorem src_compute_absorption (n nW : Nat) (rp rs : α) (z dz : Nat → α) (tau : Nat → Nat → α) :
    Gen.SrcC19.compute_absorption tau dz n nW rp rs z
      = (fun wn => depth rp rs n z dz (fun l => trans (tau l wn)), fun l wn => trans (tau l wn)) := rfl

/-- `compute_path_length_old(dz)`: the list, layer by layer, of the chord segments `chordOld` (as whole functions of the
    segment index: also the slice arithmetic `k[1:] = …[layer+1:]`, `k[1:] -= …[layer:nLayers-1]` is matched) -/
theorem src_compute_path_length_old (n : Nat) (rp : α) (z dz : Nat → α) :
    Gen.SrcC19.compute_path_length_old dz n rp z = (List.range n).map (fun l => chordOld rp z dz l) :=
  C01Src.path_length_old_rows n rp z dz

/-- the slices combined element-wise in `compute_path_length_old` have equal lengths (what numpy requires; hence no
    length-1 slice is silently broadcast) -/
theorem src_compute_path_length_old_shapes (n : Nat) (rp : α) (z dz : Nat → α) :
    Gen.SrcC19.compute_path_length_old_shapes dz n rp z :=
  C01Src.path_length_old_shapes n

/-! ### new path method: what is handed to the 3-D geometry -/

/-- a `(3, n)` numpy array whose columns are the vectors `f j` -/
def rows (f : Nat → Geometry.V3 α) : Nat → Nat → α :=
  fun r j => if r = 1 then (f j).y else if r = 0 then (f j).x else (f j).z

/-- `parallel_vector(R, alt, max_alt)` (for an array `alt`): column `j` of `viewer` / `tangent` is the model's
    `Geometry.parallelVector R alt[j] max_alt` — in particular the ray origin `-(R + 2·max_alt)` -/
theorem src_parallel_vector (R maxAlt : α) (alt : Nat → α) (nA : Nat) :
    Gen.SrcC19.parallel_vector R alt maxAlt nA
      = (rows (fun j => (Geometry.parallelVector R (alt j) maxAlt).1),
         rows (fun j => (Geometry.parallelVector R (alt j) maxAlt).2)) := by
  -- `viewer` is `rows` of the model's vectors as written; `tangent` has `0` in both of its other rows
  refine Prod.ext rfl (funext fun r => funext fun j => ?_)
  show (if r = 1 then R + alt j else 0) = if r = 1 then R + alt j else if r = 0 then 0 else 0
  rw [ite_self]

/-- `TransmissionModel.compute_path_length`: the rows come from `planet.compute_path_length` (→
    `compute_path_length_3d`, a parameter) called with the altitude boundaries and, for tangent layer `l`, the line of
    sight `parallelVector rp (z[l] + dz[l]/2) (max of the boundaries)` — the inputs of the model's
    `Geometry.layerDists` -/
theorem src_compute_path_length (n : Nat) (rp : α) (zb z dz : Nat → α)
    (planetPaths : (Nat → α) → (Nat → Nat → α) → (Nat → Nat → α) → List (Nat → α)) :
    Gen.SrcC19.compute_path_length dz n planetPaths rp zb z
      = planetPaths zb
          (rows (fun l => (Geometry.parallelVector rp (z l + dz l / 2) (Geometry.arrMax n zb)).1))
          (rows (fun l => (Geometry.parallelVector rp (z l + dz l / 2) (Geometry.arrMax n zb)).2)) := by
  unfold Gen.SrcC19.compute_path_length
  simp only [src_parallel_vector]
  rfl

/-! ### the whole `path_integral` -/

/-- what `contrib.contribute(self, s, e, off, layer, density, tau, path_length=dl)` executes (Python's dynamic
    dispatch) for a prepared contribution of each model kind: `Contribution.contribute` (absorption, Rayleigh, hazes:
    kernel `contribute_tau`), `CIAContribution.contribute`, `SimpleCloudsContribution.contribute`; `ngrid` is the
    contributions' `self._ngrid` (= `wngrid.shape[0]`, set by `prepare`), `total` is `CIAContribution._total_cia` -/
def dispatch (ngrid total nL : Nat) (c : Contrib α) (s e off layer : Nat) (dens : Nat → α) (tau : Nat → Nat → α)
    (path : Nat → α) : Nat → Nat → α :=
  match c.kind with
  | .lin => Gen.SrcC19.contribution_contribute s e off layer dens tau path ngrid c.sigma
  | .sq => Gen.SrcC19.cia_contribute s e off layer dens tau path ngrid c.sigma total
  | .layerOnly => Gen.SrcC19.clouds_contribute layer tau nL ngrid c.sigma

theorem dispatch_row (n nwn total : Nat) (ht : 0 < total) (c : Contrib α) (l : Nat) (dens path : Nat → α)
    (tau : Nat → Nat → α) :
    (∀ i j, i ≠ l → dispatch nwn total n c 0 (n - l) l l dens tau path i j = tau i j) ∧
    (∀ j < nwn, dispatch nwn total n c 0 (n - l) l l dens tau path l j = addContrib c n path dens l (tau l) j) := by
  obtain ⟨kind, sigma⟩ := c
  cases kind
  · exact C01Src.rowCall_of_kernel (src_contribute_tau_call n l nwn sigma dens path tau)
  · refine C01Src.rowCall_of_kernel (v := addContrib ⟨.sq, sigma⟩ n path dens l (tau l)) ?_
    simp only [dispatch, src_cia_contribute, if_pos ht, src_contribute_cia_call]
  · exact C01Src.rowCall_of_row (src_clouds_contribute n l n nwn sigma dens path tau)

/-- the loop over the contribution list (with its break) on row `l` of the table -/
theorem layer_loop (n nwn total : Nat) (ht : 0 < total) (l : Nat) (dens path : Nat → α) (cs : List (Contrib α))
    (tau : Nat → Nat → α) :
    (∀ i j, i ≠ l →
      cutLoop (fun t : Nat → Nat → α => saturated nwn (t l))
        (fun c t => dispatch nwn total n c 0 (n - l) l l dens t path) cs tau i j = tau i j) ∧
    (∀ j < nwn,
      cutLoop (fun t : Nat → Nat → α => saturated nwn (t l))
        (fun c t => dispatch nwn total n c 0 (n - l) l l dens t path) cs tau l j
        = tauCutFrom n nwn path dens l cs (tau l) j) :=
  C01Src.layer_loop_of (fun c l dens path tau => dispatch_row n nwn total ht c l dens path tau) l dens path cs tau

/-- **`path_integral`, optical depth part**: for whatever list of chord rows `paths` the code computed, entry
    `(l, wn)` of the returned `exp(-tau)` is the transmittance of the model's loop with the early exit, `tauCut`, and the
    returned absorption is `depth` of these.  (`0 < total`: a CIA contribution, if present, has at least one pair.) -/
theorem src_path_integral (n nwn total : Nat) (ht : 0 < total) (rp rs : α) (z dz dens : Nat → α)
    (zb : Nat → α) (cs : List (Contrib α)) (newMethod : Bool)
    (planetPaths : (Nat → α) → (Nat → Nat → α) → (Nat → Nat → α) → List (Nat → α)) :
    let paths := if newMethod then Gen.SrcC19.compute_path_length dz n planetPaths rp zb z
      else Gen.SrcC19.compute_path_length_old dz n rp z
    let r := Gen.SrcC19.path_integral nwn cs (dispatch nwn total n) dz dens n newMethod planetPaths rp rs zb z
    (∀ l < n, ∀ wn < nwn,
        r.2 l wn = trans (tauCut n nwn (paths.getD l (fun _ => 0)) dens l cs wn)) ∧
    (∀ wn < nwn,
        r.1 wn = depth rp rs n z dz (fun l => trans (tauCut n nwn (paths.getD l (fun _ => 0)) dens l cs wn))) := by
  intro paths r
  -- the regenerated `path_integral` unfolds to the two nested folds of `path_integral_of`, with `paths` its `path_length`
  exact C01Src.path_integral_of (fun c l dens path tau => dispatch_row n nwn total ht c l dens path tau) rp rs z dz dens
    (fun l => paths.getD l (fun _ => 0)) cs

theorem chord_old (rp : α) (zb z dz : Nat → α) (l : Nat) : chord false rp zb z dz l = chordOld rp z dz l :=
  funext fun _ => if_neg Bool.false_ne_true

theorem chord_new (rp : α) (zb z dz : Nat → α) (l : Nat) : chord true rp zb z dz l = chordNew rp zb z dz l :=
  funext fun _ => if_pos rfl

/-- **`path_integral` with the old path method** (`new_path_method=False`) is the model `modelTrans` / `modelDepth` with
    the early exit -/
theorem src_path_integral_old (n nwn total : Nat) (ht : 0 < total) (rp rs : α) (zb z dz dens : Nat → α)
    (cs : List (Contrib α)) (planetPaths : (Nat → α) → (Nat → Nat → α) → (Nat → Nat → α) → List (Nat → α)) :
    let r := Gen.SrcC19.path_integral nwn cs (dispatch nwn total n) dz dens n false planetPaths rp rs zb z
    (∀ l < n, ∀ wn < nwn, r.2 l wn = modelTrans true false rp n nwn zb z dz dens cs l wn) ∧
    (∀ wn < nwn, r.1 wn = modelDepth true false rp rs n nwn zb z dz dens cs wn) := by
  intro r
  have h := src_path_integral n nwn total ht rp rs z dz dens zb cs false planetPaths
  simp only [Bool.false_eq_true, if_false, src_compute_path_length_old] at h
  refine C01Src.model_of_paths false n nwn rp rs zb z dz dens cs _ (fun l hl k _ => ?_) r h
  rw [chord_old, getD_map_range _ hl]

/-- **`path_integral` with the new path method**: if the rows `planet.compute_path_length` returns for the lines of sight
    of `src_compute_path_length` (the 3-D geometry: modelled by `Geometry.pathRow3d` and proved equal to the closed form
    in `C01.path3d_eq_chordNew`) are the chords `chordNew` on their `n - l` segments, the result is the model with
    `newMethod = true` -/
theorem src_path_integral_new (n nwn total : Nat) (ht : 0 < total) (rp rs : α) (zb z dz dens : Nat → α)
    (cs : List (Contrib α)) (planetPaths : (Nat → α) → (Nat → Nat → α) → (Nat → Nat → α) → List (Nat → α))
    (hnew : ∀ l < n, ∀ k < n - l,
      (planetPaths zb
          (rows (fun l => (Geometry.parallelVector rp (z l + dz l / 2) (Geometry.arrMax n zb)).1))
          (rows (fun l => (Geometry.parallelVector rp (z l + dz l / 2) (Geometry.arrMax n zb)).2))).getD l (fun _ => 0) k
        = chordNew rp zb z dz l k) :
    let r := Gen.SrcC19.path_integral nwn cs (dispatch nwn total n) dz dens n true planetPaths rp rs zb z
    (∀ l < n, ∀ wn < nwn, r.2 l wn = modelTrans true true rp n nwn zb z dz dens cs l wn) ∧
    (∀ wn < nwn, r.1 wn = modelDepth true true rp rs n nwn zb z dz dens cs wn) := by
  intro r
  have h := src_path_integral n nwn total ht rp rs z dz dens zb cs true planetPaths
  simp only [if_true, src_compute_path_length] at h
  exact C01Src.model_of_paths true n nwn rp rs zb z dz dens cs _ (fun l hl k hk => by rw [chord_new]; exact hnew l hl k hk) r h

end

/-- the grey-haze tie at the carrier of the C19 theorems -/
theorem src_flat_prepare_each_real (n nW : Nat) (plev : Nat → ℝ) (bottomRaw topRaw mix : ℝ) (l wn : Nat) (hl : l < n) :
    Gen.SrcC19.flat_prepare_each nW bottomRaw mix n plev topRaw l wn = flatSigma n plev bottomRaw topRaw mix l :=
  src_flat_prepare_each (fun _ _ => not_lt.symm) n nW plev bottomRaw topRaw mix l wn hl

/-! ## the cloudy run at the extended carrier `XR` (Proofs/C19Ext.lean), where `np.inf` is a value

  All inputs are finite (`lift`, `fin`) except the cloud's opacity: the regenerated `prepare_each` is run with `np.inf := pinf`.
  The contribution list is `[cloud deck] ++ rest` (`build()` sorts by `order`, the cloud's is 3, every other built-in
  contribution's 5).  `total` = `CIAContribution._total_cia` (`0 < total`: a CIA contribution, if present, has a pair). -/

open Taurex.C19Ext Taurex.C19Ext.XR

/-- the regenerated `SimpleCloudsContribution.prepare_each` at `XR`, run with `np.inf` as the value `pinf`: `pinf` at and
    below the cloud top, `0` above — the opacity table of the model's cloud deck -/
theorem src_clouds_prepare_each_XR (nL nW : Nat) (P : Nat → ℝ) (p0 : ℝ) :
    Gen.SrcC19.clouds_prepare_each (α := XR) nW (lift P) pinf nL (fin p0) = (cloudC P p0).sigma := by
  funext l wn
  unfold Gen.SrcC19.clouds_prepare_each cloudC cloudSigma
  by_cases h : p0 ≤ P l <;> simp [h, ofExt]

/-- the prepared contribution list of a model with a cloud deck, at `XR`: the cloud's `sigma_xsec` is what the
    regenerated `prepare_each` computes -/
noncomputable def cloudyList (nL nW : Nat) (P : Nat → ℝ) (p0 : ℝ) (rest : List (Contrib ℝ)) : List (Contrib XR) :=
  ⟨.layerOnly, Gen.SrcC19.clouds_prepare_each (α := XR) nW (lift P) pinf nL (fin p0)⟩ :: rest.map liftC

theorem cloudyList_eq (nL nW : Nat) (P : Nat → ℝ) (p0 : ℝ) (rest : List (Contrib ℝ)) :
    cloudyList nL nW P p0 rest = cloudC P p0 :: rest.map liftC := by
  unfold cloudyList
  rw [src_clouds_prepare_each_XR]
  rfl

/-- the regenerated `path_integral` (absorption, `exp(-tau)`) of that model, at `XR` -/
noncomputable def cloudyRun (newMethod : Bool) (rp rs : ℝ) (n nwn total : Nat) (zb z dz dens P : Nat → ℝ) (p0 : ℝ)
    (rest : List (Contrib ℝ)) (planetPaths : (Nat → XR) → (Nat → Nat → XR) → (Nat → Nat → XR) → List (Nat → XR)) :
    (Nat → XR) × (Nat → Nat → XR) :=
  Gen.SrcC19.path_integral (α := XR) nwn (cloudyList n nwn P p0 rest) (dispatch nwn total n) (lift dz) (lift dens) n
    newMethod planetPaths (fin rp) (fin rs) (lift zb) (lift z)

/-- **the cloudy run, old path method**: the regenerated `path_integral` at `XR` — with the regenerated cloud opacity, the
    regenerated `contribute` methods, chord lengths and `compute_absorption` — returns the model's `cloudyTrans` (entry by
    entry of `exp(-tau)`) and `cloudyDepth`, as finite values -/
theorem src_cloudy_run_old (rp rs : ℝ) (n nwn total : Nat) (ht : 0 < total) (zb z dz dens P : Nat → ℝ) (p0 : ℝ)
    (rest : List (Contrib ℝ)) (planetPaths : (Nat → XR) → (Nat → Nat → XR) → (Nat → Nat → XR) → List (Nat → XR)) :
    (∀ l < n, ∀ wn < nwn, (cloudyRun false rp rs n nwn total zb z dz dens P p0 rest planetPaths).2 l wn
        = fin (cloudyTrans false rp n nwn zb z dz dens P p0 rest l wn)) ∧
    (∀ wn < nwn, (cloudyRun false rp rs n nwn total zb z dz dens P p0 rest planetPaths).1 wn
        = fin (cloudyDepth false rp rs n nwn zb z dz dens P p0 rest wn)) := by
  unfold cloudyRun
  rw [cloudyList_eq]
  have h := src_path_integral_old (α := XR) n nwn total ht (fin rp) (fin rs) (lift zb) (lift z) (lift dz) (lift dens)
    (cloudC P p0 :: rest.map liftC) planetPaths
  exact ⟨fun l hl wn hwn => (h.1 l hl wn hwn).trans
      (modelTrans_cloudy false rp n nwn zb z dz dens P p0 rest l wn (Nat.zero_lt_of_lt hwn)),
    fun wn hwn => (h.2 wn hwn).trans
      (modelDepth_cloudy false rp rs n nwn zb z dz dens P p0 rest wn (Nat.zero_lt_of_lt hwn))⟩

/-- **the cloudy run, new path method**, under the hypothesis of `src_path_integral_new` (the 3-D geometry returns the
    chords `chordNew`) -/
theorem src_cloudy_run_new (rp rs : ℝ) (n nwn total : Nat) (ht : 0 < total) (zb z dz dens P : Nat → ℝ) (p0 : ℝ)
    (rest : List (Contrib ℝ)) (planetPaths : (Nat → XR) → (Nat → Nat → XR) → (Nat → Nat → XR) → List (Nat → XR))
    (hnew : ∀ l < n, ∀ k < n - l,
      (planetPaths (lift zb)
          (rows (fun l => (Geometry.parallelVector (fin rp) (lift z l + lift dz l / 2) (Geometry.arrMax n (lift zb))).1))
          (rows (fun l => (Geometry.parallelVector (fin rp) (lift z l + lift dz l / 2) (Geometry.arrMax n (lift zb))).2))).getD
            l (fun _ => 0) k
        = chordNew (fin rp) (lift zb) (lift z) (lift dz) l k) :
    (∀ l < n, ∀ wn < nwn, (cloudyRun true rp rs n nwn total zb z dz dens P p0 rest planetPaths).2 l wn
        = fin (cloudyTrans true rp n nwn zb z dz dens P p0 rest l wn)) ∧
    (∀ wn < nwn, (cloudyRun true rp rs n nwn total zb z dz dens P p0 rest planetPaths).1 wn
        = fin (cloudyDepth true rp rs n nwn zb z dz dens P p0 rest wn)) := by
  unfold cloudyRun
  rw [cloudyList_eq]
  have h := src_path_integral_new (α := XR) n nwn total ht (fin rp) (fin rs) (lift zb) (lift z) (lift dz) (lift dens)
    (cloudC P p0 :: rest.map liftC) planetPaths hnew
  exact ⟨fun l hl wn hwn => (h.1 l hl wn hwn).trans
      (modelTrans_cloudy true rp n nwn zb z dz dens P p0 rest l wn (Nat.zero_lt_of_lt hwn)),
    fun wn hwn => (h.2 wn hwn).trans
      (modelDepth_cloudy true rp rs n nwn zb z dz dens P p0 rest wn (Nat.zero_lt_of_lt hwn))⟩

/-- the same model WITHOUT the cloud deck (old path method), at `XR` on finite inputs: `fin` of the model at `ℝ` -/
theorem src_clear_run_old (rp rs : ℝ) (n nwn total : Nat) (ht : 0 < total) (zb z dz dens : Nat → ℝ)
    (rest : List (Contrib ℝ)) (planetPaths : (Nat → XR) → (Nat → Nat → XR) → (Nat → Nat → XR) → List (Nat → XR)) :
    ∀ l < n, ∀ wn < nwn,
      (Gen.SrcC19.path_integral (α := XR) nwn (rest.map liftC) (dispatch nwn total n) (lift dz) (lift dens) n false
        planetPaths (fin rp) (fin rs) (lift zb) (lift z)).2 l wn
        = fin (modelTrans true false rp n nwn zb z dz dens rest l wn) := by
  intro l hl wn hwn
  rw [(src_path_integral_old (α := XR) n nwn total ht (fin rp) (fin rs) (lift zb) (lift z) (lift dz) (lift dens)
    (rest.map liftC) planetPaths).1 l hl wn hwn]
  exact modelTrans_fin false rp n nwn zb z dz dens rest l wn

/-- … and with the new path method, under the hypothesis of `src_path_integral_new` -/
theorem src_clear_run_new (rp rs : ℝ) (n nwn total : Nat) (ht : 0 < total) (zb z dz dens : Nat → ℝ)
    (rest : List (Contrib ℝ)) (planetPaths : (Nat → XR) → (Nat → Nat → XR) → (Nat → Nat → XR) → List (Nat → XR))
    (hnew : ∀ l < n, ∀ k < n - l,
      (planetPaths (lift zb)
          (rows (fun l => (Geometry.parallelVector (fin rp) (lift z l + lift dz l / 2) (Geometry.arrMax n (lift zb))).1))
          (rows (fun l => (Geometry.parallelVector (fin rp) (lift z l + lift dz l / 2) (Geometry.arrMax n (lift zb))).2))).getD
            l (fun _ => 0) k
        = chordNew (fin rp) (lift zb) (lift z) (lift dz) l k) :
    ∀ l < n, ∀ wn < nwn,
      (Gen.SrcC19.path_integral (α := XR) nwn (rest.map liftC) (dispatch nwn total n) (lift dz) (lift dens) n true
        planetPaths (fin rp) (fin rs) (lift zb) (lift z)).2 l wn
        = fin (modelTrans true true rp n nwn zb z dz dens rest l wn) := by
  intro l hl wn hwn
  rw [(src_path_integral_new (α := XR) n nwn total ht (fin rp) (fin rs) (lift zb) (lift z) (lift dz) (lift dens)
    (rest.map liftC) planetPaths hnew).1 l hl wn hwn]
  exact modelTrans_fin true rp n nwn zb z dz dens rest l wn

end Taurex.C19Src
