/-
  C12 — source tie.  `TaurexModel/Gen/SrcC12.lean` is regenerated on every run by `harness/translate.py` (idioms of
  `harness/translate_arr.py`, `harness/translate_seq.py`) from the source text of
  taurex/data/profiles/temperature/isothermal.py, guillot.py, npoint.py, rodgers.py, temparray.py and of `movingaverage` in
  taurex/util/util.py.  The theorems below state, for EVERY carrier (no algebra is used), that each regenerated definition is
  the hand-written model function of `TaurexModel/Temperature.lean` that the C12 theorems are about and that `driver_c12`
  executes.
  Hypotheses on externals / on the order are explicit:
    * `hpow : ∀ x, rpow x c = sqrt (sqrt x)` — the model's reading of `T4 ** 0.25` (ASSUMPTIONS of harness/c12.py);
    * `hle : ∀ a b, a ≤ b ↔ ¬ b < a` — the carrier's order is total (ℝ, ℚ; NOT a float type, whose NaN fails it): the code
      tests `x == 0.0` (IEEE equality = `x ≤ 0 ∧ 0 ≤ x`), the model tests `¬ x < 0 ∧ ¬ 0 < x`; they differ only for NaN
      parameters, which are outside the property's quantifier.  It is used at the tested values against zero only: the form
      that a float carrier meets for non-NaN parameters is `Temperature.guillot_check_of` (Proofs/C12Src.lean).
    * the functions translated in the dialect `seq` (harness/translate_seq.py: `taurex.util.movingaverage`, the WHOLE
      `NPoint.profile`, `TemperatureArray.__init__` / `profile`) keep arrays as lists of run-time length and raise where
      Python / numpy raise (`Except.error "InvalidTemperatureException"`, `"ValueError"`); `outcomeOf` reads that as the
      model's `Outcome`.  Externals are instantiated with the model's `npInterp` / `linspace` (TaurexModel/NpInterp.lean),
      Python's `int()` / int → float are the parameters `pyInt` / `toF`, whose properties are explicit hypotheses (`hF`, `hw`,
      `hhalf`); the cumsum trick of `movingaverage` equals the model's window means over ℝ only (`src_movingaverage`), it
      enters the generic `src_npoint_profile` as the hypothesis `hma`.
  A source change that alters one of these functions makes the corresponding theorem fail to check.
-/
import TaurexModel.Gen.SrcC12
import TaurexModel.Temperature
import Proofs.C10Src
import Proofs.SeqSrcReal
import Proofs.C12Src
import Proofs.FoldCore
set_option linter.unusedSectionVars false

namespace Taurex.C12Src
open Taurex Taurex.NpInterp Taurex.Temperature
open Taurex.C10Src (listOf listOf_map listOf_congr listOf_getD zipWith_listOf listOf_length)
open Taurex.SeqSrc (outcomeOf outcomeOf_ok assemble_tie assemble_side ma_cumsum)

section
variable {α : Type} [Add α] [Sub α] [Mul α] [Div α] [Neg α] [LT α] [LE α]
  [DecidableLT α] [DecidableLE α] [Taurex.Transc α] [OfNat α 0] [OfNat α 1] [OfNat α 2] [OfNat α 3] [OfNat α 4]

/-- `Isothermal.profile` (`T = np.zeros(nlayers); T[:] = T_iso`) is `isothermal`, entry by entry. -/
theorem src_isothermal (t : α) (n i : Nat) (hi : i < n) :
    Gen.SrcC12.isothermal_profile t n i = (isothermal t n).getD i 0 := by
  simp [Gen.SrcC12.isothermal_profile, isothermal, List.getD_eq_getElem?_getD, hi]

/-- IEEE `x == 0` against the model's `isZero`, on a totally ordered carrier -/
theorem eq_zero_iff_isZero (hle : ∀ a b : α, a ≤ b ↔ ¬ b < a) (x : α) :
    (decide (x ≤ (0 : α)) && decide ((0 : α) ≤ x)) = isZero x :=
  eq_zero_iff_isZero_of x ⟨hle _ _, hle _ _⟩

/-- `Guillot2010._check_values` raises `InvalidModelException` exactly when the model says `rejected`
    (for a total order `hle`). -/
theorem src_guillot_check (hle : ∀ a b : α, a ≤ b ↔ ¬ b < a) (q : GuillotParams α) :
    Gen.SrcC12.guillot_check_values q.tInt q.tIrr q.kappaIr q.kappaV1 q.kappaV2 = q.rejected :=
  guillot_check_of q ⟨hle _ _, hle _ _⟩ ⟨hle _ _, hle _ _⟩ ⟨hle _ _, hle _ _⟩

/-- **the Guillot closed form for one layer**: `Guillot2010.profile` evaluated at one entry `p` of the pressure profile is
    `none` (InvalidModelException) when `_check_values` raises and otherwise `sqrt (sqrt T4)` with the model's `guillotT4`
    at `tau = kappa_ir * p / g`, the exponential integrals being `expn(2, gamma_i * tau)`.  Both sides unfold to
    the same term once `T4 ** 0.25` is read as `sqrt (sqrt T4)` (`hpow`). -/
theorem src_guillot_layer (q : GuillotParams α) (g p c : α) (expn rpow : α → α → α)
    (hpow : ∀ x, rpow x c = sqrt (sqrt x)) :
    Gen.SrcC12.guillot_profile q.tInt q.tIrr q.alpha c expn q.kappaIr q.kappaV1 q.kappaV2 g p rpow
      = if Gen.SrcC12.guillot_check_values q.tInt q.tIrr q.kappaIr q.kappaV1 q.kappaV2 then none
        else some (sqrt (sqrt (guillotT4 q (q.kappaIr * p / g)
              (expn 2 (q.kappaV1 / q.kappaIr * (q.kappaIr * p / g)))
              (expn 2 (q.kappaV2 / q.kappaIr * (q.kappaIr * p / g)))))) := by
  unfold Gen.SrcC12.guillot_profile
  simp only [hpow]
  rfl

/-- **the whole profile**: the model `guillot` on a pressure list `P` (with `e21[l] = expn(2, gamma_1 tau_l)`,
    `e22[l] = expn(2, gamma_2 tau_l)`, as the harness hands them in) is `invalid` exactly when the code raises for every
    layer, and otherwise its list holds, layer by layer, the value the code returns. -/
theorem src_guillot_profile (hle : ∀ a b : α, a ≤ b ↔ ¬ b < a) (q : GuillotParams α) (g c : α)
    (expn rpow : α → α → α) (hpow : ∀ x, rpow x c = sqrt (sqrt x)) (P : List α) :
    match guillot q g P (P.map fun p => expn 2 (q.kappaV1 / q.kappaIr * (q.kappaIr * p / g)))
        (P.map fun p => expn 2 (q.kappaV2 / q.kappaIr * (q.kappaIr * p / g))) with
    | .ok l => l.length = P.length ∧ ∀ i, i < P.length →
        Gen.SrcC12.guillot_profile q.tInt q.tIrr q.alpha c expn q.kappaIr q.kappaV1 q.kappaV2 g (P.getD i 0) rpow
          = some (l.getD i 0)
    | .invalid => ∀ p,
        Gen.SrcC12.guillot_profile q.tInt q.tIrr q.alpha c expn q.kappaIr q.kappaV1 q.kappaV2 g p rpow = none
    | .error => False := by
  unfold guillot
  by_cases hr : q.rejected = true
  · simp only [hr, if_true]
    intro p
    rw [src_guillot_layer q g p c expn rpow hpow, src_guillot_check hle, hr]
    rfl
  · simp only [hr]
    refine ⟨by simp only [List.length_zipWith, List.length_zip, List.length_map, Nat.min_self], ?_⟩
    intro i hi
    rw [src_guillot_layer q g _ c expn rpow hpow, src_guillot_check hle]
    simp only [hr, Bool.false_eq_true, if_false, List.getD_eq_getElem?_getD, List.getElem?_zipWith,
      List.zip_eq_zipWith, List.getElem?_map, List.getElem?_eq_getElem hi, Option.map_some, Option.getD_some]

/-- **the node lists of `NPoint.profile`** (`Tnodes = [T_surface, *t_points, T_top]`, `Pnodes = [Psurface, *p_points, Ptop]`
    with an unset or negative `P_surface` / `P_top` replaced by the first / last entry of the pressure grid) are
    `NPointParams.tNodes` and `NPointParams.pNodes`. -/
theorem src_npoint_nodes (q : NPointParams α) (pressure : List α) :
    Gen.SrcC12.npoint_nodes pressure.length q.pSurface q.pTop q.tSurface q.tTop q.pPoints
        (fun i => pressure.getD i 0) q.tPoints
      = (q.tNodes, q.pNodes pressure) := by
  unfold Gen.SrcC12.npoint_nodes NPointParams.tNodes NPointParams.pNodes resolveP
  simp only [decide_eq_true_eq]
  cases q.pSurface <;> cases q.pTop <;> rfl

/-! ### NPoint.check_profile -/

theorem any_range_succ (n : Nat) (f : Nat → Bool) :
    (List.range' 0 (n + 1)).any f = (f 0 || (List.range' 0 n).any (fun i => f (i + 1))) := by
  rw [List.range'_succ, List.any_cons, List.range'_succ_left, List.any_map]
  rfl

/-- the index loop `any(Ppt[i] <= Ppt[i+1] for i in range(len(Ppt)-1))` is the model's recursion over the node list -/
theorem any_inverted (l : List α) :
    (List.range' 0 (l.length - 1)).any (fun i => decide (l.getD i 0 ≤ l.getD (i + 1) 0)) = pressureInverted l := by
  induction l with
  | nil => rfl
  | cons a t ih =>
    cases t with
    | nil => rfl
    | cons b t =>
      simp only [List.length_cons, Nat.add_sub_cancel] at ih ⊢
      rw [any_range_succ, pressureInverted, ← ih]
      rfl

theorem any_slope (limit : α) : ∀ (p t : List α), t.length = p.length →
    (List.range' 0 (p.length - 1)).any (fun i => decide (limit ≤
        (let a__ := (t.getD (i + 1) 0 - t.getD i 0) / (log10 (p.getD (i + 1) 0) - log10 (p.getD i 0));
         if a__ < (0 : α) then (-a__) else a__)))
      = slopeTooHigh limit p t := by
  intro p
  induction p with
  | nil => intro t _; rfl
  | cons a p ih =>
    intro t ht
    match t, ht with
    | t0 :: t, ht =>
      cases p with
      | nil => rfl
      | cons b p =>
        match t, ht with
        | t1 :: t, ht =>
          have ih' := ih (t1 :: t) (by simpa using ht)
          simp only [List.length_cons, Nat.add_sub_cancel] at ih' ⊢
          rw [any_range_succ, slopeTooHigh, ← ih']
          rfl

/-- **node validity checks** `NPoint.check_profile(Pnodes, Tnodes)` (called by `profile` with the two node lists of equal
    length `[Psurface, *p_points, Ptop]`, `[T_surface, *t_points, T_top]`) raises `InvalidTemperatureException` exactly
    when the model says `pressureInverted … || slopeTooHigh …` (the body of `NPointParams.rejected`). -/
theorem src_npoint_check (limit : α) (pn tn : List α) (h : tn.length = pn.length) :
    Gen.SrcC12.npoint_check_profile (fun i => pn.getD i 0) (fun i => tn.getD i 0) pn.length limit
      = (pressureInverted pn || slopeTooHigh limit pn tn) := by
  unfold Gen.SrcC12.npoint_check_profile
  rw [any_inverted pn, any_slope limit pn tn h]
  cases pressureInverted pn <;> cases slopeTooHigh limit pn tn <;> rfl

/-- as `NPoint.profile` calls it: with the node lists built from the constructor arguments and the pressure grid -/
theorem src_npoint_rejected (q : NPointParams α) (pressure : List α) (h : q.tPoints.length = q.pPoints.length) :
    Gen.SrcC12.npoint_check_profile (fun i => (q.pNodes pressure).getD i 0) (fun i => q.tNodes.getD i 0)
        (q.pNodes pressure).length q.limitSlope
      = q.rejected pressure := by
  rw [src_npoint_check]
  · rfl
  · simp only [NPointParams.tNodes, NPointParams.pNodes, List.length_cons, List.length_append, h]

/-! ### Rodgers2000 -/

/-- `Rodgers2000.gen_covariance` (`exp(-|log(p[:, None] / p[None, :])| / h)`, numpy broadcasting) is `genCovariance`:
    row `i`, column `j` is `exp(-1 * |log(p_i / p_j)| / h)`. -/
theorem src_rodgers_gen_covariance (h : α) (n : Nat) (p : Nat → α) :
    (List.range n).map (fun i => listOf n (Gen.SrcC12.rodgers_gen_covariance h p i))
      = genCovariance h (listOf n p) := by
  unfold Gen.SrcC12.rodgers_gen_covariance genCovariance
  simp only [listOf, List.map_map, Function.comp_def]
  rfl

theorem colSums_rows (n : Nat) (C : Nat → Nat → α) :
    colSums ((List.range n).map (fun i => listOf n (C i)))
      = listOf n (fun j => List.foldl (fun a r => a + C r j) 0 (List.range n)) := by
  unfold colSums
  have hlen : (((List.range n).map (fun i => listOf n (C i))).getD 0 []).length = n := by
    cases n with
    | zero => rfl
    | succ k => simp [List.getD_eq_getElem?_getD, listOf_length]
  rw [hlen]
  apply listOf_congr
  intro j hj
  simp only [sumL, List.map_map, List.foldl_map, Function.comp_def]
  apply foldl_congr_mem
  intro a r hr
  rw [listOf_getD n (C r) j hj]

/-- **row-normalised correlation weights** `Rodgers2000.correlate_temp(cov)` on an `n × n` matrix with `n` layer
    temperatures is `correlateTemp`: `weights[i][j] = cov[i][j] / (sum of COLUMN i)` and `weights.dot(T)`, the BLAS product
    being read as the left-to-right sum `dot W x m i = sumL [W i j * x j | j < m]` (numpy does not specify the order of the
    additions; ASSUMPTIONS of harness/c12.py). -/
theorem src_rodgers_correlate (n : Nat) (C : Nat → Nat → α) (T : Nat → α) :
    listOf n (Gen.SrcC12.rodgers_correlate_temp C n T
        (fun W x m i => sumL (listOf m (fun j => W i j * x j))) n)
      = correlateTemp ((List.range n).map (fun i => listOf n (C i))) (listOf n T) := by
  unfold Gen.SrcC12.rodgers_correlate_temp correlateTemp
  rw [colSums_rows]
  simp only [← List.range_eq_range']
  conv => rhs; rw [show List.range n = (List.range n).map id from (List.map_id _).symm]
  unfold listOf
  rw [List.map_map, List.zipWith_map, List.zipWith_self]
  apply List.map_congr_left
  intro i _
  simp only [Function.comp_def, id, List.map_id]
  have := zipWith_listOf n (C i) T (fun c tj => c / List.foldl (fun a r => a + C r i) 0 (List.range n) * tj)
  unfold listOf at this
  rw [this]

/-- `Rodgers2000.profile`: the user's covariance if one was given, else `gen_covariance()`, then `correlate_temp`: `rodgers`
    (square `n × n` covariance, `n` layers; `dot` as in `src_rodgers_correlate`). -/
theorem src_rodgers_profile (n : Nat) (h : α) (T p : Nat → α) (uc : Option (Nat → Nat → α)) :
    listOf n (Gen.SrcC12.rodgers_profile T h uc (fun W x m i => sumL (listOf m (fun j => W i j * x j))) n n p)
      = rodgers (listOf n T) h (uc.map (fun C => (List.range n).map (fun i => listOf n (C i)))) (listOf n p) := by
  unfold Gen.SrcC12.rodgers_profile rodgers
  cases uc with
  | none =>
    simp only [Option.map_none]
    rw [← src_rodgers_gen_covariance, ← src_rodgers_correlate]
  | some C =>
    simp only [Option.map_some]
    rw [← src_rodgers_correlate]

/-! ### the whole `NPoint.profile` (dialect `seq`: lists of run-time length, Python ints, numpy's shape tests) -/

section
variable [NatConv α] [OfNat α 100]

/-- `wsize = int(…); if wsize % 2 == 0: wsize += 1` on Python ints, for a non-negative truncation `t`: the body of `oddWindow` at `t` -/
theorem odd_window_int (t : Nat) :
    (if decide ((Int.ofNat t) % 2 = (0 : Int)) then Int.ofNat t + (1 : Int) else Int.ofNat t)
      = Int.ofNat (if t % 2 = 0 then t + 1 else t) :=
  SeqSrc.odd_window_int t

theorem oddWindow_odd_gen (n : Nat) (w : α) : oddWindow n w % 2 = 1 :=
  oddWindow_odd n w

/-- `Pnodes = [Psurface, *p_points, Ptop]` with the optional end pressures resolved as the `seq` translation writes it -/
theorem seq_pnodes (q : NPointParams α) (pressure : List α) :
    ([Option.elim q.pSurface (pressure.getD 0 (0 : α))
        (fun v__ => if (decide (v__ < (0 : α))) = true then pressure.getD 0 (0 : α) else v__)] ++ q.pPoints ++
      [Option.elim q.pTop (pressure.getD (pressure.length - 1) (0 : α))
        (fun v__ => if (decide (v__ < (0 : α))) = true then pressure.getD (pressure.length - 1) (0 : α) else v__)])
      = q.pNodes pressure := by
  unfold NPointParams.pNodes resolveP
  simp only [decide_eq_true_eq]
  cases q.pSurface <;> cases q.pTop <;> rfl

/-- **`NPoint.profile`, the whole function**, as `initialize_profile` leaves the object (`nlayers`, the pressure grid) and
    with `np.all(Tnodes == Tnodes[0])` false (a Python list compared with a Python float; see `src_npoint_profile_alleq` for
    the other reading), is `nPoint`: `InvalidTemperatureException` = `invalid`, numpy's ValueError at the slice store =
    `error`.  `np.interp` is the model's `npInterp` (applied to every abscissa), `pyInt` is Python's `int()` and `toF` the
    int → float conversion.  Hypotheses (all of them facts about numbers, none about the code):
    `hF` float(n) is the model's `ofNat'`; `hw` the window product is truncated to a NON-NEGATIVE int (true for a
    non-negative window); `hhalf` `int(k / 2) = k // 2` for `k ≥ 0`; `hma` the cumsum trick of `movingaverage` gives the
    window means (`src_movingaverage`: exact over ℝ, up to rounding on floats). -/
theorem src_npoint_profile (q : NPointParams α) (nlayers : Nat) (pressure : List α) (pyInt : α → Int) (toF : Int → α)
    (hlen : q.tPoints.length = q.pPoints.length)
    (hF : ∀ n : Nat, toF (Int.ofNat n) = ofNat' n)
    (hw : pyInt (ofNat' nlayers * (q.window / 100)) = Int.ofNat (truncNat (ofNat' nlayers * (q.window / 100))))
    (hhalf : ∀ k : Nat, pyInt (toF (Int.ofNat k) / 2) = Int.ofNat (k / 2))
    (hma : Gen.SrcC12.movingaverage (q.interpolated pressure) (Int.ofNat (oddWindow nlayers q.window)) toF
      = Except.ok (movingAverage (q.interpolated pressure) (oddWindow nlayers q.window))) :
    outcomeOf "InvalidTemperatureException"
      (Gen.SrcC12.npoint_profile q.pSurface q.pTop q.tSurface q.tTop false (fun x xp fp => npInterp xp fp x)
        q.limitSlope nlayers q.pPoints pressure pyInt q.window q.tPoints toF)
      = nPoint q nlayers pressure := by
  have hT : ([q.tSurface] ++ q.tPoints ++ [q.tTop]) = q.tNodes := rfl
  have hP := seq_pnodes q pressure
  unfold Gen.SrcC12.npoint_profile nPoint
  simp only [hT, hP]
  rw [src_npoint_rejected q pressure hlen]
  cases hr : q.rejected pressure
  · simp only [Bool.false_eq_true, if_false]
    have hTP : (List.map (fun x__ => npInterp (List.map (fun x__ => log10 x__) (List.reverse (q.pNodes pressure)))
          (List.reverse q.tNodes) x__) (List.map (fun x__ => log10 x__) (List.reverse pressure)))
        = q.interpolated pressure := by
      unfold NPointParams.interpolated
      simp only [List.map_map, List.map_reverse, Function.comp_def]
    rw [hTP, hF, hw, odd_window_int]
    have hodd : (if truncNat (ofNat' nlayers * (q.window / 100)) % 2 = 0
        then truncNat (ofNat' nlayers * (q.window / 100)) + 1 else truncNat (ofNat' nlayers * (q.window / 100)))
        = oddWindow nlayers q.window := rfl
    rw [hodd, hma]
    exact SeqSrc.smooth_store_tie "InvalidTemperatureException" (by decide) pyInt toF hhalf _ _ _
      (halfWindow nlayers q.window) rfl (by rw [oddWindow_eq])
  · simp [outcomeOf]

/-- a node list that fails `check_profile` makes `profile` raise `InvalidTemperatureException`, whatever the rest. -/
theorem src_npoint_profile_invalid (q : NPointParams α) (nlayers : Nat) (pressure : List α) (pyInt : α → Int)
    (toF : Int → α) (allEq : Bool) (interp : α → List α → List α → α)
    (hlen : q.tPoints.length = q.pPoints.length) (hv : q.rejected pressure = true) :
    Gen.SrcC12.npoint_profile q.pSurface q.pTop q.tSurface q.tTop allEq interp
        q.limitSlope nlayers q.pPoints pressure pyInt q.window q.tPoints toF
      = Except.error "InvalidTemperatureException" := by
  have hT : ([q.tSurface] ++ q.tPoints ++ [q.tTop]) = q.tNodes := rfl
  have hP := seq_pnodes q pressure
  unfold Gen.SrcC12.npoint_profile
  simp only [hT, hP]
  rw [src_npoint_rejected q pressure hlen, hv]
  rfl

/-- the other reading of `np.all(Tnodes == Tnodes[0])` (a numpy scalar `T_surface`: element-wise comparison, true exactly
    when all node temperatures are equal): the profile that passes the node check is the constant `1 * T_surface`, one
    value per layer. -/
theorem src_npoint_profile_alleq (q : NPointParams α) (nlayers : Nat) (pressure : List α) (pyInt : α → Int)
    (toF : Int → α) (hlen : q.tPoints.length = q.pPoints.length) (hv : q.rejected pressure = false) :
    Gen.SrcC12.npoint_profile q.pSurface q.pTop q.tSurface q.tTop true (fun x xp fp => npInterp xp fp x)
        q.limitSlope nlayers q.pPoints pressure pyInt q.window q.tPoints toF
      = Except.ok (pressure.map (fun _ => (1 : α) * q.tSurface)) := by
  have hT : ([q.tSurface] ++ q.tPoints ++ [q.tTop]) = q.tNodes := rfl
  have hP := seq_pnodes q pressure
  unfold Gen.SrcC12.npoint_profile
  simp only [hT, hP]
  rw [src_npoint_rejected q pressure hlen, hv]
  simp only [Bool.false_eq_true, if_false, if_true, List.map_map]
  rfl

end

/-! ### TemperatureArray (`__init__` + `profile`, one translation per calling pattern) -/

/-- the model's reading of `scipy.interpolate.interp1d(x, y, bounds_error=False, fill_value=(lo, hi))` (kind='linear'): the
    nodes are sorted by abscissa (stable), `np.interp` between them, the two fill values outside the node range — the
    expression `tempArrayPressure` is built from (ASSUMPTIONS of harness/c12.py) -/
def interp1dModel (xs ys : List α) (_boundsError : Bool) (fill : α × α) (x : α) : α :=
  let nodes := sortByKey (xs.zip ys)
  let sx := nodes.map (·.1)
  let sy := nodes.map (·.2)
  if x < sx.getD 0 0 then fill.1
  else if sx.getD (sx.length - 1) 0 < x then fill.2
  else npInterp sx sy x

/-- **`TemperatureArray(tp_array, None, reverse)` + `profile`** (no pressure points: the table itself when it has one value
    per layer, else `np.interp` over `np.linspace(1, 0, ·)[::-1]`) is `tempArray tp none rev`; `np.linspace` / `np.interp` are
    the model's `linspace` / `npInterp`. -/
theorem src_temparray_plain [NatConv α] (tp : List α) (rev : Bool) (n : Nat) (pressure : List α) :
    Gen.SrcC12.temparray_profile_plain (fun x xp fp => npInterp xp fp x) (fun a b k => linspace a b k) n
        (Gen.SrcC12.temparray_init_plain tp rev)
      = tempArray tp none rev n pressure := by
  unfold Gen.SrcC12.temparray_profile_plain Gen.SrcC12.temparray_init_plain tempArray tempArrayPlain
  simp only [decide_eq_true_eq]

/-- **`TemperatureArray(tp_array, p_points, reverse)` + `profile`** (pressure points given: the interpolant built by
    `__init__` from `log10(p_points)` and the table, with the fill values `(tp[-1], tp[0])`, applied to `log10` of every layer
    pressure) is `tempArray tp (some pp) rev`, `interp1d` being `interp1dModel`. -/
theorem src_temparray_pressure [NatConv α] (tp pp : List α) (rev : Bool) (n : Nat) (pressure : List α) :
    Gen.SrcC12.temparray_profile_pressure (Gen.SrcC12.temparray_init_pressure tp pp rev interp1dModel).2.2
        (Gen.SrcC12.temparray_init_pressure tp pp rev interp1dModel).2.1 pressure
      = tempArray tp (some pp) rev n pressure := by
  unfold Gen.SrcC12.temparray_profile_pressure Gen.SrcC12.temparray_init_pressure tempArray tempArrayPressure
    interp1dModel
  simp only [List.map_map, Function.comp_def]

end

/-- **`taurex.util.movingaverage`** (the cumsum trick `ret = cumsum(a); ret[n:] = ret[n:] - ret[:-n]; ret[n-1:] / n`, with
    the shape tests numpy makes at the subtraction and at the slice store) for a window `w ≥ 1` never raises and returns
    the `len(a) - w + 1` window means of the model's `movingAverage` (none when the window is longer than the array).
    An algebraic identity (telescoping sums): over ℝ. -/
theorem src_movingaverage (a : List ℝ) (w : Nat) (hw : 1 ≤ w) (toF : Int → ℝ)
    (hF : ∀ n : Nat, toF (Int.ofNat n) = (n : ℝ)) :
    Gen.SrcC12.movingaverage a (Int.ofNat w) toF = Except.ok (movingAverage a w) := by
  obtain ⟨h1, h2, h3⟩ := ma_cumsum a w hw (toF (Int.ofNat w)) (hF w)
  unfold Gen.SrcC12.movingaverage
  simp only [h1, h2, Bool.not_true, Bool.false_eq_true, if_false, h3]

end Taurex.C12Src
