/-
  C15 — the property theorems restated about the REGENERATED source.  `Props/C15Src.lean` proves that the definitions
  translated on every run (dialect `dyn`: dynamically typed Python values `Dyn.Val`, exceptions `Dyn.Exc`, one oracle
  `World.ext` for what the code asks of classes, `ClassFactory`, `inspect` and the other objects — FOR EVERY world) from
  `ParameterParser.transform`, `generic_factory` (and the ten section factories), `get_keywordarg_dict`, `create_klass`,
  `determine_klass`, `create_profile` (taurex/parameter/parameterparser.py, factory.py, taurex/mixin/core.py) return, on
  the embedding `emb` / `embCfg` of the model's data, the embedding of what `Factory.transform`, `Factory.factory`,
  `Factory.createKlass`, `Factory.determineKlass`, `Factory.createProfile` (up to the constructor call) return, a model
  error `e` being the exception class `errExc e`; `Props/C15.lean` proves the property about these.  The corollaries below
  compose the two: they are statements about the text of the code as it is now.

  What is composed
    * `SrcC15.transform w.ext (.dict sec) key`: `TransformsTo w sec key x` says that it returns the typed value `emb x`
      AND stores it back under `key`.  Tie hypotheses kept visible: the key is hashable and the section holds `emb v`.
    * `SrcC15.generic_factory w.ext (.str kw) (.obj (.base name sec))` for a base class of `genericBases` (the registry
      section `w.reg.sec sec` is the class list `ClassFactory` holds; two worlds whose lists are permutations of each
      other are two iteration orders of the Python `set`).
    * `SrcC15.create_klass w.ext (.dict (embCfg cfg)) (kobj k) (.bool false)`; the constructor defaults are
      `Factory.dictOfPairs k.kwargs` (what `get_keywordarg_dict` builds); the constructor call itself is the world's
      `w.call`.  Tie hypothesis: `KeysNodup cfg` (a Python `dict`).
    * `SrcC15.determine_klass w.ext (.dict (embCfg cfg)) (.str field) f (.obj (.base name sec))`, `f` being the section's
      factory (`hf`; any of the `src_*_factory` ties provides it) and `(name, sec) ∈ mixinBases`; it returns
      `embDK (cfg1, r)` = `(popped config, class, mixin flag)`.
    * `SrcC15.create_profile …` for a base class of `genericBases` ∩ `mixinBases`.
    * `SrcC15.create_star / create_planet / create_optimizer / create_observation / create_instrument …`: the `TypeError` of
      `klass(**config)` is raised by Python's argument binding, which in the tie is the world's `w.call`.  It is modelled
      by the hypothesis `CallBinds w`: where the model's `Factory.instantiate` (`bindArgs` over the signature columns
      `args` / `required` / `varkw` of the REGENERATED `Gen/Registry.lean`) fails, the call raises that exception class.
      `unknown_key_error_lenient` and `lenient_sections_bind_strictly` are restated under it.

  Since `detect_and_return_klass` and `build_new_mixed_class` are translated themselves (`src_detect_and_return_klass`,
  `src_build_new_mixed_class`: the regenerated functions, run against the lower-level oracle `detectExt` of
  Proofs/C15SrcDetect.lean, return what the main oracle answers for them): `custom_class_pick` is restated as
  `src_custom_class_pick`, and the class `mixin_split` resolves to is shown to be what the regenerated
  `build_new_mixed_class` builds, with bases `mixins + (base,)` (`src_mixed_class_bases`).

  Not restated (no tie)
    * the first conjunct of `mixin_split` (`joinWith` / `splitOnC`: string functions of the model; `str.split` is a
      primitive of the dialect); the `determine_klass` conjunct is restated.
    * `registry_disjoint`, `documented_resolve_partial`, `twopoint_unresolved`, `plugin_selectors_pinned`,
      `documented_keys_accepted`: statements about the tables `Gen/Registry.lean` / `Gen/Docs.lean` (themselves
      regenerated from /repo on every run), no function of the code in them.  `documented_selector_builds` IS restated
      (through the regenerated `determine_klass`, in the world whose registry is the regenerated table).
    * the ties of `create_prior`, `generate_contributions`, `create_model`, `create_chemistry`, `create_snr`,
      `ParameterParser.generate_*` and `determine_mixin_args` have no theorem of `Props/C15.lean` about their model
      functions; `create_model` (also a `klass(**kwargs)` section) is not covered by `unknown_key_error_lenient`, which is
      about `Factory.createLenient`.
-/
import Props.C15Src

namespace Taurex.C15SrcProps
open Taurex.Gen Taurex.Gen.Dyn Taurex.C15 Taurex.C15L Taurex.C15Src
open Taurex.Factory (Scalar Value Config Klass Registry SectionReg Resolved Err Customs)

/-! ## `ParameterParser.transform` -/

/-- the regenerated `transform(section, key)` types the stored value as `x`: it returns `x` and stores it back under
    the same key -/
def TransformsTo (w : World) (sec : List (V × V)) (key : V) (x : Value) : Prop :=
  SrcC15.transform w.ext (.dict sec) key = .ok (emb x, .dict (Dyn.dictSet sec key (emb x)))

theorem srcTransform_eq (w : World) (sec : List (V × V)) (key : V) (v : Value) (hk : key.hashable = true)
    (h : Dyn.dictGet? sec key = some (emb v)) : TransformsTo w sec key (Factory.transform v) :=
  src_transform w sec key v hk h

/-- **transform_total**, about the regenerated `transform`: every raw value is typed as exactly one of boolean, number,
    string, list of numbers, list of strings (it never fails on a raw string or string list) -/
theorem src_transform_total (w : World) (sec : List (V × V)) (key : V) (hk : key.hashable = true) :
    (∀ s : String, Dyn.dictGet? sec key = some (emb (.scalar (.str s))) →
      (∃ b, TransformsTo w sec key (.scalar (.bool b))) ∨
      (∃ n, TransformsTo w sec key (.scalar n) ∧ isNum n = true) ∨
      TransformsTo w sec key (.scalar (.str s))) ∧
    (∀ l : List Scalar, Dyn.dictGet? sec key = some (emb (.list l)) →
      (∃ ns, TransformsTo w sec key (.list ns) ∧ ∀ n ∈ ns, isNum n = true) ∨
      TransformsTo w sec key (.list l)) := by
  constructor
  · intro s h
    have ht := srcTransform_eq w sec key _ hk h
    rcases transform_total.1 s with ⟨b, hb⟩ | ⟨n, hn, hnum⟩ | hs
    · rw [hb] at ht; exact Or.inl ⟨b, ht⟩
    · rw [hn] at ht; exact Or.inr (Or.inl ⟨n, ht, hnum⟩)
    · rw [hs] at ht; exact Or.inr (Or.inr ht)
  · intro l h
    have ht := srcTransform_eq w sec key _ hk h
    rcases transform_total.2 l with ⟨ns, hn, hnum⟩ | hl
    · rw [hn] at ht; exact Or.inl ⟨ns, ht, hnum⟩
    · rw [hl] at ht; exact Or.inr ht

/-- **transform_cases**, about the regenerated `transform`: the branch order — a word of the true list (any letter case)
    is `True`, a word of the false list is `False`, anything else that `float()` accepts is that number, the rest stays a
    string; a list becomes a list of numbers iff every element converts -/
theorem src_transform_cases (w : World) (sec : List (V × V)) (key : V) (hk : key.hashable = true) (s : String)
    (l : List Scalar) :
    (Dyn.dictGet? sec key = some (emb (.scalar (.str s))) →
      (Factory.trueWords.contains (Factory.lower s) = true → TransformsTo w sec key (.scalar (.bool true))) ∧
      (Factory.trueWords.contains (Factory.lower s) = false → Factory.falseWords.contains (Factory.lower s) = true →
        TransformsTo w sec key (.scalar (.bool false))) ∧
      (Factory.trueWords.contains (Factory.lower s) = false → Factory.falseWords.contains (Factory.lower s) = false →
        TransformsTo w sec key (match Factory.parseNumber s with
          | some n => .scalar n
          | none => .scalar (.str s)))) ∧
    (Dyn.dictGet? sec key = some (emb (.list l)) →
      TransformsTo w sec key (match l.mapM Factory.toFloat with
        | some ns => .list ns
        | none => .list l)) := by
  obtain ⟨h1, h2, h3, h4⟩ := transform_cases s l
  constructor
  · intro h
    have ht := srcTransform_eq w sec key _ hk h
    refine ⟨fun a => ?_, fun a b => ?_, fun a b => ?_⟩
    · rw [h1 a] at ht; exact ht
    · rw [h2 a b] at ht; exact ht
    · rw [h3 a b] at ht
      cases hp : Factory.parseNumber s <;> rw [hp] at ht <;> exact ht
  · intro h
    have ht := srcTransform_eq w sec key _ hk h
    rw [h4] at ht; exact ht

theorem dictGet_dictSet_self (sec : List (V × V)) (k : String) (x : V) :
    Dyn.dictGet? (Dyn.dictSet sec (.str k) x) (.str k) = some x := by
  rw [Dyn.dictGet_set_str, if_pos rfl]

theorem dictSet_idem (sec : List (V × V)) (k : String) (x : V) :
    Dyn.dictSet (Dyn.dictSet sec (.str k) x) (.str k) x = Dyn.dictSet sec (.str k) x := by
  induction sec with
  | nil => simp [Dyn.dictSet]
  | cons e t ih =>
    obtain ⟨k', v'⟩ := e
    by_cases h : Dyn.Val.beq k' (.str k) = true
    · simp [Dyn.dictSet, h]
    · simp [Dyn.dictSet, h, ih]

/-- **transform_idem**, about the regenerated `transform`: applying it to the section it has already typed (a second
    `ConfigObj.walk`) returns the same value and leaves the section as it is -/
theorem src_transform_idem (w : World) (sec : List (V × V)) (k : String) (v : Value)
    (h : Dyn.dictGet? sec (.str k) = some (emb v)) :
    TransformsTo w sec (.str k) (Factory.transform v) ∧
    SrcC15.transform w.ext (.dict (Dyn.dictSet sec (.str k) (emb (Factory.transform v)))) (.str k)
      = .ok (emb (Factory.transform v), .dict (Dyn.dictSet sec (.str k) (emb (Factory.transform v)))) := by
  refine ⟨srcTransform_eq w sec _ v (hashable_str k) h, ?_⟩
  have h2 := srcTransform_eq w (Dyn.dictSet sec (.str k) (emb (Factory.transform v))) (.str k) (Factory.transform v)
    (hashable_str k) (dictGet_dictSet_self sec k _)
  unfold TransformsTo at h2
  rw [transform_idem, dictSet_idem] at h2
  exact h2

/-! ## the class factories -/

/-- **lookup_unique**, about the regenerated `generic_factory`: with pairwise-disjoint keyword sets the class it returns
    does not depend on the order in which the class set is iterated (two worlds whose class lists are permutations), and
    what it returns is the unique class claiming the keyword -/
theorem src_lookup_unique (w w' : World) (hw : WorldOK w) (hw' : WorldOK w') (kw name sec : String)
    (h : (name, sec) ∈ genericBases) (hd : Factory.pairwiseDisjoint (w.reg.sec sec).classes = true)
    (hp : (w'.reg.sec sec).classes.Perm (w.reg.sec sec).classes) :
    SrcC15.generic_factory w'.ext (.str kw) (.obj (.base name sec))
      = SrcC15.generic_factory w.ext (.str kw) (.obj (.base name sec)) ∧
    (∀ k, SrcC15.generic_factory w.ext (.str kw) (.obj (.base name sec)) = .ok (kobj k) →
      Factory.candidates (w.reg.sec sec).classes kw = [k]) := by
  obtain ⟨h1, h2⟩ := lookup_unique (w.reg.sec sec).classes (w'.reg.sec sec).classes kw hd hp
  rw [src_generic_factory w hw kw name sec h, src_generic_factory w' hw' kw name sec h]
  constructor
  · simp only [Factory.factory, h1]
  · intro k hk
    apply h2
    simp only [Factory.factory] at hk
    cases hl : Factory.lookup (w.reg.sec sec).classes kw with
    | none => rw [hl] at hk; cases hk
    | some k' =>
      rw [hl] at hk
      simp only [embE, kobj, Except.ok.injEq, Dyn.Val.obj.injEq, Obj.klass.injEq] at hk
      rw [hk]

/-- **create_strict**, about the regenerated `create_klass`: it raises `KeyError` when some config key is not a
    constructor keyword (before the class is called); otherwise the class is called with the defaults in their order, each
    overridden by the config value of the same key when there is one -/
theorem src_create_strict (w : World) (k : Klass) (cfg : Config) (hc : KeysNodup cfg) :
    ((∃ kv ∈ cfg, Factory.hasKey (Factory.dictOfPairs k.kwargs) kv.1 = false) →
      SrcC15.create_klass w.ext (.dict (embCfg cfg)) (kobj k) (.bool false) = .error .KeyError) ∧
    ((∀ kv ∈ cfg, Factory.hasKey (Factory.dictOfPairs k.kwargs) kv.1 = true) →
      SrcC15.create_klass w.ext (.dict (embCfg cfg)) (kobj k) (.bool false)
        = w.call (.klass k) []
            (embKw ((Factory.dictOfPairs k.kwargs).map (fun kv => (kv.1, (cfg.lookup kv.1).getD kv.2))))) := by
  obtain ⟨h1, _, h3⟩ := create_strict (Factory.dictOfPairs k.kwargs) cfg
  constructor
  · intro h
    obtain ⟨key, hkey⟩ := h1.1 h
    rw [src_create_klass w k cfg hc, hkey]
    rfl
  · intro h
    rw [src_create_klass w k cfg hc, h3 h hc]

/-! ## `determine_klass` -/

section determine
variable (w : World) (hw : WorldOK w) (name sec field : String) (f : V → M V)
  (hf : ∀ kw, f (.str kw) = embE kobj (Factory.factory (w.reg.sec sec) kw)) (hb : (name, sec) ∈ mixinBases)
include hw hf hb

/-- **mixin_split** (the `determine_klass` conjunct), about the regenerated `determine_klass`: a `+` selector with at
    least two parts whose last part names a class `base` and whose other parts name the mixins `ms` (no mixin twice)
    resolves to the mixed class `(ms…, base)`, the selector popped from the section -/
theorem src_mixin_split (sel : String) (rest : Config) (p q : String) (ps : List String) (base : Klass)
    (ms : List Klass) (hc : Factory.lower sel ≠ "custom") (hparts : Factory.splitPlus (Factory.lower sel) = p :: q :: ps)
    (hbase : Factory.factory (w.reg.sec sec) (Factory.lastOf (p :: q :: ps)) = .ok base)
    (hm : (Factory.initOf (p :: q :: ps)).mapM (Factory.mixinFactory (w.reg.sec sec)) = .ok ms)
    (hd : Factory.hasDup (ms.map (·.path)) = false) (hfree : Factory.hasKey rest field = false) :
    SrcC15.determine_klass w.ext (.dict (embCfg ((field, .scalar (.str sel)) :: rest))) (.str field) f
        (.obj (.base name sec)) = .ok (embDK (rest, .mixed ms base)) := by
  rw [src_determine_klass w hw name sec field _ f hf hb,
    (mixin_split (w.reg.sec sec) w.customs sec field sel rest p q ps base ms hc hparts hbase hm hd hfree).2]
  rfl

/-- **unknown_selector_error**, about the regenerated `determine_klass`: a selector no class of the section claims (not
    `custom`, no `+`) raises `NotImplementedError`; a selector typed as a number / boolean / list raises
    `AttributeError`; a missing selector raises `KeyError` -/
theorem src_unknown_selector_error (cfg : Config) :
    (∀ sel one, cfg.lookup field = some (.scalar (.str sel)) → Factory.lower sel ≠ "custom" →
      Factory.splitPlus (Factory.lower sel) = [one] → Factory.lookup (w.reg.sec sec).classes one = none →
      SrcC15.determine_klass w.ext (.dict (embCfg cfg)) (.str field) f (.obj (.base name sec))
        = .error .NotImplementedError) ∧
    (∀ v, cfg.lookup field = some v → (∀ s, v ≠ .scalar (.str s)) →
      SrcC15.determine_klass w.ext (.dict (embCfg cfg)) (.str field) f (.obj (.base name sec))
        = .error .AttributeError) ∧
    (cfg.lookup field = none →
      SrcC15.determine_klass w.ext (.dict (embCfg cfg)) (.str field) f (.obj (.base name sec))
        = .error .KeyError) := by
  obtain ⟨h1, h2, h3⟩ := unknown_selector_error (w.reg.sec sec) w.customs sec field cfg
  refine ⟨fun sel one a b c d => ?_, fun v a b => ?_, fun a => ?_⟩
  · rw [src_determine_klass w hw name sec field _ f hf hb, h1 sel one a b c d]; rfl
  · rw [src_determine_klass w hw name sec field _ f hf hb, h2 v a b]; rfl
  · rw [src_determine_klass w hw name sec field _ f hf hb, h3 a]; rfl

end determine

/-- **documented_selector_builds**, about the regenerated `determine_klass` in the world whose class registry is the
    regenerated table: every documented selector, written as in the documentation in a section of its own, goes through
    `determine_klass` to a plain class with nothing left in the section, and that class is the documented one -/
theorem src_documented_selector_builds (w : World) (hw : WorldOK w) (hreg : w.reg = Registry.registry)
    (hcus : w.customs = []) (name : String) (f : V → M V) :
    ∀ d ∈ Docs.selectors, d.inPackage = true → (d.sec, d.keyword) ∉ knownUnresolved →
      d.sec ≠ "prior" → d.sec ≠ "contribution" → (name, d.sec) ∈ mixinBases →
      (∀ kw, f (.str kw) = embE kobj (Factory.factory (w.reg.sec d.sec) kw)) →
      ∃ k, SrcC15.determine_klass w.ext (.dict (embCfg [("field", .scalar (.str d.keyword))])) (.str "field") f
            (.obj (.base name d.sec)) = .ok (embDK ([], .plain k)) ∧
        d.cls.all (· == k.path) = true := by
  intro d hd h1 h2 h3 h4 hb hf
  have h := documented_selector_builds d hd h1 h2 h3 h4
  rw [src_determine_klass w hw name d.sec "field" _ f hf hb, hreg, hcus]
  generalize Factory.determineKlass (Registry.registry.sec d.sec) [] d.sec "field"
    [("field", Value.scalar (Scalar.str d.keyword))] = r at h ⊢
  split at h
  · rename_i k
    exact ⟨k, rfl, h⟩
  · cases h

/-! ## `create_profile`: an unknown key is an error -/

/-- **unknown_key_error_strict**, about the regenerated `create_profile` (temperature, pressure, chemistry, gas profiles),
    for a plain or composite class `r`: a key left in the section that is not among the constructor keywords
    `get_keywordarg_dict` finds makes it raise `KeyError` -/
theorem src_unknown_key_error_strict_resolved (w : World) (hw : WorldOK w) (name sec field : String) (cfg : Config)
    (f : V → M V) (hc : KeysNodup cfg) (h1 : (name, sec) ∈ genericBases) (h2 : (name, sec) ∈ mixinBases)
    (cfg1 : Config) (r : Resolved) (kv : String × Value)
    (hr : Factory.determineKlass (w.reg.sec sec) w.customs sec field cfg = .ok (cfg1, r))
    (hm : kv ∈ cfg1) (hk : Factory.hasKey (kwargDictP r) kv.1 = false) :
    SrcC15.create_profile w.ext (.dict (embCfg cfg)) f (.obj (.base name sec)) (.str field) = .error .KeyError := by
  obtain ⟨key, hkey⟩ := (create_strict (kwargDictP r) cfg1).1.1 ⟨kv, hm, hk⟩
  rw [src_create_profile w hw name sec field cfg f hc h1 h2]
  simp only [hr, hkey]
  rfl

/-- **unknown_key_error_strict**, about the regenerated `create_profile`, for a plain class (distinct parameter names,
    which the language guarantees): a config key that is not a constructor keyword raises `KeyError` -/
theorem src_unknown_key_error_strict (w : World) (hw : WorldOK w) (name sec field : String) (cfg : Config)
    (f : V → M V) (hc : KeysNodup cfg) (h1 : (name, sec) ∈ genericBases) (h2 : (name, sec) ∈ mixinBases)
    (cfg1 : Config) (k : Klass) (kv : String × Value) (hkn : KeysNodup k.kwargs)
    (hr : Factory.determineKlass (w.reg.sec sec) w.customs sec field cfg = .ok (cfg1, .plain k))
    (hm : kv ∈ cfg1) (hk : Factory.hasKey k.kwargs kv.1 = false) :
    SrcC15.create_profile w.ext (.dict (embCfg cfg)) f (.obj (.base name sec)) (.str field) = .error .KeyError := by
  refine src_unknown_key_error_strict_resolved w hw name sec field cfg f hc h1 h2 cfg1 (.plain k) kv hr hm ?_
  show Factory.hasKey (Factory.dictOfPairs k.kwargs) kv.1 = false
  rw [dictOfPairs_nodup _ hkn]; exact hk

/-! ## `klass(**config)` sections: an unknown key is a `TypeError` -/

/-- the world's constructor call binds its keyword arguments as Python does: where `Factory.instantiate` (`bindArgs` over
    the regenerated signature columns `args` / `required` / `varkw` of `Gen/Registry.lean`) fails, the call raises that
    exception class -/
def CallBinds (w : World) : Prop :=
  ∀ r kw e, Factory.instantiate r kw = .error e → w.call (robjO r) [] (embKw kw) = .error (errExc e)

/-- the lenient creators up to the constructor call (`lenientV`): an unknown key of a plain class without `**kwargs` is a
    `TypeError` in every world whose constructor calls bind as Python does -/
theorem lenientV_unknown_key (w : World) (hb : CallBinds w) (sec field : String) (cfg cfg1 : Config) (k : Klass)
    (kv : String × Value) (hr : Factory.determineKlass (w.reg.sec sec) w.customs sec field cfg = .ok (cfg1, .plain k))
    (hv : k.varkw = false) (hm : kv ∈ cfg1) (hk : k.args.contains kv.1 = false) :
    lenientV w sec field cfg = .error .TypeError := by
  obtain ⟨key, hkey⟩ := unknown_key_error_lenient (w.reg.sec sec) w.customs sec field cfg cfg1 k kv hr hv hm hk
  have hi : Factory.instantiate (.plain k) cfg1 = .error (.typeError key) := by
    simpa [Factory.createLenient, hr, bind, Except.bind] using hkey
  simp only [lenientV, hr]
  exact hb _ _ _ hi

section lenient
variable (w : World) (hw : WorldOK w) (hb : CallBinds w) (cfg cfg1 : Config) (k : Klass) (kv : String × Value)
  (hv : k.varkw = false) (hm : kv ∈ cfg1) (hk : k.args.contains kv.1 = false)
include hw hb hv hm hk

/-- **unknown_key_error_lenient**, about the regenerated `create_star` -/
theorem src_unknown_key_error_star
    (hr : Factory.determineKlass (w.reg.sec "star") w.customs "star" "star_type" cfg = .ok (cfg1, .plain k)) :
    SrcC15.create_star w.ext (.dict (embCfg cfg)) = .error .TypeError := by
  rw [src_create_star_split w hw, lenientV_unknown_key w hb _ _ cfg cfg1 k kv hr hv hm hk]; rfl

/-- **unknown_key_error_lenient**, about the regenerated `create_optimizer` -/
theorem src_unknown_key_error_optimizer
    (hr : Factory.determineKlass (w.reg.sec "optimizer") w.customs "optimizer" "optimizer" cfg = .ok (cfg1, .plain k)) :
    SrcC15.create_optimizer w.ext (.dict (embCfg cfg)) = .error .TypeError := by
  rw [src_create_optimizer_split w hw, lenientV_unknown_key w hb _ _ cfg cfg1 k kv hr hv hm hk]; rfl

/-- **unknown_key_error_lenient**, about the regenerated `create_observation` -/
theorem src_unknown_key_error_observation
    (hr : Factory.determineKlass (w.reg.sec "observation") w.customs "observation" "observation" cfg
      = .ok (cfg1, .plain k)) :
    SrcC15.create_observation w.ext (.dict (embCfg cfg)) = .error .TypeError := by
  rw [src_create_observation_split w hw, lenientV_unknown_key w hb _ _ cfg cfg1 k kv hr hv hm hk]; rfl

/-- **unknown_key_error_lenient**, about the regenerated `create_instrument` -/
theorem src_unknown_key_error_instrument
    (hr : Factory.determineKlass (w.reg.sec "instrument") w.customs "instrument" "instrument" cfg
      = .ok (cfg1, .plain k)) :
    SrcC15.create_instrument w.ext (.dict (embCfg cfg)) = .error .TypeError := by
  rw [src_create_instrument_split w hw, lenientV_unknown_key w hb _ _ cfg cfg1 k kv hr hv hm hk]; rfl

/-- **unknown_key_error_lenient**, about the regenerated `create_planet` (`planet_type` defaulted to `simple`) -/
theorem src_unknown_key_error_planet (hc : KeysNodup cfg)
    (hr : Factory.determineKlass (w.reg.sec "planet") w.customs "planet" "planet_type" (planetCfg cfg)
      = .ok (cfg1, .plain k)) :
    SrcC15.create_planet w.ext (.dict (embCfg cfg)) = .error .TypeError := by
  rw [src_create_planet_split w hw cfg hc, lenientV_unknown_key w hb _ _ (planetCfg cfg) cfg1 k kv hr hv hm hk]; rfl

end lenient

theorem determineKlass_plain_of_no_mixins (sr : SectionReg) (customs : Customs) (sec field : String) (cfg cfg1 : Config)
    (r : Resolved) (hmix : sr.mixins = []) (h : Factory.determineKlass sr customs sec field cfg = .ok (cfg1, r)) :
    ∃ k, r = .plain k := by
  obtain ⟨sel, c1, _, h⟩ := C15L.determineKlass_ok h
  rcases h with ⟨_, _, k, _, _, _, hr⟩ | ⟨_, _, k, _, _, hr⟩ | ⟨_, base, ms, hne, _, hms, _⟩
  · exact ⟨k, hr⟩
  · exact ⟨k, hr⟩
  · -- a composite selector has at least one mixin part, and the section has no mixin to claim it
    exfalso
    match hparts : Factory.splitPlus (Factory.lower sel) with
    | [] => exact C15L.splitPlus_ne_nil _ hparts
    | [one] => exact hne one hparts
    | a :: b :: t =>
      simp only [hparts, Factory.initOf, List.mapM_cons, Factory.mixinFactory, hmix, Factory.lookup, List.find?_nil] at hms
      cases hms

theorem determineKlass_plain_mem (sr : SectionReg) (sec field : String) (cfg cfg1 : Config) (k : Klass)
    (h : Factory.determineKlass sr [] sec field cfg = .ok (cfg1, .plain k)) : k ∈ sr.classes := by
  obtain ⟨sel, c1, _, h⟩ := C15L.determineKlass_ok h
  rcases h with ⟨_, _, _, _, hl, _⟩ | ⟨_, one, k', _, hf, hr⟩ | ⟨_, _, _, _, _, _, _, hr⟩
  · cases hl
  · cases hr
    unfold Factory.factory at hf
    split at hf
    · cases hf; exact List.mem_of_find?_eq_some ‹_›
    · cases hf
  · cases hr

/-- in the world whose class registry is the regenerated table (no custom files) and whose constructor calls bind as Python
    does, a lenient section with a key that is no parameter of the resolved class raises `TypeError` at the V-level -/
theorem lenientV_strict (w : World) (hreg : w.reg = Registry.registry) (hcus : w.customs = []) (hb : CallBinds w)
    (s : String) (hs : s ∈ lenientSections) (field : String) (cfg cfg1 : Config) (r : Resolved) (kv : String × Value)
    (hr : Factory.determineKlass (w.reg.sec s) w.customs s field cfg = .ok (cfg1, r)) (hm : kv ∈ cfg1)
    (hk : ∀ k, r = .plain k → k.args.contains kv.1 = false) :
    lenientV w s field cfg = .error .TypeError := by
  obtain ⟨hmix, hvar⟩ := lenient_sections_bind_strictly s hs
  have hr' := hr
  rw [hreg, hcus] at hr'
  obtain ⟨k, rfl⟩ := determineKlass_plain_of_no_mixins _ _ _ _ _ _ _ hmix hr'
  have hmem := determineKlass_plain_mem _ _ _ _ _ _ hr'
  exact lenientV_unknown_key w hb s field cfg cfg1 k kv hr (hvar k hmem) hm (hk k rfl)

/-- **lenient_sections_bind_strictly** composed with **unknown_key_error_lenient**, about the regenerated creators, in the
    world whose class registry is the regenerated table (no custom files) and whose constructor calls bind as Python does:
    in the sections built by `klass(**config)` no class swallows unknown keys and no selector resolves to a composite
    class, so EVERY key left in the section that is not a parameter of the resolved class makes the creator raise
    `TypeError` -/
theorem src_lenient_sections_bind_strictly (w : World) (hw : WorldOK w) (hreg : w.reg = Registry.registry)
    (hcus : w.customs = []) (hb : CallBinds w) (cfg cfg1 : Config) (r : Resolved) (kv : String × Value) (hm : kv ∈ cfg1)
    (hk : ∀ k, r = .plain k → k.args.contains kv.1 = false) :
    (Factory.determineKlass (w.reg.sec "star") w.customs "star" "star_type" cfg = .ok (cfg1, r) →
      SrcC15.create_star w.ext (.dict (embCfg cfg)) = .error .TypeError) ∧
    (Factory.determineKlass (w.reg.sec "optimizer") w.customs "optimizer" "optimizer" cfg = .ok (cfg1, r) →
      SrcC15.create_optimizer w.ext (.dict (embCfg cfg)) = .error .TypeError) ∧
    (Factory.determineKlass (w.reg.sec "observation") w.customs "observation" "observation" cfg = .ok (cfg1, r) →
      SrcC15.create_observation w.ext (.dict (embCfg cfg)) = .error .TypeError) ∧
    (Factory.determineKlass (w.reg.sec "instrument") w.customs "instrument" "instrument" cfg = .ok (cfg1, r) →
      SrcC15.create_instrument w.ext (.dict (embCfg cfg)) = .error .TypeError) ∧
    (KeysNodup cfg →
      Factory.determineKlass (w.reg.sec "planet") w.customs "planet" "planet_type" (planetCfg cfg) = .ok (cfg1, r) →
      SrcC15.create_planet w.ext (.dict (embCfg cfg)) = .error .TypeError) := by
  refine ⟨fun hr => ?_, fun hr => ?_, fun hr => ?_, fun hr => ?_, fun hc hr => ?_⟩
  · rw [src_create_star_split w hw, lenientV_strict w hreg hcus hb "star" (by decide) _ cfg cfg1 r kv hr hm hk]; rfl
  · rw [src_create_optimizer_split w hw, lenientV_strict w hreg hcus hb "optimizer" (by decide) _ cfg cfg1 r kv hr hm hk]; rfl
  · rw [src_create_observation_split w hw, lenientV_strict w hreg hcus hb "observation" (by decide) _ cfg cfg1 r kv hr hm hk]
    rfl
  · rw [src_create_instrument_split w hw, lenientV_strict w hreg hcus hb "instrument" (by decide) _ cfg cfg1 r kv hr hm hk]
    rfl
  · rw [src_create_planet_split w hw cfg hc,
      lenientV_strict w hreg hcus hb "planet" (by decide) _ (planetCfg cfg) cfg1 r kv hr hm hk]
    rfl

-- non-vacuity: a world whose registry is the regenerated table and whose constructor calls bind as Python does
example : ∃ w : World, WorldOK w ∧ w.reg = Registry.registry ∧ w.customs = [] ∧ CallBinds w := by
  refine ⟨{ reg := Registry.registry, customs := [], kwErr := fun _ => none, argsPre := fun _ => [],
            varargs := fun _ => .none, varkw := fun _ => .none, call := fun _ _ _ => .error .TypeError,
            hasattr := fun _ _ => false }, ?_, rfl, rfl, ?_⟩
  · intro k e h; cases h
  · intro r kw e h
    have : ∃ key, e = .typeError key := by
      -- a plain and a composite class bind alike: the two failures of `bindArgs` are `TypeError`s
      cases r
      all_goals
        simp only [Factory.instantiate, Factory.bindArgs] at h
        split at h
        · simp [Except.map] at h; exact ⟨_, h.symm⟩
        · split at h
          · simp [Except.map] at h; exact ⟨_, h.symm⟩
          · simp [Except.map] at h
    obtain ⟨key, rfl⟩ := this
    rfl

/-! ## the custom-file class and the mixed class, through the regenerated `detect_and_return_klass` /
     `build_new_mixed_class` (run against the lower-level oracle `detectExt`: importlib, `inspect.getmembers`, `type()`) -/

/-- **custom_class_pick**, about the regenerated `detect_and_return_klass`: for a file of the world, whatever base classes
    it has imported and wherever `inspect.getmembers` lists them, the function returns a class of the file that derives
    from the section's base and has the smallest name among those — or raises `Exception` exactly when the file has no
    such class; a file the world does not have raises `Exception` too -/
theorem src_custom_class_pick (w : World) (imp : String → Imports) (file n sec : String) :
    (∀ members, w.customs.lookup file = some members →
      (∀ v, SrcC15.detect_and_return_klass (detectExt w imp) (.str file) (.obj (.base n sec)) = .ok v →
        ∃ k, v = kobj k ∧ k ∈ members ∧ k.sections.contains sec = true ∧
          ∀ k' ∈ members, k'.sections.contains sec = true → k.name ≤ k'.name) ∧
      ((∀ k ∈ members, k.sections.contains sec = false) →
        SrcC15.detect_and_return_klass (detectExt w imp) (.str file) (.obj (.base n sec)) = .error .Exception) ∧
      ((∃ k ∈ members, k.sections.contains sec = true) →
        ∃ k, SrcC15.detect_and_return_klass (detectExt w imp) (.str file) (.obj (.base n sec)) = .ok (kobj k))) ∧
    (w.customs.lookup file = none →
      SrcC15.detect_and_return_klass (detectExt w imp) (.str file) (.obj (.base n sec)) = .error .Exception) := by
  have hsrc := src_detect_and_return_klass w imp file n sec
  rw [ext_call_detect_str] at hsrc
  refine ⟨fun members hl => ?_, fun hl => ?_⟩
  · have hsrc' : SrcC15.detect_and_return_klass (detectExt w imp) (.str file) (.obj (.base n sec))
        = embE kobj (Factory.detectKlass members sec) := by
      rw [hsrc, hl]
    obtain ⟨h1, h2, h3⟩ := custom_class_pick members sec
    refine ⟨fun v hv => ?_, fun hnone => ?_, fun hex => ?_⟩
    · rw [hsrc'] at hv
      cases hd : Factory.detectKlass members sec with
      | error e => rw [hd] at hv; cases hv
      | ok k =>
        rw [hd] at hv
        have : kobj k = v := by
          have hv' : (Except.ok (kobj k) : M V) = Except.ok v := hv
          injection hv'
        exact ⟨k, this.symm, h1 k hd⟩
    · rw [hsrc', h2 hnone]; rfl
    · obtain ⟨k, hk⟩ := h3 hex
      exact ⟨k, by rw [hsrc', hk]; rfl⟩
  · rw [hsrc, hl]

/-- **mixin_split, the class that is built**, about the regenerated `build_new_mixed_class`: for a base class and a list of
    mixins without repetition (the base not among them) the function returns the class whose bases are
    `tuple(mixins) + (base,)` — mixins first, in the order of the `+` selector, the base class last (the MRO order in which
    `mixed_init` and `determine_mixin_args` treat them); a repeated mixin is a `TypeError` -/
theorem src_mixed_class_bases (w : World) (imp : String → Imports) (b : Klass) (ms : List Klass)
    (hb : (ms.map (·.path)).contains b.path = false) :
    (Factory.hasDup (ms.map (·.path)) = false →
      SrcC15.build_new_mixed_class (detectExt w imp) (kobj b) (.list (ms.map kobj)) = .ok (.obj (.mixed ms b)) ∧
      (detectExt w imp).getattr (.mixed ms b) "__bases__" = .ok (.tuple ((ms ++ [b]).map kobj))) ∧
    (Factory.hasDup (ms.map (·.path)) = true →
      SrcC15.build_new_mixed_class (detectExt w imp) (kobj b) (.list (ms.map kobj)) = .error .TypeError) := by
  have h := src_build_new_mixed_class w imp b ms hb
  rw [ext_call_build] at h
  refine ⟨fun hd => ⟨by rw [h, hd]; rfl, rfl⟩, fun hd => by rw [h, hd]; rfl⟩

end Taurex.C15SrcProps
