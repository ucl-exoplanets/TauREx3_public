/-
  C17 — observations load independent of row order, with aligned columns and units.

  Theorems about `TaurexModel/Observation.lean` (`load`, `sortRowsDesc`, `edges4`, `widthConv`, `createBinner`,
  `binModel`, `fromTaurex`) — the definitions `driver_c17` executes on `Float` — at the carrier `ℝ`.
  `argsort` is an insertion sort by key; the order-dependent statements assume distinct wavelengths (the
  property's quantifier), the unit statements positive wavelengths.  The non-vacuity examples use `nvA`, `nvB`
  (`Proofs/C17Obs.lean`): the rows (2,20,2,1), (4,40,4,2), (1,10,1,1/2) in two different orders.
-/
import Proofs.C17Obs
import Proofs.FoldCore

namespace Taurex.C17
open Taurex.Observation Taurex.Binning List

/-- **rows_integrity**: the stored rows are a permutation of the input rows — sorting moves whole rows, columns
    never mix — and the public columns are read off those rows: wavenumber `10000/wl`, value, error of the *same*
    row; with 4 columns the width is the row's own width converted at the row's own wavelength. -/
theorem rows_integrity (fourCol : Bool) (rows : List (ORow ℝ)) :
    (load fourCol rows).rows ~ rows ∧
    (load fourCol rows).wavenumberGrid = (load fourCol rows).rows.map (fun r => 10000 / r.wl) ∧
    (load fourCol rows).spectrum = (load fourCol rows).rows.map ORow.v ∧
    (load fourCol rows).errorBar = (load fourCol rows).rows.map ORow.e :=
  ⟨sortRowsDesc_perm rows, rfl, rfl, rfl⟩

example : (load true nvA).rows ~ nvA := (rows_integrity true nvA).1

/-- **widths_attached** (4 columns): `binWidths[i] = 10000·bw/wl²` of row `i` itself. -/
theorem widths_attached (rows : List (ORow ℝ)) :
    (load true rows).binWidths = (load true rows).rows.map (fun r => 10000 * r.bw / (r.wl * r.wl)) :=
  load_true_wnWidths rows

example : (load true nvA).binWidths = (load true nvA).rows.map (fun r => 10000 * r.bw / (r.wl * r.wl)) :=
  widths_attached nvA

/-- **perm_invariant**: any two orders of the same rows (distinct wavelengths) load to the same object. -/
theorem perm_invariant (fourCol : Bool) (rows₁ rows₂ : List (ORow ℝ)) (hp : rows₁ ~ rows₂)
    (hd : (rows₁.map ORow.wl).Nodup) : load fourCol rows₁ = load fourCol rows₂ := by
  unfold load
  rw [sortRowsDesc_eq_of_perm hp hd]

example : load true nvA = load true nvB := perm_invariant true nvA nvB nv_perm nv_nodup
example : load false nvA = load false nvB := perm_invariant false nvA nvB nv_perm nv_nodup

/-- **wn_ascending**: wavenumbers come out strictly ascending (distinct positive wavelengths). -/
theorem wn_ascending (fourCol : Bool) (rows : List (ORow ℝ)) (hd : (rows.map ORow.wl).Nodup)
    (hpos : ∀ r ∈ rows, 0 < r.wl) : (load fourCol rows).wavenumberGrid.Pairwise (· < ·) :=
  wn_strict rows hd hpos

example : (load true nvA).wavenumberGrid.Pairwise (· < ·) := wn_ascending true nvA nv_nodup nv_pos

/-- **edges_consistent** (4 columns): the edges are, row by row in the stored (descending-wavelength) order,
    `wl + bw/2` then `wl - bw/2`; `binEdges` is `10000/` that, so in ascending wavenumber
    `10000/(wl+bw/2), 10000/(wl-bw/2)` per bin. -/
theorem edges_consistent (rows : List (ORow ℝ)) :
    (load true rows).edgesWl = (load true rows).rows.flatMap (fun r => [r.wl + r.bw / 2, r.wl - r.bw / 2]) ∧
    (load true rows).binEdges =
      (load true rows).rows.flatMap (fun r => [10000 / (r.wl + r.bw / 2), 10000 / (r.wl - r.bw / 2)]) := by
  have h1 : (load true rows).edgesWl =
      (load true rows).rows.flatMap (fun r => [r.wl + r.bw / 2, r.wl - r.bw / 2]) := by
    unfold load
    simp only [if_true]
    unfold edges4
    rw [List.reverse_flatMap, List.reverse_reverse]
    rfl
  refine ⟨h1, ?_⟩
  unfold Obs.binEdges
  rw [h1, List.map_flatMap]
  rfl

/-- **edges_consistent** (3 columns): widths are the absolute differences of consecutive edges, the edges are the
    mid-points of the stored wavelengths with the two end edges extrapolated by half a spacing, and there is one
    more edge than rows. -/
theorem edges_consistent3 (rows : List (ORow ℝ)) (h : 1 ≤ rows.length) :
    (load false rows).bw = (diffs (load false rows).edgesWl).map absv ∧
    (load false rows).edgesWl = (computeBinEdges ((load false rows).rows.map ORow.wl)).1 ∧
    (load false rows).edgesWl.length = rows.length + 1 ∧ (load false rows).bw.length = rows.length := by
  have hl : (sortRowsDesc rows).length = rows.length := (sortRowsDesc_perm rows).length_eq
  refine ⟨rfl, rfl, ?_, length_bw false rows h⟩
  unfold load
  simp only [Bool.false_eq_true, if_false]
  rw [Gen.Np.length_edges, List.length_map, hl]
  omega

/-- the mid-point rule itself: interior edges are `(a+b)/2` -/
theorem midEdges_is_midpoint (a b : ℝ) (t : List ℝ) :
    midEdges (a :: b :: t) = ((a + b) / 2) :: midEdges (b :: t) := by
  rw [midEdges]; congr 1; ring

example : (load false nvA).edgesWl = [5, 3, 3 / 2, 1 / 2] := by
  have hs : sortRowsDesc nvA = [⟨4, 40, 4, 2⟩, ⟨2, 20, 2, 1⟩, ⟨1, 10, 1, 1 / 2⟩] := by
    norm_num [sortRowsDesc, sortBy, insertBy, nvA]
  unfold load
  simp only [Bool.false_eq_true, if_false, hs]
  norm_num [computeBinEdges, midEdges]

/-- **binner_aligned**: the binner created from the observation holds exactly the observation's centres and
    widths in the observation's order (its internal re-sort is the identity), so output index `i` of
    `bin_model` is the bin of observation `i`. -/
theorem binner_aligned (fourCol : Bool) (rows : List (ORow ℝ)) (hd : (rows.map ORow.wl).Nodup)
    (hpos : ∀ r ∈ rows, 0 < r.wl) (hlen : 1 ≤ rows.length) (native : List (Row ℝ)) :
    (load fourCol rows).createBinner.map TBin.c = (load fourCol rows).wavenumberGrid ∧
    (load fourCol rows).createBinner.map TBin.w = (load fourCol rows).binWidths ∧
    (load fourCol rows).binModel native =
      (List.zipWith (fun c w => ({ c := c, w := w } : TBin ℝ)) (load fourCol rows).wavenumberGrid
        (load fourCol rows).binWidths).map (fun t => fluxBinVal Row.s (nativeBins false native) t.lo t.hi) := by
  have hid := createBinner_load fourCol rows hd hpos
  have hz := Gen.Np.zipWith_mk_map (load fourCol rows).wavenumberGrid (load fourCol rows).binWidths
    (wavenumberGrid_length fourCol rows)
  refine ⟨by rw [hid]; exact hz.1, by rw [hid]; exact hz.2, ?_⟩
  unfold Obs.binModel fluxBindown
  rw [hid]

example : (load true nvA).createBinner.map TBin.c = (load true nvA).wavenumberGrid :=
  (binner_aligned true nvA nv_nodup nv_pos nv_len []).1

/-- **taurex_roundtrip**: a TauREx-HDF5 spectrum `(wn, value, noise, wn width)` converted to array rows and read
    back gives the stored wavenumber and the stored wavenumber width (positive wavenumbers). -/
theorem taurex_roundtrip (r : ORow ℝ) (h : 0 < r.wl) :
    10000 / (fromTaurex r).wl = r.wl ∧ widthConv (fromTaurex r).wl (fromTaurex r).bw = r.bw ∧
    (fromTaurex r).v = r.v ∧ (fromTaurex r).e = r.e := by
  have e := ObsTargets.rowBin_fromTaurex r h.ne'
  exact ⟨congrArg TBin.c e, congrArg TBin.w e, rfl, rfl⟩

example : widthConv (fromTaurex (⟨2500, 1, 1, 50⟩ : ORow ℝ)).wl (fromTaurex ⟨2500, 1, 1, 50⟩).bw = 50 :=
  (taurex_roundtrip ⟨2500, 1, 1, 50⟩ (by norm_num)).2.1

/-- **holder_invariant** (the consumer of `create_binner`, `Optimizer.__init__ / set_observed`): whatever the history of
    `set_observed` calls on one optimizer — observations replaced by others, `None` in between —, the binner it holds is
    the binner created from the observation it currently holds. -/
theorem holder_invariant (first : Option (Obs ℝ)) (ops : List (Option (Obs ℝ))) (o : Obs ℝ)
    (h : ((Holder.new first).after ops).observed = some o) :
    ((Holder.new first).after ops).binner = some o.createBinner :=
  foldl_inv _ Held ops _ (fun hd x _ _ => held_setObserved hd x) (held_setObserved _ first) o h

example : ((Holder.new (some (load true nvB))).after [none, some (load true nvA)]).binner =
    some (load true nvA).createBinner :=
  holder_invariant _ _ _ rfl

/-- **holder_aligned**: after any history that ends with the observation `load fourCol rows`, the optimizer holds that
    observation, and the forward model it bins (what `chisq_trans` compares with `observed.spectrum`) is, element by
    element, the overlap mean over the bin (centre, width) of that observation's row `i` — never a bin of an observation
    it held before. -/
theorem holder_aligned (fourCol : Bool) (rows : List (ORow ℝ)) (hd : (rows.map ORow.wl).Nodup)
    (hpos : ∀ r ∈ rows, 0 < r.wl) (hlen : 1 ≤ rows.length) (first : Option (Obs ℝ))
    (ops : List (Option (Obs ℝ))) (native : List (Row ℝ)) :
    ((Holder.new first).after (ops ++ [some (load fourCol rows)])).observed = some (load fourCol rows) ∧
    ((Holder.new first).after (ops ++ [some (load fourCol rows)])).binModel native =
      some ((List.zipWith (fun c w => ({ c := c, w := w } : TBin ℝ)) (load fourCol rows).wavenumberGrid
        (load fourCol rows).binWidths).map (fun t => fluxBinVal Row.s (nativeBins false native) t.lo t.hi)) := by
  have hobs : ((Holder.new first).after (ops ++ [some (load fourCol rows)])).observed = some (load fourCol rows) := by
    simp [Holder.after, Holder.setObserved]
  refine ⟨hobs, ?_⟩
  unfold Holder.binModel
  rw [holder_invariant first _ _ hobs, Option.map_some]
  exact congrArg some (binner_aligned fourCol rows hd hpos hlen native).2.2

example : ((Holder.new (some (load false nvB))).after ([none] ++ [some (load true nvA)])).observed =
    some (load true nvA) :=
  (holder_aligned true nvA nv_nodup nv_pos nv_len _ [none] []).1

/-- **program_binner_of_observation** (the command-line program as the holder, `taurex/taurex.py:main`): whenever the
    program binds its output to the observation — `taurex_spectrum = self` with whatever `[Binning]` section, or an
    observation file with no `[Binning]` section / `bin_type = observed` — and gets as far as writing the output, the binner
    it holds then is the binner created from the observation it holds then; with `self` that observation is the one built
    from the instrument result (never the native binner or the `[Binning]` grid chosen before the instrument ran). -/
theorem program_binner_of_observation (b : BinDecl) (o : ObsDecl ℝ) (inst : Option (List (ORow ℝ))) (p : Program ℝ)
    (h : Program.run b o inst = some p)
    (hbound : o = ObsDecl.self ∨
      ((∃ ob, o = ObsDecl.given ob) ∧ (b = BinDecl.absent ∨ b = BinDecl.observed))) :
    ∃ ob, p.observed = some ob ∧ p.binner = ProgBinner.ofObs ob.createBinner ∧
      (∀ ob', o = ObsDecl.given ob' → ob = ob') ∧
      (o = ObsDecl.self → ∃ rows, inst = some rows ∧ ob = load true (rows.map fromTaurex)) := by
  rcases hbound with rfl | ⟨⟨ob, rfl⟩, rfl | rfl⟩
  · cases b <;> cases inst <;> simp [Program.run, Program.choose] at h
    all_goals
      subst h
      refine ⟨_, rfl, rfl, ?_, ?_⟩
      · intro _ h; cases h
      · intro _; exact ⟨_, rfl, rfl⟩
  · simp [Program.run, Program.choose] at h
    subst h
    exact ⟨ob, rfl, rfl, by intro _ h; cases h; rfl, by intro h; cases h⟩
  · simp [Program.run, Program.choose] at h
    subst h
    exact ⟨ob, rfl, rfl, by intro _ h; cases h; rfl, by intro h; cases h⟩

/-- non-vacuity: `self` on a declared `[Binning]` grid with an instrument result: the program ends up with the binner of
    the observation made from the instrument rows -/
example : ∃ p, Program.run BinDecl.manual (ObsDecl.self : ObsDecl ℝ) (some nvA) = some p ∧
    p.binner = ProgBinner.ofObs (load true (nvA.map fromTaurex)).createBinner :=
  ⟨_, rfl, rfl⟩

/-- **program_aligned**: `taurex_spectrum = self` with an instrument result `(wn, spectrum, noise, wn width)` of distinct
    positive wavenumbers, whatever the `[Binning]` section (`bin_type = observed` stops the program): the program holds the
    observation built from those rows, and the binned forward model it writes is, element by element, the overlap mean over
    the bin (centre, width) of that observation's row `i`. -/
theorem program_aligned (b : BinDecl) (hb : b ≠ BinDecl.observed) (rows : List (ORow ℝ))
    (hd : (rows.map ORow.wl).Nodup) (hpos : ∀ r ∈ rows, 0 < r.wl) (hlen : 1 ≤ rows.length) (native : List (Row ℝ)) :
    ∃ p, Program.run b ObsDecl.self (some rows) = some p ∧
      p.observed = some (load true (rows.map fromTaurex)) ∧
      p.binModel native =
        some ((List.zipWith (fun c w => ({ c := c, w := w } : TBin ℝ)) (load true (rows.map fromTaurex)).wavenumberGrid
          (load true (rows.map fromTaurex)).binWidths).map
            (fun t => fluxBinVal Row.s (nativeBins false native) t.lo t.hi)) := by
  have hal := binner_aligned true (rows.map fromTaurex) (taurex_wl_nodup rows hd hpos) (taurex_wl_pos rows hpos)
    (by simpa using hlen) native
  refine ⟨{ observed := some (load true (rows.map fromTaurex)),
            binner := ProgBinner.ofObs (load true (rows.map fromTaurex)).createBinner }, ?_, rfl, ?_⟩
  · cases b <;> simp [Program.run, Program.choose] at hb ⊢
  · simp only [Program.binModel]
    exact congrArg some hal.2.2

example : ∃ p, Program.run BinDecl.absent (ObsDecl.self : ObsDecl ℝ) (some nvA) = some p ∧
    p.observed = some (load true (nvA.map fromTaurex)) := by
  obtain ⟨p, h1, h2, _⟩ := program_aligned BinDecl.absent (by decide) nvA nv_nodup nv_pos nv_len []
  exact ⟨p, h1, h2⟩

end Taurex.C17
