/-
  C15 — an input file builds exactly the documented object graph.

  Theorems about `Taurex.Factory` (the definitions `driver_c15` executes) and about the tables
  `Gen/Registry.lean` / `Gen/Docs.lean`, which are REGENERATED from /repo on every run: the table theorems
  (`decide +kernel` over the whole table) are therefore re-proved against what the code and the documentation
  say now.  General lemmas lift them: the real code iterates Python `set`s of classes, `lookup_unique` makes the
  outcome independent of that order.
-/
import Proofs.C15Lemmas
import Proofs.C15Sort
import TaurexModel.Gen.Registry
import TaurexModel.Gen.Docs

namespace Taurex.C15
open Taurex.Factory Taurex.C15L Taurex.Gen

/-- Pairwise-disjoint keyword sets ⇒ the factory look-up does not depend on the order in which the class set is
    iterated, and what it returns is the unique class claiming the keyword. -/
theorem lookup_unique (cls cls' : List Klass) (kw : String) (hd : pairwiseDisjoint cls = true)
    (hp : cls'.Perm cls) :
    lookup cls' kw = lookup cls kw ∧ (∀ k, lookup cls kw = some k → candidates cls kw = [k]) := by
  have hle := disjoint_candidates_le_one cls kw hd
  constructor
  · rw [lookup_eq_head_candidates, lookup_eq_head_candidates]
    have hperm : (candidates cls kw).Perm (candidates cls' kw) := (hp.filter _).symm
    rw [perm_length_le_one_eq hperm hle]
  · intro k hk
    rw [lookup_eq_head_candidates] at hk
    match hc : candidates cls kw, hle, hk with
    | [], _, hk => simp at hk
    | [x], _, hk => simp at hk; simp [hk]
    | _ :: _ :: _, hle, _ => simp at hle

example : pairwiseDisjoint Registry.temperature_classes = true ∧
    Registry.temperature_classes.reverse.Perm Registry.temperature_classes ∧
    (lookup Registry.temperature_classes "guillot").isSome = true :=
  ⟨by decide +kernel, List.reverse_perm _, by decide +kernel⟩

/-- `create_klass` is strict: it raises `KeyError` exactly when some config key is not a constructor keyword
    (and names such a key); otherwise, for a config with unique keys (a dict), the result is the defaults in
    their order, each overridden by the config value of the same key when there is one. -/
theorem create_strict (defaults cfg : Config) :
    ((∃ kv ∈ cfg, hasKey defaults kv.1 = false) ↔ ∃ k, createKlass defaults cfg = .error (.keyError k)) ∧
    (∀ e, createKlass defaults cfg = .error e → ∃ kv ∈ cfg, hasKey defaults kv.1 = false ∧ e = .keyError kv.1) ∧
    ((∀ kv ∈ cfg, hasKey defaults kv.1 = true) → (cfg.map (·.1)).Nodup →
      createKlass defaults cfg =
        .ok (defaults.map (fun kv => (kv.1, (cfg.lookup kv.1).getD kv.2)))) := by
  refine ⟨⟨?_, ?_⟩, createKlass_error defaults cfg, ?_⟩
  · rintro ⟨kv, hm, hk⟩; exact createKlass_unknown defaults cfg kv hm hk
  · rintro ⟨k, hk⟩
    obtain ⟨kv, hm, hf, _⟩ := createKlass_error defaults cfg _ hk
    exact ⟨kv, hm, hf⟩
  · intro hall hnd
    rw [createKlass_ok defaults cfg hall, fold_dictSet defaults cfg hall hnd]

example : createKlass [("T", .scalar (.int 1500))] [("T", .scalar (.dec false 14 2))] =
      .ok [("T", .scalar (.dec false 14 2))] ∧
    createKlass [("T", .scalar (.int 1500))] [("kappa_irr", .scalar (.dec false 1 (-2)))] =
      .error (.keyError "kappa_irr") := by
  constructor <;> decide +kernel

/-- `transform` types every raw value as exactly one of: boolean, number, string, list of numbers, list of
    strings (it is total: no raw string or string list makes it fail). -/
theorem transform_total :
    (∀ s : String, (∃ b, transform (.scalar (.str s)) = .scalar (.bool b)) ∨
      (∃ n, transform (.scalar (.str s)) = .scalar n ∧ isNum n = true) ∨
      transform (.scalar (.str s)) = .scalar (.str s)) ∧
    (∀ l : List Scalar, (∃ ns, transform (.list l) = .list ns ∧ ∀ n ∈ ns, isNum n = true) ∨
      transform (.list l) = .list l) := by
  constructor
  · intro s
    rw [transform_str]
    cases h1 : trueWords.contains (lower s) with
    | true => exact .inl ⟨true, rfl⟩
    | false =>
      cases h2 : falseWords.contains (lower s) with
      | true => exact .inl ⟨false, rfl⟩
      | false =>
        cases h : parseNumber s with
        | none => exact .inr (.inr rfl)
        | some n => exact .inr (.inl ⟨n, rfl, parseNumberL_isNum _ _ h⟩)
  · intro l
    rw [transform_list]
    cases h : l.mapM toFloat with
    | none => exact .inr rfl
    | some ns => exact .inl ⟨ns, rfl, mapM_toFloat_isNum l ns h⟩

/-- The branch order of `transform`: a word of the true list (any letter case) is `True`, a word of the false list
    is `False`, anything else that `float()` accepts is that number, the rest stays a string; a list becomes a list
    of numbers iff every element converts. -/
theorem transform_cases (s : String) (l : List Scalar) :
    (trueWords.contains (lower s) = true → transform (.scalar (.str s)) = .scalar (.bool true)) ∧
    (trueWords.contains (lower s) = false → falseWords.contains (lower s) = true →
      transform (.scalar (.str s)) = .scalar (.bool false)) ∧
    (trueWords.contains (lower s) = false → falseWords.contains (lower s) = false →
      transform (.scalar (.str s)) = match parseNumber s with
        | some n => .scalar n
        | none => .scalar (.str s)) ∧
    (transform (.list l) = match l.mapM toFloat with
        | some ns => .list ns
        | none => .list l) := by
  refine ⟨?_, ?_, ?_, transform_list l⟩
  · intro h; rw [transform_str, h]; rfl
  · intro h1 h2; rw [transform_str, h1, h2]; rfl
  · intro h1 h2; rw [transform_str, h1, h2]; cases parseNumber s <;> rfl

example : transform (.scalar (.str "Yes")) = .scalar (.bool true) ∧
    transform (.scalar (.str "hell-no")) = .scalar (.bool false) ∧
    transform (.scalar (.str "1_0.5e-3")) = .scalar (.dec false 105 (-4)) ∧
    transform (.scalar (.str "1__0")) = .scalar (.str "1__0") ∧
    transform (.list [.str "1", .str "2.5"]) = .list [.dec false 1 0, .dec false 25 (-1)] ∧
    transform (.list [.str "H2", .str "1"]) = .list [.str "H2", .str "1"] := by
  refine ⟨?_, ?_, ?_, ?_, ?_, ?_⟩ <;> decide +kernel

/-- `transform` is idempotent: applying it to an already typed value (as `ConfigObj.walk` would on a second pass)
    changes nothing. -/
theorem transform_idem (v : Value) : transform (transform v) = transform v := by
  cases v with
  | list l =>
    cases h : l.mapM toFloat with
    | none => rw [transform_list, h]; simp only; rw [transform_list, h]
    | some ns =>
      have hn := mapM_toFloat_isNum l ns h
      rw [transform_list, h]; simp only
      rw [transform_list, mapM_toFloat_fix ns hn]
  | scalar sc =>
    cases sc with
    | str s =>
      rcases transform_total.1 s with ⟨b, hb⟩ | ⟨n, hn, hnum⟩ | hs
      · rw [hb]; rfl
      · rw [hn]
        cases n with
        | dec a b c => rfl
        | inf a => rfl
        | nan => rfl
        | _ => cases hnum
      · rw [hs, hs]
    | none => rfl
    | bool b => rfl
    | int i => rfl
    | dec a b c => rfl
    | inf a => rfl
    | nan => rfl
  | other r => rfl
  | ref w => rfl

/-- `klass_field.split('+')`: joining the parts with `+` gives the selector back and no part contains `+`;
    a selector with at least two parts whose last part names a class `base` and whose other parts name the
    mixins `ms` (no mixin twice) resolves to the mixed class `(ms…, base)`. -/
theorem mixin_split (sr : SectionReg) (customs : Customs) (sec field sel : String) (rest : Config)
    (p q : String) (ps : List String) (base : Klass) (ms : List Klass)
    (hc : lower sel ≠ "custom") (hparts : splitPlus (lower sel) = p :: q :: ps)
    (hb : factory sr (lastOf (p :: q :: ps)) = .ok base)
    (hm : (initOf (p :: q :: ps)).mapM (mixinFactory sr) = .ok ms)
    (hd : hasDup (ms.map (·.path)) = false) (hf : hasKey rest field = false) :
    (joinWith '+' (splitOnC '+' (lower sel).toList) = (lower sel).toList ∧
      ∀ part ∈ splitOnC '+' (lower sel).toList, '+' ∉ part) ∧
    determineKlass sr customs sec field ((field, .scalar (.str sel)) :: rest) = .ok (rest, .mixed ms base) := by
  refine ⟨⟨join_splitOnC _ _, splitOnC_no_sep _ _⟩, ?_⟩
  have hpop : popKey ((field, Value.scalar (.str sel)) :: rest) field = some (.scalar (.str sel), rest) := by
    have hfilter : rest.filter (fun kv => kv.1 != field) = rest := by
      rw [List.filter_eq_self]
      intro kv hkv
      have : kv.1 ≠ field := fun he => by
        rw [(hasKey_iff_mem_keys rest field).2 (he ▸ List.mem_map_of_mem (f := (·.1)) hkv)] at hf; cases hf
      simpa using this
    simp [popKey, hfilter]
  unfold determineKlass
  rw [hpop]
  simp [hc, hparts, hb, hm, hd, bind, Except.bind, pure, Except.pure]

example : determineKlass (Registry.registry.sec "temperature") [] "temperature" "profile_type"
      [("profile_type", .scalar (.str "TempScalar+Isothermal")), ("T", .scalar (.dec false 1 3))]
    = .ok ([("T", .scalar (.dec false 1 3))],
        .mixed ((Registry.registry.sec "temperature").mixins.take 1) ((Registry.registry.sec "temperature").classes.getD 2 default)) := by
  decide +kernel

/-- An unknown selector is an error: when no class of the section claims the (lower-cased) selector — and it is
    neither `custom` nor a `+` composite — `determine_klass` raises `NotImplementedError`; a selector that was typed
    as a number / boolean / list raises `AttributeError`; a missing selector raises `KeyError`. -/
theorem unknown_selector_error (sr : SectionReg) (customs : Customs) (sec field : String) (cfg : Config) :
    (∀ sel one, cfg.lookup field = some (.scalar (.str sel)) → lower sel ≠ "custom" →
      splitPlus (lower sel) = [one] → lookup sr.classes one = none →
      determineKlass sr customs sec field cfg = .error (.notImplemented one)) ∧
    (∀ v, cfg.lookup field = some v → (∀ s, v ≠ .scalar (.str s)) →
      determineKlass sr customs sec field cfg = .error (.attrError field)) ∧
    (cfg.lookup field = none → determineKlass sr customs sec field cfg = .error (.keyError field)) := by
  refine ⟨?_, ?_, ?_⟩
  · intro sel one hl hc hs hn
    simp [determineKlass, popKey, hl, hc, hs, factory, hn, Except.map]
  · intro v hl hv
    have hp : popKey cfg field = some (v, cfg.filter (·.1 != field)) := by simp [popKey, hl]
    unfold determineKlass
    rw [hp]
    cases v with
    | scalar sc =>
      cases sc with
      | str s => exact absurd rfl (hv s)
      | _ => rfl
    | _ => rfl
  · intro hl
    simp [determineKlass, popKey, hl]

example : determineKlass (Registry.registry.sec "temperature") [] "temperature" "profile_type"
      [("profile_type", .scalar (.str "isothermall"))] = .error (.notImplemented "isothermall") := by
  decide +kernel

/-- An unknown key is an error, strict sections (temperature, pressure, chemistry, gas profiles; contributions):
    for a plain class, a config key that is not a constructor keyword makes `create_profile` raise `KeyError`. -/
theorem unknown_key_error_strict (sr : SectionReg) (customs : Customs) (sec field : String) (cfg cfg1 : Config)
    (k : Klass) (kv : String × Value)
    (hr : determineKlass sr customs sec field cfg = .ok (cfg1, .plain k))
    (hm : kv ∈ cfg1) (hk : hasKey k.kwargs kv.1 = false) :
    ∃ key, createProfile sr customs sec field cfg = .error (.keyError key) := by
  obtain ⟨key, hkey⟩ := createKlass_unknown k.kwargs cfg1 kv hm hk
  refine ⟨key, ?_⟩
  simp [createProfile, hr, kwargDict, hkey, bind, Except.bind]

/-- An unknown key is an error, `klass(**config)` sections (planet, star, optimizer, observation, instrument,
    model): for a plain class without `**kwargs`, a key that is not a constructor parameter raises `TypeError`. -/
theorem unknown_key_error_lenient (sr : SectionReg) (customs : Customs) (sec field : String) (cfg cfg1 : Config)
    (k : Klass) (kv : String × Value)
    (hr : determineKlass sr customs sec field cfg = .ok (cfg1, .plain k))
    (hv : k.varkw = false) (hm : kv ∈ cfg1) (hk : k.args.contains kv.1 = false) :
    ∃ key, createLenient sr customs sec field cfg = .error (.typeError key) := by
  have : ∃ kv', cfg1.find? (fun kv => !(k.varkw || k.args.contains kv.1)) = some kv' := by
    cases h : cfg1.find? (fun kv => !(k.varkw || k.args.contains kv.1)) with
    | some kv' => exact ⟨kv', rfl⟩
    | none =>
      rw [List.find?_eq_none] at h
      have h' := h kv hm
      simp only [hv, hk, Bool.or_self, Bool.not_false, not_true_eq_false] at h'
  obtain ⟨kv', hkv'⟩ := this
  refine ⟨kv'.1, ?_⟩
  simp only [createLenient, hr, instantiate, bindArgs, hkv', bind, Except.bind, Except.map]

example : (createProfile (Registry.registry.sec "temperature") [] "temperature" "profile_type"
      [("profile_type", .scalar (.str "guillot")), ("kappa_ir", .scalar (.dec false 1 (-2)))]
      = .error (.keyError "kappa_ir")) ∧
    (createLenient (Registry.registry.sec "star") [] "star" "star_type"
      [("star_type", .scalar (.str "blackbody")), ("zzz", .scalar (.dec false 1 0))]
      = .error (.typeError "zzz")) := by
  constructor <;> decide +kernel

/-! ## theorems over the regenerated tables -/

/-- In every factory section (classes and mixins) no selector keyword is claimed by two classes. -/
theorem registry_disjoint :
    ∀ s ∈ Registry.registry, pairwiseDisjoint s.2.classes = true ∧ pairwiseDisjoint s.2.mixins = true := by
  decide +kernel

-- non-vacuity: the generated registry has every section, each with at least one class
example : Registry.registry.map (·.1) = Registry.sectionNames ∧
    (∀ s ∈ Registry.registry, s.2.classes ≠ []) := by decide +kernel

/-- documented selectors that are known not to resolve (recorded in known_findings.txt, not repaired) -/
def knownUnresolved : List (String × String) := [("gas", "twopoint")]

/-- documented selectors of components that are not part of the package (plugins): not judged -/
def pluginOnly : List (String × String) :=
  [("chemistry", "ace"), ("chemistry", "equilibrium"), ("contribution", "BHMie")]

/-- FULL STATEMENT (false today, see `twopoint_unresolved`): every documented selector of a component of the
    package has exactly one candidate class in its section, and it is the documented class.
    PROVED: the same for all documented selectors except the explicit list `knownUnresolved`. -/
theorem documented_resolve_partial :
    ∀ d ∈ Docs.selectors, d.inPackage = true → (d.sec, d.keyword) ∉ knownUnresolved →
      resolvesTo Registry.registry d = true := by
  decide +kernel

/-- the recorded exception is real: `gas_type = twopoint` has no candidate among the discovered gas classes
    (the day it is repaired this theorem fails and `knownUnresolved` must shrink) -/
theorem twopoint_unresolved :
    candidates (Registry.registry.sec "gas").classes "twopoint" = [] ∧
    (∃ d ∈ Docs.selectors, (d.sec, d.keyword) = ("gas", "twopoint") ∧ d.inPackage = true) := by
  decide +kernel

/-- the documented selectors that are not judged are exactly the pinned plugin list (so that a class deleted from
    the package cannot silently turn its documented selector into a "plugin") -/
theorem plugin_selectors_pinned :
    (Docs.selectors.filter (fun d => !d.inPackage)).map (fun d => (d.sec, d.keyword)) = pluginOnly := by
  decide +kernel

/-- Every documented selector, written as in the documentation in a section of its own, goes through
    `determine_klass` to exactly the class the table look-up gives (lower-casing, no `+`, not `custom`). -/
theorem documented_selector_builds :
    ∀ d ∈ Docs.selectors, d.inPackage = true → (d.sec, d.keyword) ∉ knownUnresolved →
      d.sec ≠ "prior" → d.sec ≠ "contribution" →
      (match determineKlass (Registry.registry.sec d.sec) [] d.sec "field" [("field", .scalar (.str d.keyword))] with
        | .ok ([], .plain k) => d.cls.all (· == k.path)
        | _ => false) = true := by
  -- the class is the one `documented_resolve_partial` found; what is left to check on the table is that a documented
  -- selector is written in lower case, without `+`, and is not the word `custom`
  have hplain : ∀ d ∈ Docs.selectors, d.inPackage = true → (d.sec, d.keyword) ∉ knownUnresolved →
      d.sec ≠ "prior" → d.sec ≠ "contribution" →
      lower d.keyword = d.keyword ∧ d.keyword ≠ "custom" ∧ splitPlus d.keyword = [d.keyword] := by
    decide +kernel
  intro d hd hin hk hp hc
  obtain ⟨hlow, hcus, hplus⟩ := hplain d hd hin hk hp hc
  have hres := documented_resolve_partial d hd hin hk
  simp only [resolvesTo, if_neg hp] at hres
  split at hres
  · rename_i k hcand
    rw [determineKlass_selector _ _ _ _ _ k hlow hcus hplus hcand]
    cases hcls : d.cls with
    | none => rfl
    | some p =>
      rw [hcls] at hres
      simpa [BEq.comm] using hres
  · cases hres

/-- Every key of a documented "Keywords" table is accepted: it is a constructor keyword of the class its selector
    resolves to, a key the parser consumes, or one of the `[Observation]` file keys. -/
theorem documented_keys_accepted :
    ∀ d ∈ Docs.keys, keyAccepted Registry.registry d = true := by
  decide +kernel

example : Docs.selectors.length ≥ 30 ∧ Docs.keys.length ≥ 60 := by decide +kernel

def lenientSections : List String := ["planet", "star", "optimizer", "observation", "instrument", "model"]

/-- In the sections built by `klass(**config)` no built-in class swallows unknown keys (`**kwargs`) and no
    built-in mixin exists (a mixed class would drop unknown keys silently in `mixed_init`): together with
    `unknown_key_error_lenient` every unknown key there is a `TypeError`. -/
theorem lenient_sections_bind_strictly :
    ∀ s ∈ lenientSections, (Registry.registry.sec s).mixins = [] ∧
      ∀ k ∈ (Registry.registry.sec s).classes, k.varkw = false := by
  decide +kernel

/-- **The class a custom file provides** (`[x] type = custom`, `python_file = …`): among the classes of the file that
    derive from the section's base class, the FIRST BY NAME (the order of `inspect.getmembers`) — it is one of them and no
    other candidate has a smaller name; the file is rejected exactly when it has no such class. -/
theorem custom_class_pick (members : List Klass) (sec : String) :
    (∀ k, detectKlass members sec = .ok k →
      k ∈ members ∧ k.sections.contains sec = true ∧
      ∀ k' ∈ members, k'.sections.contains sec = true → k.name ≤ k'.name) ∧
    ((∀ k ∈ members, k.sections.contains sec = false) →
      detectKlass members sec = .error (.generic "no class in custom file")) ∧
    ((∃ k ∈ members, k.sections.contains sec = true) → ∃ k, detectKlass members sec = .ok k) := by
  have hsorted := sortByName_sorted (members.filter (fun k => k.sections.contains sec))
  have hmem : ∀ y, y ∈ sortByName (members.filter (fun k => k.sections.contains sec))
      ↔ y ∈ members ∧ y.sections.contains sec = true := by
    intro y
    rw [mem_sortByName, List.mem_filter]
  refine ⟨?_, ?_, ?_⟩
  · intro k hk
    unfold detectKlass at hk
    cases hs : sortByName (members.filter (fun k => k.sections.contains sec)) with
    | nil => rw [hs] at hk; cases hk
    | cons x t =>
      rw [hs] at hk hsorted
      have hx : x = k := by injection hk
      subst hx
      have hxm := (hmem x).1 (by rw [hs]; simp)
      refine ⟨hxm.1, hxm.2, fun k' hk' hsec => ?_⟩
      have : k' ∈ x :: t := by rw [← hs]; exact (hmem k').2 ⟨hk', hsec⟩
      rcases List.mem_cons.1 this with rfl | ht
      · exact String.le_refl _
      · exact (List.pairwise_cons.1 hsorted).1 k' ht
  · intro hnone
    unfold detectKlass
    have : members.filter (fun k => k.sections.contains sec) = [] := by
      rw [List.filter_eq_nil_iff]
      intro k hk
      have := hnone k hk
      simpa using this
    rw [this]
    rfl
  · intro ⟨k, hk, hsec⟩
    unfold detectKlass
    cases hs : sortByName (members.filter (fun k => k.sections.contains sec)) with
    | nil =>
      have := (hmem k).2 ⟨hk, hsec⟩
      rw [hs] at this
      cases this
    | cons x t => exact ⟨x, rfl⟩

end Taurex.C15
