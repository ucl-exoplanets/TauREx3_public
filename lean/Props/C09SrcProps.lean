/-
  C09 — the property theorems restated about the REGENERATED source.  `Props/C09Src.lean` proves that the definitions
  translated on every run from `taurex/util/util.py:quantile_corner` and from one iteration of the per-parameter loops of
  `store_nestle_output`, `store_nest_solutions`, `store_polychord_solutions`, `compute_derived_trace` equal the model's
  `quantileCorner`, `summary`, `column`, `gather`/`restoreOrder`; `Props/C09.lean` proves the property about those.  The
  corollaries below compose the two: statements about the text of the code, over ℝ.

  Source expressions (instantiated exactly as the tie theorems instantiate them: `np.add.accumulate = cumsum 0`,
  `np.argsort = argsortStable`, `np.interp = interpAll`, literals `0.16 0.5 0.84 = q16 q50 q84`, `weights.argmax() =
  argmaxFirst weights`, `np.average = wmean`):
  * `srcQuantile x w q`   — the one entry of `quantile_corner(x, [q], weights=w)`;
  * `srcNestle samples w mean i` — the record `(map, mean, sigma_m, sigma_p, trace, value)` stored for parameter `i` by
    `store_nestle_output`; `srcMultinest`, `srcPolychord` — the records `(…, sigma_m, sigma_p, trace, value)` of the other
    two samplers; `srcDerived trace w restore gt gw` — the record `(mean, sigma_m, sigma_p, trace, value)` of
    `compute_derived_trace`.
  Guards of the ties that stay visible: equal lengths of samples and weights (numpy raises otherwise; the translation is
  total), `hmean` (nestle's `mean_and_cov` is external: its entry `i` is assumed to be the weighted mean of column `i`),
  valid positions in `restore`.

  * `srcNestleStore names samples w mean logz logzerr pk` — the dict returned by the WHOLE `store_nestle_output` (flat
    record `(Stats/Log-Evidence, Stats/Log-Evidence-Error, Stats/Peakiness, solution/fitparams, solution/samples,
    solution/weights)`, `fitparams` = the list of its (fit name, record) stores), `weights.argmax()` instantiated with
    numpy's first index of the maximum (`argmaxFirst`); `srcMultinestMode`, `srcPolychordMode` — the dict
    `(fit_params, tracedata, weights)` the other two samplers store for one mode.
  `map_is_heaviest` is restated as `src_map_is_heaviest` (the `map` entries of the whole regenerated function are read
  at the first sample of greatest weight), `traces_unchanged` in full as `src_store_traces_unchanged` (nestle) and its
  `tracedata / weights / trace` parts as `src_mode_traces_unchanged` (MultiNest / PolyChord: their MAP is the sampler's
  own vector, passed through).

  * `srcNestStoreSingle`, `srcNestStoreModes`, `srcPolyStore` — the dict `solutions` the regenerated WHOLE
    `store_nest_solutions` (both calling patterns) / `store_polychord_solutions` return: the file-reading prefix
    (dialect `seq`: `np.loadtxt` tables, the lines of `post_separate.dat` with the two-empty-lines mode separator, the
    per-mode arrays), the loop over the modes with its keys `'solution{}'.format(nmode)`, the per-parameter loop and
    `quantile_corner`; the sampler's own statistics are pass-through inputs.  `chain_files_unchanged` (Props/C09.lean) and
    `traces_unchanged` are restated about them: `src_nest_store_single_unchanged`, `src_nest_store_modes_unchanged` (for a
    `post_separate.dat` in MultiNest's layout), `src_poly_store_unchanged`.

  Not restated (no tie):
  * `wmean_between` for the nestle record: its mean is the external `mean_and_cov` (hypothesis `hmean`); restated for the
    derived record, where `np.average` is instantiated by `wmean`;
  * `derived_trace_in_sample_order`, parts about `derivedTrace` (the generator closure that evaluates the model per sample
    is not translated) — the re-ordering part is restated;
  * `model_point_through_prior`: `modelPoint` / `Back` (the loop of `update_model` over user-defined `Prior.prior` methods)
    have no tie here; `update_model` with the built-in classes is tied in `Props/C06Src.lean`.
-/
import Props.C09
import Props.C09Src
set_option linter.unusedSectionVars false

namespace Taurex.C09SrcProps
open Taurex.Posterior Taurex.C09 Taurex.C09Src

/-! ### the instantiated source expressions -/

/-- the single entry of `quantile_corner(x, [q], weights=w)`, regenerated source -/
noncomputable def srcQuantile (x w : List ℝ) (q : ℝ) : ℝ :=
  (Gen.SrcC09.quantile_corner x [q] w (accumulate := cumsum 0) (argsort := argsortStable)
    (interp := interpAll)).getD 0 0

/-- the record `store_nestle_output` stores for fitted parameter `i`: `(map, mean, sigma_m, sigma_p, trace, value)` -/
noncomputable def srcNestle (samples : List (List ℝ)) (w mean : List ℝ) (i : Nat) : ℝ × ℝ × ℝ × ℝ × List ℝ × ℝ :=
  Gen.SrcC09.nestle_param i samples w mean (argmaxFirst w) (accumulate := cumsum 0) (argsort := argsortStable)
    (c0p16 := q16) (c0p5 := q50) (c0p84 := q84) (interp := interpAll)

/-- the record `store_nest_solutions` stores: `(mean, nest_map, nest_sigma, sigma_m, sigma_p, trace, value)` -/
noncomputable def srcMultinest (trace : List (List ℝ)) (w nmap nmean nsig : List ℝ) (i : Nat) :
    ℝ × ℝ × ℝ × ℝ × ℝ × List ℝ × ℝ :=
  Gen.SrcC09.multinest_param i (accumulate := cumsum 0) (argsort := argsortStable) (c0p16 := q16) (c0p5 := q50)
    (c0p84 := q84) (interp := interpAll) (nest_map := nmap) (nest_mean := nmean) (nest_sigma := nsig)
    (tracedata := trace) (weights := w)

/-- the record `store_polychord_solutions` stores: `(nest_map, nest_mean, nest_sigma, sigma_m, sigma_p, trace, value)` -/
noncomputable def srcPolychord (trace : List (List ℝ)) (w nmap nmean nsig : List ℝ) (i : Nat) :
    ℝ × ℝ × ℝ × ℝ × ℝ × List ℝ × ℝ :=
  Gen.SrcC09.polychord_param i (accumulate := cumsum 0) (argsort := argsortStable) (c0p16 := q16) (c0p5 := q50)
    (c0p84 := q84) (interp := interpAll) (nest_map := nmap) (nest_mean := nmean) (nest_sigma := nsig)
    (tracedata := trace) (weights := w)

/-- the record `compute_derived_trace` stores for one derived parameter: `(mean, sigma_m, sigma_p, trace, value)`;
    `gt`/`gw` the gathered trace and weights, `restore` the index array putting them back into sample order -/
noncomputable def srcDerived (trace w : List ℝ) (restore : List Nat) (gt gw : List ℝ) : ℝ × ℝ × ℝ × List ℝ × ℝ :=
  Gen.SrcC09.derived_param trace w restore (accumulate := cumsum 0) (argsort := argsortStable) (average := wmean)
    (c0p16 := q16) (c0p5 := q50) (c0p84 := q84) (gathered_trace := gt) (gathered_w := gw) (interp := interpAll)

theorem srcQuantile_eq (x w : List ℝ) (q : ℝ) (h : x.length = w.length) :
    srcQuantile x w q = quantileCorner x w q := by
  unfold srcQuantile
  rw [src_quantile_corner x w [q] h]
  rfl

theorem srcNestle_eq (samples : List (List ℝ)) (w mean : List ℝ) (i : Nat) (h : samples.length = w.length)
    (hmean : mean.getD i 0 = wmean (column samples i) w) :
    srcNestle samples w mean i
      = ((column samples i).getD (argmaxFirst w) 0, (summary (column samples i) w).mean,
         (summary (column samples i) w).sigmaM, (summary (column samples i) w).sigmaP, column samples i,
         (summary (column samples i) w).value) := src_nestle_param samples w mean i h hmean

theorem srcMultinest_eq (trace : List (List ℝ)) (w nmap nmean nsig : List ℝ) (i : Nat) (h : trace.length = w.length) :
    srcMultinest trace w nmap nmean nsig i
      = (nmean.getD i 0, nmap.getD i 0, nsig.getD i 0, (summary (column trace i) w).sigmaM,
         (summary (column trace i) w).sigmaP, column trace i, (summary (column trace i) w).value) :=
  src_multinest_param trace w nmap nmean nsig i h

theorem srcPolychord_eq (trace : List (List ℝ)) (w nmap nmean nsig : List ℝ) (i : Nat) (h : trace.length = w.length) :
    srcPolychord trace w nmap nmean nsig i
      = (nmap.getD i 0, nmean.getD i 0, nsig.getD i 0, (summary (column trace i) w).sigmaM,
         (summary (column trace i) w).sigmaP, column trace i, (summary (column trace i) w).value) :=
  src_polychord_param trace w nmap nmean nsig i h

theorem srcDerived_eq (trace w : List ℝ) (restore : List Nat) (gt gw : List ℝ)
    (ht : ∀ j ∈ restore, j < gt.length) (hw : ∀ j ∈ restore, j < gw.length) :
    srcDerived trace w restore gt gw
      = ((summary (gather restore gt) (gather restore gw)).mean, (summary (gather restore gt) (gather restore gw)).sigmaM,
         (summary (gather restore gt) (gather restore gw)).sigmaP, gather restore gt,
         (summary (gather restore gt) (gather restore gw)).value) := src_derived_param gt gw trace w restore ht hw

/-- the restored trace and weights have the same length (both are indexed by `restore` at valid positions) -/
theorem gather_length_eq (restore : List Nat) (gt gw : List ℝ)
    (ht : ∀ j ∈ restore, j < gt.length) (hw : ∀ j ∈ restore, j < gw.length) :
    (gather restore gt).length = (gather restore gw).length := by
  rw [← map_getD_eq_gather gt restore ht, ← map_getD_eq_gather gw restore hw, List.length_map, List.length_map]

/-! ### the weighted quantile -/

/-- every weighted quantile lies between the smallest and the largest sample, about the regenerated `quantile_corner` -/
theorem src_quantile_between (x w : List ℝ) (q lo hi : ℝ) (hlen : x.length = w.length) (hne : x ≠ [])
    (hw : ∀ b ∈ w, 0 ≤ b) (htot : 0 < w.sum) (hlo : ∀ a ∈ x, lo ≤ a) (hhi : ∀ a ∈ x, a ≤ hi) :
    lo ≤ srcQuantile x w q ∧ srcQuantile x w q ≤ hi := by
  rw [srcQuantile_eq x w q hlen]; exact quantile_between x w q lo hi hlen hne hw htot hlo hhi

/-- the quantile is non-decreasing in `q`, about the regenerated `quantile_corner` -/
theorem src_quantile_mono_q (x w : List ℝ) (q q' : ℝ) (hlen : x.length = w.length)
    (hw : ∀ b ∈ w, 0 ≤ b) (htot : 0 < w.sum) (hq : q ≤ q') :
    srcQuantile x w q ≤ srcQuantile x w q' := by
  rw [srcQuantile_eq x w q hlen, srcQuantile_eq x w q' hlen]; exact quantile_mono_q x w q q' hlen hw htot hq

/-- with strictly positive weights the quantile at each cumulative weight fraction is exactly the corresponding sorted
    sample, about the regenerated `quantile_corner` -/
theorem src_quantile_at_node (x w : List ℝ) (hlen : x.length = w.length) (hw : ∀ b ∈ w, 0 < b) :
    ∀ p ∈ nodes x w, srcQuantile x w p.1 = p.2 := by
  intro p hp
  rw [srcQuantile_eq x w p.1 hlen]; exact quantile_at_node x w hw p hp

/-- between two consecutive nodes the regenerated `quantile_corner` is the linear interpolant, left of the first node
    the smallest sample, from the last node on the largest (`nodes x w` = (cumulative weight fraction, value) of the
    samples sorted by value) -/
theorem src_quantile_is_interp (x w : List ℝ) (hlen : x.length = w.length) (q : ℝ) (pre post : List (ℝ × ℝ))
    (a b : ℝ × ℝ) (ps : List (ℝ × ℝ)) :
    (nodes x w = pre ++ a :: b :: post → AbsSorted (nodes x w) → a.1 ≤ q → q < b.1 →
      srcQuantile x w q = if a.1 < q then ((b.2 - a.2) / (b.1 - a.1)) * (q - a.1) + a.2 else a.2) ∧
    (nodes x w = a :: ps → AbsSorted (nodes x w) → q < a.1 → srcQuantile x w q = a.2) ∧
    (∀ hne : nodes x w ≠ [], (∀ p ∈ nodes x w, p.1 ≤ q) → srcQuantile x w q = ((nodes x w).getLast hne).2) := by
  rw [srcQuantile_eq x w q hlen, quantileCorner_eq]
  refine ⟨fun hN hs ha hb => ?_, fun hN hs hx => ?_, fun hne hall => ?_⟩
  · rw [hN] at hs ⊢; exact (quantile_is_interp q pre post a b ps).1 hs ha hb
  · rw [hN] at hs ⊢; exact (quantile_is_interp q pre post a b ps).2.1 hs hx
  · exact (quantile_is_interp q pre post a b (nodes x w)).2.2 hne hall

/-- jointly permuting samples and weights changes no quantile when the sample values are distinct, about the
    regenerated `quantile_corner` -/
theorem src_quantile_perm (x w x' w' : List ℝ) (q : ℝ) (hlen : x.length = w.length) (hlen' : x'.length = w'.length)
    (hp : (List.zip x w).Perm (List.zip x' w')) (hd : x.Nodup) :
    srcQuantile x w q = srcQuantile x' w' q := by
  rw [srcQuantile_eq x w q hlen, srcQuantile_eq x' w' q hlen']; exact quantile_perm x w x' w' q hlen hp hd

/-! ### the stored records -/

/-- value / lower error / upper error of the nestle record are the 50 %, 50 − 16 %, 84 − 50 % weighted quantiles of
    the parameter's trace as the regenerated `quantile_corner` computes them, the mean the weighted mean -/
theorem src_nestle_is_quantiles (samples : List (List ℝ)) (w mean : List ℝ) (i : Nat) (h : samples.length = w.length)
    (hmean : mean.getD i 0 = wmean (column samples i) w) :
    (srcNestle samples w mean i).2.2.2.2.2 = srcQuantile (column samples i) w (50 / 100) ∧
    (srcNestle samples w mean i).2.2.1
      = srcQuantile (column samples i) w (50 / 100) - srcQuantile (column samples i) w (16 / 100) ∧
    (srcNestle samples w mean i).2.2.2.1
      = srcQuantile (column samples i) w (84 / 100) - srcQuantile (column samples i) w (50 / 100) ∧
    (srcNestle samples w mean i).2.1 = wmean (column samples i) w := by
  have hl : (column samples i).length = w.length := by rw [column_length]; exact h
  rw [srcNestle_eq samples w mean i h hmean, srcQuantile_eq _ _ _ hl, srcQuantile_eq _ _ _ hl, srcQuantile_eq _ _ _ hl]
  exact summary_is_quantiles (column samples i) w

/-- the same for the MultiNest record (value, sigma_m, sigma_p) -/
theorem src_multinest_is_quantiles (trace : List (List ℝ)) (w nmap nmean nsig : List ℝ) (i : Nat)
    (h : trace.length = w.length) :
    (srcMultinest trace w nmap nmean nsig i).2.2.2.2.2.2 = srcQuantile (column trace i) w (50 / 100) ∧
    (srcMultinest trace w nmap nmean nsig i).2.2.2.1
      = srcQuantile (column trace i) w (50 / 100) - srcQuantile (column trace i) w (16 / 100) ∧
    (srcMultinest trace w nmap nmean nsig i).2.2.2.2.1
      = srcQuantile (column trace i) w (84 / 100) - srcQuantile (column trace i) w (50 / 100) := by
  have hl : (column trace i).length = w.length := by rw [column_length]; exact h
  rw [srcMultinest_eq trace w nmap nmean nsig i h, srcQuantile_eq _ _ _ hl, srcQuantile_eq _ _ _ hl,
    srcQuantile_eq _ _ _ hl]
  obtain ⟨h1, h2, h3, _⟩ := summary_is_quantiles (column trace i) w
  exact ⟨h1, h2, h3⟩

/-- the same for the PolyChord record (value, sigma_m, sigma_p) -/
theorem src_polychord_is_quantiles (trace : List (List ℝ)) (w nmap nmean nsig : List ℝ) (i : Nat)
    (h : trace.length = w.length) :
    (srcPolychord trace w nmap nmean nsig i).2.2.2.2.2.2 = srcQuantile (column trace i) w (50 / 100) ∧
    (srcPolychord trace w nmap nmean nsig i).2.2.2.1
      = srcQuantile (column trace i) w (50 / 100) - srcQuantile (column trace i) w (16 / 100) ∧
    (srcPolychord trace w nmap nmean nsig i).2.2.2.2.1
      = srcQuantile (column trace i) w (84 / 100) - srcQuantile (column trace i) w (50 / 100) := by
  have hl : (column trace i).length = w.length := by rw [column_length]; exact h
  rw [srcPolychord_eq trace w nmap nmean nsig i h, srcQuantile_eq _ _ _ hl, srcQuantile_eq _ _ _ hl,
    srcQuantile_eq _ _ _ hl]
  obtain ⟨h1, h2, h3, _⟩ := summary_is_quantiles (column trace i) w
  exact ⟨h1, h2, h3⟩

/-- the summaries of a derived parameter are computed by the same quantile rule on the restored trace and weights, the
    mean is their weighted mean, about the regenerated loop body of `compute_derived_trace` -/
theorem src_derived_is_quantiles (trace w : List ℝ) (restore : List Nat) (gt gw : List ℝ)
    (ht : ∀ j ∈ restore, j < gt.length) (hw : ∀ j ∈ restore, j < gw.length) :
    (srcDerived trace w restore gt gw).2.2.2.2 = srcQuantile (gather restore gt) (gather restore gw) (50 / 100) ∧
    (srcDerived trace w restore gt gw).2.1
      = srcQuantile (gather restore gt) (gather restore gw) (50 / 100)
        - srcQuantile (gather restore gt) (gather restore gw) (16 / 100) ∧
    (srcDerived trace w restore gt gw).2.2.1
      = srcQuantile (gather restore gt) (gather restore gw) (84 / 100)
        - srcQuantile (gather restore gt) (gather restore gw) (50 / 100) ∧
    (srcDerived trace w restore gt gw).1 = wmean (gather restore gt) (gather restore gw) := by
  have hl := gather_length_eq restore gt gw ht hw
  rw [srcDerived_eq trace w restore gt gw ht hw, srcQuantile_eq _ _ _ hl, srcQuantile_eq _ _ _ hl,
    srcQuantile_eq _ _ _ hl]
  exact summary_is_quantiles _ _

/-- both errors of every stored record are non-negative (weights `≥ 0` with positive sum), regenerated loop bodies of
    the three samplers -/
theorem src_sampler_signs (samples : List (List ℝ)) (w mean nmap nmean nsig : List ℝ) (i : Nat)
    (h : samples.length = w.length) (hmean : mean.getD i 0 = wmean (column samples i) w)
    (hw : ∀ b ∈ w, 0 ≤ b) (htot : 0 < w.sum) :
    (0 ≤ (srcNestle samples w mean i).2.2.1 ∧ 0 ≤ (srcNestle samples w mean i).2.2.2.1) ∧
    (0 ≤ (srcMultinest samples w nmap nmean nsig i).2.2.2.1 ∧ 0 ≤ (srcMultinest samples w nmap nmean nsig i).2.2.2.2.1) ∧
    (0 ≤ (srcPolychord samples w nmap nmean nsig i).2.2.2.1 ∧
      0 ≤ (srcPolychord samples w nmap nmean nsig i).2.2.2.2.1) := by
  have hl : (column samples i).length = w.length := by rw [column_length]; exact h
  rw [srcNestle_eq samples w mean i h hmean, srcMultinest_eq samples w nmap nmean nsig i h,
    srcPolychord_eq samples w nmap nmean nsig i h]
  exact ⟨summary_signs _ w hl hw htot, summary_signs _ w hl hw htot, summary_signs _ w hl hw htot⟩

/-- both errors of a derived parameter are non-negative, regenerated loop body of `compute_derived_trace` -/
theorem src_derived_signs (trace w : List ℝ) (restore : List Nat) (gt gw : List ℝ)
    (ht : ∀ j ∈ restore, j < gt.length) (hw : ∀ j ∈ restore, j < gw.length)
    (hpos : ∀ b ∈ gather restore gw, 0 ≤ b) (htot : 0 < (gather restore gw).sum) :
    0 ≤ (srcDerived trace w restore gt gw).2.1 ∧ 0 ≤ (srcDerived trace w restore gt gw).2.2.1 := by
  rw [srcDerived_eq trace w restore gt gw ht hw]
  exact summary_signs _ _ (gather_length_eq restore gt gw ht hw) hpos htot

/-- the mean stored for a derived parameter lies between the smallest and the largest entry of its trace -/
theorem src_derived_mean_between (trace w : List ℝ) (restore : List Nat) (gt gw : List ℝ) (lo hi : ℝ)
    (ht : ∀ j ∈ restore, j < gt.length) (hw : ∀ j ∈ restore, j < gw.length)
    (hpos : ∀ b ∈ gather restore gw, 0 ≤ b) (htot : 0 < (gather restore gw).sum)
    (hlo : ∀ a ∈ gather restore gt, lo ≤ a) (hhi : ∀ a ∈ gather restore gt, a ≤ hi) :
    lo ≤ (srcDerived trace w restore gt gw).1 ∧ (srcDerived trace w restore gt gw).1 ≤ hi := by
  rw [srcDerived_eq trace w restore gt gw ht hw]
  exact wmean_between _ _ lo hi (gather_length_eq restore gt gw ht hw) hpos htot hlo hhi

/-- what is stored per parameter is the sampler's output unchanged: the `trace` of parameter `i` is column `i` of the
    samples (entry `k` = entry `i` of sample `k`) for all three samplers, and nestle's `map` entry is entry `i` of the
    sample of greatest weight; regenerated loop bodies -/
theorem src_traces_unchanged (samples : List (List ℝ)) (w mean nmap nmean nsig : List ℝ) (i : Nat)
    (h : samples.length = w.length) (hmean : mean.getD i 0 = wmean (column samples i) w) :
    (srcNestle samples w mean i).2.2.2.2.1 = column samples i ∧
    (srcMultinest samples w nmap nmean nsig i).2.2.2.2.2.1 = column samples i ∧
    (srcPolychord samples w nmap nmean nsig i).2.2.2.2.2.1 = column samples i ∧
    (srcNestle samples w mean i).1 = (samples.getD (argmaxFirst w) []).getD i 0 ∧
    (∀ k : Nat, (column samples i)[k]? = (samples[k]?).map (fun (row : List ℝ) => row.getD i 0)) := by
  obtain ⟨_, _, hmap, _, hcol⟩ := traces_unchanged (i + 1) samples w
  rw [srcNestle_eq samples w mean i h hmean, srcMultinest_eq samples w nmap nmean nsig i h,
    srcPolychord_eq samples w nmap nmean nsig i h]
  refine ⟨rfl, rfl, rfl, ?_, hcol i⟩
  show (column samples i).getD (argmaxFirst w) 0 = _
  rw [src_nestle_map samples w (i + 1) i, hmap]

/-- `all_index.argsort()` only holds valid positions of the gathered arrays -/
theorem argsortNat_lt (index : List Nat) : ∀ j ∈ argsortNat index, j < index.length :=
  (argsortNat_isArgsort index).lt

/-- A derived trace is stored in sample order for **every** gather order: if entry `k` of the gathered list is the value
    `g` of sample `index[k]` and `index` lists every sample once, the `trace` the regenerated loop body of
    `compute_derived_trace` stores with `restore = all_index.argsort()` is `g 0, g 1, …, g (n-1)`; in one process
    (`index = 0 … n-1`) the gathered trace is stored as it is. -/
theorem src_derived_trace_in_sample_order (trace w : List ℝ) (g : Nat → ℝ) (index : List Nat) (n : Nat)
    (gw : List ℝ) (hgw : gw.length = index.length) (hp : index.Perm (List.range n)) (gt : List ℝ) :
    (srcDerived trace w (argsortNat index) (index.map g) gw).2.2.2.1 = (List.range n).map g ∧
    (gw.length = gt.length →
      (srcDerived trace w (argsortNat (List.range gt.length)) gt gw).2.2.2.1 = gt) := by
  constructor
  · rw [srcDerived_eq trace w (argsortNat index) (index.map g) gw
      (by intro j hj; rw [List.length_map]; exact argsortNat_lt index j hj)
      (by intro j hj; rw [hgw]; exact argsortNat_lt index j hj)]
    show gather (argsortNat index) (index.map g) = _
    rw [src_derived_restore]
    exact (derived_trace_in_sample_order (fun x : ℝ => x) [] g index n hp).2.2.1
  · intro hl
    rw [srcDerived_eq trace w (argsortNat (List.range gt.length)) gt gw
      (by intro j hj; simpa using argsortNat_lt _ j hj)
      (by intro j hj; rw [hl]; simpa using argsortNat_lt _ j hj)]
    show gather (argsortNat (List.range gt.length)) gt = _
    rw [src_derived_restore]
    exact restoreOrder_range gt

/-! ### the whole `store_nestle_output` and the per-mode dicts of MultiNest / PolyChord -/

/-- the dict returned by the WHOLE `store_nestle_output`, regenerated source, as the flat record
    `(Stats/Log-Evidence, Stats/Log-Evidence-Error, Stats/Peakiness, solution/fitparams, solution/samples,
    solution/weights)`; `weights.argmax()` instantiated with numpy's first index of the maximum -/
noncomputable def srcNestleStore {Name : Type} (names : List Name) (samples : List (List ℝ)) (w mean : List ℝ)
    (logz logzerr pk : ℝ) : ℝ × ℝ × ℝ × List (Name × (ℝ × ℝ × ℝ × ℝ × List ℝ × ℝ)) × List (List ℝ) × List ℝ :=
  Gen.SrcC09.nestle_store (accumulate := cumsum 0) (argmax := argmaxFirst) (argsort := argsortStable) (c0p16 := q16)
    (c0p5 := q50) (c0p84 := q84) (fit_names := names) (interp := interpAll) (logz := logz) (logzerr := logzerr)
    (nestle_mean := mean) (peakiness := pk) (result_samples := samples) (result_weights := w)

/-- the dict `store_nest_solutions` stores for one mode: `(fit_params, tracedata, weights)` -/
noncomputable def srcMultinestMode {Name : Type} (names : List Name) (trace : List (List ℝ)) (w nmap nmean nsig : List ℝ) :
    List (Name × (ℝ × ℝ × ℝ × ℝ × ℝ × List ℝ × ℝ)) × List (List ℝ) × List ℝ :=
  Gen.SrcC09.multinest_mode (accumulate := cumsum 0) (argsort := argsortStable) (c0p16 := q16) (c0p5 := q50)
    (c0p84 := q84) (fit_names := names) (interp := interpAll) (nest_map := nmap) (nest_mean := nmean)
    (nest_sigma := nsig) (tracedata := trace) (weights := w)

/-- the dict `store_polychord_solutions` stores for one mode: `(fit_params, tracedata, weights)` -/
noncomputable def srcPolychordMode {Name : Type} (names : List Name) (trace : List (List ℝ)) (w nmap nmean nsig : List ℝ) :
    List (Name × (ℝ × ℝ × ℝ × ℝ × ℝ × List ℝ × ℝ)) × List (List ℝ) × List ℝ :=
  Gen.SrcC09.polychord_mode (accumulate := cumsum 0) (argsort := argsortStable) (c0p16 := q16) (c0p5 := q50)
    (c0p84 := q84) (fit_names := names) (interp := interpAll) (nest_map := nmap) (nest_mean := nmean)
    (nest_sigma := nsig) (tracedata := trace) (weights := w)

theorem srcNestleStore_eq {Name : Type} (names : List Name) (samples : List (List ℝ)) (w mean : List ℝ)
    (logz logzerr pk : ℝ) (h : samples.length = w.length)
    (hmean : ∀ i, i < names.length → mean.getD i 0 = wmean (column samples i) w) :
    srcNestleStore names samples w mean logz logzerr pk
      = (logz, logzerr, pk,
         names.zipIdx.map (fun it => (it.1,
           ((column samples it.2).getD (storeOutput names.length samples w).mapIndex 0,
            (summary (column samples it.2) w).mean, (summary (column samples it.2) w).sigmaM,
            (summary (column samples it.2) w).sigmaP, column samples it.2, (summary (column samples it.2) w).value))),
         (storeOutput names.length samples w).tracedata, (storeOutput names.length samples w).weights) :=
  src_nestle_store names samples w mean logz logzerr pk h hmean

/-- entry `i` of a list built by mapping over `zipIdx` -/
theorem zipIdx_map_getElem? {β γ : Type} (l : List β) (f : β × Nat → γ) (i : Nat) :
    (l.zipIdx.map f)[i]? = (l[i]?).map (fun a => f (a, i)) := by
  simp [Function.comp_def]

/-- The MAP of the WHOLE regenerated `store_nestle_output`, with `weights.argmax()` = numpy's first index of the maximum:
    there is a sample index `k` — a valid index, no weight exceeds the weight there, every earlier weight is smaller: the
    first sample of greatest weight — such that the `map` entry stored for every fit parameter `i` is entry `i` of
    sample `k`. -/
theorem src_map_is_heaviest {Name : Type} (names : List Name) (samples : List (List ℝ)) (w mean : List ℝ)
    (logz logzerr pk : ℝ) (h : samples.length = w.length)
    (hmean : ∀ i, i < names.length → mean.getD i 0 = wmean (column samples i) w) (hne : w ≠ []) :
    ∃ k, k < w.length ∧ (∀ j, j < w.length → w.getD j 0 ≤ w.getD k 0) ∧ (∀ j, j < k → w.getD j 0 < w.getD k 0) ∧
      ∀ i, i < names.length →
        ((srcNestleStore names samples w mean logz logzerr pk).2.2.2.1[i]?).map (fun e => e.2.1)
          = some ((samples.getD k []).getD i 0) := by
  obtain ⟨h1, h2, h3⟩ := map_is_heaviest w hne
  refine ⟨argmaxFirst w, h1, h2, h3, ?_⟩
  intro i hi
  rw [srcNestleStore_eq names samples w mean logz logzerr pk h hmean]
  show ((names.zipIdx.map _)[i]?).map _ = _
  rw [zipIdx_map_getElem?, List.getElem?_eq_getElem hi]
  show some ((column samples i).getD (argmaxFirst w) 0) = _
  rw [src_nestle_map samples w names.length i]
  rfl

/-- the hypotheses are satisfiable: two fit names, three samples with a tie for the greatest weight, `mean` the weighted
    column means -/
example : ∃ (names : List String) (samples : List (List ℝ)) (w mean : List ℝ), samples.length = w.length ∧ w ≠ [] ∧
    (∀ i, i < names.length → mean.getD i 0 = wmean (column samples i) w) :=
  ⟨["T", "R"], [[1, 2], [3, 4], [5, 6]], [1, 3, 3],
    [wmean (column [[1, 2], [3, 4], [5, 6]] 0) [1, 3, 3], wmean (column [[1, 2], [3, 4], [5, 6]] 1) [1, 3, 3]],
    rfl, by simp, by
      intro i hi
      have : i = 0 ∨ i = 1 := by simp at hi; omega
      rcases this with rfl | rfl <;> rfl⟩

theorem srcMultinestMode_eq {Name : Type} (names : List Name) (trace : List (List ℝ)) (w nmap nmean nsig : List ℝ)
    (h : trace.length = w.length) :
    srcMultinestMode names trace w nmap nmean nsig
      = (names.zipIdx.map (fun it => (it.1,
           (nmean.getD it.2 0, nmap.getD it.2 0, nsig.getD it.2 0, (summary (column trace it.2) w).sigmaM,
            (summary (column trace it.2) w).sigmaP, column trace it.2, (summary (column trace it.2) w).value))),
         (storeOutput names.length trace w).tracedata, (storeOutput names.length trace w).weights) :=
  src_multinest_mode names trace w nmap nmean nsig h

theorem srcPolychordMode_eq {Name : Type} (names : List Name) (trace : List (List ℝ)) (w nmap nmean nsig : List ℝ)
    (h : trace.length = w.length) :
    srcPolychordMode names trace w nmap nmean nsig
      = (names.zipIdx.map (fun it => (it.1,
           (nmap.getD it.2 0, nmean.getD it.2 0, nsig.getD it.2 0, (summary (column trace it.2) w).sigmaM,
            (summary (column trace it.2) w).sigmaP, column trace it.2, (summary (column trace it.2) w).value))),
         (storeOutput names.length trace w).tracedata, (storeOutput names.length trace w).weights) :=
  src_polychord_mode names trace w nmap nmean nsig h

/-- the keys of a dict filled by mapping over `zipIdx` are the list itself -/
theorem zipIdx_map_keys {β γ : Type} (l : List β) (f : β × Nat → γ) :
    (l.zipIdx.map (fun it => (it.1, f it))).map Prod.fst = l := by
  rw [List.map_map]
  apply List.ext_getElem?
  intro i
  rw [zipIdx_map_getElem?]
  cases l[i]? <;> rfl

/-- `traces_unchanged` about the WHOLE regenerated `store_nestle_output`: what is stored is the sampler's output
    unchanged — `solution/samples` are the samples, `solution/weights` the weights, `solution/fitparams` has one entry
    per fit name, in order; the entry of parameter `i` holds as `map` entry `i` of the sample of greatest weight, as
    `value / sigma_m / sigma_p / mean` the model's summary of column `i` (the `params[i]` of `storeOutput`), as `trace`
    column `i` of the samples; the MAP vector assembled from the `map` entries is `storeOutput`'s `mapVector` (when the
    sample of greatest weight has one entry per fit name). -/
theorem src_store_traces_unchanged {Name : Type} (names : List Name) (samples : List (List ℝ)) (w mean : List ℝ)
    (logz logzerr pk : ℝ) (h : samples.length = w.length)
    (hmean : ∀ i, i < names.length → mean.getD i 0 = wmean (column samples i) w) :
    (srcNestleStore names samples w mean logz logzerr pk).2.2.2.2.1 = samples ∧
    (srcNestleStore names samples w mean logz logzerr pk).2.2.2.2.2 = w ∧
    (srcNestleStore names samples w mean logz logzerr pk).2.2.2.1.map Prod.fst = names ∧
    (∀ i (hi : i < names.length), (srcNestleStore names samples w mean logz logzerr pk).2.2.2.1[i]? = some (names[i],
        ((samples.getD (argmaxFirst w) []).getD i 0, (summary (column samples i) w).mean,
         (summary (column samples i) w).sigmaM, (summary (column samples i) w).sigmaP, column samples i,
         (summary (column samples i) w).value))) ∧
    (∀ i, i < names.length → (storeOutput names.length samples w).params[i]? = some (summary (column samples i) w)) ∧
    ((samples.getD (argmaxFirst w) []).length = names.length →
      (srcNestleStore names samples w mean logz logzerr pk).2.2.2.1.map (fun e => e.2.1)
        = mapVector (storeOutput names.length samples w)) ∧
    (∀ i k : Nat, (column samples i)[k]? = (samples[k]?).map (fun (row : List ℝ) => row.getD i 0)) := by
  obtain ⟨htr, hwt, hmap, hpar, hcol⟩ := traces_unchanged names.length samples w
  rw [srcNestleStore_eq names samples w mean logz logzerr pk h hmean]
  refine ⟨htr, hwt, zipIdx_map_keys names _, ?_, hpar, ?_, hcol⟩
  · intro i hi
    show (names.zipIdx.map _)[i]? = _
    rw [zipIdx_map_getElem?, List.getElem?_eq_getElem hi]
    show some (names[i], (column samples i).getD (argmaxFirst w) 0, _) = _
    rw [src_nestle_map samples w names.length i, hmap]
  · intro hrow
    rw [hmap, List.map_map]
    refine (List.map_congr_left fun it _ => ?_).trans (zipIdx_map_getD_self 0 names _ hrow)
    exact (src_nestle_map samples w names.length it.2).trans (by rw [hmap])

/-- the same for one mode of MultiNest / PolyChord (regenerated iteration of the per-mode loops of `store_nest_solutions`
    / `store_polychord_solutions`): `tracedata` and `weights` of the stored dict are the mode's samples and weights
    unchanged, `fit_params` has one entry per fit name, in order, whose `trace` is column `i` of the samples -/
theorem src_mode_traces_unchanged {Name : Type} (names : List Name) (trace : List (List ℝ)) (w nmap nmean nsig : List ℝ)
    (h : trace.length = w.length) :
    ((srcMultinestMode names trace w nmap nmean nsig).2.1 = trace ∧
     (srcMultinestMode names trace w nmap nmean nsig).2.2 = w ∧
     (srcMultinestMode names trace w nmap nmean nsig).1.map Prod.fst = names ∧
     ∀ i, i < names.length →
       ((srcMultinestMode names trace w nmap nmean nsig).1[i]?).map (fun e => e.2.2.2.2.2.2.1) = some (column trace i)) ∧
    ((srcPolychordMode names trace w nmap nmean nsig).2.1 = trace ∧
     (srcPolychordMode names trace w nmap nmean nsig).2.2 = w ∧
     (srcPolychordMode names trace w nmap nmean nsig).1.map Prod.fst = names ∧
     ∀ i, i < names.length →
       ((srcPolychordMode names trace w nmap nmean nsig).1[i]?).map (fun e => e.2.2.2.2.2.2.1) = some (column trace i)) := by
  obtain ⟨htr, hwt, _⟩ := traces_unchanged names.length trace w
  rw [srcMultinestMode_eq names trace w nmap nmean nsig h, srcPolychordMode_eq names trace w nmap nmean nsig h]
  refine ⟨⟨htr, hwt, zipIdx_map_keys names _, ?_⟩, ⟨htr, hwt, zipIdx_map_keys names _, ?_⟩⟩
  · intro i hi
    show ((names.zipIdx.map _)[i]?).map _ = _
    rw [zipIdx_map_getElem?, List.getElem?_eq_getElem hi]
    rfl
  · intro i hi
    show ((names.zipIdx.map _)[i]?).map _ = _
    rw [zipIdx_map_getElem?, List.getElem?_eq_getElem hi]
    rfl

/-! ### the whole store functions of the MultiNest / PolyChord wrappers, from the chains files to the solutions -/

/-- the dict `solutions` the regenerated WHOLE `store_nest_solutions` returns, `multimodes = False`: `data` is the table
    `np.loadtxt(<base>.txt)`; `nmap k`, `nmean k`, `nsig k` the sampler's own statistics of mode `k` (pass-through) -/
noncomputable def srcNestStoreSingle {Name : Type} (names : List Name) (data : List (List ℝ))
    (nmap nmean nsig : Nat → List ℝ) :=
  Gen.SrcC09.multinest_store_single (accumulate := cumsum 0) (argsort := argsortStable) (c0p16 := q16) (c0p5 := q50)
    (c0p84 := q84) (data := data) (fit_names := names) (interp := interpAll) (nest_map := nmap) (nest_mean := nmean)
    (nest_sigma := nsig)

/-- … `multimodes = True`: `lines` are the lines of `<base>post_separate.dat`, `splitWs` / `parseFloat` Python's
    `str.split()` / `float()` -/
noncomputable def srcNestStoreModes {Name : Type} (names : List Name) (data : List (List ℝ)) (lines : List String)
    (splitWs : String → List String) (parseFloat : String → ℝ) (nmap nmean nsig : Nat → List ℝ) :=
  Gen.SrcC09.multinest_store_modes (accumulate := cumsum 0) (argsort := argsortStable) (c0p16 := q16) (c0p5 := q50)
    (c0p84 := q84) (data := data) (fit_names := names) (interp := interpAll) (lines := lines) (nest_map := nmap)
    (nest_mean := nmean) (nest_sigma := nsig) (parseFloat := parseFloat) (splitWs := splitWs)

/-- the dict `solutions` the regenerated WHOLE `store_polychord_solutions` returns: `data` = `1-.txt`, `cluster k` =
    `clusters/1-_{k+1}.txt`, `nClusters` = `get_poly_cluster_number`, `dc` = `do_clustering`, `nFit` = `len(fit_names)` -/
noncomputable def srcPolyStore {Name : Type} (names : List Name) (data : List (List ℝ)) (nClusters : Nat)
    (cluster : Nat → List (List ℝ)) (dc : Bool) (nFit : Nat) (nmap nmean nsig : Nat → List ℝ) :=
  Gen.SrcC09.polychord_store (accumulate := cumsum 0) (argsort := argsortStable) (c0p16 := q16) (c0p5 := q50)
    (c0p84 := q84) (clusterNumber := nClusters) (clusterTable := cluster) (data := data) (do_clustering := dc)
    (fit_names := names) (interp := interpAll) (nFit := nFit) (nest_map := nmap) (nest_mean := nmean) (nest_sigma := nsig)

/-- what `solutionsOf` stores for `count` modes: entry `k` is `("solution<k>", rec k arrays[k] weights[k])` -/
theorem solutionsOf_spec {ρ : Type} (rec : Nat → List (List ℝ) → List ℝ → ρ) (arrays : List (List (List ℝ)))
    (weights : List (List ℝ)) (count : Nat) :
    (solutionsOf rec arrays weights count).length = count ∧
    ∀ k, k < count → (solutionsOf rec arrays weights count)[k]?
      = some ("solution" ++ toString k, rec k (arrays.getD k []) (weights.getD k [])) := by
  unfold solutionsOf
  exact ⟨by rw [List.length_map, List.length_range], fun k hk => by rw [List.getElem?_map, List.getElem?_range hk]; rfl⟩

/-- the record of one stored mode: its samples and weights unchanged, one entry per fit name in order, the trace of
    parameter `i` = column `i` of the samples, its value / errors the weighted quantiles of that column -/
theorem nestModeRec_spec {Name : Type} (names : List Name) (nmap nmean nsig : List ℝ) (trace : List (List ℝ)) (w : List ℝ) :
    (nestModeRec names nmap nmean nsig trace w).2.1 = trace ∧ (nestModeRec names nmap nmean nsig trace w).2.2 = w ∧
    (nestModeRec names nmap nmean nsig trace w).1.map Prod.fst = names ∧
    ∀ i, i < names.length → ((nestModeRec names nmap nmean nsig trace w).1[i]?).map (fun e => (e.2.2.2.2.2.2.1, e.2.2.2.2.2.2.2))
      = some (column trace i, (summary (column trace i) w).value) := by
  obtain ⟨htr, hwt, _⟩ := traces_unchanged names.length trace w
  refine ⟨htr, hwt, zipIdx_map_keys names _, ?_⟩
  intro i hi
  show ((names.zipIdx.map _)[i]?).map _ = _
  rw [zipIdx_map_getElem?, List.getElem?_eq_getElem hi]
  rfl

theorem polyModeRec_spec {Name : Type} (names : List Name) (nmap nmean nsig : List ℝ) (trace : List (List ℝ)) (w : List ℝ) :
    (polyModeRec names nmap nmean nsig trace w).2.1 = trace ∧ (polyModeRec names nmap nmean nsig trace w).2.2 = w ∧
    (polyModeRec names nmap nmean nsig trace w).1.map Prod.fst = names ∧
    ∀ i, i < names.length → ((polyModeRec names nmap nmean nsig trace w).1[i]?).map (fun e => (e.2.2.2.2.2.2.1, e.2.2.2.2.2.2.2))
      = some (column trace i, (summary (column trace i) w).value) := by
  obtain ⟨htr, hwt, _⟩ := traces_unchanged names.length trace w
  refine ⟨htr, hwt, zipIdx_map_keys names _, ?_⟩
  intro i hi
  show ((names.zipIdx.map _)[i]?).map _ = _
  rw [zipIdx_map_getElem?, List.getElem?_eq_getElem hi]
  rfl

/-- **traces unchanged, the whole MultiNest wrapper without mode separation**, about the regenerated
    `store_nest_solutions` (file prefix, loop over the modes, per-parameter loop, `quantile_corner`): exactly one solution,
    stored under `solution0`; its `tracedata` / `weights` are the columns `2:` / column `0` of `<base>.txt`, and every
    `fit_params` entry holds the column of the stored samples and its weighted median -/
theorem src_nest_store_single_unchanged {Name : Type} (names : List Name) (data : List (List ℝ))
    (nmap nmean nsig : Nat → List ℝ) :
    ∃ r, srcNestStoreSingle names data nmap nmean nsig = [("solution0", r)] ∧
      r.2.1 = data.map (fun row => row.drop 2) ∧ r.2.2 = data.map (fun row => row.getD 0 0) ∧
      r.1.map Prod.fst = names ∧
      ∀ i, i < names.length → (r.1[i]?).map (fun e => (e.2.2.2.2.2.2.1, e.2.2.2.2.2.2.2))
        = some (column r.2.1 i, (summary (column r.2.1 i) r.2.2).value) := by
  unfold srcNestStoreSingle
  rw [src_multinest_store_single]
  obtain ⟨h1, h2, h3, h4⟩ := nestModeRec_spec names (nmap 0) (nmean 0) (nsig 0) (data.map (fun row => row.drop 2))
    (data.map (fun row => row.getD 0 0))
  exact ⟨_, rfl, h1, h2, h3, h4⟩

/-- **traces unchanged, the whole MultiNest wrapper with mode separation**: when `<base>post_separate.dat` is in MultiNest's
    layout (its lines parse to `fileOf blocks`: before every mode two empty lines, then one line per sample; non-empty modes,
    `n ≥ 1` parameters per line), the regenerated `store_nest_solutions` stores one solution per mode, in file order, under
    `solution0`, `solution1`, …; solution `k` holds the samples (columns `2:`) and weights (column `0`) of the lines of mode
    `k` unchanged, one `fit_params` entry per fit name whose trace is the column of these samples and whose value is its
    weighted median -/
theorem src_nest_store_modes_unchanged {Name : Type} (names : List Name) (data : List (List ℝ)) (lines : List String)
    (splitWs : String → List String) (parseFloat : String → ℝ) (nmap nmean nsig : Nat → List ℝ)
    (blocks : List (List (List ℝ))) (n : ℕ) (hfile : lines.map (toPLine splitWs parseFloat) = fileOf blocks)
    (hne : blocks ≠ []) (hb : ∀ b ∈ blocks, b ≠ []) (hn : 1 ≤ n) (hlen : ∀ b ∈ blocks, ∀ r ∈ b, r.length = n + 2) :
    (srcNestStoreModes names data lines splitWs parseFloat nmap nmean nsig).length = blocks.length ∧
    ∀ k, k < blocks.length → ∃ r,
      (srcNestStoreModes names data lines splitWs parseFloat nmap nmean nsig)[k]? = some ("solution" ++ toString k, r) ∧
      r.2.1 = (blocks.getD k []).map (fun row => row.drop 2) ∧ r.2.2 = (blocks.getD k []).map (fun row => row.getD 0 0) ∧
      r.1.map Prod.fst = names ∧
      ∀ i, i < names.length → (r.1[i]?).map (fun e => (e.2.2.2.2.2.2.1, e.2.2.2.2.2.2.2))
        = some (column r.2.1 i, (summary (column r.2.1 i) r.2.2).value) := by
  unfold srcNestStoreModes
  rw [src_multinest_store_modes, hfile, (chain_files_unchanged.2.1 blocks n hne hb hn hlen)]
  have hrows : ∀ b ∈ blocks, ∀ r ∈ b, 2 < r.length := fun b hb' r hr => by rw [hlen b hb' r hr]; omega
  rw [splitModes_fileOf blocks hne hb hrows]
  simp only [List.length_map]
  obtain ⟨hl, hk⟩ := solutionsOf_spec (fun k => nestModeRec names (nmap k) (nmean k) (nsig k))
    (blocks.map (fun b => b.map (fun r => r.drop 2))) (blocks.map (fun b => b.map (fun r => r.getD 0 0))) blocks.length
  refine ⟨hl, fun k hkk => ?_⟩
  obtain ⟨h1, h2, h3, h4⟩ := nestModeRec_spec names (nmap k) (nmean k) (nsig k)
    ((blocks.getD k []).map (fun row => row.drop 2)) ((blocks.getD k []).map (fun row => row.getD 0 0))
  exact ⟨_, by rw [hk k hkk, getD_map_map, getD_map_map], h1, h2, h3, h4⟩

/-- **traces unchanged, the whole PolyChord wrapper**: without clustering (or with one cluster) one solution from `1-.txt`,
    otherwise one solution per cluster file in order; solution `k` holds the columns `2:nFit+2` and column `0` of its table -/
theorem src_poly_store_unchanged {Name : Type} (names : List Name) (data : List (List ℝ)) (nClusters : Nat)
    (cluster : Nat → List (List ℝ)) (dc : Bool) (nFit : Nat) (nmap nmean nsig : Nat → List ℝ) :
    let table : Nat → List (List ℝ) := fun k => if dc = true ∧ nClusters ≠ 1 then cluster k else data
    let count := if dc = true ∧ nClusters ≠ 1 then nClusters else 1
    (srcPolyStore names data nClusters cluster dc nFit nmap nmean nsig).length = count ∧
    ∀ k, k < count → ∃ r,
      (srcPolyStore names data nClusters cluster dc nFit nmap nmean nsig)[k]? = some ("solution" ++ toString k, r) ∧
      r.2.1 = (table k).map (fun row => (row.drop 2).take nFit) ∧ r.2.2 = (table k).map (fun row => row.getD 0 0) ∧
      r.1.map Prod.fst = names ∧
      ∀ i, i < names.length → (r.1[i]?).map (fun e => (e.2.2.2.2.2.2.1, e.2.2.2.2.2.2.2))
        = some (column r.2.1 i, (summary (column r.2.1 i) r.2.2).value) := by
  intro table count
  unfold srcPolyStore
  rw [src_polychord_store]
  have hc : polyChains nFit dc nClusters data cluster
      = ((List.range count).map (fun k => (table k).map (fun row => (row.drop 2).take nFit)),
         (List.range count).map (fun k => (table k).map (fun row => row.getD 0 0)), count) :=
    polyChains_eq nFit dc nClusters data cluster
  rw [hc]
  obtain ⟨hl, hk⟩ := solutionsOf_spec (fun k => polyModeRec names (nmap k) (nmean k) (nsig k))
    ((List.range count).map (fun k => (table k).map (fun row => (row.drop 2).take nFit)))
    ((List.range count).map (fun k => (table k).map (fun row => row.getD 0 0))) count
  refine ⟨hl, fun k hkk => ?_⟩
  obtain ⟨h1, h2, h3, h4⟩ := polyModeRec_spec names (nmap k) (nmean k) (nsig k)
    ((table k).map (fun row => (row.drop 2).take nFit)) ((table k).map (fun row => row.getD 0 0))
  exact ⟨_, by rw [hk k hkk, getD_map_range _ hkk, getD_map_range _ hkk], h1, h2, h3, h4⟩

end Taurex.C09SrcProps
