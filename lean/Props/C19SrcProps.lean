/-
  C19 — the property theorems restated about the REGENERATED source.  `Props/C19Src.lean` proves that the definitions
  translated on every run from `FlatMieContribution.prepare_each`, `LeeMieContribution.prepare_each` and
  `SimpleCloudsContribution.prepare_each` compute the model's `flatSigma`, `leeSigma`, `cloudSigma`; `Props/C19.lean`
  proves the property about these.  The corollaries below compose the two: they are statements about the text of the code
  itself, at the real carrier.

  What is composed
    * `srcFlat n nW plev b t mix l wn` = entry `[l, wn]` of the `sigma_xsec` the regenerated
      `FlatMieContribution.prepare_each` builds (`n` layers, level pressures `plev`, raw bounds `b`, `t`).  Tie hypothesis
      kept visible: `l < n` (the tie identifies the entries inside the array).  The theorems of `Props/C19.lean` about
      `flatSigmaRevW` (the opacity for a GIVEN sorted window, index counted from the top) are restated at the
      instantiation `flat_sigma_window` proves the code uses: `lev = flatLevel n plev`, `lo`/`hi` = min / max of the two
      bounds (hypotheses `hlev`, `hlo`, `hhi`, so that the statements stay readable), index `n - 1 - l`.
    * `srcLee n nW P b t pi a q mix wnv l wn` = entry `[l, wn]` of the regenerated `LeeMieContribution.prepare_each`
      (literals `0.2`, `1e-6` and numpy's float power instantiated as in the tie: `1/5`, `1/1000000`, `powr`); no
      hypotheses in the tie.  `leeLaw` stays the model's: it is the declared law the code is compared with.
    * `srcCloud nL nW P p0 inf l wn` = entry `[l, wn]` of the regenerated `SimpleCloudsContribution.prepare_each`, `inf`
      standing for `np.inf`.

  The cloud deck (`cloud_opaque_below`, `cloud_above_untouched`, `cloud_depth_ge`) is restated at the EXTENDED CARRIER `XR`
  (Proofs/C19Ext.lean: a real, `+inf`, `-inf` or `nan`, with numpy's rules for the special values), at which `np.inf` is a
  value and the regenerated code can be run with it: `cloudyRun newMethod rp rs n nwn total zb z dz dens P p0 rest
  planetPaths` is the regenerated `TransmissionModel.path_integral` — the loop over the layers, the loop over the
  contribution list with its `tau[layer].min() > 10` break, the regenerated `contribute` methods, chord lengths and
  `compute_absorption` (`np.exp(-tau)`) — on the contribution list `[cloud deck] ++ rest`, the cloud's `sigma_xsec` being
  what the regenerated `SimpleCloudsContribution.prepare_each` computes with `np.inf := pinf`; every other input is finite.
  `Props/C19Src.lean` (`src_cloudy_run_old` / `_new`) proves that this run returns `fin` of the model's `cloudyTrans` /
  `cloudyDepth` (the generic tie of `path_integral` instantiated at `XR`, then `fin` commutes with the model functions).
  With the new path method the 3-D geometry is a parameter and the hypothesis of `src_path_integral_new` (it returns the
  chords `chordNew`) stays visible as `NewPaths`.

  Not restated (no tie): `declared_args`, `declared_unknown_rejected` (a contribution declared in an input file).
-/
import Props.C19
import Props.C19Src
set_option linter.unusedSectionVars false

namespace Taurex.C19SrcProps
open Taurex.Transmission Taurex.Haze Taurex.C19 Taurex.C19Src
open Taurex.C19Ext Taurex.C19Ext.XR
open Finset

/-! ### optically thick cloud deck: the regenerated run at the extended carrier `XR` -/

section cloudrun
variable (newMethod : Bool) (rp rs : ℝ) (n nwn total : ℕ) (zb z dz dens P : ℕ → ℝ) (p0 : ℝ) (rest : List (Contrib ℝ))
  (planetPaths : (ℕ → XR) → (ℕ → ℕ → XR) → (ℕ → ℕ → XR) → List (ℕ → XR))

/-- the hypothesis of the tie for `new_path_method=True`: the 3-D geometry (`planet.compute_path_length`, a parameter of
    the regenerated `path_integral`) returns, for the lines of sight the code hands to it, the chords `chordNew` -/
def NewPaths : Prop :=
  ∀ l < n, ∀ k < n - l,
    (planetPaths (lift zb)
        (rows (fun l => (Geometry.parallelVector (fin rp) (lift z l + lift dz l / 2) (Geometry.arrMax n (lift zb))).1))
        (rows (fun l => (Geometry.parallelVector (fin rp) (lift z l + lift dz l / 2) (Geometry.arrMax n (lift zb))).2))).getD
          l (fun _ => 0) k
      = chordNew (fin rp) (lift zb) (lift z) (lift dz) l k

/-- the regenerated run without the cloud deck (contribution list `rest`), at `XR` -/
noncomputable def clearRun : (ℕ → XR) × (ℕ → ℕ → XR) :=
  Gen.SrcC19.path_integral (α := XR) nwn (rest.map liftC) (dispatch nwn total n) (lift dz) (lift dens) n newMethod
    planetPaths (fin rp) (fin rs) (lift zb) (lift z)

theorem cloudyRun_eq (ht : 0 < total) (hnew : newMethod = true → NewPaths rp n zb z dz planetPaths) :
    (∀ l < n, ∀ wn < nwn, (cloudyRun newMethod rp rs n nwn total zb z dz dens P p0 rest planetPaths).2 l wn
        = fin (cloudyTrans newMethod rp n nwn zb z dz dens P p0 rest l wn)) ∧
    (∀ wn < nwn, (cloudyRun newMethod rp rs n nwn total zb z dz dens P p0 rest planetPaths).1 wn
        = fin (cloudyDepth newMethod rp rs n nwn zb z dz dens P p0 rest wn)) := by
  cases newMethod
  · exact src_cloudy_run_old rp rs n nwn total ht zb z dz dens P p0 rest planetPaths
  · exact src_cloudy_run_new rp rs n nwn total ht zb z dz dens P p0 rest planetPaths (hnew rfl)

theorem clearRun_eq (ht : 0 < total) (hnew : newMethod = true → NewPaths rp n zb z dz planetPaths) :
    ∀ l < n, ∀ wn < nwn, (clearRun newMethod rp rs n nwn total zb z dz dens rest planetPaths).2 l wn
      = fin (modelTrans true newMethod rp n nwn zb z dz dens rest l wn) := by
  cases newMethod
  · exact src_clear_run_old rp rs n nwn total ht zb z dz dens rest planetPaths
  · exact src_clear_run_new rp rs n nwn total ht zb z dz dens rest planetPaths (hnew rfl)

/-- **cloud_opaque_below**, about the regenerated run at `XR`: every tangent layer at or below the cloud top
    (`P_l ≥ p0`) is opaque at all wavenumbers — the returned `exp(-tau)[l, wn]` is `0` (`tau = 0 + np.inf`, the loop
    breaks, `exp(-np.inf) = 0`) -/
theorem src_cloud_opaque_below (ht : 0 < total) (hnew : newMethod = true → NewPaths rp n zb z dz planetPaths)
    (l wn : ℕ) (hl : l < n) (hwn : wn < nwn) (h : p0 ≤ P l) :
    (cloudyRun newMethod rp rs n nwn total zb z dz dens P p0 rest planetPaths).2 l wn = fin 0 := by
  rw [(cloudyRun_eq newMethod rp rs n nwn total zb z dz dens P p0 rest planetPaths ht hnew).1 l hl wn hwn,
    cloud_opaque_below newMethod rp n nwn zb z dz dens P p0 rest l wn h]

/-- **cloud_above_untouched**, about the regenerated run at `XR`: a layer above the cloud top gets exactly the
    transmittance the regenerated run WITHOUT the cloud deck returns for it (the model's `modelTrans`, finite) -/
theorem src_cloud_above_untouched (ht : 0 < total) (hnew : newMethod = true → NewPaths rp n zb z dz planetPaths)
    (l wn : ℕ) (hl : l < n) (hwn : wn < nwn) (h : P l < p0) :
    (cloudyRun newMethod rp rs n nwn total zb z dz dens P p0 rest planetPaths).2 l wn
      = (clearRun newMethod rp rs n nwn total zb z dz dens rest planetPaths).2 l wn ∧
    (cloudyRun newMethod rp rs n nwn total zb z dz dens P p0 rest planetPaths).2 l wn
      = fin (modelTrans true newMethod rp n nwn zb z dz dens rest l wn) := by
  have e := (cloudyRun_eq newMethod rp rs n nwn total zb z dz dens P p0 rest planetPaths ht hnew).1 l hl wn hwn
  rw [cloud_above_untouched newMethod rp n nwn zb z dz dens P p0 rest l wn h] at e
  exact ⟨by rw [e, clearRun_eq newMethod rp rs n nwn total zb z dz dens rest planetPaths ht hnew l hl wn hwn], e⟩

/-- **cloud_depth_ge**, about the regenerated run at `XR`: the returned transit depth is a finite number, at least the
    documented integral with the cloudy layers fully opaque and at least the depth without the cloud -/
theorem src_cloud_depth_ge (ht : 0 < total) (hnew : newMethod = true → NewPaths rp n zb z dz planetPaths)
    (W : WellFormed newMethod rp rs n zb z dz dens rest) (wn : ℕ) (hwn : wn < nwn) :
    ∃ d : ℝ, (cloudyRun newMethod rp rs n nwn total zb z dz dens P p0 rest planetPaths).1 wn = fin d ∧
      (rp ^ 2 + ∑ l ∈ range n, if p0 ≤ P l then 2 * (rp + z l) * dz l else 0) / rs ^ 2 ≤ d ∧
      modelDepth true newMethod rp rs n nwn zb z dz dens rest wn ≤ d := by
  refine ⟨cloudyDepth newMethod rp rs n nwn zb z dz dens P p0 rest wn,
    (cloudyRun_eq newMethod rp rs n nwn total zb z dz dens P p0 rest planetPaths ht hnew).2 wn hwn, ?_⟩
  exact cloud_depth_ge newMethod rp rs n nwn zb z dz dens P p0 rest W wn

end cloudrun

/-- non-vacuity: the run of the example of `Props/C19.lean` (two layers, cloud top between them, one absorber), old path
    method: the bottom layer is opaque -/
example (planetPaths : (ℕ → XR) → (ℕ → ℕ → XR) → (ℕ → ℕ → XR) → List (ℕ → XR)) :
    (cloudyRun false 1 1 2 1 1 (fun l => (l : ℝ)) (fun l => (l : ℝ)) (fun _ => 1) (fun _ => 1)
      (fun l => if l = 0 then 100 else 1) 10 nvRest planetPaths).2 0 0 = fin 0 :=
  src_cloud_opaque_below false 1 1 2 1 1 _ _ _ _ _ 10 nvRest planetPaths (by norm_num) (by simp) 0 0 (by norm_num)
    (by norm_num) (by norm_num)

/-! ### grey haze (FlatMie) -/

/-- `sigma_xsec[l, wn]` of the regenerated `FlatMieContribution.prepare_each` -/
noncomputable def srcFlat (n nW : ℕ) (plev : ℕ → ℝ) (b t mix : ℝ) (l wn : ℕ) : ℝ :=
  Gen.SrcC19.flat_prepare_each nW b mix n plev t l wn

theorem srcFlat_eq (n nW : ℕ) (plev : ℕ → ℝ) (b t mix : ℝ) (l wn : ℕ) (hl : l < n) :
    srcFlat n nW plev b t mix l wn = flatSigma n plev b t mix l :=
  src_flat_prepare_each_real n nW plev b t mix l wn hl

/-- **flat_sigma_window**, about the regenerated `FlatMieContribution.prepare_each`: the window the code uses is both
    bounds in log10 Pa (an unset bound → the extreme level), sorted; layer `l` is slice index `n-1-l` -/
theorem src_flat_sigma_window (n nW : ℕ) (plev : ℕ → ℝ) (b t mix : ℝ) (l wn : ℕ) (hl : l < n) :
    srcFlat n nW plev b t mix l wn
      = flatSigmaRevW n (flatLevel n plev)
          (min (flatBound t (minTo n (flatLevel n plev))) (flatBound b (maxTo n (flatLevel n plev))))
          (max (flatBound t (minTo n (flatLevel n plev))) (flatBound b (maxTo n (flatLevel n plev))))
          mix (n - 1 - l) := by
  rw [srcFlat_eq n nW plev b t mix l wn hl]; exact flat_sigma_window n plev b t mix l

section window
variable (n nW : ℕ) (plev : ℕ → ℝ) (b t mix : ℝ) (lev : ℕ → ℝ) (lo hi : ℝ)
  (hlev : lev = flatLevel n plev)
  (hlo : lo = min (flatBound t (minTo n (flatLevel n plev))) (flatBound b (maxTo n (flatLevel n plev))))
  (hhi : hi = max (flatBound t (minTo n (flatLevel n plev))) (flatBound b (maxTo n (flatLevel n plev))))
include hlev hlo hhi

theorem srcFlat_eq_window (l wn : ℕ) (hl : l < n) :
    srcFlat n nW plev b t mix l wn = flatSigmaRevW n lev lo hi mix (n - 1 - l) := by
  subst hlev hlo hhi; exact src_flat_sigma_window n nW plev b t mix l wn hl

/-- **flat_outside_zero**, about the regenerated `FlatMieContribution.prepare_each`: a layer wholly outside the window
    `[lo, hi]` (log10 Pa; slice index `n-1-l`, levels `lev (n-1-l)` and `lev (n-1-l+1)`) gets no extinction, at every
    wavenumber -/
theorem src_flat_outside_zero (l wn : ℕ) (hl : l < n)
    (h : lev (n - 1 - l + 1) ≤ lo ∨ hi ≤ lev (n - 1 - l)) : srcFlat n nW plev b t mix l wn = 0 := by
  rw [srcFlat_eq_window n nW plev b t mix lev lo hi hlev hlo hhi l wn hl]
  exact flat_outside_zero n lev lo hi mix (n - 1 - l) h

/-- **flat_inside**, about the regenerated `FlatMieContribution.prepare_each`: a layer overlapping the window carries
    `mix · w` with `0 < w ≤ 1`, `w` = its overlap / the largest overlap -/
theorem src_flat_inside (hm : LevMono n lev) (l wn : ℕ) (hl : l < n)
    (hpos : 0 < flatOverlap lev lo hi (n - 1 - l)) :
    ∃ w, 0 < w ∧ w ≤ 1 ∧ srcFlat n nW plev b t mix l wn = w * mix ∧
      w = flatOverlap lev lo hi (n - 1 - l) / flatWmax lev lo hi (flatStart n lev lo) (flatStop n lev hi) := by
  rw [srcFlat_eq_window n nW plev b t mix lev lo hi hlev hlo hhi l wn hl]
  exact flat_inside n lev hm lo hi mix (n - 1 - l) (by omega) hpos

/-- **flat_max_exact**, about the regenerated `FlatMieContribution.prepare_each`: if some layer overlaps the window, the
    layer with the largest overlap carries exactly `mix` (the declared magnitude) -/
theorem src_flat_max_exact (hm : LevMono n lev) (i : ℕ) (hin : i < n) (hpos : 0 < flatOverlap lev lo hi i) (wn : ℕ) :
    ∃ l, l < n ∧ srcFlat n nW plev b t mix l wn = mix := by
  obtain ⟨j, hj, he⟩ := flat_max_exact n lev hm lo hi mix i hin hpos
  refine ⟨n - 1 - j, by omega, ?_⟩
  rw [srcFlat_eq_window n nW plev b t mix lev lo hi hlev hlo hhi (n - 1 - j) wn (by omega)]
  have e : n - 1 - (n - 1 - j) = j := by omega
  rw [e]; exact he

end window

/-- **flat_unset_whole**, about the regenerated `FlatMieContribution.prepare_each`: both bounds unset (negative) = the
    whole atmosphere: the window is `[levels.min(), levels.max()]` and every layer overlaps it with its full width -/
theorem src_flat_unset_whole (n nW : ℕ) (plev : ℕ → ℝ) (hm : LevMono n (flatLevel n plev)) (b t mix : ℝ) (hb : b < 0)
    (ht : t < 0) (l wn : ℕ) (hl : l < n) :
    srcFlat n nW plev b t mix l wn
      = flatSigmaRevW n (flatLevel n plev) (flatLevel n plev 0) (flatLevel n plev n) mix (n - 1 - l) ∧
    ∀ i < n, flatOverlap (flatLevel n plev) (flatLevel n plev 0) (flatLevel n plev n) i
      = flatLevel n plev (i + 1) - flatLevel n plev i := by
  rw [srcFlat_eq n nW plev b t mix l wn hl]; exact flat_unset_whole n plev hm b t mix hb ht l

/-- **flat_inverted**, about the regenerated `FlatMieContribution.prepare_each`: inverted bounds are sorted, swapping two
    set bounds changes nothing -/
theorem src_flat_inverted (n nW : ℕ) (plev : ℕ → ℝ) (b t mix : ℝ) (hb : 0 ≤ b) (ht : 0 ≤ t) (l wn : ℕ) (hl : l < n) :
    srcFlat n nW plev b t mix l wn = srcFlat n nW plev t b mix l wn := by
  rw [srcFlat_eq n nW plev b t mix l wn hl, srcFlat_eq n nW plev t b mix l wn hl]
  exact flat_inverted n plev b t mix hb ht l

/-! ### Lee haze -/

/-- `sigma_xsec[l, wn]` of the regenerated `LeeMieContribution.prepare_each` -/
noncomputable def srcLee (n nW : ℕ) (P : ℕ → ℝ) (b t pi a q mix : ℝ) (wnv : ℕ → ℝ) (l wn : ℕ) : ℝ :=
  Gen.SrcC19.lee_prepare_each wnv nW P (a := a) (bottomRaw := b) (c0p2 := 1 / 5) (c1em06 := 1 / 1000000)
    (mix := mix) (nL := n) (pi := pi) (powf := powr) (q := q) (topRaw := t) l wn

theorem srcLee_eq (n nW : ℕ) (P : ℕ → ℝ) (b t pi a q mix : ℝ) (wnv : ℕ → ℝ) (l wn : ℕ) :
    srcLee n nW P b t pi a q mix wnv l wn = leeSigma n P b t pi a q mix wnv l wn :=
  src_lee_prepare_each n nW P wnv b t pi a q mix l wn

/-- **lee_outside_zero**, about the regenerated `LeeMieContribution.prepare_each`: no extinction in layers whose
    pressure is outside `[top, bottom]` -/
theorem src_lee_outside_zero (n nW : ℕ) (P : ℕ → ℝ) (b t pi a q mix : ℝ) (wnv : ℕ → ℝ) (l wn : ℕ)
    (h : P l < leeBound t (P (n - 1)) ∨ leeBound b (P 0) < P l) :
    srcLee n nW P b t pi a q mix wnv l wn = 0 := by
  rw [srcLee_eq]; exact lee_outside_zero n P b t pi a q mix wnv l wn h

/-- **lee_inside_law**, about the regenerated `LeeMieContribution.prepare_each`: inside the window the opacity is the
    declared law `Qext·π·a²` times the mixing ratio, the same in every layer; the law is positive -/
theorem src_lee_inside_law (n nW : ℕ) (P : ℕ → ℝ) (b t pi a q mix : ℝ) (wnv : ℕ → ℝ) (l wn : ℕ)
    (h1 : leeBound t (P (n - 1)) ≤ P l) (h2 : P l ≤ leeBound b (P 0)) (hpi : 0 < pi) (ha : 0 < a) (hq : 0 ≤ q)
    (hwn : 0 < wnv wn) :
    srcLee n nW P b t pi a q mix wnv l wn = leeLaw pi a q (wnv wn) * mix ∧ 0 < leeLaw pi a q (wnv wn) := by
  rw [srcLee_eq]; exact lee_inside_law n P b t pi a q mix wnv l wn h1 h2 hpi ha hq hwn

/-- **lee_unset_whole**, about the regenerated `LeeMieContribution.prepare_each`: both bounds unset = the whole
    atmosphere (layer pressures decrease with altitude) -/
theorem src_lee_unset_whole (n nW : ℕ) (P : ℕ → ℝ) (hP : ∀ l < n, P (n - 1) ≤ P l ∧ P l ≤ P 0) (b t pi a q mix : ℝ)
    (hb : b < 0) (ht : t < 0) (wnv : ℕ → ℝ) (l wn : ℕ) (hl : l < n) :
    srcLee n nW P b t pi a q mix wnv l wn = leeLaw pi a q (wnv wn) * mix := by
  rw [srcLee_eq]; exact lee_unset_whole n P hP b t pi a q mix hb ht wnv l wn hl

/-! ### optically thick cloud deck: what the tie covers -/

/-- `contrib[l, wn]` of the regenerated `SimpleCloudsContribution.prepare_each`; `inf` stands for `np.inf` -/
noncomputable def srcCloud (nL nW : ℕ) (P : ℕ → ℝ) (p0 inf : ℝ) (l wn : ℕ) : ℝ :=
  Gen.SrcC19.clouds_prepare_each nW P inf nL p0 l wn

theorem srcCloud_eq (nL nW : ℕ) (P : ℕ → ℝ) (p0 inf : ℝ) (l wn : ℕ) :
    srcCloud nL nW P p0 inf l wn = Ext.toCarrier inf (cloudSigma P p0 l) :=
  src_clouds_prepare_each nL nW P p0 inf l wn

/-- every layer at or below the cloud top (`P_l ≥ p0`) is given the opacity `np.inf` at all wavenumbers by the
    regenerated `prepare_each` (the case `cloud_opaque_below` is about) -/
theorem src_cloud_sigma_below (nL nW : ℕ) (P : ℕ → ℝ) (p0 inf : ℝ) (l wn : ℕ) (h : p0 ≤ P l) :
    srcCloud nL nW P p0 inf l wn = inf := by
  rw [srcCloud_eq]; simp [cloudSigma, h, Ext.toCarrier]

/-- layers above the cloud top get opacity 0 from the regenerated `prepare_each`: the cloud adds nothing there (the case
    `cloud_above_untouched` is about) -/
theorem src_cloud_sigma_above (nL nW : ℕ) (P : ℕ → ℝ) (p0 inf : ℝ) (l wn : ℕ) (h : P l < p0) :
    srcCloud nL nW P p0 inf l wn = 0 := by
  rw [srcCloud_eq]; simp [cloudSigma, not_le.2 h, Ext.toCarrier]

end Taurex.C19SrcProps
