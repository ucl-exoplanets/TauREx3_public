/-
  C09 — source tie.  `TaurexModel/Gen/SrcC09.lean` is regenerated on every run by `harness/translate.py` (dialect `obj`,
  harness/translate_obj.py) from the source text of taurex/util/util.py:quantile_corner (weighted branch: `weights` is an
  array in every call of the optimizers) and of ONE ITERATION of the per-parameter loops of
  nestle.py:store_nestle_output, multinest.py:store_nest_solutions, polychord.py:store_polychord_solutions (the record they
  store for fitted parameter `idx`; components in the order of the dict keys, listed by the generated `…_keys`).
  The theorems below state, for EVERY carrier (no algebra), that these are the model functions of
  `TaurexModel/Posterior.lean` (`quantileCorner`, `summary`, `column`, `argmaxFirst`) that the C09 theorems are about and
  that `driver_c09` executes.

  Externals, instantiated with their documented behaviour (the model's reading, validated numerically by harness/c09.py):
  * `np.argsort(x)` = `argsortStable x` (`Proofs/C09SrcLemmas.lean`): the stable sorting permutation;
  * `np.add.accumulate` = `cumsum 0`; `np.interp(q, xp, fp)` = `npInterp` applied to every entry of `q`;
  * `weights.argmax()` (the free variable `max_weight` of the loop; the external `argmax` of the whole
    `store_nestle_output`, `nestle_store`) = `argmaxFirst weights`: numpy's first index of the maximum;
  * nestle's `mean_and_cov(samples, weights)[0][idx]` = the weighted mean of column `idx` (hypothesis `hmean`);
  * the float literals `0.16, 0.5, 0.84` = the model's `q16 q50 q84`.
  WHOLE FUNCTIONS (dialect `objrec`, harness/translate_objrec.py).  `nestle_store` is the whole `store_nestle_output`: the
  nested dict it returns as a flat record whose components are named by their key paths (`nestle_store_keys`); its
  per-parameter loop is the regenerated `nestle_param` mapped over the fit names (`fitparams` = the list of its
  (name, record) stores).  `multinest_mode` / `polychord_mode` are one iteration of the per-mode loops of
  `store_nest_solutions` / `store_polychord_solutions` (the dict stored as `solution<nmode>`; reading the samplers' files
  into `modes_array` / `modes_weights` is not translated).  They are tied to `storeOutput`: stored samples / weights /
  MAP index are its `tracedata` / `weights` / `mapIndex`.
  Guards: `x[idx]`, `weights[idx]`, `trace[max_weight]`, `a, b, c = …` are total in the translation (`getD … 0`); numpy
  raises unless `len(x) = len(weights)`, which the theorems assume.
-/
import TaurexModel.Gen.SrcC09
import Proofs.C09SrcLemmas
import Proofs.C09SrcChains
set_option linter.unusedSectionVars false
set_option linter.unusedVariables false

namespace Taurex.C09Src
open Taurex.Posterior

section
variable {α : Type} [Add α] [Sub α] [Mul α] [Div α] [Neg α] [LT α] [LE α]
  [DecidableLT α] [DecidableLE α] [Taurex.Transc α] [OfNat α 0]

/-- the model's `np.interp`, vectorised over the quantiles as numpy does -/
def interpAll (q xp fp : List α) : List α := q.map (fun t => npInterp t xp fp)

/-- `quantile_corner(x, q, weights)` is `quantileCorner x weights` at every requested quantile -/
theorem src_quantile_corner (x w q : List α) (h : x.length = w.length) :
    Gen.SrcC09.quantile_corner x q w (accumulate := cumsum 0) (argsort := argsortStable) (interp := interpAll)
      = q.map (quantileCorner x w) := by
  unfold Gen.SrcC09.quantile_corner
  simp only [gather_fst 0 x w (by omega), gather_snd 0 x w (by omega)]
  rfl

/-- the same with any `argsort` that sorts the pairs `(x[i], w[i])` the way the model does (e.g. an unstable sort on
    distinct values) -/
theorem src_quantile_corner_any (x w q : List α) (argsort : List α → List Nat)
    (hx : (argsort x).map (fun i => x.getD i 0) = (sortPairs (x.zip w)).map Prod.fst)
    (hw : (argsort x).map (fun i => w.getD i 0) = (sortPairs (x.zip w)).map Prod.snd) :
    Gen.SrcC09.quantile_corner x q w (accumulate := cumsum 0) (argsort := argsort) (interp := interpAll)
      = q.map (quantileCorner x w) := by
  unfold Gen.SrcC09.quantile_corner
  simp only [hx, hw]
  rfl

variable [OfNat α 16] [OfNat α 50] [OfNat α 84] [OfNat α 100]

theorem column_length (samples : List (List α)) (i : Nat) : (column samples i).length = samples.length := by
  simp [column]

/-- one iteration of the loop of `store_nestle_output`: the record of fitted parameter `i` is the model's `summary` of
    column `i`, its `trace` is that column, its `map` the column's entry at the greatest weight -/
theorem src_nestle_param (samples : List (List α)) (w mean : List α) (i : Nat) (h : samples.length = w.length)
    (hmean : mean.getD i 0 = wmean (column samples i) w) :
    Gen.SrcC09.nestle_param i samples w mean (argmaxFirst w) (accumulate := cumsum 0) (argsort := argsortStable)
        (c0p16 := q16) (c0p5 := q50) (c0p84 := q84) (interp := interpAll)
      = ((column samples i).getD (argmaxFirst w) 0, (summary (column samples i) w).mean,
         (summary (column samples i) w).sigmaM, (summary (column samples i) w).sigmaP, column samples i,
         (summary (column samples i) w).value) := by
  obtain ⟨e1, e2, e3, e4⟩ := summary_of_triple (column samples i) w
  rw [e1, e2, e3, e4, ← src_quantile_corner _ _ _ ((column_length samples i).trans h), ← hmean]
  rfl

theorem src_nestle_param_keys :
    Gen.SrcC09.nestle_param_keys = ["map", "mean", "sigma_m", "sigma_p", "trace", "value"] := rfl

/-- the MAP entry is the entry of the stored MAP sample (`mapVector`) -/
theorem src_nestle_map (samples : List (List α)) (w : List α) (ndim i : Nat) :
    (column samples i).getD (argmaxFirst w) 0 = (mapVector (storeOutput ndim samples w)).getD i 0 := by
  simp only [mapVector, storeOutput, column, List.getD, List.getElem?_map]
  cases samples[argmaxFirst w]? <;> simp

/-- one iteration of the loop of `store_nest_solutions` for one mode (`tracedata = modes_array[nmode]`,
    `weights = modes_weights[nmode]`); `nest_map`, `mean`, `nest_sigma` pass MultiNest's own statistics through -/
theorem src_multinest_param (trace : List (List α)) (w nmap nmean nsig : List α) (i : Nat) (h : trace.length = w.length) :
    Gen.SrcC09.multinest_param i (accumulate := cumsum 0) (argsort := argsortStable) (c0p16 := q16) (c0p5 := q50)
        (c0p84 := q84) (interp := interpAll) (nest_map := nmap) (nest_mean := nmean) (nest_sigma := nsig)
        (tracedata := trace) (weights := w)
      = (nmean.getD i 0, nmap.getD i 0, nsig.getD i 0, (summary (column trace i) w).sigmaM,
         (summary (column trace i) w).sigmaP, column trace i, (summary (column trace i) w).value) := by
  obtain ⟨e1, e2, e3, _⟩ := summary_of_triple (column trace i) w
  rw [e1, e2, e3, ← src_quantile_corner _ _ _ ((column_length trace i).trans h)]
  rfl

theorem src_multinest_param_keys :
    Gen.SrcC09.multinest_param_keys = ["mean", "nest_map", "nest_sigma", "sigma_m", "sigma_p", "trace", "value"] := rfl

/-- one iteration of the loop of `store_polychord_solutions` -/
theorem src_polychord_param (trace : List (List α)) (w nmap nmean nsig : List α) (i : Nat) (h : trace.length = w.length) :
    Gen.SrcC09.polychord_param i (accumulate := cumsum 0) (argsort := argsortStable) (c0p16 := q16) (c0p5 := q50)
        (c0p84 := q84) (interp := interpAll) (nest_map := nmap) (nest_mean := nmean) (nest_sigma := nsig)
        (tracedata := trace) (weights := w)
      = (nmap.getD i 0, nmean.getD i 0, nsig.getD i 0, (summary (column trace i) w).sigmaM,
         (summary (column trace i) w).sigmaP, column trace i, (summary (column trace i) w).value) := by
  obtain ⟨e1, e2, e3, _⟩ := summary_of_triple (column trace i) w
  rw [e1, e2, e3, ← src_quantile_corner _ _ _ ((column_length trace i).trans h)]
  rfl

theorem src_polychord_param_keys :
    Gen.SrcC09.polychord_param_keys = ["nest_map", "nest_mean", "nest_sigma", "sigma_m", "sigma_p", "trace", "value"] :=
  rfl

theorem zipIdx_snd_lt {β : Type} (l : List β) (it : β × Nat) (h : it ∈ l.zipIdx) : it.2 < l.length := by
  have := List.mem_zipIdx (x := it.1) (i := it.2) (k := 0) (xs := l) h
  omega

/-- The WHOLE `store_nestle_output(result)` with `weights.argmax()` = numpy's first index of the maximum
    (`argmaxFirst`): the returned dict — components `Stats/Log-Evidence`, `Stats/Log-Evidence-Error`, `Stats/Peakiness`,
    `solution/fitparams`, `solution/samples`, `solution/weights` — holds the sampler's statistics, per fit name (in the
    order of `fit_names`) the record `(map, mean, sigma_m, sigma_p, trace, value)` built from the model's `summary` of the
    parameter's column with `map` read at `storeOutput`'s `mapIndex`, and `storeOutput`'s `tracedata` and `weights`.
    `mean` is nestle's own `mean_and_cov(samples, weights)[0]` (external; `hmean`: its entries are the weighted means). -/
theorem src_nestle_store {Name : Type} (names : List Name) (samples : List (List α)) (w mean : List α)
    (logz logzerr pk : α) (h : samples.length = w.length)
    (hmean : ∀ i, i < names.length → mean.getD i 0 = wmean (column samples i) w) :
    Gen.SrcC09.nestle_store (accumulate := cumsum 0) (argmax := argmaxFirst) (argsort := argsortStable) (c0p16 := q16)
        (c0p5 := q50) (c0p84 := q84) (fit_names := names) (interp := interpAll) (logz := logz) (logzerr := logzerr)
        (nestle_mean := mean) (peakiness := pk) (result_samples := samples) (result_weights := w)
      = (logz, logzerr, pk,
         names.zipIdx.map (fun it => (it.1,
           ((column samples it.2).getD (storeOutput names.length samples w).mapIndex 0,
            (summary (column samples it.2) w).mean, (summary (column samples it.2) w).sigmaM,
            (summary (column samples it.2) w).sigmaP, column samples it.2, (summary (column samples it.2) w).value))),
         (storeOutput names.length samples w).tracedata, (storeOutput names.length samples w).weights) := by
  exact congrArg (fun l => (logz, logzerr, pk, l, samples, w)) (List.map_congr_left fun it hit => by
    rw [src_nestle_param samples w mean it.2 h (hmean it.2 (zipIdx_snd_lt names it hit))]
    rfl)

theorem src_nestle_store_keys :
    Gen.SrcC09.nestle_store_keys = ["Stats/Log-Evidence", "Stats/Log-Evidence-Error", "Stats/Peakiness",
      "solution/fitparams", "solution/samples", "solution/weights"] := rfl

/-- one iteration of the per-mode loop of `store_nest_solutions`: the dict stored for one mode (`tracedata =
    modes_array[nmode]`, `weights = modes_weights[nmode]`) holds `(fit_params, tracedata, weights)`: per fit name the
    record of `src_multinest_param`, and `storeOutput`'s `tracedata` and `weights` -/
theorem src_multinest_mode {Name : Type} (names : List Name) (trace : List (List α)) (w nmap nmean nsig : List α)
    (h : trace.length = w.length) :
    Gen.SrcC09.multinest_mode (accumulate := cumsum 0) (argsort := argsortStable) (c0p16 := q16) (c0p5 := q50)
        (c0p84 := q84) (fit_names := names) (interp := interpAll) (nest_map := nmap) (nest_mean := nmean)
        (nest_sigma := nsig) (tracedata := trace) (weights := w)
      = (names.zipIdx.map (fun it => (it.1,
           (nmean.getD it.2 0, nmap.getD it.2 0, nsig.getD it.2 0, (summary (column trace it.2) w).sigmaM,
            (summary (column trace it.2) w).sigmaP, column trace it.2, (summary (column trace it.2) w).value))),
         (storeOutput names.length trace w).tracedata, (storeOutput names.length trace w).weights) := by
  exact congrArg (fun l => (l, trace, w))
    (List.map_congr_left fun it _ => by rw [src_multinest_param trace w nmap nmean nsig it.2 h])

theorem src_multinest_mode_keys : Gen.SrcC09.multinest_mode_keys = ["fit_params", "tracedata", "weights"] := rfl

/-- one iteration of the per-mode loop of `store_polychord_solutions` -/
theorem src_polychord_mode {Name : Type} (names : List Name) (trace : List (List α)) (w nmap nmean nsig : List α)
    (h : trace.length = w.length) :
    Gen.SrcC09.polychord_mode (accumulate := cumsum 0) (argsort := argsortStable) (c0p16 := q16) (c0p5 := q50)
        (c0p84 := q84) (fit_names := names) (interp := interpAll) (nest_map := nmap) (nest_mean := nmean)
        (nest_sigma := nsig) (tracedata := trace) (weights := w)
      = (names.zipIdx.map (fun it => (it.1,
           (nmap.getD it.2 0, nmean.getD it.2 0, nsig.getD it.2 0, (summary (column trace it.2) w).sigmaM,
            (summary (column trace it.2) w).sigmaP, column trace it.2, (summary (column trace it.2) w).value))),
         (storeOutput names.length trace w).tracedata, (storeOutput names.length trace w).weights) := by
  exact congrArg (fun l => (l, trace, w))
    (List.map_congr_left fun it _ => by rw [src_polychord_param trace w nmap nmean nsig it.2 h])

theorem src_polychord_mode_keys : Gen.SrcC09.polychord_mode_keys = ["fit_params", "tracedata", "weights"] := rfl

/-- `a[idx]` with an index array whose entries are valid positions is the model's `gather` -/
theorem map_getD_eq_gather (a : List α) (perm : List Nat) (h : ∀ j ∈ perm, j < a.length) :
    perm.map (fun i => a.getD i 0) = gather perm a :=
  (filterMap_getElem?_eq_map_getD 0 a perm h).symm

/-- one iteration of the per-parameter loop of `compute_derived_trace`: `gt` / `gw` are the gathered trace and weights
    (`mpi.allreduce(…, op='SUM')`), `restore` the index array that puts them back into sample order
    (`all_index.argsort()`, the model's `argsortNat index`: then `gather restore gt = restoreOrder index gt`);
    `np.average(x, weights=w, axis=0)` = `wmean`.  The record is the model's `summary` of the restored trace. -/
theorem src_derived_param (gt gw trace w : List α) (restore : List Nat)
    (ht : ∀ j ∈ restore, j < gt.length) (hw : ∀ j ∈ restore, j < gw.length) :
    Gen.SrcC09.derived_param trace w restore (accumulate := cumsum 0) (argsort := argsortStable) (average := wmean)
        (c0p16 := q16) (c0p5 := q50) (c0p84 := q84) (gathered_trace := gt) (gathered_w := gw) (interp := interpAll)
      = ((summary (gather restore gt) (gather restore gw)).mean, (summary (gather restore gt) (gather restore gw)).sigmaM,
         (summary (gather restore gt) (gather restore gw)).sigmaP, gather restore gt,
         (summary (gather restore gt) (gather restore gw)).value) := by
  have hl : (gather restore gt).length = (gather restore gw).length := by
    rw [← map_getD_eq_gather gt restore ht, ← map_getD_eq_gather gw restore hw, List.length_map, List.length_map]
  obtain ⟨e1, e2, e3, e4⟩ := summary_of_triple (gather restore gt) (gather restore gw)
  rw [e1, e2, e3, e4, ← src_quantile_corner _ _ _ hl, ← map_getD_eq_gather gt restore ht,
    ← map_getD_eq_gather gw restore hw]
  rfl

/-- with `restore = all_index.argsort()` the restored trace is the model's `restoreOrder` -/
theorem src_derived_restore (index : List Nat) (gt : List α) :
    gather (argsortNat index) gt = restoreOrder index gt := rfl

theorem src_derived_param_keys :
    Gen.SrcC09.derived_param_keys = ["mean", "sigma_m", "sigma_p", "trace", "value"] := rfl

end

/-! ### the chains files: what `store_nest_solutions` / `store_polychord_solutions` read back before they summarise

  The statements from `modes = []` (`modes_array = []`) up to the loop over the modes, translated in the dialect `seq` once per
  calling pattern.  File contents are inputs: `data` = `np.loadtxt` of the chains table, `lines` = `f.readlines()` of
  `<base>post_separate.dat`, `splitWs` / `parseFloat` = `str.split()` / `float(token)`; the model works on the parsed lines
  `toPLine` (is the line exactly `"\n"`, its numbers). -/

section
variable {α : Type} [OfNat α 0]

/-- **`store_nest_solutions`, `multimodes = False`**: one solution — the samples are the columns `2:` and the weights column
    `0` of `<base>.txt` (`nestChainsSingle`); `modes = [0]` (one mode) -/
theorem src_multinest_chains_single (data : List (List α)) :
    Gen.SrcC09.multinest_chains_single data
      = ((nestChainsSingle data).1, (nestChainsSingle data).2, [(0 : α)]) := rfl

/-- **`store_nest_solutions`, `multimodes = True`**: the line loop over `post_separate.dat` (from the fourth line on, two
    empty lines before a line close the mode; a line with more than two tokens is a sample with weight `tokens[0]`) and the
    per-mode arrays (`np.zeros((len(mode), len(mode[0])))` filled row by row) are the model's `nestChainsModes` of the parsed
    lines; the third component, `modes`, is the list of modes whose length the loop over the solutions runs over -/
theorem src_multinest_chains_modes (data : List (List α)) (lines : List String) (splitWs : String → List String)
    (parseFloat : String → α) :
    Gen.SrcC09.multinest_chains_modes data lines parseFloat splitWs
      = ((nestChainsModes (lines.map (toPLine splitWs parseFloat))).1,
         (nestChainsModes (lines.map (toPLine splitWs parseFloat))).2,
         (splitModes (lines.map (toPLine splitWs parseFloat))).1) := by
  have hloop := lineLoop_eq lines splitWs parseFloat lines []
    { modes := [], weights := [], chains := [], cw := [], prev1 := false, prev2 := false, idx := 0 } rfl rfl
    ⟨fun h => absurd h (Nat.not_succ_le_zero 0), fun h => absurd h (Nat.not_succ_le_zero 1)⟩
  have hgen : Gen.SrcC09.multinest_chains_modes data lines parseFloat splitWs
      = (let st := List.foldl (lineStep lines splitWs parseFloat) ([], [], [], []) (List.zipIdx lines)
         (List.foldl (fun (acc : List (List (List α))) (mode : List (List α)) => acc ++ [
            List.foldl (fun (M : List (List α)) (it : List α × Nat) => Gen.Np.setRow M it.2 it.1)
              (List.replicate mode.length (List.replicate (List.length (mode.getD 0 [])) (0 : α))) (List.zipIdx mode)])
            [] (st.1 ++ [st.2.2.1]),
          st.2.1 ++ [st.2.2.2], st.1 ++ [st.2.2.1])) := rfl
  rw [hgen]
  simp only [List.length_nil] at hloop
  have hl : listsOf ({ modes := [], weights := [], chains := [], cw := [], prev1 := false, prev2 := false, idx := 0 } :
      SplitState α) = ([], [], [], []) := rfl
  rw [hl] at hloop
  rw [hloop]
  dsimp only
  rw [foldl_append_map]
  simp only [listsOf, nestChainsModes, splitModes, modeArray_src, List.nil_append]

/-- `M[:, 2:n+2]` row by row -/
theorem slice_cols (n : Nat) (r : List α) : Gen.Np.slice r 2 (n + 2) = (r.drop 2).take n := by
  exact slice_drop_take n r

/-- the loop over the cluster files: `modes_array` / `modes_weights` grow by one table per file -/
theorem cluster_loop (nfit : Nat) (cluster : Nat → List (List α)) (data : List (List α)) :
    ∀ (ks : List Nat) (d : List (List α)) (A : List (List (List α))) (W : List (List α)),
      ks ≠ [] ∨ d = data →
      (List.foldl (fun (st : List (List α) × List (List (List α)) × List (List α)) (midx : Nat) =>
          (cluster midx,
           st.2.1 ++ [List.map (fun r => Gen.Np.slice r 2 (nfit + 2)) (cluster midx)],
           st.2.2 ++ [List.map (fun r => r.getD 0 (0 : α)) (cluster midx)])) (d, A, W) ks).2
        = (A ++ ks.map (fun k => tableSamplesN nfit (cluster k)), W ++ ks.map (fun k => tableWeights (cluster k)))
  | ks, d, A, W, _ => cluster_fold nfit cluster ks d A W

/-- **`store_polychord_solutions`**, from `modes_array = []` up to the loop over the clusters: without clustering, or with
    one cluster, the table `1-.txt` (samples = columns `2:num_fit_params+2`, weights = column `0`); otherwise one solution
    per cluster file — the model's `polyChains`.  `clusterTable k` = `np.loadtxt` of `clusters/1-_{k+1}.txt`, `nFit` =
    `len(self.fit_names)`. -/
theorem src_polychord_chains (data : List (List α)) (nClusters : Nat) (cluster : Nat → List (List α)) (dc : Bool)
    (nFit : Nat) :
    Gen.SrcC09.polychord_chains data nClusters cluster dc nFit
      = polyChains nFit dc nClusters data cluster := by
  unfold Gen.SrcC09.polychord_chains polyChains
  cases dc
  · simp [tableSamplesN, tableWeights, slice_cols]
  · by_cases h1 : nClusters = 1
    · simp [h1, tableSamplesN, tableWeights, slice_cols]
    · have hl := cluster_loop nFit cluster data (List.range' 0 nClusters) data [] [] (Or.inr rfl)
      simp only [h1, decide_false, Bool.false_eq_true, if_false, if_true]
      rw [Prod.ext_iff] at hl
      simp only [List.nil_append] at hl
      simp only [hl.1, hl.2, List.range_eq_range']

end

/-! ### the whole store functions of the MultiNest / PolyChord wrappers

  `NEST_out = {'solutions': {}}`, the chains (the statement range tied above, called as a function), the loop over the modes
  (`for nmode in range(…)`: one iteration = `multinest_mode` / `polychord_mode`, stored under `'solution{}'.format(nmode)`),
  `return NEST_out`.  The value is the sub-dict `solutions` as the list of its stores.  `nmap k`, `nmean k`, `nsig k` are the
  sampler's own `NEST_stats['modes'][k][…]` lists (pass-through inputs, functions of the mode index). -/

section
variable {α : Type} [Add α] [Sub α] [Mul α] [Div α] [Neg α] [LT α] [LE α] [DecidableLT α] [DecidableLE α]
  [Taurex.Transc α] [OfNat α 0] [OfNat α 16] [OfNat α 50] [OfNat α 84] [OfNat α 100]

/-- the dict MultiNest's wrapper stores for one mode, in terms of the model: per fit name `(mean, nest_map, nest_sigma,
    sigma_m, sigma_p, trace, value)`, then `tracedata`, `weights` -/
def nestModeRec {Name : Type} (names : List Name) (nmap nmean nsig : List α) (trace : List (List α)) (w : List α) :
    List (Name × (α × α × α × α × α × List α × α)) × List (List α) × List α :=
  (names.zipIdx.map (fun it => (it.1,
     (nmean.getD it.2 0, nmap.getD it.2 0, nsig.getD it.2 0, (summary (column trace it.2) w).sigmaM,
      (summary (column trace it.2) w).sigmaP, column trace it.2, (summary (column trace it.2) w).value))),
   (storeOutput names.length trace w).tracedata, (storeOutput names.length trace w).weights)

/-- the same for PolyChord: `(nest_map, nest_mean, nest_sigma, sigma_m, sigma_p, trace, value)` -/
def polyModeRec {Name : Type} (names : List Name) (nmap nmean nsig : List α) (trace : List (List α)) (w : List α) :
    List (Name × (α × α × α × α × α × List α × α)) × List (List α) × List α :=
  (names.zipIdx.map (fun it => (it.1,
     (nmap.getD it.2 0, nmean.getD it.2 0, nsig.getD it.2 0, (summary (column trace it.2) w).sigmaM,
      (summary (column trace it.2) w).sigmaP, column trace it.2, (summary (column trace it.2) w).value))),
   (storeOutput names.length trace w).tracedata, (storeOutput names.length trace w).weights)

/-- the solutions a wrapper stores for `count` modes whose samples / weights are `arrays[k]` / `weights[k]` -/
def solutionsOf {ρ : Type} (rec : Nat → List (List α) → List α → ρ) (arrays : List (List (List α)))
    (weights : List (List α)) (count : Nat) : List (String × ρ) :=
  (List.range count).map (fun k => ("solution" ++ toString k, rec k (arrays.getD k []) (weights.getD k [])))

theorem solutions_congr {ρ : Type} (f g : Nat → ρ) (count : Nat) (h : ∀ k < count, f k = g k) :
    (List.range count).map (fun k => ("solution" ++ toString k, f k))
      = (List.range count).map (fun k => ("solution" ++ toString k, g k)) := by
  apply List.map_congr_left
  intro k hk
  rw [h k (List.mem_range.1 hk)]

/-- every mode the line loop closes has as many weights as samples -/
theorem splitStep_lengths (st : SplitState α) (l : PLine α)
    (h : st.chains.length = st.cw.length ∧ st.modes.length = st.weights.length ∧
      ∀ k, (st.modes.getD k []).length = (st.weights.getD k []).length) :
    (splitStep st l).chains.length = (splitStep st l).cw.length ∧
    (splitStep st l).modes.length = (splitStep st l).weights.length ∧
      ∀ k, ((splitStep st l).modes.getD k []).length = ((splitStep st l).weights.getD k []).length := by
  obtain ⟨h1, h2⟩ := splitStep_lens st l ⟨h.1, (lens_iff _ _).2 h.2⟩
  exact ⟨h1, (lens_iff _ _).1 h2⟩

theorem splitFold_lengths (lines : List (PLine α)) : ∀ (st : SplitState α),
    (st.chains.length = st.cw.length ∧ st.modes.length = st.weights.length ∧
      ∀ k, (st.modes.getD k []).length = (st.weights.getD k []).length) →
    ((lines.foldl splitStep st).chains.length = (lines.foldl splitStep st).cw.length ∧
     (lines.foldl splitStep st).modes.length = (lines.foldl splitStep st).weights.length ∧
      ∀ k, ((lines.foldl splitStep st).modes.getD k []).length = ((lines.foldl splitStep st).weights.getD k []).length) := by
  induction lines with
  | nil => intro st h; exact h
  | cons l ls ih => intro st h; exact ih _ (splitStep_lengths st l h)

/-- every mode of `post_separate.dat` has as many weights as samples -/
theorem splitModes_lengths (lines : List (PLine α)) (k : Nat) :
    ((splitModes lines).1.getD k []).length = ((splitModes lines).2.getD k []).length := by
  rw [length_getD, length_getD, splitModes_lens]

theorem nestChainsModes_lengths (lines : List (PLine α)) (k : Nat) :
    ((nestChainsModes lines).1.getD k []).length = ((nestChainsModes lines).2.getD k []).length := by
  have hm : ∀ m : List (List α), (modeArray m).length = m.length := fun m => List.length_map _
  unfold nestChainsModes
  rw [length_getD, length_getD, List.map_map, ← splitModes_lens]
  exact congrArg (fun l => List.getD l k 0) (List.map_congr_left fun m _ => hm m)

/-- **the whole `store_nest_solutions`, `multimodes = False`**: one solution, `solution0`, whose record is the model's for
    the samples / weights of `<base>.txt` -/
theorem src_multinest_store_single {Name : Type} (names : List Name) (data : List (List α))
    (nmap nmean nsig : Nat → List α) :
    Gen.SrcC09.multinest_store_single (accumulate := cumsum 0) (argsort := argsortStable) (c0p16 := q16) (c0p5 := q50)
        (c0p84 := q84) (data := data) (fit_names := names) (interp := interpAll) (nest_map := nmap)
        (nest_mean := nmean) (nest_sigma := nsig)
      = solutionsOf (fun k => nestModeRec names (nmap k) (nmean k) (nsig k)) (nestChainsSingle data).1
          (nestChainsSingle data).2 1 := by
  unfold Gen.SrcC09.multinest_store_single solutionsOf
  rw [src_multinest_chains_single]
  dsimp only [List.length_singleton]
  apply solutions_congr
  intro k hk
  have hk0 : k = 0 := by omega
  subst hk0
  rw [src_multinest_mode names _ _ _ _ _ (by simp [nestChainsSingle, tableSamples, tableWeights])]
  rfl

/-- **the whole `store_nest_solutions`, `multimodes = True`**: one solution per mode of `post_separate.dat`, in file order,
    stored under `solution0`, `solution1`, … -/
theorem src_multinest_store_modes {Name : Type} (names : List Name) (data : List (List α)) (lines : List String)
    (splitWs : String → List String) (parseFloat : String → α) (nmap nmean nsig : Nat → List α) :
    Gen.SrcC09.multinest_store_modes (accumulate := cumsum 0) (argsort := argsortStable) (c0p16 := q16) (c0p5 := q50)
        (c0p84 := q84) (data := data) (fit_names := names) (interp := interpAll) (lines := lines) (nest_map := nmap)
        (nest_mean := nmean) (nest_sigma := nsig) (parseFloat := parseFloat) (splitWs := splitWs)
      = solutionsOf (fun k => nestModeRec names (nmap k) (nmean k) (nsig k))
          (nestChainsModes (lines.map (toPLine splitWs parseFloat))).1
          (nestChainsModes (lines.map (toPLine splitWs parseFloat))).2
          (splitModes (lines.map (toPLine splitWs parseFloat))).1.length := by
  unfold Gen.SrcC09.multinest_store_modes solutionsOf
  rw [src_multinest_chains_modes]
  dsimp only
  apply solutions_congr
  intro k _
  rw [src_multinest_mode names _ _ _ _ _ (nestChainsModes_lengths _ k)]
  rfl

/-- **the whole `store_polychord_solutions`**: one solution per cluster (one when clustering is off or there is one cluster) -/
theorem src_polychord_store {Name : Type} (names : List Name) (data : List (List α)) (nClusters : Nat)
    (cluster : Nat → List (List α)) (dc : Bool) (nFit : Nat) (nmap nmean nsig : Nat → List α) :
    Gen.SrcC09.polychord_store (accumulate := cumsum 0) (argsort := argsortStable) (c0p16 := q16) (c0p5 := q50)
        (c0p84 := q84) (clusterNumber := nClusters) (clusterTable := cluster) (data := data) (do_clustering := dc)
        (fit_names := names) (interp := interpAll) (nFit := nFit) (nest_map := nmap) (nest_mean := nmean)
        (nest_sigma := nsig)
      = solutionsOf (fun k => polyModeRec names (nmap k) (nmean k) (nsig k)) (polyChains nFit dc nClusters data cluster).1
          (polyChains nFit dc nClusters data cluster).2.1 (polyChains nFit dc nClusters data cluster).2.2 := by
  unfold Gen.SrcC09.polychord_store solutionsOf
  rw [src_polychord_chains]
  dsimp only
  apply solutions_congr
  intro k _
  rw [src_polychord_mode names _ _ _ _ _ (by rw [length_getD, length_getD, polyChains_lens])]
  rfl

theorem src_store_keys : Gen.SrcC09.multinest_store_single_keys = ["solutions"] ∧
    Gen.SrcC09.multinest_store_modes_keys = ["solutions"] ∧ Gen.SrcC09.polychord_store_keys = ["solutions"] :=
  ⟨rfl, rfl, rfl⟩

end

end Taurex.C09Src
