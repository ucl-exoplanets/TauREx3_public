/-
  C14 — opacity / CIA / k-table files of every supported format load to the same physical table; the cache serves
  one object per molecule, loaded once; interpolation-mode changes take effect.
  Every theorem is about the definitions the driver `driver_c14` executes
  (TaurexModel/Loaders.lean, Sanitize.lean, CacheSM.lean — `step` for the cross-section cache, `stepK` for the k-table
  cache, `CiaSM.step` for the CIA cache — and CacheConf.lean: `stepX` for configuration reaching the cache by a parameter
  file or a setting taken back, `stepY` for objects and global setting drifting apart and loads naming another directory).
  `K` is an arbitrary linearly ordered field (ℚ, ℝ, …).
-/
import Proofs.C14Sanitize
import Proofs.C14Unified
import Proofs.C14KCia
import Proofs.C14Conf

namespace Taurex.C14
open Taurex.Loaders Taurex.Sanitize Taurex.CacheSM

variable {K : Type} [Field K] [LinearOrder K] [IsStrictOrderedRing K]

/-! ## formats: `dec (enc t) = t` -/

/-- pickle cross-sections: pressures written in bar come back in Pa, everything else as stored -/
theorem dec_enc_pickle (tab : XTab K) : decPickle (encPickle tab) = tab := by
  cases tab
  simp only [decPickle, encPickle, map_div_mul _ (show (100000 : K) ≠ 0 by norm_num)]

/-- the 2×2×3 table used for the non-vacuity examples -/
def exTab : XTab ℚ := ⟨[1, 2, 3], [100, 200], [10, 1000], [[[1, 2, 3], [4, 5, 6]], [[7, 8, 9], [10, 11, 0]]]⟩

example : decPickle (encPickle exTab) = exTab ∧ (encPickle exTab).p = [1/10000, 1/100] := by decide +kernel

/-- HDF5 cross-sections with any pressure unit the reader converts (`Pa bar mbar hPa kPa MPa Torr Ba`, and `atm`,
    `mmHg` through the CDS parser): the declared unit is undone exactly -/
theorem dec_enc_hdf (tab : XTab K) (units name : String) (c : K) (hu : unitFactor true units = some c) :
    decHdf (encHdf units c name tab) = some tab := by
  cases tab
  simp [decHdf, encHdf, hu, map_div_mul _ (unitFactor_ne_zero hu)]

example : unitFactor (α := ℚ) true "atm" = some 101325 ∧ unitFactor (α := ℚ) true "bar" = some 100000 ∧
    decHdf (encHdf "atm" 101325 "H2O" exTab) = some exTab := by decide +kernel

/-- the CIA pickle container stores the table as it is -/
theorem dec_enc_pickleC {α : Type} (tab : CTab α) : decPickleC (encPickleC tab) = tab := rfl

/-- pickle k-tables: pressures written in bar come back in Pa, weights and everything else as stored -/
theorem dec_enc_pickleK (tab : KTab K) (name : String) : decPickleK (encPickleK name tab) = tab := by
  cases tab
  simp only [decPickleK, encPickleK, map_div_mul _ (show (100000 : K) ≠ 0 by norm_num)]

/-- HDF5 k-tables: the declared pressure unit is undone exactly, as for HDF5 cross-sections -/
theorem dec_enc_hdfK (tab : KTab K) (units : String) (c : K) (hu : unitFactor true units = some c) :
    decHdfK (encHdfK units c tab) = some tab := by
  cases tab
  simp [decHdfK, encHdfK, hu, map_div_mul _ (unitFactor_ne_zero hu)]

def exKTab : KTab ℚ := ⟨[1, 2], [100, 200], [10, 1000],
  [[[[1, 2], [3, 4]], [[4, 5], [6, 7]]], [[[7, 8], [8, 9]], [[10, 11], [11, 12]]]], [1/4, 3/4]⟩

example : decHdfK (encHdfK "atm" 101325 exKTab) = some exKTab ∧ decPickleK (encPickleK "H2O" exKTab) = exKTab := by
  decide +kernel

/-! ## Exo-Transmit -/

/-- Exo-Transmit text (wavelengths in m ascending, rows `P(bar) xsec(T)…` in m²) decodes to the table it was written
    from, every entry `v` coming back as `(v/10000 + tiny)·10000` (`tiny` = the reader's `1e-60`): wavenumbers
    re-sorted ascending with the table permuted alike, pressures in Pa.  `hpos` guards the reader's division by the
    wavelength (Mathlib's `x/0 = 0` would not need it). -/
theorem dec_enc_exo (tiny : K) (tab : XTab K) (hwf : tab.WF) (ht : tab.t ≠ [])
    (hwn : tab.wn.Pairwise (· < ·)) (_hpos : ∀ w ∈ tab.wn, 0 < w) :
    decExo tiny (encExo tab) =
      { wn := tab.wn, t := tab.t, p := tab.p,
        x := tab.x.map fun row => row.map fun col => col.map (exoShift tiny) } :=
  decExo_encExo tiny tab hwf ht hwn

/-- without the `1e-60` the round trip is exact -/
theorem dec_enc_exo_exact (tab : XTab K) (hwf : tab.WF) (ht : tab.t ≠ [])
    (hwn : tab.wn.Pairwise (· < ·)) (hpos : ∀ w ∈ tab.wn, 0 < w) : decExo 0 (encExo tab) = tab := by
  rw [dec_enc_exo 0 tab hwf ht hwn hpos]
  have hid : exoShift (0 : K) = id := by
    funext v
    simp only [exoShift, add_zero, id]
    exact div_mul_cancel₀ v (by norm_num)
  cases tab
  simp [hid]

/-- non-vacuity: the 2×2×3 example table satisfies the hypotheses (so it round-trips), and its file begins with
    the block of the largest wavenumber -/
example : exTab.WF ∧ exTab.t ≠ [] ∧ exTab.wn.Pairwise (· < ·) ∧ (∀ w ∈ exTab.wn, 0 < w) ∧
    decExo 0 (encExo exTab) = exTab ∧
    (encExo exTab).body.take 4 = [[1/300], [1/10000, 3/10000, 6/10000], [1/100, 9/10000, 0], [1/200]] := by
  have h1 : exTab.WF := ⟨by decide +kernel, by decide +kernel⟩
  have h2 : exTab.t ≠ [] := by decide +kernel
  have h3 : exTab.wn.Pairwise (· < ·) := by decide +kernel
  have h4 : ∀ w ∈ exTab.wn, 0 < w := by decide +kernel
  exact ⟨h1, h2, h3, h4, dec_enc_exo_exact exTab h1 h2 h3 h4, by decide +kernel⟩

omit [IsStrictOrderedRing K] in
/-- whatever the order of the wavelength blocks in the file, the loaded wavenumber grid is ascending and is a
    permutation of the file's wavenumbers (`10000·1e-6/λ`) -/
theorem exo_sorted (tiny : K) (f : ExoFile K) :
    (decExo tiny f).wn.Pairwise (· ≤ ·) ∧
    (decExo tiny f).wn.Perm ((exoGroup f.body).map (fun b => exoWn b.1)) :=
  ⟨gather_argsort_sorted _, gather_argsort_perm _⟩

omit [IsStrictOrderedRing K] in
/-- the order of the wavelength blocks in the file is immaterial for the loaded wavenumber axis: two files whose
    blocks carry the same wavelengths in any two orders load the same grid (the sort is a real sort, not a reversal) -/
theorem exo_wn_order_invariant (tiny : K) (f g : ExoFile K)
    (h : ((exoGroup f.body).map (fun b => exoWn b.1)).Perm ((exoGroup g.body).map (fun b => exoWn b.1))) :
    (decExo tiny f).wn = (decExo tiny g).wn :=
  List.Perm.eq_of_pairwise (le := (· ≤ ·)) (fun _ _ _ _ h1 h2 => le_antisymm h1 h2)
    (exo_sorted tiny f).1 (exo_sorted tiny g).1
    ((exo_sorted tiny f).2.trans (h.trans (exo_sorted tiny g).2.symm))

omit [IsStrictOrderedRing K] in
/-- the table is permuted exactly like the wavenumber axis: with `perm` the sorting permutation of the file's
    wavenumbers, entry `k` of the loaded grid is the wavenumber of block `perm[k]`, and entry `k` of every loaded
    (P,T) column is the value read in block `perm[k]` (+`tiny`, ×10⁴) -/
theorem exo_aligned (tiny : K) (f : ExoFile K) (i j : Nat) (hi : i < f.prow.length) (hj : j < f.trow.length) :
    let blocks := exoGroup f.body
    let wn0 := blocks.map (fun b => exoWn b.1)
    (decExo tiny f).wn = (argsort wn0).map (fun k => wn0.getD k 0) ∧
    ((decExo tiny f).x.getD i []).getD j [] =
      (argsort wn0).map (fun k => ((((blocks.getD k (0, [])).2.getD i []).getD (j + 1) 0) + tiny) * 10000) := by
  refine ⟨rfl, ?_⟩
  simp only [decExo, getD_map_range _ hi, getD_map_range _ hj]

/-- a file with its wavelength blocks in DEscending wavelength order (wavenumbers already ascending) -/
example : (decExo 0 (⟨[100, 200], [1/10000],
      [[1/100], [1/10000, 1/10000, 2/10000], [1/200], [1/10000, 3/10000, 4/10000]]⟩ : ExoFile ℚ)).p = [10] ∧
    exoGroup ([[1/100], [1/10000, 1/10000, 2/10000], [1/200], [1/10000, 3/10000, 4/10000]] : List (List ℚ)) =
      [(1/100, [[1/10000, 1/10000, 2/10000]]), (1/200, [[1/10000, 3/10000, 4/10000]])] := by
  decide +kernel

/-- all cross-section containers written from one table decode to that table -/
theorem formats_agree (tab : XTab K) (units name : String) (c : K) (hu : unitFactor true units = some c)
    (hwf : tab.WF) (ht : tab.t ≠ []) (hwn : tab.wn.Pairwise (· < ·)) (hpos : ∀ w ∈ tab.wn, 0 < w) :
    decHdf (encHdf units c name tab) = some (decPickle (encPickle tab)) ∧
    decExo 0 (encExo tab) = decPickle (encPickle tab) ∧ decPickle (encPickle tab) = tab := by
  rw [dec_enc_pickle, dec_enc_hdf tab units name c hu, dec_enc_exo_exact tab hwf ht hwn hpos]
  exact ⟨rfl, rfl, rfl⟩

/-- all k-table containers written from one table decode to that table -/
theorem formats_agree_k (tab : KTab K) (units name : String) (c : K) (hu : unitFactor true units = some c) :
    decHdfK (encHdfK units c tab) = some (decPickleK (encPickleK name tab)) ∧ decPickleK (encPickleK name tab) = tab := by
  rw [dec_enc_pickleK, dec_enc_hdfK tab units c hu]
  exact ⟨rfl, rfl⟩

omit [IsStrictOrderedRing K] in
/-- axes oriented as in the file: temperatures as stored, pressures ×1e5, table shaped [P][T][wn] -/
theorem exo_axes (tiny : K) (f : ExoFile K) :
    (decExo tiny f).t = f.trow ∧ (decExo tiny f).p = f.prow.map (fun v => v * 100000) ∧
    (decExo tiny f).x.length = f.prow.length ∧
    (∀ row ∈ (decExo tiny f).x, row.length = f.trow.length ∧
      ∀ col ∈ row, col.length = (decExo tiny f).wn.length) := by
  refine ⟨rfl, rfl, by simp only [decExo, List.length_map, List.length_range], ?_⟩
  intro row hrow
  obtain ⟨i, _, rfl⟩ := List.mem_map.mp hrow
  refine ⟨by simp only [List.length_map, List.length_range], ?_⟩
  intro col hcol
  obtain ⟨j, _, rfl⟩ := List.mem_map.mp hcol
  simp only [decExo, gather, List.length_map]

/-! ## HITRAN -/

omit [IsStrictOrderedRing K] in
/-- negative HITRAN entries are clipped: every value the reader stores is ≥ 0 -/
theorem hitran_clip_nonneg (s : K) : 0 ≤ clipSigma s := clipSigma_nonneg s

example : clipSigma (-3 : ℚ) = 0 ∧ clipSigma (20000000000 : ℚ) = 2 := by decide +kernel

/-- no negative cross-section reaches the unified table of ANY HITRAN file (any number of wavenumber ranges, any
    block order, any temperatures per range): stored values are clipped, `fill_temperature` adds zero rows outside a
    range's own temperature span and, inside it, the linear interpolation of the two rows whose temperatures bracket
    the missing one (a convex combination: `searchsorted(side='right')-1` on the sorted list brackets `t` because the
    range's minimum temperature is in the list and is ≤ t), and `compute_final_grid` only places those rows. -/
theorem hitran_nonneg (blocks : List (HBlock K)) : ∀ row ∈ (decHitran blocks).x, ∀ v ∈ row, 0 ≤ v :=
  decHitran_nonneg blocks

/-- the ingredient of `hitran_nonneg` for one filled-in temperature: between two non-negative rows whose temperatures
    bracket `t` the interpolated value is non-negative -/
theorem hitran_interp_nonneg {u v t a b : K} (hu : 0 ≤ u) (hv : 0 ≤ v) (h1 : a ≤ t) (h2 : t ≤ b) :
    0 ≤ Interp.interpLin u v t a b := interpLin_nonneg hu hv h1 h2

/-- non-vacuity: a two-range file (range 10–30 cm⁻¹ at T = 100, 200, 300 with a negative entry; range 50 cm⁻¹ only at
    T = 100 and 300, so its T = 200 row is interpolated): the reader's first stage stores what is expected -/
example :
    let blocks : List (HBlock ℚ) :=
      [⟨"H2-He", 10, 30, 100, 1, [(10, 10000000000), (30, -5)]⟩, ⟨"H2-He", 50, 50, 100, 1, [(50, 20000000000)]⟩,
       ⟨"H2-He", 10, 30, 200, 1, [(10, 30000000000), (30, 0)]⟩,
       ⟨"H2-He", 10, 30, 300, 1, [(10, 0), (30, 0)]⟩, ⟨"H2-He", 50, 50, 300, 1, [(50, 40000000000)]⟩]
    (hLoad blocks).1 = [100, 200, 300] ∧
    (hLoad blocks).2.map (fun g => (g.key, g.wn, g.ts)) =
      [((10, 30), [10, 30], [(100, [1, 0]), (200, [3, 0]), (300, [0, 0])]),
       ((50, 50), [50], [(100, [2]), (300, [4])])] ∧
    Interp.interpLin (2 : ℚ) 4 200 100 300 = 3 := by
  decide +kernel

/-- the 3-temperature, 2-wavenumber CIA table used for the non-vacuity examples -/
def exCTab : CTab ℚ := ⟨[20, 40], [200, 300, 500], [[1, 2], [3, 0], [5, 6]]⟩

/-- a HITRAN `.cia` file with ONE wavenumber range (one block per temperature, values ×1e10, strictly increasing
    temperatures, ascending wavenumbers, no negative entry) loads to the table it was written from — the same table
    the pickle `.db` form gives.  Covers the whole reader: block loop, temperature list, `fill_gaps`,
    `compute_final_grid`. -/
theorem hitran_single_range (pair : String) (tab : CTab K) (hwf : tab.WF) (ht : tab.t ≠ [])
    (hts : tab.t.Pairwise (· < ·)) (hwn : tab.wn.Pairwise (· ≤ ·)) :
    decHitran (encHitran pair tab) = decPickleC (encPickleC tab) ∧ decHitran (encHitran pair tab) = tab :=
  ⟨decHitran_encHitran pair tab hwf ht hts hwn, decHitran_encHitran pair tab hwf ht hts hwn⟩

example : exCTab.WF ∧ exCTab.t ≠ [] ∧ exCTab.t.Pairwise (· < ·) ∧ exCTab.wn.Pairwise (· ≤ ·) ∧
    decHitran (encHitran "H2-He" exCTab) = exCTab ∧
    ((encHitran "H2-He" exCTab).map (fun b => (b.wn0, b.wn1, b.temp, b.pts))).head? =
      some (20, 40, 200, [(20, 10000000000), (40, 20000000000)]) := by
  have h1 : exCTab.WF := ⟨by decide +kernel, by decide +kernel⟩
  have h2 : exCTab.t ≠ [] := by decide +kernel
  have h3 : exCTab.t.Pairwise (· < ·) := by decide +kernel
  have h4 : exCTab.wn.Pairwise (· ≤ ·) := by decide +kernel
  exact ⟨h1, h2, h3, h4, (hitran_single_range "H2-He" exCTab h1 h2 h3 h4).2, by decide +kernel⟩

/-! ## HITRAN, several wavenumber ranges: the loaded table is the documented unified table -/

/-- **hitran_unified**: for ANY HITRAN `.cia` file — any number of wavenumber ranges (blocks with the same
    `(start, end)` header form a range), each range tabulated at its own subset of temperatures, blocks in any order,
    negative entries — in which no `(range, temperature)` pair occurs twice, the table `load_hitran_file` builds
    (`decHitran`: reading loop, `fill_gaps` / `fill_temperature` on the live `Tsigma` lists, `compute_final_grid`)
    IS the documented unified table `hitranUnified` (`TaurexModel/Loaders.lean`):
    * temperature axis = the sorted union of the block temperatures (`hitran_master`);
    * the ranges are the blocks grouped by header, rows in file order (`hitran_ranges`);
    * per range and master temperature `T` the row `rangeRow`, computed from the range's OWN tabulated rows only:
      the tabulated (×1e-10, negatives → 0) row if the range has `T`, zeros if `T` lies outside the range's own
      temperature span, else the linear interpolation in `T` between the range's two tabulated rows whose
      temperatures bracket `T` (`hitran_range_row`);
    * wavenumber axis = the ranges' wavenumbers concatenated in order of first appearance and sorted, every row
      permuted alike.
    The content of the proof: the loop of `fill_temperature` brackets a missing temperature in the live list, which
    already holds rows inserted for earlier master temperatures; such a row lies on the straight line between the
    two own rows, so interpolating from it gives the same value (`interpLin_chain`) — the loaded table does not
    depend on the order in which gaps are filled. -/
theorem hitran_unified (blocks : List (HBlock K)) (hu : UniqueBlocks blocks) :
    decHitran blocks = hitranUnified blocks :=
  decHitran_unified blocks hu

/-- the temperature axis of `hitranUnified` / `decHitran`: strictly increasing, exactly the temperatures that head
    some block ("master list = sorted union") -/
theorem hitran_master (blocks : List (HBlock K)) :
    (decHitran blocks).t = (hitranUnified blocks).t ∧ (hitranUnified blocks).t.Pairwise (· < ·) ∧
    ∀ T, T ∈ (hitranUnified blocks).t ↔ ∃ b ∈ blocks, b.temp = T :=
  have h := master_sorted blocks
  ⟨rfl, h.1, h.2⟩

/-- the ranges of `hitranUnified` (`(hLoad blocks).2`): one per distinct `(start, end)` header, every block belongs
    to one; a range's (T, sigma) list = the (temperature, ×1e-10 clipped cross-sections) of its blocks in file
    order, its wavenumbers = those listed in its last block -/
theorem hitran_ranges (blocks : List (HBlock K)) :
    ((hLoad blocks).2.map (·.key)).Nodup ∧ (∀ b ∈ blocks, bKey b ∈ (hLoad blocks).2.map (·.key)) ∧
    ∀ g ∈ (hLoad blocks).2, g.ts = (rangeBlocks blocks g.key).map bEntry ∧
      g.wn = ((rangeBlocks blocks g.key).getLast?.map bWn).getD [] ∧ rangeBlocks blocks g.key ≠ [] := by
  rw [bKey_eq, rangeBlocks_eq, bEntry_eq, bWn_eq]
  have h := hLoad_inv blocks
  exact ⟨h.keysNodup, h.keysAll, h.grid⟩

/-- what `rangeRow` is, case by case, for a range whose own rows `own` are sorted by strictly increasing
    temperature: (1) at its `j`-th temperature the tabulated row; (2) outside its span zeros; (3) strictly inside,
    at a temperature it does not have, the interpolation between the two neighbouring own rows `c-1`, `c`
    (`c` = number of own temperatures `≤ T`), whose temperatures bracket `T` -/
theorem hitran_range_row (wn : List K) (own : List (K × List K)) (hs : StrictTs own) :
    (∀ j (hj : j < own.length), rangeRow wn own own[j].1 = own[j].2) ∧
    (∀ T, T ∉ own.map (·.1) → (T < lmin (own.map (·.1)) ∨ lmax (own.map (·.1)) < T) →
      rangeRow wn own T = wn.map (fun _ => 0)) ∧
    (∀ T, T ∉ own.map (·.1) → lmin (own.map (·.1)) ≤ T → T ≤ lmax (own.map (·.1)) → own ≠ [] →
      ∃ (c : Nat) (_ : 1 ≤ c) (hc : c < own.length), own[c - 1].1 < T ∧ T < own[c].1 ∧
        rangeRow wn own T =
          List.zipWith (fun u v => Interp.interpLin u v T own[c - 1].1 own[c].1) own[c - 1].2 own[c].2) := by
  refine ⟨fun j hj => rangeRow_of_mem wn own (strictTs_iff.1 hs) _ (List.getElem_mem hj), rangeRow_outside wn own, ?_⟩
  intro T hT h1 h2 hne
  have hne' : own.map (·.1) ≠ [] := by simpa using hne
  obtain ⟨lo, hi, b⟩ := brackets_exists own (strictTs_iff.1 hs) T hT _ _ (lmin_mem _ hne') (lmax_mem _ hne') h1 h2
  refine ⟨_, b.pos, b.lt_length, ?_⟩
  rw [b.getElem_lo, b.getElem_hi]
  exact ⟨b.lo_lt, b.lt_hi, by rw [rangeRow_inside wn own T hT h1 h2, b.getD_lo, b.getD_hi]⟩

/-- the file used for the non-vacuity example of `hitran_unified`: three ranges, blocks interleaved — range 10–30 cm⁻¹
    at T = 100, 200, 400 (one negative entry), range 50–60 cm⁻¹ only at T = 400 and 200 (listed hot-to-cold), range
    70 cm⁻¹ only at T = 300 -/
def exHBlocks : List (HBlock ℚ) :=
  [⟨"H2-He", 10, 30, 100, 1, [(10, 10000000000), (30, -5)]⟩,
   ⟨"H2-He", 50, 60, 400, 1, [(50, 40000000000), (60, 80000000000)]⟩,
   ⟨"H2-He", 10, 30, 200, 1, [(10, 30000000000), (30, 0)]⟩,
   ⟨"H2-He", 70, 70, 300, 1, [(70, 50000000000)]⟩,
   ⟨"H2-He", 10, 30, 400, 1, [(10, 0), (30, 20000000000)]⟩,
   ⟨"H2-He", 50, 60, 200, 1, [(50, 20000000000), (60, 0)]⟩]

/-- non-vacuity of `hitran_unified`: the headers of `exHBlocks` are pairwise distinct, so the reader gives the documented
    table; its ingredients, evaluated: the temperature list and the three ranges the reading loop builds (the second
    range's rows in file order, hot first), and the documented rows — T = 300 interpolated in the first two ranges
    between their own 200 and 400 rows, T = 100 below the span of the second range (zeros), its own row at T = 400,
    the third range zero away from its single temperature -/
example :
    UniqueBlocks exHBlocks ∧ decHitran exHBlocks = hitranUnified exHBlocks ∧
    (hLoad exHBlocks).1 = [100, 400, 200, 300] ∧
    (hLoad exHBlocks).2.map (fun g => (g.key, g.wn, g.ts)) =
      [((10, 30), [10, 30], [(100, [1, 0]), (200, [3, 0]), (400, [0, 2])]),
       ((50, 60), [50, 60], [(400, [4, 8]), (200, [2, 0])]),
       ((70, 70), [70], [(300, [5])])] ∧
    rangeRow [10, 30] [(100, [1, 0]), (200, [3, 0]), (400, [0, 2])] (300 : ℚ) = [3/2, 1] ∧
    rangeRow [50, 60] [(200, [2, 0]), (400, [4, 8])] (300 : ℚ) = [3, 4] ∧
    rangeRow [50, 60] [(200, [2, 0]), (400, [4, 8])] (100 : ℚ) = [0, 0] ∧
    rangeRow [50, 60] [(200, [2, 0]), (400, [4, 8])] (400 : ℚ) = [4, 8] ∧
    rangeRow [70] [(300, [5])] (400 : ℚ) = [0] := by
  have hu : UniqueBlocks exHBlocks := by unfold UniqueBlocks; decide +kernel
  exact ⟨hu, hitran_unified exHBlocks hu, by decide +kernel, by decide +kernel, by decide +kernel,
    by decide +kernel, by decide +kernel, by decide +kernel, by decide +kernel⟩

/-! ## molecule names -/

/-- `sanitize_molecule_string` applied to its own output changes nothing -/
theorem sanitize_idem (s : List Char) : sanitize (sanitize s) = sanitize s := go_idem St.out s

/-- a sanitised name consists of letters and digits only -/
theorem sanitize_alnum (s : List Char) : ∀ c ∈ sanitize s, isAlnum c = true := go_alnum St.out s

/-- the two examples of the docstring of `sanitize_molecule_string` (`H2O`, `1H2-16O`), further isotopologue names, an
    all-lower-case name (nothing matches), and the names the formats derive from typical file names -/
theorem sanitize_examples :
    sanitizeStr "1H2-16O" = "H2O" ∧ sanitizeStr "H2O" = "H2O" ∧ sanitizeStr "12C-16O2" = "CO2" ∧
    sanitizeStr "48Ti-16O" = "TiO" ∧ sanitizeStr "h2o" = "" ∧
    String.ofList (discName .pickleXsec "1H2-16O.R100.TauREx.pickle".toList) = "H2O" ∧
    String.ofList (discName .exo "opac1H2-16O.dat".toList) = "H2O" ∧
    String.ofList (objName .exo "opac1H2-16O.dat".toList []) = "H2O" ∧
    String.ofList (discName .hdfK "1H2-16O__POKAZATEL__R1000.ktable.TauREx.h5".toList) = "H2O" ∧
    String.ofList (discName .cia "H2-He_2011.cia".toList) = "H2-He" := by
  decide +kernel

/-- `clean_molecule_name` (`split('_')[0]`) never changes a sanitised name -/
theorem clean_noop (s : List Char) : firstPart '_' (sanitize s) = sanitize s := by
  unfold firstPart
  apply takeWhile_all
  intro c hc
  exact alnum_ne (sanitize_alnum s c hc) '_' (by decide)

/-- every format names the object it builds by the name its discovery advertises -/
theorem names_consistent (f : NameFmt) (fname : List Char) (hf : f ≠ .pickleK) :
    objName f fname [] = discName f fname := by
  cases f with
  | pickleXsec => exact clean_noop _
  | exo => rfl
  | hdfK => exact clean_noop _
  | pickleK => exact absurd rfl hf
  | cia => rfl

/-- the collision partners a CIA object reports (`pairOne`, `pairTwo`) are the two halves of the pair name it reports:
    for a name `A-B` (no `-` inside `A` or `B`) they are `A` and `B` — whatever container the table was loaded from, since
    they are a function of the reported pair name alone (`H2-He` from `H2-He.db` and from `H2-He_2011.cia` alike) -/
theorem cia_partners (a b : List Char) (ha : '-' ∉ a) (hb : '-' ∉ b) :
    pairOne (a ++ '-' :: b) = a ∧ pairTwo (a ++ '-' :: b) = b := by
  constructor
  · exact takeWhile_append_sep '-' (by decide) a b (ne_sep_of_not_mem ha)
  · unfold pairTwo lastPart
    rw [List.reverse_append, List.reverse_cons, List.append_assoc, List.singleton_append,
      takeWhile_append_sep '-' (by decide) b.reverse a.reverse
        (ne_sep_of_not_mem (by simpa using hb)), List.reverse_reverse]

example : String.ofList (pairOne (discName .cia "H2-He_2011.cia".toList)) = "H2" ∧
    String.ofList (pairTwo (discName .cia "H2-He_2011.cia".toList)) = "He" ∧
    String.ofList (pairOne "H2-H2".toList) = "H2" ∧ String.ofList (pairTwo "N2-N2".toList) = "N2" ∧
    '-' ∉ "H2".toList ∧ '-' ∉ "He".toList := by
  decide +kernel

/-! ## the cache -/

/-- between two cache clears a molecule is served by one and the same object, and serving it again does not
    touch the state (no further load) -/
theorem served_same (fs : List Dir) (s : CSt) (m : String) (o : Obj) (ops : List COp)
    (hops : ∀ op ∈ ops, op.clears = false) (h : (step fs s (.get m)).2 = .served o) :
    step fs (run fs (step fs s (.get m)).1 ops) (.get m) = (run fs (step fs s (.get m)).1 ops, .served o) :=
  step_get_hit (run_ext fs ops _ hops m o (step_get_served h))

/-- between two cache clears a molecule is constructed at most once (files that name their object as advertised) -/
theorem loaded_once (fs : List Dir) (hc : consistent fs) (s : CSt) (m : String) (ops : List COp)
    (hops : ∀ op ∈ ops, op.clears = false) :
    loadsOf (run fs s ops) m ≤ loadsOf s m + 1 := by
  have h := run_pot fs hc ops s hops m
  unfold pot at h
  split_ifs at h <;> omega

/-- after `set_interpolation k` every object loaded from a file and served later has mode `k`
    (until the mode is changed again) -/
theorem interp_effective (fs : List Dir) (s : CSt) (k : Nat) (ops : List COp) (m : String) (o : Obj)
    (hops : ∀ op ∈ ops, ∀ k', op ≠ .setInterp k')
    (h : (step fs (run fs (step fs s (.setInterp k)).1 ops) (.get m)).2 = .served o) (hsrc : o.src ≠ none) :
    o.mode = k := by
  have hinv0 : ModeInv (step fs s (.setInterp k)).1 := fun e he => by simp [step] at he
  rw [step_get_mode (run_modeInv fs ops _ hinv0) h hsrc, run_interp fs ops _ hops]
  rfl

/-- history freedom: what a `get` serves from a file is — as a table: source file, interpolation mode, name, memory
    flag; everything but the object identity — exactly what the same `get` serves on an emptied cache with the same
    configuration.  It depends only on (contents of the configured path, mode), not on the gets, adds, clears and mode
    changes before it.  Premise: the path was not changed since the cache was last emptied (`set_opacity_path`
    does not clear, so an object loaded from the previous path keeps being served — that is the code's behaviour and
    is exactly what `c` / `hops` exclude). -/
theorem served_values_history_free (fs : List Dir) (hc : consistent fs) (s : CSt) (c : COp) (hcl : c.clears = true)
    (ops : List COp) (hops : ∀ op ∈ ops, ∀ p, op ≠ .setPath p) (m : String) (o : Obj)
    (h : (step fs (run fs (step fs s c).1 ops) (.get m)).2 = .served o) (hsrc : o.src ≠ none) :
    ∃ o', (step fs { run fs (step fs s c).1 ops with dict := [] } (.get m)).2 = .served o' ∧
      o'.src = o.src ∧ o'.mode = o.mode ∧ o'.mol = o.mol ∧ o'.inMem = o.inMem := by
  obtain ⟨e, hfm, h1, h2, h3, h4⟩ := served_after_clear fs hc s c hcl ops hops m o h hsrc
  have hobj := (loadFrom_some fs hc { run fs (step fs s c).1 ops with dict := [] } m rfl e hfm).1
  exact ⟨_, step_get_fresh fs hc { run fs (step fs s c).1 ops with dict := [] } m rfl e hfm, h1.symm, h2.symm,
    hobj.trans h3.symm, h4.symm⟩

/-- non-vacuity / sharpness: the premise cannot be dropped — after `setPath` without a clear the object of the old
    directory is still served (file 0), while an emptied cache would load file 1 -/
example :
    let fs : List Dir := [{ isDir := true, files := [⟨.pickle, 0, "H2O", "H2O"⟩] },
                          { isDir := true, files := [⟨.pickle, 1, "H2O", "H2O"⟩] }]
    trace fs init [.setPath 0, .get "H2O", .setPath 1, .get "H2O", .clear, .get "H2O"] =
      [.done, .served ⟨0, "H2O", 0, none, some 0⟩, .done, .served ⟨0, "H2O", 0, none, some 0⟩, .done,
       .served ⟨1, "H2O", 0, none, some 1⟩] := by
  decide +kernel

/-- a molecule that is neither cached nor discoverable under the configured path raises, leaving the cache as it was -/
theorem get_missing_error (fs : List Dir) (s : CSt) (m : String) (hd : lookup s.dict m = none)
    (hf : ∀ e ∈ curFiles fs s, e.disc ≠ m) : step fs s (.get m) = (s, .missing) := by
  have : loadFrom fs m s = s := foldl_loadStep_none m _ s hf
  rw [step_get]
  simp only [hd, this]

/-- non-vacuity: a 7-operation history over a directory with an HDF5 and a pickle file of H2O and an Exo-Transmit
    file of CH4: the HDF5 file wins, one load per clear segment, the mode follows `setInterp` -/
example :
    let fs : List Dir := [{ isDir := true, files :=
      [⟨.hdf, 0, "H2O", "H2O"⟩, ⟨.pickle, 1, "H2O", "H2O"⟩, ⟨.exo, 2, "CH4", "CH4"⟩] }]
    let ops : List COp := [.get "H2O", .setPath 0, .get "H2O", .get "H2O", .setInterp 1, .get "H2O", .get "XX"]
    trace fs init ops =
      [.missing, .done,
       .served ⟨0, "H2O", 0, some true, some 0⟩, .served ⟨0, "H2O", 0, some true, some 0⟩, .done,
       .served ⟨1, "H2O", 1, some true, some 0⟩, .missing] ∧
    (run fs init ops).log = [("H2O", 0), ("H2O", 0)] ∧ consistent fs := by
  refine ⟨by decide +kernel, by decide +kernel, ?_⟩
  intro d hd e he
  simp only [List.mem_singleton] at hd
  subst hd
  simp only [List.mem_cons, List.mem_nil_iff, or_false] at he
  rcases he with rfl | rfl | rfl <;> rfl

/-! ### configuration by other routes, settings taken back (`CacheConf.stepX`) -/

/-- **whatever route a new interpolation mode takes** — `OpacityCache().set_interpolation(k)`, a parameter file whose
    [Global] section carries `xsec_interpolation` (set up by `ParameterParser.setup_globals`), or the setting taken back with
    `set_interpolation(None)` (then the default, linear = 0) — every object loaded from a file and served afterwards has
    that mode, across any later events that leave the setting alone (gets, adds, clears, path changes, parameter files
    without the key, the path taken back) -/
theorem interp_effective_routes (fs : List Dir) (s : CSt) (c : XOp) (ki : Option Nat) (hc : c.modeAfter = some ki)
    (hok : (stepX fs s c).2 = .done) (ops : List XOp) (hops : ∀ op ∈ ops, op.modeAfter = none) (m : String) (o : Obj)
    (h : (stepX fs (runX fs (stepX fs s c).1 ops) (.base (.get m))).2 = .served o) (hsrc : o.src ≠ none) :
    o.mode = ki.getD 0 := by
  obtain ⟨hd, hi⟩ := stepX_sets_mode fs s c ki hc hok
  have hinv0 : ModeInv (stepX fs s c).1 := fun e he => by rw [hd] at he; cases he
  obtain ⟨hinv1, hint1⟩ := runX_modeInv fs ops _ hinv0 hops
  have h' : (step fs (runX fs (stepX fs s c).1 ops) (.get m)).2 = .served o := h
  rw [step_get_mode hinv1 h' hsrc, hint1, hi]

/-- a parameter file is the same machine as the setter calls it stands for (path, then mode, then memory mode) -/
theorem parfile_as_setters (fs : List Dir) (s : CSt) (p : Nat) (k : Option Nat) (mem : Option Bool)
    (hp : (step fs s (.setPath p)).2 ≠ .notADir) :
    (stepX fs s (.parfile (some p) k mem)).1 = run fs s (.setPath p :: parCalls k mem) := by
  simp only [stepX, hp, if_false]
  rfl

/-- once the path is taken back (`GlobalCache()['xsec_path'] = None`) and the cache emptied, nothing is served any more -/
theorem path_unset_nothing_served (fs : List Dir) (s : CSt) (c : COp) (hcl : c.clears = true) (m : String) :
    (stepX fs (stepX fs (stepX fs s .unsetPath).1 (.base c)).1 (.base (.get m))).2 = .missing := by
  obtain ⟨hd, hp⟩ := step_clears fs (stepX fs s .unsetPath).1 c hcl
  show (step fs (step fs (stepX fs s .unsetPath).1 c).1 (.get m)).2 = .missing
  rw [step_get_nopath fs _ m hd (by rw [hp]; rfl)]

/-- non-vacuity: linear, then a parameter file asking for exp, then the mode taken back, then the path taken back: the
    object served follows every change (new object, mode 1, then mode 0), and after the path is gone nothing is served -/
example :
    let fs : List Dir := [{ isDir := true, files := [⟨.pickle, 0, "H2O", "H2O"⟩] }]
    let ops : List XOp := [.base (.setPath 0), .base (.get "H2O"), .parfile (some 0) (some 1) none, .base (.get "H2O"),
      .unsetInterp, .base (.get "H2O"), .unsetPath, .base .clear, .base (.get "H2O"), .parfile (some 7) (some 1) none]
    traceX fs init ops =
      [.done, .served ⟨0, "H2O", 0, none, some 0⟩, .done, .served ⟨1, "H2O", 1, none, some 0⟩, .done,
       .served ⟨2, "H2O", 0, none, some 0⟩, .done, .done, .missing, .notADir] ∧
    (XOp.parfile (some 0) (some 1) none).modeAfter = some (some 1) ∧ XOp.unsetInterp.modeAfter = some none ∧
    (XOp.base (.get "H2O")).modeAfter = none := by
  decide +kernel

/-- the memory-mode setting never reaches the HDF5 reader (`xsec_in_memory or True`): recorded, not required -/
theorem mem_mode_ignored (s : CSt) (e : FileEntry) : (loadObj s e).inMem ≠ some false := by
  rcases loadObj_inMem s e with h | h <;> rw [h] <;> simp

/-- a file whose object does not carry the advertised name (an Exo-Transmit file named by its raw stem) is rebuilt on every
    request and never served: why `loaded_once` needs `consistent` -/
theorem inconsistent_entry_reloads :
    let fs : List Dir := [{ isDir := true, files := [⟨.exo, 0, "H2O", "1H2-16O"⟩] }]
    let ops : List COp := [.setPath 0, .get "H2O", .get "H2O", .get "H2O"]
    trace fs init ops = [.done, .missing, .missing, .missing] ∧ loadsOf (run fs init ops) "H2O" = 3 := by
  decide +kernel

/-! ## the k-table cache -/

/-- the k-table cache (`KTableCache`, whose loading loop constructs EVERY discovered file that advertises the molecule) is
    the same machine as the cross-section cache as long as no directory holds two k-table files advertising one
    molecule: every theorem of "## the cache" then holds of it -/
theorem ktable_same_machine (fs : List Dir) (hu : UniqueDisc fs) (s : CSt) (ops : List COp) :
    (∀ op, stepK fs s op = step fs s op) ∧ runK fs s ops = run fs s ops ∧ traceK fs s ops = trace fs s ops :=
  ⟨stepK_eq_step fs hu s, runK_eq_run fs hu ops s, traceK_eq_trace fs hu ops s⟩

/-- non-vacuity, and the hypothesis cannot be dropped: with a pickle and an HDF5 k-table of one molecule in the directory
    the k-table cache constructs both on the first request (and serves the first), the cross-section machine one -/
example :
    UniqueDisc [{ isDir := true, files := [⟨.khdf, 0, "H2O", "H2O"⟩, ⟨.kpickle, 1, "CH4", "CH4"⟩] }] ∧
    (let fs : List Dir := [{ isDir := true, files := [⟨.khdf, 0, "H2O", "H2O"⟩, ⟨.kpickle, 1, "H2O", "H2O"⟩] }]
     traceK fs init [.setPath 0, .get "H2O"] = [.done, .served ⟨0, "H2O", 0, none, some 0⟩] ∧
     (runK fs init [.setPath 0, .get "H2O"]).log = [("H2O", 0), ("H2O", 1)] ∧
     (run fs init [.setPath 0, .get "H2O"]).log = [("H2O", 0)]) := by
  refine ⟨?_, by decide +kernel⟩
  intro d hd
  simp only [List.mem_singleton] at hd
  subst hd
  decide

/-! ## the CIA cache -/

/-- a CIA pair that is cached is served by that same object ever after (there is no clearing operation, `add_cia` never
    replaces), and serving it does not touch the state — whatever containers the path holds (several for one pair, `.cia`
    files with other header names: no hypothesis on the file system) -/
theorem cia_served_same (fs : List CiaSM.CDir) (s : CiaSM.St) (m : String) (o : CiaSM.CObj) (ops : List CiaSM.Op)
    (h : (CiaSM.step fs s (.get m)).2 = .served o) :
    CiaSM.step fs (CiaSM.run fs (CiaSM.step fs s (.get m)).1 ops) (.get m)
      = (CiaSM.run fs (CiaSM.step fs s (.get m)).1 ops, .served o) := by
  exact CiaSM.step_get_hit (CiaSM.run_keeps fs ops _ m o (CiaSM.step_get_served h))

/-- a cached CIA pair is never constructed again (no hypothesis on the file system) -/
theorem cia_loaded_once (fs : List CiaSM.CDir) (s : CiaSM.St) (m : String) (o : CiaSM.CObj) (ops : List CiaSM.Op)
    (h : CiaSM.lookup s.dict m = some o) : CiaSM.loadsOf (CiaSM.run fs s ops) m = CiaSM.loadsOf s m :=
  CiaSM.run_loads fs ops s m o h

/-- non-vacuity: a history over two directories (a `.db` and a `.cia` pair in the first, a `.cia` pair in the second), a
    single path, then a list of paths: one construction per pair, the same objects served again -/
example :
    let fs : List CiaSM.CDir := [[⟨.db, 0, "H2-H2", "H2-H2"⟩, ⟨.cia, 1, "H2-He", "H2-He"⟩], [⟨.cia, 2, "N2-N2", "N2-N2"⟩]]
    let ops : List CiaSM.Op := [.get "H2-H2", .setPath (.single 0), .get "H2-H2", .get "H2-He", .setPath (.many [1, 0]),
                                .get "N2-N2", .get "H2-H2", .get "XX", .add "H2-H2"]
    CiaSM.trace fs CiaSM.init ops =
      [.missing, .done, .served ⟨0, "H2-H2", some 0⟩, .served ⟨1, "H2-He", some 1⟩, .done,
       .served ⟨2, "N2-N2", some 2⟩, .served ⟨0, "H2-H2", some 0⟩, .missing, .dup] ∧
    (CiaSM.run fs CiaSM.init ops).log = [("H2-H2", 0), ("H2-He", 1), ("N2-N2", 2)] := by
  decide +kernel

/-- **the first container found for a pair is the one served** (the scan skips a pair that is cached by then): however many containers of the
    pair lie in the configured path, a request for an uncached pair constructs exactly one object — from the first file in
    scan order (directories in path order, `.db` files before `.cia` files) that advertises the pair —, caches and serves it;
    nothing raises.  `consistent`: every `.cia` file carries in its block headers the pair its name advertises. -/
theorem cia_first_container_served (fs : List CiaSM.CDir) (hc : CiaSM.consistent fs) (s : CiaSM.St) (m : String)
    (hl : CiaSM.lookup s.dict m = none) (e0 : CiaSM.CFile)
    (hf : (CiaSM.scan fs s.path).find? (fun e => e.disc == m) = some e0) :
    CiaSM.step fs s (.get m) =
      ({ s with dict := s.dict ++ [(m, { id := s.nextId, pair := m, src := some e0.fileId })],
                log := s.log ++ [(m, e0.fileId)], nextId := s.nextId + 1 },
       .served { id := s.nextId, pair := m, src := some e0.fileId }) :=
  CiaSM.step_get_first fs hc s m hl e0 hf

/-- a request never raises the duplicate exception, and a pair without a container in the path is reported missing with the
    cache untouched -/
theorem cia_get_never_dup (fs : List CiaSM.CDir) (hc : CiaSM.consistent fs) (s : CiaSM.St) (m : String) :
    (CiaSM.step fs s (.get m)).2 ≠ .dup ∧
    (CiaSM.lookup s.dict m = none → (CiaSM.scan fs s.path).find? (fun e => e.disc == m) = none →
      CiaSM.step fs s (.get m) = (s, .missing)) :=
  ⟨CiaSM.step_get_no_dup fs hc s m, CiaSM.step_get_none fs hc s m⟩

/-- non-vacuity on the both-containers directory: `H2-H2.db` and `H2-H2_2011.cia` side by side (and
    a second directory with another `.db` of the pair, path = list of both): the first request is served the `.db` object of
    the first directory, one construction, later requests the same object -/
example :
    let fs : List CiaSM.CDir := [[⟨.db, 0, "H2-H2", "H2-H2"⟩, ⟨.cia, 1, "H2-H2", "H2-H2"⟩], [⟨.db, 2, "H2-H2", "H2-H2"⟩]]
    let ops : List CiaSM.Op := [.setPath (.many [0, 1]), .get "H2-H2", .get "H2-H2", .setPath (.single 1), .get "H2-H2"]
    CiaSM.consistent fs ∧
    CiaSM.trace fs CiaSM.init ops
      = [.done, .served ⟨0, "H2-H2", some 0⟩, .served ⟨0, "H2-H2", some 0⟩, .done, .served ⟨0, "H2-H2", some 0⟩] ∧
    CiaSM.loadsOf (CiaSM.run fs CiaSM.init ops) "H2-H2" = 1 := by
  refine ⟨?_, by decide +kernel, by decide +kernel⟩
  intro d hd e he
  simp only [List.mem_cons, List.mem_nil_iff, or_false] at hd
  rcases hd with rfl | rfl <;> simp only [List.mem_cons, List.mem_nil_iff, or_false] at he
  · rcases he with rfl | rfl <;> rfl
  · subst he; rfl

/-- the two scans side by side.  `stepPinned` is the scan WITHOUT the cached-pair test (ciaacache.py before d5856f4): with a
    `.db` and a `.cia` file of one pair in the configured directory its first request raises (the second file is constructed
    as well and `add_cia` refuses it) and only the second request is served; `step` serves the `.db` object at once, with one
    construction -/
theorem cia_both_formats_raise_pinned :
    let fs : List CiaSM.CDir := [[⟨.db, 0, "H2-H2", "H2-H2"⟩, ⟨.cia, 1, "H2-H2", "H2-H2"⟩]]
    let ops : List CiaSM.Op := [.setPath (.single 0), .get "H2-H2", .get "H2-H2"]
    CiaSM.tracePinned fs CiaSM.init ops = [.done, .dup, .served ⟨0, "H2-H2", some 0⟩] ∧
    CiaSM.loadsOf (CiaSM.runPinned fs CiaSM.init ops) "H2-H2" = 2 ∧
    CiaSM.trace fs CiaSM.init ops = [.done, .served ⟨0, "H2-H2", some 0⟩, .served ⟨0, "H2-H2", some 0⟩] ∧
    CiaSM.loadsOf (CiaSM.run fs CiaSM.init ops) "H2-H2" = 1 := by
  decide +kernel

/-! ### loaded objects and the global setting drifted apart; loads that name another directory (`CacheConf.stepY`) -/

/-- **whatever happened before** — served objects switched with their own `set_interpolation_mode`, the global key written
    behind the cache's back, loads naming another directory (any history `pre` of `YOp`s from any state) — once a mode takes one
    of the cache's routes, INCLUDING the value the global key already holds, every object loaded from a file and served
    afterwards has that mode -/
theorem interp_effective_after_drift (fs : List Dir) (s : CSt) (pre : List YOp) (c : XOp) (ki : Option Nat)
    (hc : c.modeAfter = some ki) (hok : (stepX fs (runY fs s pre) c).2 = .done) (ops : List XOp)
    (hops : ∀ op ∈ ops, op.modeAfter = none) (m : String) (o : Obj)
    (h : (stepX fs (runX fs (stepX fs (runY fs s pre) c).1 ops) (.base (.get m))).2 = .served o) (hsrc : o.src ≠ none) :
    o.mode = ki.getD 0 :=
  interp_effective_routes fs (runY fs s pre) c ki hc hok ops hops m o h hsrc

/-- non-vacuity: H2O loaded in mode exp (1), the served object switched to linear by its own method (the next request is
    served the switched object: the drift), then `set_interpolation('exp')` — the value already stored — and the request is
    served a fresh object in mode exp; the same with the global key written directly -/
example :
    let fs : List Dir := [⟨true, [⟨.pickle, 0, "H2O", "H2O"⟩]⟩]
    traceY fs init [.x (.base (.setPath 0)), .x (.base (.setInterp 1)), .x (.base (.get "H2O")), .objMode "H2O" 0,
                    .x (.base (.get "H2O")), .x (.base (.setInterp 1)), .x (.base (.get "H2O")), .gcInterp (some 0),
                    .x (.base (.get "H2O")), .x (.base (.setInterp 0)), .x (.base (.get "H2O"))]
      = [.done, .done, .served ⟨0, "H2O", 1, none, some 0⟩, .done, .served ⟨0, "H2O", 0, none, some 0⟩, .done,
         .served ⟨1, "H2O", 1, none, some 0⟩, .done, .served ⟨1, "H2O", 1, none, some 0⟩, .done,
         .served ⟨2, "H2O", 0, none, some 0⟩] := by
  decide +kernel

/-- `load_opacity(opacity_path = <another directory>, molecule_filter = [m'])` is the scan a lookup of `m'` makes in the
    CONFIGURED path, and leaves the configured path as it was: from a cache emptied under the configured path, across such a
    load and any later gets / adds (no path change), what is served from a file is the fresh load of the first matching file
    of the configured directory -/
theorem load_other_served_from_configured (fs : List Dir) (hc : consistent fs) (s : CSt) (c : COp) (hcl : c.clears = true)
    (p : Nat) (m' : String) (ops : List COp) (hops : ∀ op ∈ ops, ∀ q, op ≠ .setPath q) (m : String) (o : Obj)
    (h : (step fs (run fs (stepY fs (step fs s c).1 (.loadOther p m')).1 ops) (.get m)).2 = .served o)
    (hsrc : o.src ≠ none) :
    (stepY fs (step fs s c).1 (.loadOther p m')).1.path = (step fs s c).1.path ∧
    ∃ e, firstMatch (curFiles fs (run fs (stepY fs (step fs s c).1 (.loadOther p m')).1 ops)) m = some e ∧
      o.src = some e.fileId := by
  constructor
  · show (step fs (step fs s c).1 (.get m')).1.path = _
    rcases step_get_state fs (step fs s c).1 m' with h1 | h1 <;> rw [h1]
    exact (loadFrom_le fs m' _).path
  · have hops' : ∀ op ∈ COp.get m' :: ops, ∀ q, op ≠ .setPath q := by
      intro op hop q
      rcases List.mem_cons.mp hop with rfl | hop
      · intro hh; cases hh
      · exact hops op hop q
    obtain ⟨e, hfm, hff⟩ := served_after_clear fs hc s c hcl (COp.get m' :: ops) hops' m o h hsrc
    exact ⟨e, hfm, hff.1⟩

/-- non-vacuity: the other directory (1) holds another H2O table; the load that names it takes H2O from the configured
    directory 0, and the path stays 0 -/
example :
    let fs : List Dir := [⟨true, [⟨.pickle, 0, "H2O", "H2O"⟩, ⟨.pickle, 1, "CO2", "CO2"⟩]⟩, ⟨true, [⟨.pickle, 2, "H2O", "H2O"⟩]⟩]
    traceY fs init [.x (.base (.setPath 0)), .loadOther 1 "H2O", .x (.base (.get "H2O")), .x (.base (.get "CO2"))]
      = [.done, .done, .served ⟨0, "H2O", 0, none, some 0⟩, .served ⟨1, "CO2", 0, none, some 1⟩] ∧
    (runY fs init [.x (.base (.setPath 0)), .loadOther 1 "H2O"]).path = some 0 := by
  decide +kernel

end Taurex.C14
