/-
  C07 — source tie.  `TaurexModel/Gen/SrcC07.lean` is regenerated on every run by `harness/translate.py` (dialect `py`,
  harness/translate_py.py) from the source text of taurex/optimizer/optimizer.py: the module-level `compile_params` and the
  methods of `Optimizer` that set up and apply a retrieval.  The theorems below state that each regenerated definition, run
  on the Python-object layout of a model state (`Proofs/C07SrcLemmas.lean`: `fpDict` = `obj.fittingParameters`, a dict of
  tuples `(name, latex, fget, fset, mode, to_fit, bounds)`; `entryTuple` = an element of `fitting_parameters`; getters and
  setters are handles `(owner, name)` into the world `St`), computes exactly what `TaurexModel/OptimizerSM.lean` — the state
  machine `driver_c07` executes and the C07 theorems are about — computes: the same new containers, the same exception class.
  Generic in the names `ν`, the LaTeX type `L` and the carrier `α` (no algebra: they also hold for `Float`).

  Instantiation of what the translated text leaves open (function parameters of the generated definitions):
    prior objects `ρ := Prior α`; `Uniform(bounds=b) := mkUniform b.1 b.2`; `LogUniform(lin_bounds=b) := mkLogUniformLin …`
    (`ValueError` where the model has `none`); `p.priorMode := modeCode p.mode`; `p.prior(x) := p.back x` — these are tied to
    taurex/core/priors.py by Props/C08Src.lean; `math.log10 := log10?` (`ValueError` unless `0 < x`);
    `fget() := callGet s h`, `fset(x) := callSet s h x` for a handle `h = (owner, name)`.
  Hypotheses `(names _).Nodup` / `(_.map (·.1)).Nodup`: the keys of a Python dict are pairwise distinct.

  Last section: the glue between an input file and the optimizer, taurex/parameter/parameterparser.py
  (`ParameterParser.generate_fitting_parameters`, `generate_derived_parameters`, `setup_optimizer`), translated with the
  dialect `dyn` (harness/translate_dyn.py: dynamically typed values `Dyn.Val`, ONE oracle for everything the text delegates
  to objects) and tied to `TaurexModel/FittingSection.lean` (`parseFitting`, `splitAll` + `deriveRecs`, `setupOptimizer`).
  The oracle `fext` (Proofs/C07SrcFitting.lean, read its header) says: `self._raw_config.dict()` is a dict `c` whose
  entries `Fitting` / `Derive` are the sections as typed by `ParameterParser.transform` (`SecAt`: present with these lines,
  or absent); `create_prior(v)` returns the prior `mk v` or raises `pexc` (both arbitrary); a method call on the optimizer
  with arguments of the documented shapes is ONE `step` of the state machine (the methods themselves are tied above).
  Generic in the carrier `α` and in the `BEq` of objects (never used: dict keys are strings).
-/
import Proofs.C07SrcLemmas
import Proofs.C07SrcStages
import TaurexModel.Ops.C07
set_option linter.unusedSectionVars false

namespace Taurex.C07Src
open Taurex.Priors Taurex.OptimizerSM Taurex.Gen Taurex.C07

section
variable {ν α L : Type} [DecidableEq ν] [Add α] [Sub α] [Mul α] [Div α] [Neg α] [LT α] [LE α]
  [DecidableLT α] [DecidableLE α] [Taurex.Transc α] [OfNat α 0]

/-- `Optimizer.enable_fit(parameter)` is `step s (.enableFit n)`: the two `fittingParameters` dicts afterwards and the
    exception (`KeyError` for an unknown name) are the model's -/
theorem src_enable_fit (lx : ν → L) (s : St ν α) (hm : (names s.model).Nodup) (ho : (names s.obs).Nodup) (n : ν) :
    Gen.SrcC07.Optimizer_enable_fit n (fpDict lx .model s.model) (fpDict lx .obs s.obs)
      = ((fpDict lx .model (step s (.enableFit n)).1.model, fpDict lx .obs (step s (.enableFit n)).1.obs),
         outE (step s (.enableFit n)).2) :=
  withParam_enc lx s n (fun p => { p with fit := true }) (fun _ => rfl) hm ho
    (fun v => (v.1, v.2.1, v.2.2.1, v.2.2.2.1, v.2.2.2.2.1, true, v.2.2.2.2.2.2)) (fun _ _ _ => rfl)

/-- `Optimizer.disable_fit(parameter)` is `step s (.disableFit n)` -/
theorem src_disable_fit (lx : ν → L) (s : St ν α) (hm : (names s.model).Nodup) (ho : (names s.obs).Nodup) (n : ν) :
    Gen.SrcC07.Optimizer_disable_fit n (fpDict lx .model s.model) (fpDict lx .obs s.obs)
      = ((fpDict lx .model (step s (.disableFit n)).1.model, fpDict lx .obs (step s (.disableFit n)).1.obs),
         outE (step s (.disableFit n)).2) :=
  withParam_enc lx s n (fun p => { p with fit := false }) (fun _ => rfl) hm ho
    (fun v => (v.1, v.2.1, v.2.2.1, v.2.2.2.1, v.2.2.2.2.1, false, v.2.2.2.2.2.2)) (fun _ _ _ => rfl)

/-- `Optimizer.set_boundary(parameter, new_boundaries)` is `step s (.setBoundary n b0 b1)` -/
theorem src_set_boundary (lx : ν → L) (s : St ν α) (hm : (names s.model).Nodup) (ho : (names s.obs).Nodup) (n : ν)
    (b0 b1 : α) :
    Gen.SrcC07.Optimizer_set_boundary n (b0, b1) (fpDict lx .model s.model) (fpDict lx .obs s.obs)
      = ((fpDict lx .model (step s (.setBoundary n b0 b1)).1.model, fpDict lx .obs (step s (.setBoundary n b0 b1)).1.obs),
         outE (step s (.setBoundary n b0 b1)).2) :=
  withParam_enc lx s n (fun p => { p with b0 := b0, b1 := b1 }) (fun _ => rfl) hm ho
    (fun v => (v.1, v.2.1, v.2.2.1, v.2.2.2.1, v.2.2.2.2.1, v.2.2.2.2.2.1, (b0, b1))) (fun _ _ _ => rfl)

/-- `Optimizer.set_factor_boundary(parameter, factors)` is `step s (.setFactorBoundary n f0 f1)`; the getter of the stored
    tuple is called in the world `s` -/
theorem src_set_factor_boundary (lx : ν → L) (s : St ν α) (hm : (names s.model).Nodup) (ho : (names s.obs).Nodup) (n : ν)
    (f0 f1 : α) :
    Gen.SrcC07.Optimizer_set_factor_boundary n (f0, f1) callGet (fpDict lx .model s.model) (fpDict lx .obs s.obs) s
      = ((fpDict lx .model (step s (.setFactorBoundary n f0 f1)).1.model,
          fpDict lx .obs (step s (.setFactorBoundary n f0 f1)).1.obs), outE (step s (.setFactorBoundary n f0 f1)).2) :=
  withParam_enc lx s n (fun p => { p with b0 := f0 * p.value, b1 := f1 * p.value }) (fun _ => rfl) hm ho
    (fun v => (v.1, v.2.1, v.2.2.1, v.2.2.2.1, v.2.2.2.2.1, v.2.2.2.2.2.1,
               (f0 * callGet s v.2.2.1, f1 * callGet s v.2.2.1)))
    (fun o p hp => by
      have hn : p.name = n := by simpa using List.find?_some hp
      simp [tupleOf, callGet, hn, getValue_of_find s o n p hp])

/-- `Optimizer.set_mode(parameter, new_mode)` is `step s (.setMode n m)`: `KeyError` for an unknown name, else `ValueError`
    for a string that is neither 'log' nor 'linear' after lower-casing, else the tuple is stored with the lower-cased string -/
theorem src_set_mode (lx : ν → L) (s : St ν α) (hm : (names s.model).Nodup) (ho : (names s.obs).Nodup) (n : ν) (m : String) :
    Gen.SrcC07.Optimizer_set_mode n m (fpDict lx .model s.model) (fpDict lx .obs s.obs)
      = ((fpDict lx .model (step s (.setMode n m)).1.model, fpDict lx .obs (step s (.setMode n m)).1.obs),
         outE (step s (.setMode n m)).2) := by
  cases hp : parseMode m with
  | some md =>
    have hstep : step s (.setMode n m) = withParam s n (fun p => { p with mode := md }) := by
      simp only [step, hp, withParam]
    rw [hstep, ← withParam_enc lx s n (fun p => { p with mode := md }) (fun _ => rfl) hm ho
      (fun v => (v.1, v.2.1, v.2.2.1, v.2.2.2.1, modeStr md, v.2.2.2.2.2.1, v.2.2.2.2.2.2)) (fun _ _ _ => rfl)]
    unfold Gen.SrcC07.Optimizer_set_mode
    simp only [Py.lower, parseMode_some m md hp, modeStr_valid, Bool.not_true, Bool.false_eq_true, if_false]
  | none =>
    -- the mode test fails whatever tuple is found: after the look-up the code raises `ValueError`
    unfold Gen.SrcC07.Optimizer_set_mode
    simp only [Py.lower, parseMode_none m hp, Bool.not_false, if_true]
    rw [pick_rewrite (k := fun _ _ => ((fpDict lx .model s.model, fpDict lx .obs s.obs), Except.error Py.Err.valueError)),
      dget_fpDict, dget_fpDict]
    cases hmn : hasName s.model n with
    | true =>
      obtain ⟨p, hq, _⟩ := find?_of_any hmn
      simp [hq, step, ownerOf, hmn, table, hp, outE]
    | false =>
      rw [find?_none_of_any hmn]
      cases hon : hasName s.obs n with
      | true =>
        obtain ⟨p, hq, _⟩ := find?_of_any hon
        simp [hq, step, ownerOf, hmn, hon, table, hp, outE]
      | false =>
        rw [find?_none_of_any hon]
        simp [step, ownerOf, hmn, hon, table, outE]

/-- `Optimizer.set_prior(parameter, prior)` is `step s (.setPrior n p)`: `ValueError` for an unknown name, else the prior is
    stored in `_user_priors` and in `_fit_priors` -/
theorem src_set_prior (lx : ν → L) (s : St ν α) (n : ν) (p : Prior α) :
    Gen.SrcC07.Optimizer_set_prior n p s.fitPriors (fpDict lx .model s.model) (fpDict lx .obs s.obs) s.userPriors
      = (((step s (.setPrior n p)).1.userPriors, (step s (.setPrior n p)).1.fitPriors), outE (step s (.setPrior n p)).2) := by
  unfold Gen.SrcC07.Optimizer_set_prior
  simp only [dhas_owner, ← tset_eq, step]
  cases hasName (table s (ownerOf s n)) n <;> simp [outE]

/-- `set_prior` leaves both parameter tables (and everything else but the two prior dicts) as they are -/
theorem src_set_prior_frame (s : St ν α) (n : ν) (p : Prior α) :
    (step s (.setPrior n p)).1 = { s with userPriors := (step s (.setPrior n p)).1.userPriors,
                                          fitPriors := (step s (.setPrior n p)).1.fitPriors } := by
  simp only [step]
  cases hasName (table s (ownerOf s n)) n <;> rfl

/-- the common shape of `enable_derived` / `disable_derived` on the dict layout is the model's `withDerived` -/
theorem src_with_derived (lx : ν → L) (s : St ν α) (hm : (s.dmodel.map (·.name)).Nodup) (ho : (s.dobs.map (·.name)).Nodup)
    (n : ν) (c : Bool) :
    Py.caseE (Py.dgetE (if (if Py.dhas (dpDict lx .model s.dmodel) n then 0 else 1 : Nat) = 0
                      then dpDict lx .model s.dmodel else dpDict lx .obs s.dobs) n)
      (fun e => ((dpDict lx .model s.dmodel, dpDict lx .obs s.dobs), (Except.error e : Except Py.Err Unit)))
      (fun v =>
       ((if (if Py.dhas (dpDict lx .model s.dmodel) n then 0 else 1 : Nat) = 0
           then Py.dset (dpDict lx .model s.dmodel) n (v.1, v.2.1, v.2.2.1, c) else dpDict lx .model s.dmodel,
         if (if Py.dhas (dpDict lx .model s.dmodel) n then 0 else 1 : Nat) = 1
           then Py.dset (dpDict lx .obs s.dobs) n (v.1, v.2.1, v.2.2.1, c) else dpDict lx .obs s.dobs), Except.ok ()))
      = ((dpDict lx .model (withDerived s n c).1.dmodel, dpDict lx .obs (withDerived s n c).1.dobs),
         outE (withDerived s n c).2) := by
  rw [pick_rewrite (k := fun obj (v : T4 ν L) =>
    ((if obj = 0 then Py.dset (dpDict lx .model s.dmodel) n (v.1, v.2.1, v.2.2.1, c) else dpDict lx .model s.dmodel,
      if obj = 1 then Py.dset (dpDict lx .obs s.dobs) n (v.1, v.2.1, v.2.2.1, c) else dpDict lx .obs s.dobs), Except.ok ())),
    dget_dpDict, dget_dpDict]
  cases hmn : hasDerived s.dmodel n with
  | true =>
    obtain ⟨d, hd, _⟩ := find?_of_any hmn
    simp only [hd, Option.map_some, dtupleOf, if_true, Nat.zero_ne_one, if_false]
    rw [dset_dpDict lx .model n c s.dmodel d hm hd]
    simp [withDerived, hmn, outE]
  | false =>
    rw [find?_none_of_any hmn]
    cases hon : hasDerived s.dobs n with
    | true =>
      obtain ⟨d, hd, _⟩ := find?_of_any hon
      simp only [hd, Option.map_some, Option.map_none, dtupleOf, Nat.succ_ne_self, if_true, if_false]
      rw [dset_dpDict lx .obs n c s.dobs d ho hd]
      simp [withDerived, hmn, hon, outE]
    | false =>
      rw [find?_none_of_any hon]
      simp [withDerived, hmn, hon, outE]

/-- `Optimizer.enable_derived(parameter)` is `step s (.enableDerived n)` -/
theorem src_enable_derived (lx : ν → L) (s : St ν α) (hm : (s.dmodel.map (·.name)).Nodup) (ho : (s.dobs.map (·.name)).Nodup)
    (n : ν) :
    Gen.SrcC07.Optimizer_enable_derived n (dpDict lx .model s.dmodel) (dpDict lx .obs s.dobs)
      = ((dpDict lx .model (step s (.enableDerived n)).1.dmodel, dpDict lx .obs (step s (.enableDerived n)).1.dobs),
         outE (step s (.enableDerived n)).2) :=
  src_with_derived lx s hm ho n true

/-- `Optimizer.disable_derived(parameter)` is `step s (.disableDerived n)` -/
theorem src_disable_derived (lx : ν → L) (s : St ν α) (hm : (s.dmodel.map (·.name)).Nodup) (ho : (s.dobs.map (·.name)).Nodup)
    (n : ν) :
    Gen.SrcC07.Optimizer_disable_derived n (dpDict lx .model s.dmodel) (dpDict lx .obs s.dobs)
      = ((dpDict lx .model (step s (.disableDerived n)).1.dmodel, dpDict lx .obs (step s (.disableDerived n)).1.dobs),
         outE (step s (.disableDerived n)).2) :=
  src_with_derived lx s hm ho n false

/-- `Optimizer.derived_names` on the compiled derived tuples -/
theorem src_derived_names (lx : ν → L) (dm dob : List (Derived ν)) :
    Gen.SrcC07.Optimizer_derived_names (derivedTuples lx .model dm ++ derivedTuples lx .obs dob)
      = derivedOf dm ++ derivedOf dob := by
  simp [Gen.SrcC07.Optimizer_derived_names, derivedTuples_names]

/-- **`Optimizer.update_model(fit_params)` is `step s (.updateModel v)`**: `ValueError` for a vector of the wrong length
    (world untouched), else every setter of the compiled rows is called with `prior.prior(value)`, in order -/
theorem src_update_model (lx : ν → L) (s : St ν α) (v : List α) :
    Gen.SrcC07.Optimizer_update_model v callSet (s.compiled.map (entryTuple lx)) s.compiledPriors Prior.back s
      = ((step s (.updateModel v)).1, outE (step s (.updateModel v)).2) := by
  unfold Gen.SrcC07.Optimizer_update_model
  simp only [step, updateModel, List.length_map]
  by_cases h : v.length = s.compiled.length
  · simp only [h, decide_true, Bool.not_true, Bool.false_eq_true, if_false, ne_eq, not_true_eq_false]
    rw [foldl_update lx s.compiled s.compiledPriors v s]
    rfl
  · simp [h, outE]

/-- `Optimizer.fit_values` is `fitValues s` (`ValueError` of `math.log10` where the model has `none`), in any state whose
    compiled rows refer to existing parameters (`compiled_invariant` in Props/C07.lean: every state reached from a fresh
    optimizer) -/
theorem src_fit_values (lx : ν → L) (s : St ν α)
    (hex : ∀ e ∈ s.compiled, (getValue s e.owner e.name).isSome = true) :
    Gen.SrcC07.Optimizer_fit_values callGet (s.compiled.map (entryTuple lx)) s.compiledPriors mathLog10
        (fun p => modeCode p.mode) s = optE .valueError (fitValues s) :=
  mapE_fit_values lx s s.compiled s.compiledPriors hex

/-- `Optimizer.fit_boundaries` is `fitBoundaries s` -/
theorem src_fit_boundaries (lx : ν → L) (s : St ν α) :
    Gen.SrcC07.Optimizer_fit_boundaries (s.compiled.map (entryTuple lx)) s.compiledPriors mathLog10
        (fun p => modeCode p.mode) = optE .valueError (fitBoundaries s) :=
  mapE_fit_boundaries lx s.compiled s.compiledPriors

/-- **module-level `compile_params(fitparams, driveparams, fit_priors)`, success**: when the model's `compileTable` returns
    rows, the translated function returns exactly them — the compiled tuples, their priors, the prior dict with the default
    priors recorded, the derived tuples with the compute flag set — and leaves the in/out argument `fit_priors` equal to the
    returned dict (`_fit_priors = fit_priors or {}`: the SAME object) unless it was empty (then a fresh dict was filled and
    the argument stays empty) -/
theorem src_compile_params_ok (lx : ν → L) (o : Owner) (ps : List (Param ν α)) (ds : List (Derived ν)) (tbl : Table ν α)
    (r : List (Entry ν α) × List (Prior α) × Table ν α) (hc : compileTable o ps tbl = some r) :
    Gen.SrcC07.compile_params (fpDict lx o ps) (dpDict lx o ds) tbl logUniformLin uniformBounds
      = (if tbl.isEmpty then tbl else r.2.2,
         Except.ok (r.1.map (entryTuple lx), r.2.1, r.2.2, derivedTuples lx o ds)) := by
  rw [compile_params_once lx o ps ds tbl _ (forE_fitBody_some lx o ps _ r hc [] [])]
  simp

/-- **module-level `compile_params`, failure**: when `compileTable` is `none` (a log-mode parameter with a non-positive
    bound and no prior of its own), the translated function raises `ValueError`; a non-empty in/out dict has by then
    received the default priors `extra` built before the failure, all under names it did not have -/
theorem src_compile_params_error (lx : ν → L) (o : Owner) (ps : List (Param ν α)) (ds : List (Derived ν)) (tbl : Table ν α)
    (hc : compileTable o ps tbl = none) :
    ∃ extra, Gen.SrcC07.compile_params (fpDict lx o ps) (dpDict lx o ds) tbl logUniformLin uniformBounds
      = (if tbl.isEmpty then tbl else tbl ++ extra, Except.error Py.Err.valueError) ∧
      ∀ kv ∈ extra, tget tbl kv.1 = none := by
  obtain ⟨ae', ap', extra, hfor, hx⟩ := forE_fitBody_none lx o ps [] [] tbl hc
  exact ⟨extra, compile_params_once lx o ps ds tbl _ hfor, hx⟩

/-- `d.update(e)` where `d` is `e` itself or empty (the two aliasing cases of `_fit_priors = fit_priors or {}`) -/
theorem dupdate_alias (tbl t : Table ν α) (hn : (t.map (·.1)).Nodup) :
    Py.dupdate (if tbl.isEmpty then tbl else t) t = t := by
  by_cases he : tbl.isEmpty = true
  · have ht : tbl = [] := List.isEmpty_iff.1 he
    subst ht
    simpa using Py.dupdate_nil t hn
  · simp only [he, Bool.false_eq_true, if_false]
    exact Py.dupdate_self t hn

/-- **`Optimizer.compile_params()`, success, is `step s .compile`**: `_fit_priors`, `fitting_parameters`, `fitting_priors`
    afterwards are the model's `fitPriors`, `compiled` (as tuples), `compiledPriors`; `derived_parameters` are the tuples of
    the derived parameters with the compute flag, whose names are the model's `derivedCompiled` -/
theorem src_Optimizer_compile_params_ok (lx : ν → L) (s : St ν α) (hu : (s.userPriors.map (·.1)).Nodup)
    (hok : (step s .compile).2 = .ok) :
    Gen.SrcC07.Optimizer_compile_params logUniformLin uniformBounds (dpDict lx .model s.dmodel) (fpDict lx .model s.model)
        (dpDict lx .obs s.dobs) (fpDict lx .obs s.obs) s.userPriors
      = (((step s .compile).1.fitPriors, (step s .compile).1.compiled.map (entryTuple lx),
          (step s .compile).1.compiledPriors, derivedTuples lx .model s.dmodel ++ derivedTuples lx .obs s.dobs),
         Except.ok ()) ∧
    (derivedTuples lx .model s.dmodel ++ derivedTuples lx .obs s.dobs).map (·.1) = (step s .compile).1.derivedCompiled := by
  simp only [step, compile] at hok ⊢
  cases h1 : compileTable .model s.model s.userPriors with
  | none => simp [h1] at hok
  | some r1 =>
    obtain ⟨es, ps, t⟩ := r1
    simp only [h1] at hok ⊢
    cases h2 : compileTable .obs s.obs t with
    | none => simp [h2] at hok
    | some r2 =>
      obtain ⟨es', ps', t'⟩ := r2
      have hn1 := compileTable_nodup .model s.model _ _ h1 hu
      have hn2 := compileTable_nodup .obs s.obs _ _ h2 hn1
      refine ⟨?_, by simp [derivedTuples_names]⟩
      unfold Gen.SrcC07.Optimizer_compile_params
      simp only [src_compile_params_ok lx .model s.model s.dmodel s.userPriors _ h1, Py.caseE_ok,
        dupdate_alias s.userPriors t hn1, src_compile_params_ok lx .obs s.obs s.dobs t _ h2,
        dupdate_alias t t' hn2, List.map_append]

/-- **`Optimizer.compile_params()`, failure**: the exception is the model's (`ValueError`), `fitting_parameters`,
    `fitting_priors` and the names of `derived_parameters` are left as the model leaves them.  `_fit_priors` is the model's
    `fitPriors` PLUS the default priors `extra` the failing `compile_params` call had already stored through the shared
    dict (`_fit_priors = fit_priors or {}` is the caller's own dict when it is non-empty), all under names the model's table
    does not have: every look-up that succeeds in the model's table gives the same prior here.  (The model does not record
    these extra entries; they are dropped by the next `compile_params`, which starts from `_user_priors`.) -/
theorem src_Optimizer_compile_params_error (lx : ν → L) (s : St ν α) (hu : (s.userPriors.map (·.1)).Nodup)
    (herr : (step s .compile).2 ≠ .ok) :
    ∃ extra D,
      Gen.SrcC07.Optimizer_compile_params logUniformLin uniformBounds (dpDict lx .model s.dmodel) (fpDict lx .model s.model)
          (dpDict lx .obs s.dobs) (fpDict lx .obs s.obs) s.userPriors
        = (((step s .compile).1.fitPriors ++ extra, (step s .compile).1.compiled.map (entryTuple lx),
            (step s .compile).1.compiledPriors, D), outE (step s .compile).2) ∧
      D.map (·.1) = (step s .compile).1.derivedCompiled ∧
      ∀ kv ∈ extra, tget (step s .compile).1.fitPriors kv.1 = none := by
  simp only [step, compile] at herr ⊢
  cases h1 : compileTable .model s.model s.userPriors with
  | none =>
    obtain ⟨extra, hgen, hx⟩ := src_compile_params_error lx .model s.model s.dmodel s.userPriors h1
    refine ⟨if s.userPriors.isEmpty then [] else extra, [], ?_, rfl, ?_⟩
    · unfold Gen.SrcC07.Optimizer_compile_params
      simp only [hgen, Py.caseE_error, outE]
      by_cases he : s.userPriors.isEmpty = true <;> simp [he]
    · intro kv hkv
      by_cases he : s.userPriors.isEmpty = true
      · simp [he] at hkv
      · simp only [he, Bool.false_eq_true, if_false] at hkv
        exact hx kv hkv
  | some r1 =>
    obtain ⟨es, ps, t⟩ := r1
    simp only [h1] at herr ⊢
    have hn1 := compileTable_nodup .model s.model _ _ h1 hu
    cases h2 : compileTable .obs s.obs t with
    | some r2 => simp [h2] at herr
    | none =>
      obtain ⟨extra, hgen, hx⟩ := src_compile_params_error lx .obs s.obs s.dobs t h2
      refine ⟨if t.isEmpty then [] else extra, derivedTuples lx .model s.dmodel, ?_, derivedTuples_names lx .model s.dmodel, ?_⟩
      · unfold Gen.SrcC07.Optimizer_compile_params
        simp only [src_compile_params_ok lx .model s.model s.dmodel s.userPriors _ h1, Py.caseE_ok,
          dupdate_alias s.userPriors t hn1, hgen, Py.caseE_error, outE]
        by_cases he : t.isEmpty = true <;> simp [he]
      · intro kv hkv
        by_cases he : t.isEmpty = true
        · simp [he] at hkv
        · simp only [he, Bool.false_eq_true, if_false] at hkv
          exact hx kv hkv

/-- `compile_params` reads the two parameter tables, the derived tables and `_user_priors`, and assigns only the four
    attributes above: the model's step leaves everything else as it is -/
theorem src_Optimizer_compile_params_frame (s : St ν α) :
    (step s .compile).1 = { s with fitPriors := (step s .compile).1.fitPriors, compiled := (step s .compile).1.compiled,
                                   compiledPriors := (step s .compile).1.compiledPriors,
                                   derivedCompiled := (step s .compile).1.derivedCompiled } :=
  compile_eq s

/-- the five tuple-rewriting methods read and write nothing but the two `fittingParameters` dicts (and call a getter):
    the model's `withParam` step leaves every other component and every parameter VALUE (the world) as it is -/
theorem src_table_ops_frame (s : St ν α) (n : ν) (f : Param ν α → Param ν α) (hn : ∀ p, (f p).name = p.name)
    (hv : ∀ p, (f p).value = p.value) :
    (withParam s n f).1 = { s with model := (withParam s n f).1.model, obs := (withParam s n f).1.obs } ∧
    ∀ o m, getValue (withParam s n f).1 o m = getValue s o m := by
  have key : ∀ (ps : List (Param ν α)) (m : ν),
      ((modifyParam ps n f).find? (fun p => decide (p.name = m))).map (·.value)
        = (ps.find? (fun p => decide (p.name = m))).map (·.value) := by
    intro ps m
    rw [find?_modifyParam ps n m f hn, Option.map_map]
    congr 1
    funext p
    by_cases h : p.name = n <;> simp [h, hv]
  unfold withParam
  by_cases hh : hasName (table s (ownerOf s n)) n = true
  · simp only [hh, if_true]
    cases ownerOf s n
    · exact ⟨rfl, fun o m => by cases o <;> simp [getValue, table, setTable, key]⟩
    · exact ⟨rfl, fun o m => by cases o <;> simp [getValue, table, setTable, key]⟩
  · simp [hh]

end

section
variable {α L : Type} [Add α] [Sub α] [Mul α] [Div α] [Neg α] [LT α] [LE α]
  [DecidableLT α] [DecidableLE α] [Taurex.Transc α] [OfNat α 0]

/-- `Optimizer.fit_names` (names are strings here: `'log_{}'.format(name)`) is `fitNames s` rendered by the driver's
    `fName`; `KeyError` of `_fit_priors[name]` where the model has `none` -/
theorem src_fit_names (lx : String → L) (s : St String α) :
    Gen.SrcC07.Optimizer_fit_names s.fitPriors (s.compiled.map (entryTuple lx)) (fun p => modeCode p.mode)
      = optE .keyError ((fitNames s).map (List.map Taurex.Ops.C07.fName)) := by
  unfold Gen.SrcC07.Optimizer_fit_names fitNames
  generalize s.compiled = es
  induction es with
  | nil => simp [fitNamesAux, optE]
  | cons e es ih =>
    rw [List.map_cons, Py.mapE_cons, ih]
    simp only [fitNamesAux, entryTuple, Py.dgetE, ← tget_eq]
    cases hg : tget s.fitPriors e.name with
    | none => simp [optE]
    | some p =>
      cases fitNamesAux s.fitPriors es <;> cases hm : p.mode <;> simp [optE, modeCode, Taurex.Ops.C07.fName, hm]

end

/-! ### taurex/parameter/parameterparser.py: `[Fitting]` / `[Derive]` sections -> optimizer calls (dialect `dyn`) -/

section
open Taurex.FittingSection Taurex.Gen.Dyn
variable {α : Type} [LT α] [DecidableLT α] [OfNat α 0] [Mul α] [Transc α] [BEq (FObj α)]

/-- **`ParameterParser.generate_fitting_parameters()` is `parseFitting`** (`FitOutcome`): where the model returns records,
    the translated function returns a dict with the same parameter names in the same order whose inner dicts hold under
    `fit` / `bounds` / `mode` / `factor` / `prior` what the records hold (`GrpSim`; options with any other name are stored in
    the dict and read by nobody); where the model has `valueError` (a key that is not `name:option`) it raises `ValueError`,
    where it has `priorError` it raises what `create_prior` raised; the optimizer state is untouched.  An absent section is
    an empty one. -/
theorem src_generate_fitting_parameters (mk : FV α → Option (Prior α)) (pexc : Exc) (c : List (FV α × FV α))
    (fitting : List (String × OptVal α)) (hF : SecAt c "Fitting" fitting) (s : St String α) :
    FitOutcome pexc s (parseFitting (fun v => mk (embV v)) fitting [])
      (Gen.SrcC07.generate_fitting_parameters (fext mk pexc (.dict c)) (.obj .self) s) := by
  unfold Gen.SrcC07.generate_fitting_parameters
  simp only [eff_bind, getAttr_raw, callMethod_dict, contains_str, dictHas_eq_isSome]
  rcases hF with hF | ⟨hF, hnil⟩
  · simp only [hF, Option.isSome_some, if_true, eff_bind, getItem_dict, hashable_str, eff_pure, m_items_dict]
    refine forM_parse _ pexc _ ?_ fitting [] [] s trivial
    intro D grp k v s hsim
    simp only [eff_bind, unpack2_tuple, m_split_colon]
    cases hk : splitKey k with
    | none =>
      rw [unpack2_parts_err _ _ _ _ (splitKey_none k hk)]
      simp only [lineStep, hk]
      exact rfl
    | some ab =>
      obtain ⟨a, b⟩ := ab
      rw [splitKey_some k a b hk]
      obtain ⟨d, hget, hrs, hset⟩ := grpSim_ensure D grp hsim a
      simp only [unpack2_parts_ok, contains_str, defaultsD] at hget hset ⊢
      simp only [ite_setItem, eqB_str, eff_pure]
      by_cases hb : b = "prior"
      · subst hb
        simp only [beq_self_eq_true, if_true, eff_bind, global_create_prior, call_create_prior, lineStep, hk,
          setOpt_prior]
        cases hmk : mk (embV v) with
        | none => exact rfl
        | some p =>
          simp only [Option.map_some, getItem_dict, hashable_str, hget, setItem_str]
          exact ⟨_, rfl, hset _ _ (recSim_set_prior d _ p hrs)⟩
      · have hb' : (b == "prior") = false := by simpa using hb
        obtain ⟨r', hr', hrs'⟩ := recSim_set_other (fun v => mk (embV v)) d _ a b v hrs hb
        simp only [hb', Bool.false_eq_true, if_false, eff_pure, getItem_dict, hashable_str, hget, setItem_str, lineStep, hk, hr']
        exact ⟨_, rfl, hset _ _ hrs'⟩
  · subst hnil
    simp [hF, parseFitting, FitOutcome, GrpSim]

/-- **`ParameterParser.generate_derived_parameters()` is `splitAll` + `deriveRecs`** (`DOutcome`): a dict with the same
    names in the same order whose inner dicts hold under `compute` what the model's records hold (`DSim`), or `ValueError`
    for a key that is not `name:option`; the optimizer state is untouched -/
theorem src_generate_derived_parameters (mk : FV α → Option (Prior α)) (pexc : Exc) (c : List (FV α × FV α))
    (derive : List (String × OptVal α)) (hD : SecAt c "Derive" derive) (s : St String α) :
    DOutcome s ((splitAll derive).map (fun dl => deriveRecs dl []))
      (Gen.SrcC07.generate_derived_parameters (fext mk pexc (.dict c)) (.obj .self) s) := by
  unfold Gen.SrcC07.generate_derived_parameters
  simp only [eff_bind, getAttr_raw, callMethod_dict, contains_str, dictHas_eq_isSome]
  rcases hD with hD | ⟨hD, hnil⟩
  · simp only [hD, Option.isSome_some, if_true, eff_bind, getItem_dict, hashable_str, eff_pure, m_items_dict]
    refine forM_derive _ ?_ derive [] [] s .nil
    intro D drecs k v s hsim
    simp only [eff_bind, unpack2_tuple, m_split_colon]
    cases hk : splitKey k with
    | none =>
      rw [unpack2_parts_err _ _ _ _ (splitKey_none k hk)]
      simp only [dlineStep, hk]
      exact rfl
    | some ab =>
      obtain ⟨a, b⟩ := ab
      rw [splitKey_some k a b hk]
      obtain ⟨d, hget, hset⟩ := dSim_line D drecs hsim a b v
      simp only [unpack2_parts_ok, contains_str, defaultsC] at hget hset ⊢
      simp only [ite_setItem, getItem_dict, hashable_str, hget, setItem_str, dlineStep, hk]
      exact ⟨_, rfl, hset⟩
  · subst hnil
    simp only [hD, Option.isSome_none, Bool.false_eq_true, if_false, splitAll, Option.map_some, deriveRecs, DOutcome,
      eff_pure]
    exact ⟨[], rfl, .nil⟩

/-- **`ParameterParser.setup_optimizer(optimizer)` is `setupOptimizer`**: the optimizer state afterwards is the model's,
    and the call returns `None` / raises the class the model's outcome stands for (`resV`: `KeyError`, `ValueError`, what
    `create_prior` raised).  Hypothesis `hsup`: no `bounds` / `factor` / `mode` value has a shape outside the documented
    ones (a pair of numbers / a string) — the model's `unsupported`, which the harness does not judge either. -/
theorem src_setup_optimizer (mk : FV α → Option (Prior α)) (pexc : Exc) (c : List (FV α × FV α))
    (fitting derive : List (String × OptVal α)) (hF : SecAt c "Fitting" fitting) (hD : SecAt c "Derive" derive)
    (s : St String α)
    (hsup : (setupOptimizer (fun v => mk (embV v)) s fitting derive).2.1 ≠ .unsupported) :
    Gen.SrcC07.setup_optimizer (fext mk pexc (.dict c)) (.obj .self) (.obj .optimizer) s
      = (resV pexc (setupOptimizer (fun v => mk (embV v)) s fitting derive).2.1,
         (setupOptimizer (fun v => mk (embV v)) s fitting derive).1) := by
  have hgen := src_generate_fitting_parameters mk pexc c fitting hF s
  unfold setupOptimizer at hsup ⊢
  unfold Gen.SrcC07.setup_optimizer
  rw [eff_bind]
  cases hp : parseFitting (fun v => mk (embV v)) fitting [] with
  | error e =>
    rw [fitOutcome_err hp hgen]
    rcases parseFitting_error _ _ _ _ hp with he | he <;> subst he <;> rfl
  | ok grp =>
    obtain ⟨D, hgD, hsim⟩ := fitOutcome_ok hp hgen
    rw [hgD]
    simp only [hp] at hsup ⊢
    cases hf : fittingOps grp with
    | none => simp [hf] at hsup
    | some fops =>
      simp only [hf] at hsup ⊢
      simp only [eff_bind, m_items_dict]
      generalize hR : Dyn.forM (m := FM α) _ _ _ s = R
      have key : R = (resU pexc (runStop s fops).2.1, (runStop s fops).1) := by
        rw [← hR]
        refine forM_fitOps pexc _ ?_ D grp fops hsim hf s
        intro n r d ops hrs hops
        obtain ⟨h1, h2, h3, h4, h5⟩ := hrs
        obtain ⟨b1, b2, b3⟩ := recOps_not_bad n r ops hops
        rw [recOps_eq n r ops hops]
        simp only [unpack2_fn, eff_pure_bind, getItem_dict, hashable_str, if_true, h1, h2, h3, h4, h5, truthy_embV_fn,
          truthy_embO_fn, callMethod_drop]
        refine runSim_append pexc _ _ _ _ (stage_fit mk pexc _ n r) ?_
        refine runSim_append pexc _ _ _ _ (stage_factor mk pexc _ n r.factor b1) ?_
        refine runSim_append pexc _ _ _ _ (stage_bounds mk pexc _ n r.bounds b2) ?_
        refine runSim_append pexc _ _ _ _ (stage_mode mk pexc _ n r.mode b3) ?_
        exact stage_prior mk pexc _ n r.prior
      rw [key]
      cases ho : (runStop s fops).2.1 with
      | ok =>
        simp only [resU]
        have hder := src_generate_derived_parameters mk pexc c derive hD (runStop s fops).1
        cases hsd : splitAll derive with
        | none =>
          rw [dOutcome_none (by simp [hsd]) hder]
          rfl
        | some dl =>
          obtain ⟨D', hgD', hsim'⟩ := dOutcome_some (by simp [hsd]; rfl) hder
          rw [hgD']
          simp only [m_items_dict]
          generalize hR' : Dyn.forM (m := FM α) _ _ _ (runStop s fops).1 = R'
          have key' : R' = (resU pexc (runStop (runStop s fops).1 (deriveOps (deriveRecs dl []))).2.1,
              (runStop (runStop s fops).1 (deriveOps (deriveRecs dl []))).1) := by
            rw [← hR']
            refine forM_deriveOps pexc _ ?_ D' _ hsim' _
            intro n cv d hc
            unfold CompSim at hc
            simp only [unpack2_fn, eff_pure_bind, getItem_dict, hashable_str, if_true, hc, callMethod_drop]
            exact stage_derive mk pexc _ n cv
          rw [key']
          cases (runStop (runStop s fops).1 (deriveOps (deriveRecs dl []))).2.1 <;> rfl
      | _ => simp only [resU, resV, ho]

/-- the two-section file `{'Fitting': fitting, 'Derive': derive}` (the value of `cfgOf fitting derive`) has these two sections -/
theorem secAt_cfgOf (fitting derive : List (String × OptVal α)) :
    SecAt (α := α) [(.str "Fitting", .dict (embSec fitting)), (.str "Derive", .dict (embSec derive))] "Fitting" fitting ∧
    SecAt (α := α) [(.str "Fitting", .dict (embSec fitting)), (.str "Derive", .dict (embSec derive))] "Derive" derive := by
  constructor <;> left <;> simp [dictGet?, beq_str]

end

end Taurex.C07Src
