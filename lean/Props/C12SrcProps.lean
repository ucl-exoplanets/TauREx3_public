/-
  C12 — the property theorems restated about the REGENERATED source.  `Props/C12Src.lean` proves that the definitions
  translated on every run from `Isothermal.profile`, `Rodgers2000.gen_covariance/correlate_temp/profile`, the node lists and
  `check_profile` of `NPoint`, `Guillot2010._check_values/profile` compute the model's `isothermal`, `genCovariance`,
  `correlateTemp`, `rodgers`, `NPointParams.tNodes/pNodes/rejected`, `GuillotParams.rejected`, `guillot`; `Props/C12.lean`
  proves the property about those.  The corollaries below compose the two: statements about the text of the code as
  regenerated, over ℝ.

  The source expressions (`srcIso`, `srcRodgers`, `srcNPointRaises`, `srcGuillot`, `srcNPoint`, `srcTempArray`) are
  instantiated exactly as the tie theorems instantiate them; the code's arrays are functions `Nat → ℝ`, `listOf n` cuts
  them to the `n` layers.  In `srcRodgers` the BLAS product `weights.dot(T)` is read as the left-to-right sum.
  `srcNPoint q nlayers pressure allEq` is the WHOLE `NPoint.profile` (node lists, `check_profile`, `np.interp` in log10 P =
  the model's `npInterp`, the `int(…)` window with `%`, `movingaverage`, border, slice store), with Python's `int()` on reals
  `pyIntR` (truncation toward zero) and int → float `toFloatR`.  `allEq` is the value of `np.all(Tnodes == Tnodes[0])` (False
  for a Python-float `T_surface`, element-wise for a numpy scalar): the restated theorems hold for BOTH values.
  `srcTempArray` covers both calling patterns (without / with pressure points); `interp1d` = `interp1dModel` (sorted nodes +
  `np.interp` + fill values).
  Hypotheses of the ties that stay visible: `hpow` (`T4 ** 0.25` read as `sqrt (sqrt T4)`), the constructor's
  `len(t_points) = len(p_points)`, `hw0` (the smoothing window is not negative, so `int(…)` of the window product is not); the tie's total-order hypothesis
  `hle` holds in ℝ.

  Restated only in part:
  * `guillot_rejects` / `guillot_positive` are restated layer by layer (the regenerated `profile` is point-wise in the
    pressure; the list length is a statement about the model's list only).
  Not restated (no translated counterpart): `scaler_between`, `scaler_positive_const`, `scaler_array_reads` (the `TempScaler`
  mixin) and the `section_*` theorems (the input-file route).
-/
import Props.C12
import Props.C12Src
set_option linter.unusedSectionVars false

namespace Taurex.C12SrcProps
open Taurex Taurex.NpInterp Taurex.Temperature Taurex.C12 Taurex.C12Src
open Taurex.C10Src (listOf listOf_length listOf_getD)
open Taurex.SeqSrc (outcomeOf outcomeOf_ok_iff pyIntR toFloatR pyIntR_nonneg toFloatR_nat pyIntR_half)

/-- the regenerated `Isothermal.profile`, `n` layers -/
noncomputable def srcIso (t : ℝ) (n : Nat) : List ℝ := listOf n (Gen.SrcC12.isothermal_profile t n)

/-- an `n × n` covariance array as rows -/
noncomputable def covOf (n : Nat) (C : Nat → Nat → ℝ) : List (List ℝ) := (List.range n).map (fun i => listOf n (C i))

/-- the regenerated `Rodgers2000.profile`, `n` layers -/
noncomputable def srcRodgers (n : Nat) (h : ℝ) (T p : Nat → ℝ) (uc : Option (Nat → Nat → ℝ)) : List ℝ :=
  listOf n (Gen.SrcC12.rodgers_profile T h uc (fun W x m i => sumL (listOf m (fun j => W i j * x j))) n n p)

/-- the regenerated `NPoint.check_profile(Pnodes, Tnodes)` on the node lists the regenerated `NPoint.profile` builds -/
noncomputable def srcNPointRaises (q : NPointParams ℝ) (pressure : List ℝ) : Bool :=
  Gen.SrcC12.npoint_check_profile
    (fun i => (Gen.SrcC12.npoint_nodes pressure.length q.pSurface q.pTop q.tSurface q.tTop q.pPoints
      (fun i => pressure.getD i 0) q.tPoints).2.getD i 0)
    (fun i => (Gen.SrcC12.npoint_nodes pressure.length q.pSurface q.pTop q.tSurface q.tTop q.pPoints
      (fun i => pressure.getD i 0) q.tPoints).1.getD i 0)
    (Gen.SrcC12.npoint_nodes pressure.length q.pSurface q.pTop q.tSurface q.tTop q.pPoints
      (fun i => pressure.getD i 0) q.tPoints).2.length q.limitSlope

/-- the regenerated `Guillot2010.profile` at one entry `p` of the pressure profile -/
noncomputable def srcGuillot (q : GuillotParams ℝ) (g c : ℝ) (expn rpow : ℝ → ℝ → ℝ) (p : ℝ) : Option ℝ :=
  Gen.SrcC12.guillot_profile q.tInt q.tIrr q.alpha c expn q.kappaIr q.kappaV1 q.kappaV2 g p rpow

theorem real_le_iff : ∀ a b : ℝ, a ≤ b ↔ ¬ b < a := fun _ _ => not_lt.symm

theorem listOf_forall (n : Nat) (f : Nat → ℝ) (P : ℝ → Prop) (h : ∀ i, i < n → P (f i)) : ∀ x ∈ listOf n f, P x :=
  C10Src.listOf_forall n f P h

theorem srcIso_eq (t : ℝ) (n : Nat) : srcIso t n = isothermal t n :=
  (C10Src.listOf_congr n _ _ (src_isothermal t n)).trans (C10Src.listOf_getD_self _ n (iso_const t n).1)

theorem srcRodgers_eq (n : Nat) (h : ℝ) (T p : Nat → ℝ) (uc : Option (Nat → Nat → ℝ)) :
    srcRodgers n h T p uc = rodgers (listOf n T) h (uc.map (covOf n)) (listOf n p) :=
  src_rodgers_profile n h T p uc

theorem srcNPointRaises_eq (q : NPointParams ℝ) (pressure : List ℝ) (h : q.tPoints.length = q.pPoints.length) :
    srcNPointRaises q pressure = q.rejected pressure := by
  unfold srcNPointRaises
  rw [src_npoint_nodes]
  exact src_npoint_rejected q pressure h

theorem srcGuillotCheck_eq (q : GuillotParams ℝ) :
    Gen.SrcC12.guillot_check_values q.tInt q.tIrr q.kappaIr q.kappaV1 q.kappaV2 = q.rejected :=
  src_guillot_check real_le_iff q

/-- Isothermal: one value per layer, all equal to the control temperature, about the regenerated `profile` -/
theorem src_iso_const (t : ℝ) (n : Nat) : (srcIso t n).length = n ∧ ∀ v ∈ srcIso t n, v = t := by
  rw [srcIso_eq]; exact iso_const t n

/-! ### NPoint -/

/-- the regenerated `NPoint.check_profile`, on the node lists the regenerated `NPoint.profile` builds, raises exactly when
    two consecutive pressure nodes are not strictly decreasing or a segment's slope |ΔT / Δlog10 P| reaches the limit -/
theorem src_npoint_rejects (q : NPointParams ℝ) (pressure : List ℝ) (h : q.tPoints.length = q.pPoints.length) :
    srcNPointRaises q pressure = true ↔
      (∃ i, ∃ _ : i + 1 < (q.pNodes pressure).length, (q.pNodes pressure)[i] ≤ (q.pNodes pressure)[i + 1]) ∨
      (∃ i, ∃ _ : i + 1 < (q.pNodes pressure).length, ∃ _ : i + 1 < q.tNodes.length,
        q.limitSlope ≤ |(q.tNodes[i + 1] - q.tNodes[i]) /
          (log10 (q.pNodes pressure)[i + 1] - log10 (q.pNodes pressure)[i])|) := by
  rw [srcNPointRaises_eq q pressure h, ← nPoint_invalid_iff q 0 pressure]
  exact npoint_rejects q 0 pressure

/-! ### NPoint: the whole regenerated `profile` -/

/-- the regenerated `NPoint.profile` (`allEq` = the value of `np.all(Tnodes == Tnodes[0])`) -/
noncomputable def srcNPoint (q : NPointParams ℝ) (nlayers : Nat) (pressure : List ℝ) (allEq : Bool) :
    Except String (List ℝ) :=
  Gen.SrcC12.npoint_profile q.pSurface q.pTop q.tSurface q.tTop allEq (fun x xp fp => npInterp xp fp x)
    q.limitSlope nlayers q.pPoints pressure pyIntR q.window q.tPoints toFloatR

/-- the tie, over ℝ: for a non-negative window and `np.all(Tnodes == Tnodes[0])` false the regenerated `profile` IS the
    model's `nPoint` -/
theorem srcNPoint_eq (q : NPointParams ℝ) (n : Nat) (pressure : List ℝ) (hlen : q.tPoints.length = q.pPoints.length)
    (hw0 : 0 ≤ q.window) :
    outcomeOf "InvalidTemperatureException" (srcNPoint q n pressure false) = nPoint q n pressure := by
  unfold srcNPoint
  refine src_npoint_profile q n pressure pyIntR toFloatR hlen toFloatR_nat ?_ pyIntR_half ?_
  · have : (0 : ℝ) ≤ ofNat' n * (q.window / 100) := by
      simp only [ofNat'_real]; positivity
    rw [pyIntR_nonneg this]; rfl
  · exact src_movingaverage _ _ (one_le_oddWindow n q.window) toFloatR toFloatR_nat

/-- the regenerated `profile` in the other reading of `np.all(Tnodes == Tnodes[0])`: a value exactly when the node check
    passes, and then the constant `1 * T_surface` -/
theorem srcNPoint_alleq (q : NPointParams ℝ) (n : Nat) (pressure prof : List ℝ)
    (hlen : q.tPoints.length = q.pPoints.length) (hok : srcNPoint q n pressure true = .ok prof) :
    q.rejected pressure = false ∧ prof = pressure.map (fun _ => 1 * q.tSurface) := by
  unfold srcNPoint at hok
  cases hr : q.rejected pressure
  · rw [src_npoint_profile_alleq q n pressure pyIntR toFloatR hlen hr] at hok
    exact ⟨rfl, (Except.ok.inj hok).symm⟩
  · rw [src_npoint_profile_invalid q n pressure pyIntR toFloatR true _ hlen hr] at hok
    exact absurd hok (by simp)

/-- NPoint with a smoothing window that is a percentage (0..100) never fails for any layer count: when the regenerated
    `check_profile` does not raise on the node lists, the regenerated `profile` returns exactly one value per layer — no
    ValueError at the border store, whatever `np.all(Tnodes == Tnodes[0])` evaluates to -/
theorem src_npoint_len (q : NPointParams ℝ) (n : Nat) (pressure : List ℝ) (allEq : Bool) (hn : n = pressure.length)
    (hlen : q.tPoints.length = q.pPoints.length) (hw0 : 0 ≤ q.window) (hw1 : q.window ≤ 100)
    (hv : srcNPointRaises q pressure = false) :
    ∃ prof, srcNPoint q n pressure allEq = .ok prof ∧ prof.length = n := by
  rw [srcNPointRaises_eq q pressure hlen] at hv
  cases allEq
  · obtain ⟨prof, hp, hl⟩ := npoint_len q n pressure hn hw0 hw1 hv
    rw [← srcNPoint_eq q n pressure hlen hw0, outcomeOf_ok_iff] at hp
    exact ⟨prof, hp, hl⟩
  · refine ⟨_, src_npoint_profile_alleq q n pressure pyIntR toFloatR hlen hv, ?_⟩
    simp [hn]

/-- the regenerated `NPoint.profile`, smoothing included, never leaves the range `[lo, hi]` spanned by its node
    temperatures (so positive nodes give a positive profile); guards as in `npoint_between`, non-negative window -/
theorem src_npoint_between (q : NPointParams ℝ) (n : Nat) (pressure prof : List ℝ) (allEq : Bool) (lo hi : ℝ)
    (hlen : q.tPoints.length = q.pPoints.length) (hw0 : 0 ≤ q.window)
    (hpos : 0 < resolveP q.pTop (pressure.getD (pressure.length - 1) 0))
    (hT : ∀ t ∈ q.tNodes, lo ≤ t ∧ t ≤ hi) (hok : srcNPoint q n pressure allEq = .ok prof) :
    ∀ t ∈ prof, lo ≤ t ∧ t ≤ hi := by
  cases allEq
  · have h := srcNPoint_eq q n pressure hlen hw0
    rw [hok] at h
    exact npoint_between q n pressure prof lo hi hlen hpos hT h.symm
  · obtain ⟨_, rfl⟩ := srcNPoint_alleq q n pressure prof hlen hok
    intro t ht
    simp only [List.mem_map] at ht
    obtain ⟨_, _, rfl⟩ := ht
    rw [one_mul]
    exact hT _ (by simp [NPointParams.tNodes])

/-- all node temperatures equal ⇒ the regenerated `NPoint.profile` is that constant -/
theorem src_npoint_const (q : NPointParams ℝ) (n : Nat) (pressure prof : List ℝ) (allEq : Bool) (c : ℝ)
    (hlen : q.tPoints.length = q.pPoints.length) (hw0 : 0 ≤ q.window)
    (hpos : 0 < resolveP q.pTop (pressure.getD (pressure.length - 1) 0))
    (hT : ∀ t ∈ q.tNodes, t = c) (hok : srcNPoint q n pressure allEq = .ok prof) : ∀ t ∈ prof, t = c := by
  intro t ht
  have := src_npoint_between q n pressure prof allEq c c hlen hw0 hpos
    (fun t ht => ⟨(hT t ht).ge, (hT t ht).le⟩) hok t ht
  exact le_antisymm this.2 this.1

/-! ### TemperatureArray -/

/-- the regenerated `TemperatureArray(tp_array, p_points, reverse)` followed by the regenerated `profile` -/
noncomputable def srcTempArray (tp : List ℝ) (pp : Option (List ℝ)) (rev : Bool) (n : Nat) (pressure : List ℝ) : List ℝ :=
  match pp with
  | none => Gen.SrcC12.temparray_profile_plain (fun x xp fp => npInterp xp fp x) (fun a b k => linspace a b k) n
      (Gen.SrcC12.temparray_init_plain tp rev)
  | some pts => Gen.SrcC12.temparray_profile_pressure
      (Gen.SrcC12.temparray_init_pressure tp pts rev interp1dModel).2.2
      (Gen.SrcC12.temparray_init_pressure tp pts rev interp1dModel).2.1 pressure

theorem srcTempArray_eq (tp : List ℝ) (pp : Option (List ℝ)) (rev : Bool) (n : Nat) (pressure : List ℝ) :
    srcTempArray tp pp rev n pressure = tempArray tp pp rev n pressure := by
  cases pp with
  | none => exact src_temparray_plain tp rev n pressure
  | some pts => exact src_temparray_pressure tp pts rev n pressure

/-- TemperatureArray (both code paths, optional reversal), about the regenerated `__init__` + `profile`: one value per
    layer, inside the range of the tabulated temperatures -/
theorem src_array_between (tp : List ℝ) (pp : Option (List ℝ)) (rev : Bool) (n : Nat) (pressure : List ℝ)
    (lo hi : ℝ) (hne : 0 < tp.length) (hpp : ∀ pts, pp = some pts → 0 < pts.length)
    (hn : n = pressure.length) (hT : ∀ t ∈ tp, lo ≤ t ∧ t ≤ hi) :
    (srcTempArray tp pp rev n pressure).length = n ∧ ∀ t ∈ srcTempArray tp pp rev n pressure, lo ≤ t ∧ t ≤ hi := by
  rw [srcTempArray_eq]; exact array_between tp pp rev n pressure lo hi hne hpp hn hT

/-! ### Rodgers 2000 -/

/-- Rodgers 2000 with the default covariance: one value per layer, each inside the range of the layer temperatures,
    about the regenerated `profile` (`gen_covariance` + `correlate_temp`) -/
theorem src_rodgers_between (n : Nat) (h : ℝ) (T p : Nat → ℝ) (lo hi : ℝ) (hh : h ≠ 0)
    (hp : ∀ i, i < n → 0 < p i) (hT : ∀ i, i < n → lo ≤ T i ∧ T i ≤ hi) :
    (srcRodgers n h T p none).length = n ∧ ∀ t ∈ srcRodgers n h T p none, lo ≤ t ∧ t ≤ hi := by
  rw [srcRodgers_eq]
  have := rodgers_between (listOf n T) h (listOf n p) lo hi hh (listOf_forall n p _ hp)
    (by rw [listOf_length, listOf_length]) (listOf_forall n T _ hT)
  rwa [listOf_length] at this

/-- Rodgers: equal layer temperatures give a constant profile, about the regenerated `profile` -/
theorem src_rodgers_const (n : Nat) (h : ℝ) (T p : Nat → ℝ) (c : ℝ) (hh : h ≠ 0)
    (hp : ∀ i, i < n → 0 < p i) (hT : ∀ i, i < n → T i = c) :
    ∀ t ∈ srcRodgers n h T p none, t = c := by
  rw [srcRodgers_eq]
  exact rodgers_const (listOf n T) h (listOf n p) c hh (listOf_forall n p _ hp)
    (by rw [listOf_length, listOf_length]) (listOf_forall n T _ hT)

/-- Rodgers with a user covariance: row-normalised non-negative weights (row sums equal to the column sums the code
    divides by, e.g. any symmetric matrix) keep the regenerated `profile` inside the range of the layer temperatures -/
theorem src_rodgers_user_between (n : Nat) (h : ℝ) (T p : Nat → ℝ) (C : Nat → Nat → ℝ) (lo hi : ℝ)
    (hnn : ∀ i, i < n → ∀ j, j < n → 0 ≤ C i j)
    (hbal : ∀ i (h1 : i < (covOf n C).length) (h2 : i < (colSums (covOf n C)).length),
      (colSums (covOf n C))[i] = sumL (covOf n C)[i] ∧ 0 < sumL (covOf n C)[i])
    (hT : ∀ i, i < n → lo ≤ T i ∧ T i ≤ hi) :
    ∀ t ∈ srcRodgers n h T p (some C), lo ≤ t ∧ t ≤ hi := by
  rw [srcRodgers_eq]
  exact rodgers_user_between (listOf n T) h (covOf n C) (listOf n p) lo hi
    (List.forall_mem_map.2 fun i hi => listOf_forall n (C i) _ (hnn i (List.mem_range.1 hi)))
    (List.forall_mem_map.2 fun i _ => by rw [listOf_length, listOf_length]) hbal (listOf_forall n T _ hT)

/-! ### Guillot 2010 -/

theorem rejected_iff_invalid (q : GuillotParams ℝ) :
    q.rejected = true ↔ guillot q 0 [] [] [] = .invalid := by
  unfold guillot
  by_cases hr : q.rejected = true <;> simp [hr]

/-- the regenerated `_check_values` raises — and the regenerated `profile` raises instead of returning a value, for every
    layer — exactly for zero opacities (`kappa_ir = 0` or a zero `kappa_v`) or a negative irradiation / internal
    temperature; otherwise `profile` returns a value for every layer -/
theorem src_guillot_rejects (q : GuillotParams ℝ) (g c : ℝ) (expn rpow : ℝ → ℝ → ℝ)
    (hpow : ∀ x, rpow x c = sqrt (sqrt x)) (p : ℝ) :
    (Gen.SrcC12.guillot_check_values q.tInt q.tIrr q.kappaIr q.kappaV1 q.kappaV2 = true ↔
      q.kappaIr = 0 ∨ q.kappaV1 = 0 ∨ q.kappaV2 = 0 ∨ q.tIrr < 0 ∨ q.tInt < 0) ∧
    (srcGuillot q g c expn rpow p = none ↔
      q.kappaIr = 0 ∨ q.kappaV1 = 0 ∨ q.kappaV2 = 0 ∨ q.tIrr < 0 ∨ q.tInt < 0) ∧
    (¬ (q.kappaIr = 0 ∨ q.kappaV1 = 0 ∨ q.kappaV2 = 0 ∨ q.tIrr < 0 ∨ q.tInt < 0) →
      ∃ t, srcGuillot q g c expn rpow p = some t) := by
  have hcheck : Gen.SrcC12.guillot_check_values q.tInt q.tIrr q.kappaIr q.kappaV1 q.kappaV2 = true ↔
      q.kappaIr = 0 ∨ q.kappaV1 = 0 ∨ q.kappaV2 = 0 ∨ q.tIrr < 0 ∨ q.tInt < 0 := by
    rw [srcGuillotCheck_eq]; exact guillot_rejected_iff q
  -- all three statements are about the outcome of the check: `profile` returns `none` exactly when it raises
  simp only [← hcheck, srcGuillot, src_guillot_layer q g p c expn rpow hpow]
  cases Gen.SrcC12.guillot_check_values q.tInt q.tIrr q.kappaIr q.kappaV1 q.kappaV2 <;> simp

/-- **Guillot positivity**, about the regenerated `profile`: for positive opacities, non-negative temperatures not both
    zero, `0 ≤ alpha ≤ 1`, positive gravity, and ANY `expn(2, ·)` with the exponential-integral bounds
    `0 ≤ E2 x ≤ exp(-x)/(1+x)` on `x ≥ 0`, every layer of non-negative pressure gets a strictly positive temperature -/
theorem src_guillot_positive (q : GuillotParams ℝ) (g c : ℝ) (expn rpow : ℝ → ℝ → ℝ)
    (hpow : ∀ x, rpow x c = sqrt (sqrt x))
    (hE : ∀ x, 0 ≤ x → 0 ≤ expn 2 x ∧ expn 2 x ≤ Real.exp (-x) / (1 + x))
    (hg : 0 < g) (hk : 0 < q.kappaIr) (h1 : 0 < q.kappaV1) (h2 : 0 < q.kappaV2)
    (hirr : 0 ≤ q.tIrr) (hint : 0 ≤ q.tInt) (hpos : q.tIrr ≠ 0 ∨ q.tInt ≠ 0)
    (ha0 : 0 ≤ q.alpha) (ha1 : q.alpha ≤ 1) (p : ℝ) (hp : 0 ≤ p) :
    ∃ t, srcGuillot q g c expn rpow p = some t ∧ 0 < t := by
  obtain ⟨prof, hok, hl, hpt⟩ := guillot_positive q g [p] (expn 2) hE hg
    (by intro x hx; simp at hx; rw [hx]; exact hp) hk h1 h2 hirr hint hpos ha0 ha1
  have hm := src_guillot_profile real_le_iff q g c expn rpow hpow [p]
  rw [hok] at hm
  obtain ⟨_, hi⟩ := hm
  have h0 := hi 0 (by simp)
  simp only [List.getD_cons_zero] at h0
  refine ⟨prof.getD 0 0, h0, hpt _ ?_⟩
  have hlen : 0 < prof.length := by rw [hl]; simp
  rw [List.getD_eq_getElem?_getD, List.getElem?_eq_getElem hlen]
  exact List.getElem_mem hlen

end Taurex.C12SrcProps
