/-
  C06 — source tie.  `TaurexModel/Gen/SrcC06.lean` is regenerated on every run by `harness/translate.py` (dialect `obj`,
  harness/translate_obj.py) from the source text of taurex/optimizer/{optimizer,nestle,multinest,polychord}.py.  The theorems
  below state that each regenerated function is the hand-written model function of `TaurexModel/Likelihood.lean` that the C06
  theorems are about and that `driver_c06` executes.  All of them hold for EVERY carrier (no algebra: `rfl`, or structural
  induction over the lists where the source has a loop).

  How the pieces are instantiated (what the calling code passes):
  * the three log-likelihood closures read `sqrtpi = np.sqrt(2*np.pi)` from the enclosing `compute_fit` (the translation
    executes that assignment first), `np.pi` is the parameter `pi`, the float literal `0.5` the parameter `c0p5`
    (instantiated with the carrier's `1/2`, which is what the model writes);
  * `self.chisq_trans(...)` inside the closures is the parameter `chisq_trans` (any function `f`): the theorems show which
    list it receives — MultiNest / PolyChord copy the first `len(fitting_parameters)` entries of the cube.  The closures
    are tied twice: at any NaN-free carrier `α` (`src_*_loglike`), and at the NaN-aware carrier `Option α` of `chisq_trans`
    below (`src_*_loglike_nan`: a NaN chi-square gives a NaN log-likelihood through the closure's own `-… - 0.5*chi_t`;
    `src_loglike_nan` / `src_loglike_chain*`: closure ∘ regenerated `chisq_trans` = the model's `loglike`, NaN included);
  * `chisq_trans` itself: the binned forward model (`self._binner.bin_model(self._model.model(wngrid=obs_bins))[1]`) is the
    parameter `final_model`, whether evaluating it raises `InvalidModelException` the Bool parameter
    `raised_InvalidModelException`, `np.isnan` the parameter `isnan`, `np.nan` the parameter `np_nan`.  The model speaks
    about NaN entries (`Option α`, `Val α`), so the tie is stated at the carrier `Option α` with IEEE NaN-propagating
    arithmetic (`Proofs/C06SrcLemmas.lean`: `none` is NaN), `isnan = Option.isNone`, `np_nan = none`, and observation /
    errors that are numbers (`map some`).  `self.update_model(fit_params)` is not part of the value: it acts on the forward
    model, whose output is `final_model`; it is translated and tied separately (`src_update_model`);
  * the prior callbacks and `update_model` loop over `self.fitting_priors` / `self.fitting_parameters`: lists of abstract
    objects; `prior.sample(u)` / `prior.prior(v)` are function parameters, instantiated with the model's `Prior.sample` /
    `Prior.prior`.  Python raises `IndexError` for `theta[idx]` beyond the list, the translation reads `getD … 0` and
    `List.set` there: the theorems carry the guard `len(fitting_priors) ≤ len(theta)` the samplers guarantee;
  * `update_model` returns nothing: its translation is the log of its effects, one entry `(param, 3, v)` per call
    `fset(v)` of component 3 (`fset`) of the parameter tuple `param`; `none` is the `ValueError` for a length mismatch.
-/
import TaurexModel.Gen.SrcC06
import Proofs.C06SrcLemmas
import Proofs.ListCore
import Proofs.FoldCore
set_option linter.unusedSectionVars false
set_option linter.unusedVariables false

namespace Taurex.C06Src
open Taurex.Likelihood

section
variable {α : Type} [Add α] [Sub α] [Mul α] [Div α] [Neg α] [LT α] [LE α]
  [DecidableLT α] [DecidableLE α] [OfNat α 0] [OfNat α 1] [OfNat α 2] [Taurex.Transc α]

/-! ## the log-likelihood closures -/

/-- `nestle_loglike(params)` = `-np.sum(np.log(datastd*sqrtpi)) - 0.5*chisq_trans(params, data, datastd)` -/
theorem src_nestle_loglike (pi : α) (f : List α → List α → List α → α) (theta obs sig : List α) :
    Gen.SrcC06.nestle_loglike theta obs sig (c0p5 := 1 / 2) (chisq_trans := f) (pi := pi)
      = -(normTerm pi sig) - (1 / 2) * f theta obs sig := rfl

/-- `multinest_loglike(cube, ndim, nparams)`: the same expression on the first `len(fitting_parameters)` cube entries -/
theorem src_multinest_loglike (pi : α) (f : List α → List α → List α → α) (cube obs sig : List α) (nfit : Nat)
    (h : nfit ≤ cube.length) :
    Gen.SrcC06.multinest_loglike cube nfit (c0p5 := 1 / 2) (chisq_trans := f) (errorBar := sig) (pi := pi) (spectrum := obs)
      = -(normTerm pi sig) - (1 / 2) * f (cube.take nfit) obs sig := by
  rw [multinest_eq_nestle, map_getD_range _ _ h]
  rfl

/-- `polychord_loglike(cube)` returns `(loglike, [0.0])` -/
theorem src_polychord_loglike (pi : α) (f : List α → List α → List α → α) (cube obs sig : List α) (nfit : Nat)
    (h : nfit ≤ cube.length) :
    Gen.SrcC06.polychord_loglike cube obs sig nfit (c0p5 := 1 / 2) (chisq_trans := f) (pi := pi)
      = (-(normTerm pi sig) - (1 / 2) * f (cube.take nfit) obs sig, [0]) := by
  rw [polychord_eq_nestle, map_getD_range _ _ h]
  rfl

/-- the model's `loglike` is the translated closure applied to the chi-square the model computes (finite case; a NaN
    chi-square gives a NaN log-likelihood on both sides by IEEE propagation, which a NaN-free carrier cannot state) -/
theorem src_loglike (pi c : α) (obs sig theta : List α) (out : ModelOut α) (h : chisq obs sig out = .fin c) :
    loglike pi obs sig out
      = .fin (Gen.SrcC06.nestle_loglike theta obs sig (c0p5 := 1 / 2) (chisq_trans := fun _ _ _ => c) (pi := pi)) := by
  simp only [loglike, h]
  rfl

/-! ## chi-square -/

/-- `chisq_trans` on a model evaluation that succeeded, at the NaN-aware carrier: the model's `chisq` -/
theorem src_chisq (obs sig : List α) (m wn : List (Option α)) :
    Gen.SrcC06.chisq_trans (α := Option α) (datastd := sig.map some) (final_model := m) (isnan := Option.isNone)
        (np_nan := none) (raised_InvalidModelException := false) (spectrum := obs.map some) (wavenumberGrid := wn)
      = valOpt (chisq obs sig (.ok m)) := by
  simp only [Gen.SrcC06.chisq_trans, chisq, ← resid_eq, all_sq, valOpt_ite, Bool.false_eq_true, if_false]
  rw [show (0 : Option α) = some 0 from rfl, nansum_loop_eq]
  rfl

/-- `chisq_trans` when the forward model raises `InvalidModelException`: NaN -/
theorem src_chisq_invalid (obs sig : List α) (m wn : List (Option α)) :
    Gen.SrcC06.chisq_trans (α := Option α) (datastd := sig.map some) (final_model := m) (isnan := Option.isNone)
        (np_nan := none) (raised_InvalidModelException := true) (spectrum := obs.map some) (wavenumberGrid := wn)
      = valOpt (chisq obs sig .invalid) := rfl

/-! ## the log-likelihood closures at the NaN-aware carrier

The same regenerated closures, instantiated at `Option α` (`none` = NaN) with the NaN-propagating arithmetic of
`Proofs/C06SrcLemmas.lean` (the carrier `chisq_trans` is tied at): observation / error bars / `np.pi` / `0.5` are numbers
(`some`), `self.chisq_trans(...)` is any function into possibly-NaN values.  The result is NaN exactly when the chi-square
is, and otherwise the number of the NaN-free ties above. -/

/-- `nestle_loglike(params)` when `chisq_trans` may return NaN -/
theorem src_nestle_loglike_nan (pi : α) (f : List (Option α) → List (Option α) → List (Option α) → Option α)
    (theta : List (Option α)) (obs sig : List α) :
    Gen.SrcC06.nestle_loglike (α := Option α) theta (obs.map some) (sig.map some) (c0p5 := some (1 / 2))
        (chisq_trans := f) (pi := some pi)
      = (f theta (obs.map some) (sig.map some)).map (fun c => -(normTerm pi sig) - (1 / 2) * c) := by
  unfold Gen.SrcC06.nestle_loglike
  dsimp only
  rw [normTerm_some]
  exact loglike_nan _ _ _

/-- `multinest_loglike(cube, ndim, nparams)` when `chisq_trans` may return NaN -/
theorem src_multinest_loglike_nan (pi : α) (f : List (Option α) → List (Option α) → List (Option α) → Option α)
    (cube : List (Option α)) (obs sig : List α) (nfit : Nat) (h : nfit ≤ cube.length) :
    Gen.SrcC06.multinest_loglike (α := Option α) cube nfit (c0p5 := some (1 / 2)) (chisq_trans := f)
        (errorBar := sig.map some) (pi := some pi) (spectrum := obs.map some)
      = (f (cube.take nfit) (obs.map some) (sig.map some)).map (fun c => -(normTerm pi sig) - (1 / 2) * c) := by
  rw [multinest_eq_nestle, map_getD_range _ _ h, src_nestle_loglike_nan]

/-- `polychord_loglike(cube)` when `chisq_trans` may return NaN: `(loglike, [0.0])` -/
theorem src_polychord_loglike_nan (pi : α) (f : List (Option α) → List (Option α) → List (Option α) → Option α)
    (cube : List (Option α)) (obs sig : List α) (nfit : Nat) (h : nfit ≤ cube.length) :
    Gen.SrcC06.polychord_loglike (α := Option α) cube (obs.map some) (sig.map some) nfit (c0p5 := some (1 / 2))
        (chisq_trans := f) (pi := some pi)
      = ((f (cube.take nfit) (obs.map some) (sig.map some)).map (fun c => -(normTerm pi sig) - (1 / 2) * c),
          [some 0]) := by
  rw [polychord_eq_nestle, map_getD_range _ _ h, src_nestle_loglike_nan]
  rfl

/-- the model's `loglike`, finite or not, is the translated closure applied to the chi-square the model computes: a NaN
    chi-square gives a NaN log-likelihood by the closure's own arithmetic -/
theorem src_loglike_nan (pi : α) (obs sig : List α) (theta : List (Option α)) (out : ModelOut α) :
    valOpt (loglike pi obs sig out)
      = Gen.SrcC06.nestle_loglike (α := Option α) theta (obs.map some) (sig.map some) (c0p5 := some (1 / 2))
          (chisq_trans := fun _ _ _ => valOpt (chisq obs sig out)) (pi := some pi) := by
  rw [src_nestle_loglike_nan]
  unfold loglike
  cases chisq obs sig out <;> rfl

/-- the closure calling the regenerated `chisq_trans` (which reads `datastd` from its argument and the observed spectrum
    from `self._observed`), forward model succeeded with binned spectrum `m`: the model's `loglike` -/
theorem src_loglike_chain (pi : α) (obs sig : List α) (theta m wn : List (Option α)) :
    Gen.SrcC06.nestle_loglike (α := Option α) theta (obs.map some) (sig.map some) (c0p5 := some (1 / 2)) (pi := some pi)
        (chisq_trans := fun _ _ std => Gen.SrcC06.chisq_trans (α := Option α) (datastd := std) (final_model := m)
          (isnan := Option.isNone) (np_nan := none) (raised_InvalidModelException := false) (spectrum := obs.map some)
          (wavenumberGrid := wn))
      = valOpt (loglike pi obs sig (.ok m)) := by
  rw [src_nestle_loglike_nan, src_loglike_nan pi obs sig theta, src_nestle_loglike_nan, src_chisq]

/-- … and when the forward model raises `InvalidModelException`: NaN -/
theorem src_loglike_chain_invalid (pi : α) (obs sig : List α) (theta m wn : List (Option α)) :
    Gen.SrcC06.nestle_loglike (α := Option α) theta (obs.map some) (sig.map some) (c0p5 := some (1 / 2)) (pi := some pi)
        (chisq_trans := fun _ _ std => Gen.SrcC06.chisq_trans (α := Option α) (datastd := std) (final_model := m)
          (isnan := Option.isNone) (np_nan := none) (raised_InvalidModelException := true) (spectrum := obs.map some)
          (wavenumberGrid := wn))
      = none := by
  rw [src_nestle_loglike_nan]
  rfl

/-! ## the prior callbacks -/

/-- `nestle_uniform_prior(theta)` = `tuple(prior.sample(theta[idx]) for idx, prior in enumerate(fitting_priors))` -/
theorem src_nestle_prior (priors : List (Prior α)) (theta : List α) (h : priors.length = theta.length) :
    Gen.SrcC06.nestle_uniform_prior theta priors (sample := fun p u => p.sample u) = priorTransform priors theta := by
  unfold Gen.SrcC06.nestle_uniform_prior priorTransform
  dsimp only
  -- the loop appends `sample(theta[idx])` for `idx` in `range(len(priors))`: a `zipWith` with the first entries of `theta`
  rw [foldl_append_map (fun it : Prior α × Nat => it.1.sample (theta.getD it.2 0)), List.nil_append,
    List.zipIdx_eq_zip_range', List.zip, List.map_zipWith, List.range'_eq_map_range]
  simp only [Nat.zero_add, List.map_id']
  refine (List.zipWith_map_right (f := fun i => theta.getD i 0) (g := fun (p : Prior α) u => p.sample u)).symm.trans ?_
  rw [map_getD_range _ _ (Nat.le_of_eq h), h, List.take_length]

/-- `multinest_uniform_prior(cube, ndim, nparams)` overwrites the first `len(fitting_priors)` cube entries in place -/
theorem src_multinest_prior (priors : List (Prior α)) (cube : List α) (h : priors.length ≤ cube.length) :
    Gen.SrcC06.multinest_uniform_prior cube priors (sample := fun p u => p.sample u)
      = priorTransform priors cube ++ cube.drop priors.length := by
  unfold Gen.SrcC06.multinest_uniform_prior priorTransform
  have := enum_set (fun (p : Prior α) u => p.sample u) priors (fun c i => c.getD i 0) [] cube cube h h (by
    intro pre' i hp hi
    have hi' : i < cube.length := by omega
    simp only [List.length_nil, Nat.zero_add] at hp ⊢
    simp [List.getD, ← hp, List.getElem?_append_right])
  simpa using this

/-- `polychord_uniform_prior(hypercube)` fills `[0.0]*ndim`, `ndim = len(fitting_parameters)` -/
theorem src_polychord_prior {ρ : Type} (params : List ρ) (priors : List (Prior α)) (hyper : List α)
    (hp : params.length = priors.length) (h : priors.length = hyper.length) :
    Gen.SrcC06.polychord_uniform_prior hyper params priors (sample := fun p u => p.sample u)
      = priorTransform priors hyper := by
  unfold Gen.SrcC06.polychord_uniform_prior priorTransform
  have := enum_set (fun (p : Prior α) u => p.sample u) priors (fun _ i => hyper.getD i 0) []
    (List.replicate params.length 0) hyper (by simp [hp]) (by omega) (by
    intro pre' i _ _
    simp)
  simpa [hp] using this

/-! ## update_model -/

/-- `update_model(fit_params)`: one write per fitted parameter, through component 3 (`fset`) of its tuple, of
    `prior.prior(value)` with the prior and the value at the same position; `none` (ValueError) on a length mismatch -/
theorem src_update_model_log {ρ : Type} (params : List ρ) (priors : List (Prior α)) (vals : List α) :
    Gen.SrcC06.update_model vals params priors (prior := fun p v => p.prior v)
      = if vals.length = params.length
          then some ((List.zip vals (List.zip params priors)).map (fun t => (t.2.1, 3, t.2.2.prior t.1)))
          else none := by
  unfold Gen.SrcC06.update_model
  by_cases h : vals.length = params.length
  · simp only [h, decide_true, Bool.not_true, Bool.false_eq_true, if_false, if_true]
    rw [foldl_append_map (fun (t : α × ρ × Prior α) => (t.2.1, 3, t.2.2.prior t.1))]
    simp
  · simp [h]

/-- the values written, in order, are the model's `updateModel` (`fitting_parameters` and `fitting_priors` are built in
    parallel by `compile_params`: equal lengths) -/
theorem src_update_model {ρ : Type} (params : List ρ) (priors : List (Prior α)) (vals : List α)
    (hp : params.length = priors.length) :
    (Gen.SrcC06.update_model vals params priors (prior := fun p v => p.prior v)).map (List.map (fun e => e.2.2))
      = updateModel priors vals := by
  rw [src_update_model_log, updateModel, hp]
  split
  · rw [Option.map_some, List.map_map]
    exact congrArg some (map_zip3_values (fun p v => p.prior v) vals params priors hp)
  · rfl

/-- … and each value goes to the parameter at the same position -/
theorem src_update_model_targets {ρ : Type} (params : List ρ) (priors : List (Prior α)) (vals : List α)
    (hp : params.length = priors.length) (hv : vals.length = params.length) :
    (Gen.SrcC06.update_model vals params priors (prior := fun p v => p.prior v)).map (List.map (fun e => (e.1, e.2.1)))
      = some (params.map (fun q => (q, 3))) := by
  rw [src_update_model_log, if_pos hv, Option.map_some, List.map_map]
  exact congrArg some (map_zip3_params (fun q => (q, 3)) vals params priors hp hv)

end

end Taurex.C06Src
