/-
  C16 — source tie.  `TaurexModel/Gen/SrcC16.lean` is regenerated on every run by the `dyn` dialect of the source translator
  (`harness/translate_dyn.py`) from the source text of taurex/util/util.py (the recursive writer), taurex/output/hdf5.py
  (the HDF5 group methods), taurex/binning/{binner,fluxbinner,simplebinner,nativebinner}.py (the spectrum dictionaries),
  taurex/util/hdf5.py (the loaders: `load_generic_profile_from_hdf5`, the per-component loaders, `load_chemistry_from_hdf5`,
  `load_model_from_hdf5`, `taurex_hdf5_to_model`, `taurex_hdf5_to_observation`) and the component `write` methods of
  taurex/data/profiles/temperature/{tprofile,isothermal,guillot,npoint}.py, taurex/model/{model,simplemodel,transmission}.py,
  taurex/data/profiles/chemistry/{chemistry,taurexchemistry}.py, taurex/data/stellar/star.py, taurex/data/planet.py,
  taurex/data/profiles/pressure/pressureprofile.py, taurex/data/profiles/chemistry/gas/{gas,constantgas,twolayergas,
  twopointgas,powergas}.py, taurex/contributions/{contribution,cia,simpleclouds,flatmie}.py.  The regenerated definitions
  are dynamically typed Python (values `Dyn.Val`, exceptions `Dyn.Exc`, primitives of `TaurexModel/Gen/DynPrelude.lean`),
  polymorphic in the monad and in one oracle `ext` for what the code asks of numpy, h5py and the other objects.  The
  theorems below instantiate the oracle with the model's description of those objects (the worlds of
  `Proofs/C16SrcSpectrum.lean`, `Proofs/C16SrcStore.lean`, `Proofs/C16SrcLoad.lean`, `Proofs/C16SrcHdf5.lean`,
  `Proofs/C16SrcWrite.lean`; what the model leaves open is a field of the world, and the theorems hold for every value of
  it) and state that each regenerated function computes the hand-written function of `TaurexModel/Output.lean` that the C16
  theorems are about and `driver_c16` executes.  Three ties are not of that kind: the right-hand sides of
  `src_load_chemistry`, `src_load_model`, `src_hdf5_to_model` are `chemistrySpec` / `modelSpec` of
  `Proofs/C16SrcLoad.lean` — programs in the loader's monad written for these ties (which constructor is called with which
  `Output.loadKwargs`, which gases / contributions are added in which order), over the record `ModelFile` of what the
  file must hold; they are specifications of the loaders, not functions of the model, and the driver does not run them.
  A source change that alters one of these functions makes the corresponding theorem fail.
-/
import Proofs.C16SrcSpectrum
import Proofs.C16SrcLoad
import Proofs.C16SrcHdf5
import Proofs.C16SrcWrite
set_option linter.unusedSectionVars false
set_option linter.unusedVariables false

namespace Taurex.C16Src
open Taurex.Gen Taurex.Gen.Dyn
open Taurex.Output (Entry wlOfWn wnwidthToWlwidth computeBinEdges baseOutput spectrumOutput BinnerKind Value Node Arr
  ArrData Err OfInt toNdList stack stringList stringNode storeThing storeSeq storeEntries subKey isStr load loadKwargs
  scalarOf cellWidth utf8Size sCell writeArray writeComponent)

/-! ## spectrum dictionaries -/

section spectrum
variable {α : Type} [Add α] [Sub α] [Mul α] [Div α] [Neg α] [LT α] [DecidableLT α]
  [OfNat α 0] [OfNat α 2] [OfNat α 10000] [BEq α] [FloatLike α]

/-- **`Binner.generate_spectrum_output(model_output, output_size)`** is `Output.baseOutput`: the six native / binned
    entries in this order, `binned_tau` only for `output_size > OutputSize.lighter`, `native_tau` only if moreover
    `output_size > OutputSize.light`; `bd` / `bdTau` are what `self.bindown(wngrid, ·)[1]` returns (every binner). -/
theorem src_binner_gso (w : GWorld α) (grid width wn flux : List α) (tau : List (List α)) (n : Nat) :
    SrcC16.binner_gso w.ext (.obj (.binner grid width)) (modelOutput wn flux tau) (.obj (.size n))
      = .ok (embOut (baseOutput w.bd w.bdTau n wn flux tau)) := by
  unfold SrcC16.binner_gso
  simp only [modelOutput, unpack4_tuple, bind_ok, embOut_nil, setItem_vec, setItem_mat, g_div, g_bindown, g_bindownTau, g_second,
    g_last, g_fn, ne_eq, g_edges, g_sizeCls, g_lighter, g_light, g_gt, truthy_bool, pure_ok, keysOf_cons, keysOf_nil, List.nil_append,
    List.cons_append, List.mem_cons, List.not_mem_nil, String.reduceEq, or_false, not_false_eq_true]
  simp only [baseOutput, Output.sizeLighter, Output.sizeLight, decide_eq_true_eq]
  by_cases h1 : n > 1 <;> by_cases h3 : n > 3 <;> simp only [h1, h3, if_true, if_false] <;> rfl

/-- **`FluxBinner.generate_spectrum_output`**: the base dictionary plus the binner's own grid
    (`self._wngrid`, `self._wngrid_width`) — `Output.spectrumOutput .flux` -/
theorem src_fluxbinner_gso (w : GWorld α) (grid width wn flux : List α) (tau : List (List α)) (n : Nat) :
    SrcC16.fluxbinner_gso w.ext (.obj (.binner grid width)) (modelOutput wn flux tau) (.obj (.size n))
      = .ok (embOut (spectrumOutput .flux grid width w.bd w.bdTau n wn flux tau)) := by
  unfold SrcC16.fluxbinner_gso
  simp only [src_binner_gso, bind_ok, g_grid, g_width, true_or, g_div, g_fn, ne_eq, g_wlwidth, setItem_vec,
    keysOf_append, List.mem_append, not_mem_keysOf_baseOutput, keysOf_cons, keysOf_nil, List.append_assoc,
    List.cons_append, List.nil_append, List.mem_cons, List.not_mem_nil, String.reduceEq, or_self, not_false_eq_true]
  rfl

/-- **`SimpleBinner.generate_spectrum_output`** (`self._wngrid`, `self._wn_width`) — `Output.spectrumOutput .simple` -/
theorem src_simplebinner_gso (w : GWorld α) (grid width wn flux : List α) (tau : List (List α)) (n : Nat) :
    SrcC16.simplebinner_gso w.ext (.obj (.binner grid width)) (modelOutput wn flux tau) (.obj (.size n))
      = .ok (embOut (spectrumOutput .simple grid width w.bd w.bdTau n wn flux tau)) := by
  unfold SrcC16.simplebinner_gso
  simp only [src_binner_gso, bind_ok, g_grid, g_width, or_true, g_div, g_fn, ne_eq, g_wlwidth, setItem_vec,
    keysOf_append, List.mem_append, not_mem_keysOf_baseOutput, keysOf_cons, keysOf_nil, List.append_assoc,
    List.cons_append, List.nil_append, List.mem_cons, List.not_mem_nil, String.reduceEq, or_self, not_false_eq_true]
  rfl

/-- **`NativeBinner.generate_spectrum_output`**: its own dictionary (native grid, wavelength grid, spectrum; `native_tau`
    only for `output_size > OutputSize.light`) — `Output.spectrumOutput .native` -/
theorem src_nativebinner_gso (w : GWorld α) (grid width wn flux : List α) (tau : List (List α)) (n : Nat) :
    SrcC16.nativebinner_gso w.ext (modelOutput wn flux tau) (.obj (.size n))
      = .ok (embOut (spectrumOutput .native grid width w.bd w.bdTau n wn flux tau)) := by
  unfold SrcC16.nativebinner_gso
  simp only [modelOutput, unpack4_tuple, bind_ok, embOut_nil, setItem_vec, setItem_mat, g_div, g_sizeCls, g_light, g_gt, truthy_bool, pure_ok,
    keysOf_cons, keysOf_nil, List.nil_append, List.cons_append, List.mem_cons, List.not_mem_nil, String.reduceEq, or_false,
    not_false_eq_true]
  simp only [Output.spectrumOutput_native, Output.sizeLight, decide_eq_true_eq]
  by_cases h3 : n > 3 <;> simp only [h3, if_true, if_false] <;> rfl

end spectrum

/-! ## the recursive writer -/

section store
variable {α : Type} [OfInt α] [FloatLike α]

/-- **`store_thing(output, key, item)`** is `Output.storeThing`.  For every value `v` of the model's domain, every group
    (path `p`), every state `s` of the file and every fuel above the nesting depth of `v`: if the model stores `v` as the
    entries `es`, the regenerated writer returns `None` and has created exactly those entries, in that order, in that group
    (`flat p es` appended to the log: scalars by `write_scalar`, arrays by `write_array`, strings by `write_string`, a list
    / tuple with a string by `write_string_array`, a numeric list by `write_array(np.array(·))`, any other list as
    `key0, key1, …`, a dictionary as a new group filled recursively); if the model refuses `v`, the writer raises — a
    `TypeError` / `ValueError` for an unsupported type, an `AttributeError` for a string list with a non-string. -/
theorem store_thing_spec (w : SWorld α) (hw : SWorldOK w) :
    ∀ (fuel : Nat) (v : Value α), depth v < fuel → ∀ (p : List String) (key : String) (s : Log α),
      Outcome p s (storeThing key v) (Dyn.Val.none : SV α)
        (SrcC16.store_thing w.ext fuel (.obj (.group p)) (.str key) (embV w.enc v) s)
  | 0, v, h, _, _, _ => absurd h (Nat.not_lt_zero _)
  | fuel + 1, v, h, p, key, s => by
    have IH := store_thing_spec w hw fuel
    have hlist : ∀ l : List (Value α), depthL l < fuel → Outcome p s (storeThing key (.list l)) (Dyn.Val.none : SV α)
        (SrcC16.store_thing w.ext (fuel + 1) (.obj (.group p)) (.str key) (.list (embL w.enc l)) s) := by
      intro l hd
      obtain ⟨body, hb, heq⟩ := writer_list w hw fuel p key l
      rw [heq, Output.storeThing_list]
      split
      · cases stringList l with
        | none => exact ⟨_, s, rfl, rfl⟩
        | some strs => exact rfl
      · cases (toNdList l).bind stack with
        | some a => exact rfl
        | none => exact outcome_then _ (forM_seq w _ p key fuel (fun v hv k s => IH v hv p k s) body hb l 0 s hd)
    cases v with
    | int i => exact rfl
    | float x => exact rfl
    | bool b => exact rfl
    | array a => exact rfl
    | str t =>
      have hr : SrcC16.store_thing w.ext (fuel + 1) (.obj (.group p)) (.str key) (embV w.enc (.str t)) s
          = (.ok .none, s ++ [(p, key, .vstr (w.dec (w.enc t)))]) := rfl
      rw [hw.1] at hr
      exact hr
    | unsupported => exact ⟨_, _, rfl, Or.inl rfl⟩
    | list l => exact hlist l (by simp only [depth] at h; omega)
    | tuple l =>
      rw [embV, writer_tuple, Output.storeThing_tuple]
      exact hlist l (by simp only [depth] at h; omega)
    | dict d =>
      rw [embV, writer_dict, Output.storeThing_dict]
      exact outcome_group (outcome_then _ (recursively_save_spec w _ (p ++ [key]) fuel
        (fun v hv k s => IH v hv (p ++ [key]) k s) d _ (by simp only [depth] at h; omega)))

/-- a model value that is stored successfully: what `store_thing` returns and leaves in the file -/
theorem src_store_thing_ok (w : SWorld α) (hw : SWorldOK w) (fuel : Nat) (v : Value α) (hf : depth v < fuel)
    (p : List String) (key : String) (s : Log α) (es : List (String × Node α)) (hm : storeThing key v = .ok es) :
    SrcC16.store_thing w.ext fuel (.obj (.group p)) (.str key) (embV w.enc v) s = (.ok .none, s ++ flat p es) :=
  outcome_ok hm (store_thing_spec w hw fuel v hf p key s)

/-- **`recursively_save_dict_contents_to_output(output, dic)`** (with the regenerated `store_thing` as its callee) is
    `Output.storeEntries`: the entries of all items in order; an unsupported value surfaces as `ValueError`. -/
theorem src_recursively_save (w : SWorld α) (hw : SWorldOK w) (fuel : Nat) (d : List (String × Value α))
    (hf : depthD d < fuel) (q : List String) (s : Log α) :
    OutcomeR errOK' q s (storeEntries d) (Dyn.Val.none : SV α)
      (SrcC16.recursively_save w.ext (fun a b c => SrcC16.store_thing w.ext fuel a b c) (.obj (.group q))
        (.dict (embD w.enc d)) s) :=
  recursively_save_spec w _ q fuel (fun v hv k s => store_thing_spec w hw fuel v hv q k s) d s hf

end store

/-! ## the HDF5 group methods -/

section hdf5
variable {α : Type} [FloatLike α]

/-- **`HDF5OutputGroup.write_array(name, array)`** is `Output.writeArray`: an ndarray becomes the dataset `name`, a list of
    ndarrays the datasets `name0, name1, …` (the method calling itself for every element) -/
theorem src_write_array (w : HWorld α) (fuel : Nat) (p : List String) (name : String) (v : Value α)
    (es : List (String × Node α)) (hm : writeArray name v = some es) (s : Log α) :
    SrcC16.write_array w.ext (fuel + 2) (.obj (.grp p)) (.str name) (embA v) .none s
      = (.ok .none, s ++ es.map (fun e => (p, e.1, e.2))) := by
  cases v with
  | array a =>
    simp only [writeArray, Option.some.injEq] at hm
    subst hm
    exact write_array_leaf w (fuel + 1) p name a s
  | list l =>
    simp only [writeArray] at hm
    unfold SrcC16.write_array
    simp only [embA, Dyn.Val.isTy, ↓reduceIte, eff_bind, Dyn.enumerate_, iter_list, eff_pure]
    rw [forM_arrays w fuel p name _ (fun i x s => by
      simp [eff_bind, Dyn.unpack2, Dyn.unpack, Dyn.iter, format_key]) l 0 s es hm]
  | _ => simp [writeArray] at hm

/-- **`HDF5OutputGroup.write_string_array(name, strings)`** creates `Output.stringNode`: the cells are the UTF-8 encodings,
    the width is `max([64] + [len(cell) …])` = `Output.cellWidth`, the shape `(len(strings), 1)`, the type `S<width>` -/
theorem src_write_string_array (w : HWorld α) (hw : HWorldOK w) (p : List String) (name : String)
    (strs : List (List Nat)) (s : Log α) :
    SrcC16.write_string_array w.ext (.obj (.grp p)) (.str name) (.list (strs.map (fun c => .str (w.enc c)))) .none s
      = (.ok .none, s ++ [(p, name, stringNode strs)]) := by
  unfold SrcC16.write_string_array
  have henc := mapM_map_eff (fun n => Dyn.callMethodB w.ext n "encode" [(Dyn.Val.str "utf-8")] [])
    (fun c => (Dyn.Val.str (w.enc c) : HV α)) (fun c => .obj (.bytes c)) (h_encode w hw)
  have hlen := mapM_map_eff (fun n => Dyn.len w.ext n) (fun c => (Dyn.Val.obj (HObj.bytes c) : HV α))
    (fun c => .int (utf8Size c : Nat)) (h_len_bytes w)
  simp only [eff_bind, iter_list, eff_pure, henc, hlen, Dyn.add, List.singleton_append, h_width, h_entry,
    getAttr_obj, Dyn.str_, h_len_list, List.length_map, h_format_width, callMethod_obj, h_create_strings, truthy_none,
    Bool.false_eq_true, if_false]

end hdf5

/-! ## the component `write` methods -/

section write
variable {α : Type} [OfInt α] [FloatLike α]

/-- **`TemperatureProfile.write(output)`** creates the group `Temperature` and stores the class name under
    `temperature_type` -/
theorem src_tprofile_write (w : WWorld α) (hw : WWorldOK w) (c : List Nat) (attr : String → Option (Value α))
    (part : String → Option (SubComp α)) (q : List String) (s : Log α) :
    SrcC16.tprofile_write w.ext (.obj (.comp c attr part)) (.obj (.group q)) s
      = (.ok (.obj (.group (q ++ ["Temperature"]))),
         s ++ [(q, "Temperature", .group []), (q ++ ["Temperature"], "temperature_type", .vstr c)]) := by
  unfold SrcC16.tprofile_write
  simp only [emits_bind, eff_pure_bind, wf_group, wf_class, wf_name, wf_string w hw, eff_pure, List.append_assoc,
    List.cons_append,
    List.nil_append]

/-- **`Isothermal.write(output)`** stores exactly what the model's writer stores for
    `Output.writeComponent "temperature_type" <class> [("T", T)]` under `Temperature` (`T = self._iso_temp`) -/
theorem src_isothermal_write (w : WWorld α) (hw : WWorldOK w) (c : List Nat) (attr : String → Option (Value α))
    (part : String → Option (SubComp α)) (T : α) (hT : attr "_iso_temp" = some (.float T)) (q : List String) (s : Log α)
    (es : List (String × Node α))
    (hm : storeThing "Temperature" (writeComponent "temperature_type" c [("T", .float T)]) = .ok es) :
    SrcC16.isothermal_write w.ext (.obj (.comp c attr part)) (.obj (.group q)) s
      = (.ok (.obj (.group (q ++ ["Temperature"]))), s ++ flat q es) := by
  rw [flat_dict hm]
  unfold SrcC16.isothermal_write
  simp only [emits_of (src_tprofile_write w hw c attr part q), emits_bind, eff_pure_bind, wf_getattr, ne_eq,
    String.reduceEq, not_false_eq_true, wf_scalar, scalar_float, *,
    eff_pure, List.map_cons, List.map_nil, leafNode_str, List.append_assoc, List.cons_append,
    List.nil_append]

/-- **`Guillot2010.write(output)`**: the class name and the six parameters `T_irr, kappa_irr, kappa_v1, kappa_v2, alpha,
    T_int` (the attributes `T_irr, kappa_ir, kappa_v1, kappa_v2, alpha, T_int`) — what the model's writer stores for that
    `Output.writeComponent` -/
theorem src_guillot_write (w : WWorld α) (hw : WWorldOK w) (c : List Nat) (attr : String → Option (Value α))
    (part : String → Option (SubComp α)) (Tirr kir kv1 kv2 al Tint : α)
    (h1 : attr "T_irr" = some (.float Tirr)) (h2 : attr "kappa_ir" = some (.float kir))
    (h3 : attr "kappa_v1" = some (.float kv1)) (h4 : attr "kappa_v2" = some (.float kv2))
    (h5 : attr "alpha" = some (.float al)) (h6 : attr "T_int" = some (.float Tint))
    (q : List String) (s : Log α) (es : List (String × Node α))
    (hm : storeThing "Temperature" (writeComponent "temperature_type" c
      [("T_irr", .float Tirr), ("kappa_irr", .float kir), ("kappa_v1", .float kv1), ("kappa_v2", .float kv2),
       ("alpha", .float al), ("T_int", .float Tint)]) = .ok es) :
    SrcC16.guillot_write w.ext (.obj (.comp c attr part)) (.obj (.group q)) s
      = (.ok (.obj (.group (q ++ ["Temperature"]))), s ++ flat q es) := by
  rw [flat_dict hm]
  unfold SrcC16.guillot_write
  simp only [emits_of (src_tprofile_write w hw c attr part q), emits_bind, eff_pure_bind, wf_getattr, ne_eq,
    String.reduceEq, not_false_eq_true, wf_scalar, scalar_float, *,
    eff_pure, List.map_cons, List.map_nil, leafNode_str, List.append_assoc, List.cons_append,
    List.nil_append]

/-- **`NPoint.write(output)`**: surface / top temperature, the temperature points as an array (`np.array` of the list),
    surface / top pressure (`-1` when the attribute is `None` or zero: `orMinus1`), the pressure points as an array, the
    smoothing window and the slope limit — what the model's writer stores for that `Output.writeComponent` -/
theorem src_npoint_write (w : WWorld α) (hw : WWorldOK w) (c : List Nat) (attr : String → Option (Value α))
    (part : String → Option (SubComp α)) (Ts Tt ls : α) (tp pp : List α) (ps pt : Value α) (sw : Int)
    (hps : ps = .unsupported ∨ ∃ x, ps = .float x) (hpt : pt = .unsupported ∨ ∃ x, pt = .float x)
    (h1 : attr "_T_surface" = some (.float Ts)) (h2 : attr "_T_top" = some (.float Tt))
    (h3 : attr "_t_points" = some (.list (tp.map .float))) (h4 : attr "_P_surface" = some ps)
    (h5 : attr "_P_top" = some pt) (h6 : attr "_p_points" = some (.list (pp.map .float)))
    (h7 : attr "_smooth_window" = some (.int sw)) (h8 : attr "_limit_slope" = some (.float ls))
    (q : List String) (s : Log α) (es : List (String × Node α))
    (hm : storeThing "Temperature" (writeComponent "temperature_type" c
      [("T_surface", .float Ts), ("T_top", .float Tt), ("temperature_points", .array (arrOf tp)),
       ("P_surface", orMinus1 ps), ("P_top", orMinus1 pt), ("pressure_points", .array (arrOf pp)),
       ("smoothing_window", .int sw), ("limit_slope", .float ls)]) = .ok es) :
    SrcC16.npoint_write w.ext (.obj (.comp c attr part)) (.obj (.group q)) s
      = (.ok (.obj (.group (q ++ ["Temperature"]))), s ++ flat q es) := by
  obtain ⟨b1, ht1, he1⟩ := truthy_orMinus1 w ps hps
  obtain ⟨b2, ht2, he2⟩ := truthy_orMinus1 w pt hpt
  rw [flat_dict hm]
  unfold SrcC16.npoint_write
  simp only [emits_of (src_tprofile_write w hw c attr part q), emits_bind, emits_then, eff_pure_bind, wf_getattr,
    ne_eq, String.reduceEq, not_false_eq_true, wf_scalar, scalar_float, scalar_int, scalar_orMinus1,
    wf_np, wf_np_array w hw, wf_array, ite_pure, *, emits_run, List.map_cons, List.map_nil, leafNode_str, leafNode_array, List.append_assoc, List.cons_append,
    List.nil_append]

theorem forwardmodel_write_log (w : WWorld α) (hw : WWorldOK w) (c : List Nat) (attr : String → Option (Value α))
    (part : String → Option (SubComp α)) (cs : List (String × Value α)) (ha : attr "contribution_list" = none)
    (hp : part "contribution_list" = some (.many cs)) (ces : List (String × Node α)) (hcs : storeEntries cs = .ok ces)
    (q : List String) (s : Log α) :
    SrcC16.forwardmodel_write w.ext (.obj (.comp c attr part)) (.obj (.group q)) s
      = (.ok (.obj (.group (q ++ ["ModelParameters"]))),
         s ++ flat q [("ModelParameters", .group [("model_type", .vstr c), ("Contributions", .group ces)])]) := by
  unfold SrcC16.forwardmodel_write
  simp only [emits_bind, eff_pure_bind, wf_getattr, ne_eq, String.reduceEq, not_false_eq_true, wf_group, wf_class,
    wf_name, wf_string w hw, ha, hp, iter_list]
  rw [forM_subs w (q ++ ["ModelParameters"] ++ ["Contributions"]) _ (fun _ _ => rfl) cs ces hcs]
  simp only [emits_bind, eff_pure, flat, flatNode, List.append_assoc, List.cons_append, List.nil_append, List.append_nil]

/-- **`ForwardModel.write(output)`** creates the group `ModelParameters` with the class name under `model_type` and the
    group `Contributions` holding what every contribution's own `write` stores, in list order -/
theorem src_forwardmodel_write (w : WWorld α) (hw : WWorldOK w) (c : List Nat) (attr : String → Option (Value α))
    (part : String → Option (SubComp α)) (cs : List (String × Value α)) (ha : attr "contribution_list" = none)
    (hp : part "contribution_list" = some (.many cs)) (q : List String) (s : Log α) (es : List (String × Node α))
    (hm : storeThing "ModelParameters" (writeComponent "model_type" c [("Contributions", .dict cs)]) = .ok es) :
    SrcC16.forwardmodel_write w.ext (.obj (.comp c attr part)) (.obj (.group q)) s
      = (.ok (.obj (.group (q ++ ["ModelParameters"]))), s ++ flat q es) := by
  obtain ⟨ces, r, hces, hr, rfl⟩ := modelRecord_ok hm
  obtain rfl := Except.ok.inj hr
  exact forwardmodel_write_log w hw c attr part cs ha hp ces hces q s

theorem simplemodel_write_log (w : WWorld α) (hw : WWorldOK w) (c : List Nat) (attr : String → Option (Value α))
    (part : String → Option (SubComp α)) (cs : List (String × Value α)) (ha : attr "contribution_list" = none)
    (hp : part "contribution_list" = some (.many cs)) (chem temp press planet star : String × Value α)
    (hh : Held attr part chem temp press planet star) (ces : List (String × Node α)) (hcs : storeEntries cs = .ok ces)
    (subs : List (String × Node α)) (hsubs : storeEntries [chem, temp, press, planet, star] = .ok subs)
    (q : List String) (s : Log α) :
    SrcC16.simplemodel_write w.ext (.obj (.comp c attr part)) (.obj (.group q)) s
      = (.ok (.obj (.group (q ++ ["ModelParameters"]))),
         s ++ flat q [("ModelParameters", .group ([("model_type", .vstr c), ("Contributions", .group ces)] ++ subs))]) := by
  obtain ⟨e1, r1, h1, hr1, rfl⟩ := Output.storeEntries_cons_ok hsubs
  obtain ⟨e2, r2, h2, hr2, rfl⟩ := Output.storeEntries_cons_ok hr1
  obtain ⟨e3, r3, h3, hr3, rfl⟩ := Output.storeEntries_cons_ok hr2
  obtain ⟨e4, r4, h4, hr4, rfl⟩ := Output.storeEntries_cons_ok hr3
  obtain ⟨e5, r5, h5, hr5, rfl⟩ := Output.storeEntries_cons_ok hr4
  obtain rfl := Except.ok.inj hr5
  unfold SrcC16.simplemodel_write
  simp only [emits_bind, eff_pure_bind, wf_getattr, ne_eq, String.reduceEq, not_false_eq_true, wf_model,
    emits_of (forwardmodel_write_log w hw c attr part cs ha hp ces hcs q), hh.a1, hh.p1, hh.a2,
    hh.p2, hh.a3, hh.p3, hh.a4, hh.p4, hh.a5, hh.p5, wf_sub_write, h1, h2, h3, h4, h5, eff_pure, flat, flatNode,
    flat_append, List.append_assoc, List.cons_append, List.nil_append, List.append_nil]

/-- **`SimpleForwardModel.write(output)`**: runs the model, then `ForwardModel.write`, then the `write` of the chemistry,
    the temperature profile, the pressure profile, the planet and the star into the group `ModelParameters` -/
theorem src_simplemodel_write (w : WWorld α) (hw : WWorldOK w) (c : List Nat) (attr : String → Option (Value α))
    (part : String → Option (SubComp α)) (cs : List (String × Value α)) (ha : attr "contribution_list" = none)
    (hp : part "contribution_list" = some (.many cs)) (chem temp press planet star : String × Value α)
    (hh : Held attr part chem temp press planet star) (q : List String) (s : Log α) (es : List (String × Node α))
    (hm : storeThing "ModelParameters" (modelValue c cs chem temp press planet star []) = .ok es) :
    SrcC16.simplemodel_write w.ext (.obj (.comp c attr part)) (.obj (.group q)) s
      = (.ok (.obj (.group (q ++ ["ModelParameters"]))), s ++ flat q es) := by
  obtain ⟨ces, subs, ex, hces, hsubs, hex, rfl⟩ := modelValue_ok hm
  simp only [storeEntries, Except.ok.injEq] at hex
  subst hex
  rw [simplemodel_write_log w hw c attr part cs ha hp chem temp press planet star hh ces hces subs hsubs q s]
  simp

/-- **`TransmissionModel.write(output)`**: `SimpleForwardModel.write` plus the flag `new_path_method` -/
theorem src_transmission_write (w : WWorld α) (hw : WWorldOK w) (c : List Nat) (attr : String → Option (Value α))
    (part : String → Option (SubComp α)) (cs : List (String × Value α)) (ha : attr "contribution_list" = none)
    (hp : part "contribution_list" = some (.many cs)) (chem temp press planet star : String × Value α)
    (hh : Held attr part chem temp press planet star) (b : Bool) (hb : attr "new_method" = some (.bool b))
    (q : List String) (s : Log α) (es : List (String × Node α))
    (hm : storeThing "ModelParameters"
      (modelValue c cs chem temp press planet star [("new_path_method", .bool b)]) = .ok es) :
    SrcC16.transmission_write w.ext (.obj (.comp c attr part)) (.obj (.group q)) s
      = (.ok (.obj (.group (q ++ ["ModelParameters"]))), s ++ flat q es) := by
  obtain ⟨ces, subs, ex, hces, hsubs, hex, rfl⟩ := modelValue_ok hm
  simp [storeEntries, storeThing] at hex
  subst hex
  unfold SrcC16.transmission_write
  simp only [emits_bind, eff_pure_bind, wf_getattr, ne_eq, String.reduceEq, not_false_eq_true,
    emits_of (simplemodel_write_log w hw c attr part cs ha hp chem temp press planet star hh ces hces subs
      hsubs q), hb, wf_scalar, scalar_bool, eff_pure, leafNode_bool, flat, flatNode, flat_append, List.append_assoc, List.cons_append, List.nil_append, List.append_nil]

/-- **`Chemistry.write(output)`** creates the group `Chemistry`: the class name under `chemistry_type`, the active and the
    inactive gas names as fixed-width string arrays (`Output.stringNode`), and the condensates if there are any -/
theorem src_chemistry_write (w : WWorld α) (hw : WWorldOK w) (c : List Nat) (attr : String → Option (Value α))
    (part : String → Option (SubComp α)) (act inact : List (List Nat)) (cond : Option (List (List Nat)))
    (hc : ChemAttrs attr act inact cond) (q : List String) (s : Log α) :
    SrcC16.chemistry_write w.ext (.obj (.comp c attr part)) (.obj (.group q)) s
      = (.ok (.obj (.group (q ++ ["Chemistry"]))), s ++ flat q [("Chemistry", .group (chemEntries c act inact cond))]) := by
  unfold SrcC16.chemistry_write
  simp only [emits_bind, eff_pure_bind, wf_getattr, ne_eq, String.reduceEq, not_false_eq_true, wf_group, wf_class,
    wf_name, wf_string w hw, hc.act, hc.inact, hc.has, wf_string_array w hw, wf_truthy_bool]
  cases cond with
  | none => simp only [Option.isSome_none, Bool.false_eq_true, if_false, eff_pure_bind, eff_pure, chemEntries, flat,
    flatNode,
      stringNode, List.append_assoc, List.cons_append, List.nil_append, List.append_nil]
  | some cd => simp only [Option.isSome_some, if_true, emits_bind, emits_then, eff_pure_bind, hc.cond cd rfl,
    wf_string_array w hw, eff_pure, chemEntries,
      flat, flatNode, stringNode, List.append_assoc, List.cons_append, List.nil_append, List.append_nil]

/-- **`TaurexChemistry.write(output)`**: `Chemistry.write`, then the fill ratios as an array (`np.array(self._fill_ratio)`;
    `self._fill_gases` is the list of names the constructor leaves), the fill gas names, and what every gas profile's own
    `write` stores -/
theorem src_taurexchemistry_write (w : WWorld α) (hw : WWorldOK w) (c : List Nat) (attr : String → Option (Value α))
    (part : String → Option (SubComp α)) (act inact : List (List Nat)) (cond : Option (List (List Nat)))
    (hc : ChemAttrs attr act inact cond) (fg : List (List Nat)) (fr : List α) (gs : List (String × Value α))
    (hfg : attr "_fill_gases" = some (.list (fg.map .str))) (hfr : attr "_fill_ratio" = some (.list (fr.map .float)))
    (hga : attr "_gases" = none) (hgs : part "_gases" = some (.many gs)) (ges : List (String × Node α))
    (hges : storeEntries gs = .ok ges) (q : List String) (s : Log α) :
    SrcC16.taurexchemistry_write w.ext (.obj (.comp c attr part)) (.obj (.group q)) s
      = (.ok (.obj (.group (q ++ ["Chemistry"]))),
         s ++ flat q [("Chemistry", .group (chemEntries c act inact cond ++
            [("ratio", .num (arrOf fr)), ("fill_gases", stringNode fg)] ++ ges))]) := by
  unfold SrcC16.taurexchemistry_write
  simp only [emits_bind, emits_then, eff_pure_bind, wf_getattr, ne_eq, String.reduceEq, not_false_eq_true,
    emits_of (src_chemistry_write w hw c attr part act inact cond hc q), hfg, hfr, isTy_float_list, Bool.false_eq_true,
    if_false, wf_hasattr_len, truthy_bool, if_true, wf_np, wf_np_array w hw, wf_array, wf_string_array w hw, hga, hgs, iter_list]
  rw [forM_subs w (q ++ ["Chemistry"]) _ (fun _ _ => rfl) gs ges hges]
  simp only [emits_bind, eff_pure, flat, flatNode, flat_append, stringNode, List.append_assoc, List.cons_append,
    List.nil_append, List.append_nil]

/-! ### star, planet, pressure profile, gas profiles, contributions -/

/-- **`Star.write(output)`** (`BlackbodyStar` inherits it) creates the group `Star`: the class name under `star_type`, the
    temperature, radius and mass in solar units (`self._radius/RSOL`, `self._mass/MSOL`: `w.div` of the attribute and the
    module constant), distance, K magnitude, metallicity, the radius in metres, the spectral emission density as an array
    and the mass in kg — what the model's writer stores for that `Output.writeComponent` -/
theorem src_star_write (w : WWorld α) (hw : WWorldOK w) (c : List Nat) (attr : String → Option (Value α))
    (part : String → Option (SubComp α)) (T D mK met R : Value α) (r m rsol msol : α) (sed : Arr α)
    (hT : Scalar T) (hD : Scalar D) (hmK : Scalar mK) (hmet : Scalar met) (hR : Scalar R)
    (h1 : attr "temperature" = some T) (h2 : attr "_radius" = some (.float r)) (h3 : attr "distance" = some D)
    (h4 : attr "_mass" = some (.float m)) (h5 : attr "magnitudeK" = some mK) (h6 : attr "_metallicity" = some met)
    (h7 : attr "radius" = some R) (h8 : attr "spectralEmissionDensity" = some (.array sed))
    (hc1 : w.consts "RSOL" = some rsol) (hc2 : w.consts "MSOL" = some msol)
    (hz1 : FloatLike.isZero rsol = false) (hz2 : FloatLike.isZero msol = false)
    (q : List String) (s : Log α) (es : List (String × Node α))
    (hm : storeThing "Star" (writeComponent "star_type" c
      [("temperature", T), ("radius", .float (w.div r rsol)), ("distance", D), ("mass", .float (w.div m msol)),
       ("magnitudeK", mK), ("metallicity", met), ("radius_m", R), ("SED", .array sed), ("mass_kg", .float m)]) = .ok es) :
    SrcC16.star_write w.ext (.obj (.comp c attr part)) (.obj (.group q)) s
      = (.ok (.obj (.group (q ++ ["Star"]))), s ++ flat q es) := by
  rw [flat_dict hm]
  unfold SrcC16.star_write
  simp only [wf_group, wf_class, wf_name, wf_string w hw, emits_bind, eff_pure_bind, wf_getattr, ne_eq,
    String.reduceEq, not_false_eq_true, wf_scalar, scalar_float, wf_array, wf_const, wf_div, *,
    eff_pure, List.map_cons, List.map_nil, leafNode_str, leafNode_array, List.append_assoc, List.cons_append,
    List.nil_append]

/-- **`BasePlanet.write(output)`** (`Planet` inherits it): the class name, mass / radius / distance in Jupiter masses /
    Jupiter radii / AU (`self._mass/MJUP`, …: `w.div` of the attribute and the module constant), the impact parameter, the
    orbital period, albedo, transit time, then mass, radius and surface gravity in SI units — what the model's writer
    stores for that `Output.writeComponent` under `Planet` -/
theorem src_planet_write (w : WWorld α) (hw : WWorldOK w) (c : List Nat) (attr : String → Option (Value α))
    (part : String → Option (SubComp α)) (imp per alb tt M R g : Value α) (pm pr pd mjup rjup au : α)
    (himp : Scalar imp) (hper : Scalar per) (halb : Scalar alb) (htt : Scalar tt) (hM : Scalar M) (hR : Scalar R)
    (hg : Scalar g)
    (h1 : attr "_mass" = some (.float pm)) (h2 : attr "_radius" = some (.float pr))
    (h3 : attr "_distance" = some (.float pd)) (h4 : attr "_impact" = some imp) (h5 : attr "orbitalPeriod" = some per)
    (h6 : attr "albedo" = some alb) (h7 : attr "transitTime" = some tt) (h8 : attr "mass" = some M)
    (h9 : attr "radius" = some R) (h10 : attr "gravity" = some g)
    (hc1 : w.consts "MJUP" = some mjup) (hc2 : w.consts "RJUP" = some rjup) (hc3 : w.consts "AU" = some au)
    (hz1 : FloatLike.isZero mjup = false) (hz2 : FloatLike.isZero rjup = false) (hz3 : FloatLike.isZero au = false)
    (q : List String) (s : Log α) (es : List (String × Node α))
    (hm : storeThing "Planet" (writeComponent "planet_type" c
      [("planet_mass", .float (w.div pm mjup)), ("planet_radius", .float (w.div pr rjup)),
       ("planet_distance", .float (w.div pd au)), ("impact_param", imp), ("orbital_period", per), ("albedo", alb),
       ("transit_time", tt), ("mass_kg", M), ("radius_m", R), ("surface_gravity", g)]) = .ok es) :
    SrcC16.planet_write w.ext (.obj (.comp c attr part)) (.obj (.group q)) s
      = (.ok (.obj (.group (q ++ ["Planet"]))), s ++ flat q es) := by
  rw [flat_dict hm]
  unfold SrcC16.planet_write
  simp only [wf_group, wf_class, wf_name, wf_string w hw, emits_bind, eff_pure_bind, wf_getattr, ne_eq,
    String.reduceEq, not_false_eq_true, wf_scalar, scalar_float, wf_const, wf_div, *,
    eff_pure, List.map_cons, List.map_nil, leafNode_str, List.append_assoc, List.cons_append,
    List.nil_append]

theorem pressure_write_log (w : WWorld α) (hw : WWorldOK w) (c : List Nat) (attr : String → Option (Value α))
    (part : String → Option (SubComp α)) (nl : Value α) (prof : Arr α) (hnl : Scalar nl)
    (h1 : attr "_nlayers" = some nl) (h2 : attr "profile" = some (.array prof)) (q : List String) (s : Log α) :
    SrcC16.pressure_write w.ext (.obj (.comp c attr part)) (.obj (.group q)) s
      = (.ok (.obj (.group (q ++ ["Pressure"]))),
         s ++ [(q, "Pressure", .group []), (q ++ ["Pressure"], "pressure_type", .vstr c),
               (q ++ ["Pressure"], "nlayers", leafNode nl), (q ++ ["Pressure"], "profile", .num prof)]) := by
  unfold SrcC16.pressure_write
  simp only [emits_bind, eff_pure_bind, wf_getattr, ne_eq, String.reduceEq, not_false_eq_true, wf_group, wf_class,
    wf_name, wf_string w hw, wf_scalar, wf_array, *, eff_pure, List.append_assoc, List.cons_append,
    List.nil_append]

/-- **`PressureProfile.write(output)`** creates the group `Pressure`: the class name under `pressure_type`, the number of
    layers and the pressure profile as an array -/
theorem src_pressure_write (w : WWorld α) (hw : WWorldOK w) (c : List Nat) (attr : String → Option (Value α))
    (part : String → Option (SubComp α)) (nl : Value α) (prof : Arr α) (hnl : Scalar nl)
    (h1 : attr "_nlayers" = some nl) (h2 : attr "profile" = some (.array prof)) (q : List String) (s : Log α)
    (es : List (String × Node α))
    (hm : storeThing "Pressure" (writeComponent "pressure_type" c [("nlayers", nl), ("profile", .array prof)]) = .ok es) :
    SrcC16.pressure_write w.ext (.obj (.comp c attr part)) (.obj (.group q)) s
      = (.ok (.obj (.group (q ++ ["Pressure"]))), s ++ flat q es) := by
  rw [flat_dict hm, pressure_write_log w hw c attr part nl prof hnl h1 h2]
  rfl

/-- **`SimplePressureProfile.write(output)`**: `PressureProfile.write`, then the maximum and the minimum pressure under
    the constructor's names `atm_max_pressure`, `atm_min_pressure` -/
theorem src_simplepressure_write (w : WWorld α) (hw : WWorldOK w) (c : List Nat) (attr : String → Option (Value α))
    (part : String → Option (SubComp α)) (nl pmax pmin : Value α) (prof : Arr α) (hnl : Scalar nl) (hmax : Scalar pmax)
    (hmin : Scalar pmin) (h1 : attr "_nlayers" = some nl) (h2 : attr "profile" = some (.array prof))
    (h3 : attr "_atm_max_pressure" = some pmax) (h4 : attr "_atm_min_pressure" = some pmin)
    (q : List String) (s : Log α) (es : List (String × Node α))
    (hm : storeThing "Pressure" (writeComponent "pressure_type" c
      [("nlayers", nl), ("profile", .array prof), ("atm_max_pressure", pmax), ("atm_min_pressure", pmin)]) = .ok es) :
    SrcC16.simplepressure_write w.ext (.obj (.comp c attr part)) (.obj (.group q)) s
      = (.ok (.obj (.group (q ++ ["Pressure"]))), s ++ flat q es) := by
  rw [flat_dict hm]
  unfold SrcC16.simplepressure_write
  simp only [emits_of (pressure_write_log w hw c attr part nl prof hnl h1 h2 q), emits_bind, eff_pure_bind,
    wf_getattr, ne_eq, String.reduceEq, not_false_eq_true, wf_scalar, *,
    eff_pure, List.map_cons, List.map_nil, leafNode_str, leafNode_array, List.append_assoc, List.cons_append,
    List.nil_append]

theorem gas_write_log (w : WWorld α) (hw : WWorldOK w) (c : List Nat) (attr : String → Option (Value α))
    (part : String → Option (SubComp α)) (mol : List Nat) (h1 : attr "molecule" = some (.str mol))
    (h2 : attr "_molecule_name" = some (.str mol)) (q : List String) (s : Log α) :
    SrcC16.gas_write w.ext (.obj (.comp c attr part)) (.obj (.group q)) s
      = (.ok (.obj (.group (q ++ [w.enc mol]))),
         s ++ [(q, w.enc mol, .group []), (q ++ [w.enc mol], "gas_type", .vstr c),
               (q ++ [w.enc mol], "molecule_name", .vstr mol)]) := by
  unfold SrcC16.gas_write
  simp only [emits_bind, eff_pure_bind, wf_getattr, ne_eq, String.reduceEq, not_false_eq_true, embW_str, wf_group,
    wf_class, wf_name, wf_string w hw, *, eff_pure, List.append_assoc, List.cons_append,
    List.nil_append]

/-- **`Gas.write(output)`** creates a group named like the molecule (`self.molecule`, the property returning
    `self._molecule_name`) with the class name under `gas_type` and the molecule name -/
theorem src_gas_write (w : WWorld α) (hw : WWorldOK w) (c : List Nat) (attr : String → Option (Value α))
    (part : String → Option (SubComp α)) (mol : List Nat) (h1 : attr "molecule" = some (.str mol))
    (h2 : attr "_molecule_name" = some (.str mol)) (q : List String) (s : Log α) (es : List (String × Node α))
    (hm : storeThing (w.enc mol) (writeComponent "gas_type" c [("molecule_name", .str mol)]) = .ok es) :
    SrcC16.gas_write w.ext (.obj (.comp c attr part)) (.obj (.group q)) s
      = (.ok (.obj (.group (q ++ [w.enc mol]))), s ++ flat q es) := by
  rw [flat_dict hm, gas_write_log w hw c attr part mol h1 h2]
  rfl

/-- **`ConstantGas.write(output)`**: `Gas.write`, then the mixing ratio under the constructor's name `mix_ratio` -/
theorem src_constantgas_write (w : WWorld α) (hw : WWorldOK w) (c : List Nat) (attr : String → Option (Value α))
    (part : String → Option (SubComp α)) (mol : List Nat) (mr : Value α) (hmr : Scalar mr)
    (h1 : attr "molecule" = some (.str mol)) (h2 : attr "_molecule_name" = some (.str mol))
    (h3 : attr "_mix_ratio" = some mr) (q : List String) (s : Log α) (es : List (String × Node α))
    (hm : storeThing (w.enc mol) (writeComponent "gas_type" c [("molecule_name", .str mol), ("mix_ratio", mr)]) = .ok es) :
    SrcC16.constantgas_write w.ext (.obj (.comp c attr part)) (.obj (.group q)) s
      = (.ok (.obj (.group (q ++ [w.enc mol]))), s ++ flat q es) := by
  rw [flat_dict hm]
  unfold SrcC16.constantgas_write
  simp only [emits_of (gas_write_log w hw c attr part mol h1 h2 q), emits_bind, eff_pure_bind, wf_getattr, ne_eq,
    String.reduceEq, not_false_eq_true, wf_scalar, *,
    eff_pure, List.map_cons, List.map_nil, leafNode_str, List.append_assoc, List.cons_append,
    List.nil_append]

/-- **`TwoLayerGas.write(output)`**: `Gas.write`, then top / surface mixing ratio, the boundary pressure and the
    smoothing window under the constructor's names -/
theorem src_twolayergas_write (w : WWorld α) (hw : WWorldOK w) (c : List Nat) (attr : String → Option (Value α))
    (part : String → Option (SubComp α)) (mol : List Nat) (top surf P sm : Value α) (htop : Scalar top)
    (hsurf : Scalar surf) (hP : Scalar P) (hsm : Scalar sm)
    (h1 : attr "molecule" = some (.str mol)) (h2 : attr "_molecule_name" = some (.str mol))
    (h3 : attr "mixRatioTop" = some top) (h4 : attr "mixRatioSurface" = some surf)
    (h5 : attr "mixRatioPressure" = some P) (h6 : attr "mixRatioSmoothing" = some sm)
    (q : List String) (s : Log α) (es : List (String × Node α))
    (hm : storeThing (w.enc mol) (writeComponent "gas_type" c [("molecule_name", .str mol), ("mix_ratio_top", top),
      ("mix_ratio_surface", surf), ("mix_ratio_P", P), ("mix_ratio_smoothing", sm)]) = .ok es) :
    SrcC16.twolayergas_write w.ext (.obj (.comp c attr part)) (.obj (.group q)) s
      = (.ok (.obj (.group (q ++ [w.enc mol]))), s ++ flat q es) := by
  rw [flat_dict hm]
  unfold SrcC16.twolayergas_write
  simp only [emits_of (gas_write_log w hw c attr part mol h1 h2 q), emits_bind, eff_pure_bind, wf_getattr, ne_eq,
    String.reduceEq, not_false_eq_true, wf_scalar, *,
    eff_pure, List.map_cons, List.map_nil, leafNode_str, List.append_assoc, List.cons_append,
    List.nil_append]

/-- **`TwoPointGas.write(output)`**: `Gas.write`, then top / surface mixing ratio -/
theorem src_twopointgas_write (w : WWorld α) (hw : WWorldOK w) (c : List Nat) (attr : String → Option (Value α))
    (part : String → Option (SubComp α)) (mol : List Nat) (top surf : Value α) (htop : Scalar top) (hsurf : Scalar surf)
    (h1 : attr "molecule" = some (.str mol)) (h2 : attr "_molecule_name" = some (.str mol))
    (h3 : attr "mixRatioTop" = some top) (h4 : attr "mixRatioSurface" = some surf)
    (q : List String) (s : Log α) (es : List (String × Node α))
    (hm : storeThing (w.enc mol) (writeComponent "gas_type" c [("molecule_name", .str mol), ("mix_ratio_top", top),
      ("mix_ratio_surface", surf)]) = .ok es) :
    SrcC16.twopointgas_write w.ext (.obj (.comp c attr part)) (.obj (.group q)) s
      = (.ok (.obj (.group (q ++ [w.enc mol]))), s ++ flat q es) := by
  rw [flat_dict hm]
  unfold SrcC16.twopointgas_write
  simp only [emits_of (gas_write_log w hw c attr part mol h1 h2 q), emits_bind, eff_pure_bind, wf_getattr, ne_eq,
    String.reduceEq, not_false_eq_true, wf_scalar, *,
    eff_pure, List.map_cons, List.map_nil, leafNode_str, List.append_assoc, List.cons_append,
    List.nil_append]

/-- **`PowerGas.write(output)`**: `Gas.write`, the profile type, then those of `alpha`, `mix_ratio_surface`, `beta`,
    `gamma` that are not `None` (`present`; a coefficient left to the automatic profile is `None`), in that order -/
theorem src_powergas_write (w : WWorld α) (hw : WWorldOK w) (c : List Nat) (attr : String → Option (Value α))
    (part : String → Option (SubComp α)) (mol pt : List Nat) (al surf be ga : Value α)
    (hal : al = .unsupported ∨ Scalar al) (hsurf : surf = .unsupported ∨ Scalar surf)
    (hbe : be = .unsupported ∨ Scalar be) (hga : ga = .unsupported ∨ Scalar ga)
    (h1 : attr "molecule" = some (.str mol)) (h2 : attr "_molecule_name" = some (.str mol))
    (h3 : attr "_profile_type" = some (.str pt)) (h4 : attr "alpha" = some al) (h5 : attr "mixRatioSurface" = some surf)
    (h6 : attr "beta" = some be) (h7 : attr "gamma" = some ga)
    (q : List String) (s : Log α) (es : List (String × Node α))
    (hm : storeThing (w.enc mol) (writeComponent "gas_type" c ([("molecule_name", .str mol), ("profile_type", .str pt)] ++
      present [("alpha", al), ("mix_ratio_surface", surf), ("beta", be), ("gamma", ga)])) = .ok es) :
    SrcC16.powergas_write w.ext (.obj (.comp c attr part)) (.obj (.group q)) s
      = (.ok (.obj (.group (q ++ [w.enc mol]))), s ++ flat q es) := by
  have hopt : ∀ e ∈ [("alpha", al), ("mix_ratio_surface", surf), ("beta", be), ("gamma", ga)],
      e.2 = Value.unsupported ∨ Scalar e.2 := by
    simp only [List.forall_mem_cons, List.not_mem_nil, false_imp_iff, implies_true, and_self, *]
  rw [flat_dict hm (by
    simp only [List.cons_append, List.nil_append, List.forall_mem_cons, leaf_str, true_and]
    exact fun e he => leaf_scalar (present_leaves _ hopt e he))]
  unfold SrcC16.powergas_write
  simp only [emits_of (gas_write_log w hw c attr part mol h1 h2 q), emits_bind, eff_pure_bind, wf_getattr, ne_eq,
    String.reduceEq, not_false_eq_true, embW_str, wf_string w hw, h3, h4, h5, h6, h7, iter_tuple]
  rw [forM_present w (q ++ [w.enc mol]) _ ?hb _ _ ?hts hopt]
  case hb => exact fun _ _ => rfl
  case hts => rfl
  simp only [emits_bind, eff_pure, List.map_cons, leafNode_str, List.append_assoc, List.cons_append, List.nil_append]

theorem contribution_write_log (w : WWorld α) (c : List Nat) (attr : String → Option (Value α))
    (part : String → Option (SubComp α)) (q : List String) (s : Log α) :
    SrcC16.contribution_write w.ext (.obj (.comp c attr part)) (.obj (.group q)) s
      = (.ok (.obj (.group (q ++ [w.enc c]))), s ++ [(q, w.enc c, .group [])]) := by
  unfold SrcC16.contribution_write
  simp only [emits_bind, eff_pure_bind, wf_group, wf_class, wf_name, eff_pure]

/-- **`Contribution.write(output)`** (also `AbsorptionContribution` and `RayleighContribution`, which inherit it) creates
    an empty group named like the class: what the model's writer stores for the empty dictionary under that name -/
theorem src_contribution_write (w : WWorld α) (hw : WWorldOK w) (c : List Nat) (attr : String → Option (Value α))
    (part : String → Option (SubComp α)) (q : List String) (s : Log α) (es : List (String × Node α))
    (hm : storeThing (w.enc c) (.dict ([] : List (String × Value α))) = .ok es) :
    SrcC16.contribution_write w.ext (.obj (.comp c attr part)) (.obj (.group q)) s
      = (.ok (.obj (.group (q ++ [w.enc c]))), s ++ flat q es) := by
  rw [flat_dict hm, contribution_write_log]
  rfl

/-- **`SimpleCloudsContribution.write(output)`**: the group named like the class with the cloud-top pressure under the
    constructor's name `clouds_pressure` -/
theorem src_simpleclouds_write (w : WWorld α) (hw : WWorldOK w) (c : List Nat) (attr : String → Option (Value α))
    (part : String → Option (SubComp α)) (P : Value α) (hP : Scalar P) (h1 : attr "_cloud_pressure" = some P)
    (q : List String) (s : Log α) (es : List (String × Node α))
    (hm : storeThing (w.enc c) (.dict [("clouds_pressure", P)]) = .ok es) :
    SrcC16.simpleclouds_write w.ext (.obj (.comp c attr part)) (.obj (.group q)) s
      = (.ok (.obj (.group (q ++ [w.enc c]))), s ++ flat q es) := by
  rw [flat_dict hm]
  unfold SrcC16.simpleclouds_write
  simp only [emits_of (contribution_write_log w c attr part q), emits_bind, eff_pure_bind, wf_getattr, ne_eq,
    String.reduceEq, not_false_eq_true, wf_scalar, *,
    eff_pure, List.map_cons, List.map_nil, List.append_assoc, List.cons_append,
    List.nil_append]

/-- **`FlatMieContribution.write(output)`**: mixing ratio, bottom and top pressure under the constructor's names -/
theorem src_flatmie_write (w : WWorld α) (hw : WWorldOK w) (c : List Nat) (attr : String → Option (Value α))
    (part : String → Option (SubComp α)) (mix bot top : Value α) (hmix : Scalar mix) (hbot : Scalar bot)
    (htop : Scalar top) (h1 : attr "_mie_mix" = some mix) (h2 : attr "_mie_bottom_pressure" = some bot)
    (h3 : attr "_mie_top_pressure" = some top) (q : List String) (s : Log α) (es : List (String × Node α))
    (hm : storeThing (w.enc c) (.dict [("flat_mix_ratio", mix), ("flat_bottomP", bot), ("flat_topP", top)]) = .ok es) :
    SrcC16.flatmie_write w.ext (.obj (.comp c attr part)) (.obj (.group q)) s
      = (.ok (.obj (.group (q ++ [w.enc c]))), s ++ flat q es) := by
  rw [flat_dict hm]
  unfold SrcC16.flatmie_write
  simp only [emits_of (contribution_write_log w c attr part q), emits_bind, eff_pure_bind, wf_getattr, ne_eq,
    String.reduceEq, not_false_eq_true, wf_scalar, *,
    eff_pure, List.map_cons, List.map_nil, List.append_assoc, List.cons_append,
    List.nil_append]

/-- **`CIAContribution.write(output)`**: the group named like the class; the pair names as a fixed-width string array
    (`Output.stringNode`) if there are any — what the model's writer stores for that dictionary -/
theorem src_cia_write (w : WWorld α) (hw : WWorldOK w) (c : List Nat) (attr : String → Option (Value α))
    (part : String → Option (SubComp α)) (pairs : List (List Nat)) (h1 : attr "ciaPairs" = some (.list (pairs.map .str)))
    (q : List String) (s : Log α) (es : List (String × Node α))
    (hm : storeThing (w.enc c)
      (.dict (if pairs = [] then [] else [("cia_pairs", Value.list (pairs.map .str))])) = .ok es) :
    SrcC16.cia_write w.ext (.obj (.comp c attr part)) (.obj (.group q)) s
      = (.ok (.obj (.group (q ++ [w.enc c]))), s ++ flat q es) := by
  obtain rfl := Except.ok.inj ((Output.store_cia _ pairs).symm.trans hm)
  unfold SrcC16.cia_write
  simp only [emits_of (contribution_write_log w c attr part q), emits_bind, eff_pure_bind, wf_getattr, ne_eq,
    String.reduceEq, not_false_eq_true, h1, wf_len_pos]
  cases pairs with
  | nil => rfl
  | cons p ps =>
    simp only [List.isEmpty_map, List.isEmpty_cons, Bool.not_false, if_true, reduceCtorEq, if_false, emits_bind,
      emits_then,
      wf_string_array w hw, eff_pure, flat, flatNode, stringNode, List.append_assoc, List.cons_append, List.nil_append, List.append_nil]

end write

/-! ## the loader -/

section loader
variable {α : Type} [FloatLike α]

/-- **`decode_string_array(f)`** on an array of fixed-width byte strings: the list of its decoded cells —
    `Output.load (.sfix w rows)` -/
theorem src_decode_string_array (w : LWorld α) (wd : Nat) (rows : List (List Nat)) :
    SrcC16.decode_string_array w.ext (.obj (.sarr rows)) = pure (embLV w.enc (load (.sfix wd rows))) :=
  decode_string_array_sarr w wd rows

/-- **`get_klass_args(klass)`**: the names of the constructor parameters that have a default -/
theorem src_get_klass_args (w : LWorld α) (nm : List Nat) (kws : List String) :
    SrcC16.get_klass_args w.ext (.obj (.klass nm kws)) = pure (.list (kws.map .str)) :=
  get_klass_args_eq w nm kws

/-- **`load_generic_profile_from_hdf5(loc, module, identifier, profile_type, premade_dict)`** (no replacement dictionary)
    is the model's reload: the class is the one `class_for_name` finds for the type string (the stored one, or the
    `profile_type` the caller passes: `TypeFrom`), and it is called with the pre-made keyword arguments (`Premade`: none, or
    the caller's dictionary `pre`) followed by exactly `Output.loadKwargs` — for every constructor keyword, in the
    constructor's order, that is stored in the group: the stored entry read back and decoded as `Output.load` says
    (`decode_string_array` for fixed-width string arrays, `.decode()` for strings); keywords that are not stored are left
    to their defaults.  `hpk`: no stored constructor keyword is also pre-made (it would be overwritten in place). -/
theorem src_load_generic_profile_gen (w : LWorld α) (ch : List (String × Node α)) (identifier pt premade : LV α)
    (nm : List Nat) (kws : List String) (module : LV α) (pre : List (String × LV α))
    (hpt : TypeFrom w ch identifier pt nm) (hpm : Premade premade pre) (hk : w.klassOf nm = some kws)
    (hn : kws.Nodup) (hds : ∀ kw ∈ kws, ∀ n, ch.lookup kw = some n → isGroup n = false)
    (hpk : ∀ kw ∈ kws, (ch.lookup kw).isSome = true → kw ∉ pre.map (·.1)) :
    SrcC16.load_generic_profile w.ext (.obj (.h5 ch)) module identifier pt premade .none
      = w.call (.klass nm kws) [] (pre ++ embKwL w.enc (loadKwargs ch kws)) :=
  load_generic_profile_gen w ch identifier pt premade nm kws module pre hpt hpm ⟨hk, hn, hds⟩ hpk

/-- **`load_generic_profile_from_hdf5(loc, module, identifier)`** (no `profile_type`, no pre-made / replacement
    dictionary): the class of the stored type string called with exactly `Output.loadKwargs` -/
theorem src_load_generic_profile (w : LWorld α) (ch : List (String × Node α)) (typeKey : String) (nm : List Nat)
    (kws : List String) (module : LV α) (htype : ch.lookup typeKey = some (.vstr nm)) (hk : w.klassOf nm = some kws)
    (hn : kws.Nodup) (hds : ∀ kw ∈ kws, ∀ n, ch.lookup kw = some n → isGroup n = false) :
    SrcC16.load_generic_profile w.ext (.obj (.h5 ch)) module (.str typeKey) .none .none .none
      = w.call (.klass nm kws) [] (embKwL w.enc (loadKwargs ch kws)) := by
  have h := src_load_generic_profile_gen w ch (.str typeKey) .none .none nm kws module []
    (Or.inl ⟨rfl, typeKey, rfl, htype⟩) (Or.inl ⟨rfl, rfl⟩) hk hn hds (by simp)
  simpa using h

section
variable (w : LWorld α) (top ch : List (String × Node α)) (nm : List Nat) (kws : List String)

/-- **`load_temperature_from_hdf5(loc)`** reloads the group `Temperature` by its stored `temperature_type` -/
theorem src_load_temperature (htop : top.lookup "Temperature" = some (.group ch))
    (htype : ch.lookup "temperature_type" = some (.vstr nm)) (hr : Reloadable w ch nm kws) :
    SrcC16.load_temperature w.ext (.obj (.h5 top)) .none
      = w.call (.klass nm kws) [] (embKwL w.enc (loadKwargs ch kws)) :=
  load_in_group w top ch _ _ _ _ nm kws htop (Or.inl ⟨rfl, _, rfl, htype⟩) hr

/-- **`load_pressure_from_hdf5(loc)`** reloads the group `Pressure` by its stored `pressure_type` -/
theorem src_load_pressure (htop : top.lookup "Pressure" = some (.group ch))
    (htype : ch.lookup "pressure_type" = some (.vstr nm)) (hr : Reloadable w ch nm kws) :
    SrcC16.load_pressure w.ext (.obj (.h5 top)) .none
      = w.call (.klass nm kws) [] (embKwL w.enc (loadKwargs ch kws)) :=
  load_in_group w top ch _ _ _ _ nm kws htop (Or.inl ⟨rfl, _, rfl, htype⟩) hr

/-- **`load_star_from_hdf5(loc)`** reloads the group `Star` by its stored `star_type` -/
theorem src_load_star (htop : top.lookup "Star" = some (.group ch))
    (htype : ch.lookup "star_type" = some (.vstr nm)) (hr : Reloadable w ch nm kws) :
    SrcC16.load_star w.ext (.obj (.h5 top)) .none
      = w.call (.klass nm kws) [] (embKwL w.enc (loadKwargs ch kws)) :=
  load_in_group w top ch _ _ _ _ nm kws htop (Or.inl ⟨rfl, _, rfl, htype⟩) hr

/-- **`load_gas_from_hdf5(loc, molecule)`** reloads the group named like the molecule by its stored `gas_type` -/
theorem src_load_gas (mol : String) (htop : top.lookup mol = some (.group ch))
    (htype : ch.lookup "gas_type" = some (.vstr nm)) (hr : Reloadable w ch nm kws) :
    SrcC16.load_gas w.ext (.obj (.h5 top)) (.str mol) .none
      = w.call (.klass nm kws) [] (embKwL w.enc (loadKwargs ch kws)) :=
  load_in_group w top ch _ _ _ _ nm kws htop (Or.inl ⟨rfl, _, rfl, htype⟩) hr

/-- **`load_planet_from_hdf5(loc)`**: the class is always the one named `Planet` (the stored `planet_type` is not read) -/
theorem src_load_planet (htop : top.lookup "Planet" = some (.group ch)) (hnm : w.dec "Planet" = nm)
    (hr : Reloadable w ch nm kws) :
    SrcC16.load_planet w.ext (.obj (.h5 top)) .none
      = w.call (.klass nm kws) [] (embKwL w.enc (loadKwargs ch kws)) :=
  load_in_group w top ch _ _ _ _ nm kws htop (Or.inr ⟨_, rfl, hnm⟩) hr

/-- **`load_contrib_from_hdf5(loc, contribution)`**: the class is the one named like the group -/
theorem src_load_contrib (c : String) (htop : top.lookup c = some (.group ch)) (hnm : w.dec c = nm)
    (hr : Reloadable w ch nm kws) :
    SrcC16.load_contrib w.ext (.obj (.h5 top)) (.str c) .none
      = w.call (.klass nm kws) [] (embKwL w.enc (loadKwargs ch kws)) :=
  load_in_group w top ch _ _ _ _ nm kws htop (Or.inr ⟨_, rfl, hnm⟩) hr

end

/-! ### chemistry -/

/-- **`load_gas_from_hdf5(loc, molecule)`** on a chemistry group whose entry `molecule` is absent or a good gas group -/
theorem src_load_gas_total (w : LWorld α) (chem : List (String × Node α)) (mol : String) (hg : GasGood w chem mol) :
    SrcC16.load_gas w.ext (.obj (.h5 chem)) (.str mol) .none = gasCall w chem mol := by
  rcases hg with hl | ⟨gch, gnm, gkws, hl, ht, hr⟩
  · unfold SrcC16.load_gas gasCall
    simp only [getItem_h5, hl, eff_throw_bind]
  · rw [src_load_gas w chem gch gnm gkws mol hl ht hr]
    simp only [gasCall, hl, ht, hr.klass]

/-- `decode_string_array(f)` for anything that iterates as the rows of a fixed-width string array -/
theorem decode_rows (w : LWorld α) (o : LObj α) (rows : List (List Nat))
    (hi : w.ext.iter o = pure (rows.map (fun r => .obj (.srow r)))) :
    SrcC16.decode_string_array w.ext (.obj o) = pure (.list (rows.map (fun r => .str (w.enc r)))) :=
  decode_string_array_rows w o rows hi

/-- **`load_chemistry_from_hdf5(loc)`** is `chemistrySpec`: the group `Chemistry` reloaded by its stored
    `chemistry_type`; if the result is a `TaurexChemistry`, the gases named in `active_gases` and then in `inactive_gases`
    that are not among its `_fill_gases` are reloaded (`load_gas_from_hdf5`, i.e. `gasCall`) and added with `addGas`, in
    stored order -/
theorem src_load_chemistry (w : LWorld α) (top chem : List (String × Node α)) (nm : List Nat) (kws : List String)
    (wa wi : Nat) (act inact : List (List Nat))
    (htop : top.lookup "Chemistry" = some (.group chem))
    (htype : chem.lookup "chemistry_type" = some (.vstr nm)) (hr : Reloadable w chem nm kws)
    (hact : chem.lookup "active_gases" = some (.sfix wa act))
    (hinact : chem.lookup "inactive_gases" = some (.sfix wi inact))
    (hgas : ∀ r ∈ act ++ inact, GasGood w chem (w.enc r)) :
    SrcC16.load_chemistry w.ext (.obj (.h5 top)) .none = chemistrySpec w chem nm kws act inact := by
  unfold SrcC16.load_chemistry chemistrySpec
  simp only [getItem_group w top chem _ htop, eff_pure_bind,
    src_load_generic_profile w chem _ nm kws _ htype hr.klass hr.nodup hr.flat, l_global, ne_eq, String.reduceEq,
    not_false_eq_true, Dyn.isinstObj, l_isinst_fn]
  refine bind_congr fun chemistry => ?_
  have hrows : ∀ rows : List (List Nat), (∀ r ∈ rows, GasGood w chem (w.enc r)) → ∀ body : Unit → LV α → LM α Unit,
      (∀ mol, GasGood w chem mol → body () (.str mol) = addGasStep w chem chemistry mol) →
      Dyn.forM (rows.map (fun r => (Dyn.Val.str (w.enc r) : LV α))) () body = addGases w chem chemistry rows :=
    fun rows hrows body hb =>
      (forM_map_congr _ _ _ rows () fun r hr _ => hb _ (hrows r hr)).trans (forM_map _ _ rows ()).symm
  by_cases hA : w.isA chemistry "TaurexChemistry" = true
  · simp only [hA, if_true, getItem_h5, hact, hinact, nodeObj, eff_pure_bind, l_getraw, rawOf,
      decode_string_array_rows w (.sarr act) act rfl, decode_string_array_rows w (.node (.sfix wi inact)) inact rfl, iter_list]
    rw [hrows act (fun r h => hgas r (List.mem_append_left _ h)) _ ?hb, hrows inact
      (fun r h => hgas r (List.mem_append_right _ h)) _ ?hb]
    · simp only [eff_bind_assoc, eff_pure_bind]
    all_goals exact fun mol hg => by simp only [addGasStep, src_load_gas_total w chem mol hg]
  · simp only [hA, Bool.false_eq_true, if_false, eff_pure_bind]

/-! ### the whole model, the file-level functions -/

/-- **`load_model_from_hdf5(loc)`** is `modelSpec`: the five components reloaded by their own loaders (all regenerated),
    the model class called with them and its own stored keywords, the contribution groups reloaded and added in file order
    (the nested generator `contrib_iterator` and the loop that consumes it) -/
theorem src_load_model (w : LWorld α) (mp : List (String × Node α)) (f : ModelFile w mp) :
    SrcC16.load_model w.ext (.obj (.h5 mp)) .none = modelSpec w mp f := by
  unfold SrcC16.load_model modelSpec
  have hgen := fun planet star chemistry temperature pressure : LV α =>
    load_generic_profile_gen w mp (.str "model_type") .none _ f.mnm f.mkws (.str "taurex.model")
      [("planet", planet), ("star", star), ("chemistry", chemistry), ("temperature_profile", temperature),
        ("pressure_profile", pressure)]
      (Or.inl ⟨rfl, _, rfl, f.hmtype⟩) (Or.inr ⟨rfl, List.cons_ne_nil _ _⟩) f.hmr f.hmpk
  simp only [preD, List.map_cons, List.map_nil] at hgen
  simp only [src_load_chemistry w mp f.chem f.cnm f.ckws f.wa f.wi f.act f.inact f.hchem f.hctype f.hcr f.hact f.hinact
      f.hgas,
    src_load_pressure w mp f.press f.pnm f.pkws f.hpress f.hptype f.hpr,
    src_load_temperature w mp f.temp f.tnm f.tkws f.htemp f.httype f.htr,
    src_load_planet w mp f.planet f.plnm f.plkws f.hplanet f.hplnm f.hplr,
    src_load_star w mp f.star f.snm f.skws f.hstar f.hstype f.hsr,
    setItem_dict, hashable_str, if_true, eff_pure_bind, Dyn.dictSet, beq_str, String.reduceBEq, Bool.false_eq_true,
    if_false, hgen, getItem_group w mp f.contribs _ f.hcontribs, l_keys, l_h5py, l_h5Group]
  refine bind_congr fun chemistry => bind_congr fun pressure => bind_congr fun temperature => bind_congr fun planet =>
    bind_congr fun star => bind_congr fun model => ?_
  congr 1
  refine forM_map_congr _ _ _ _ _ fun e he st => ?_
  have hl := lookup_of_mem_nodup f.hcnodup he
  simp only [getItem_h5, hl, eff_pure_bind, contribStep, l_isGroup]
  cases hn : e.2 with
  | group cch =>
    obtain ⟨kws, hr⟩ := f.hcgood e.1 cch (by rw [← hn]; exact he)
    rw [hn] at hl
    simp only [isGroup, if_true, src_load_contrib w f.contribs cch (w.dec e.1) kws e.1 hl rfl hr, contribCall, hl,
      hr.klass]
  | _ => simp only [isGroup, Bool.false_eq_true, if_false]

/-- **`taurex_hdf5_to_model(filename)`**: open the file read-only, `load_model_from_hdf5` on its group `ModelParameters`,
    close it — `OSError` when the file cannot be opened -/
theorem src_hdf5_to_model (w : LWorld α) (path : String) (root mp : List (String × Node α))
    (hfile : w.fileOf path = some root) (hmp : root.lookup "ModelParameters" = some (.group mp)) (f : ModelFile w mp) :
    SrcC16.hdf5_to_model w.ext (.str path) .none = modelSpec w mp f := by
  unfold SrcC16.hdf5_to_model
  simp only [l_h5py, eff_pure_bind, l_open, hfile, l_enter, getItem_group w root mp _ hmp,
    src_load_model w mp f, Dyn.withExit,
    l_exit,
    truthy_none, eff_bind_pure, Bool.false_eq_true, if_false]
  rw [with_noexit]
  simp only [eff_bind_pure]

/-- … and `OSError` when the file cannot be opened -/
theorem src_hdf5_to_model_nofile (w : LWorld α) (path : String) (hfile : w.fileOf path = none) :
    SrcC16.hdf5_to_model w.ext (.str path) .none = throw .OSError := by
  unfold SrcC16.hdf5_to_model
  simp only [l_h5py, eff_pure_bind, l_open, hfile, eff_throw_bind]

section observation
variable [Mul α] [Div α] [OfNat α 10000]

/-- **`taurex_hdf5_to_observation(filename)`**: the four `instrument_*` datasets of `Output/Spectra` are read, and the
    observation is `ArraySpectrum` of the columns wavelength grid (`Output.wlOfWn` of the stored wavenumber grid), stored
    spectrum, stored noise, wavelength widths (`Output.wnwidthToWlwidth` of the stored grid and widths) — given that numpy's
    `10000/array` and the module function `wnwidth_to_wlwidth` are those model functions (`hdiv`, `hww`: hypotheses; the C17
    tie of `wnwidth_to_wlwidth` is to `Observation.widthConv`, not to `Output.wnwidthToWlwidth`) -/
theorem src_hdf5_to_observation (w : LWorld α) (path : String) (root out spec : List (String × Node α))
    (n1 n2 n3 n4 : Nat) (wn sp noise wd : List α)
    (hfile : w.fileOf path = some root) (hout : root.lookup "Output" = some (.group out))
    (hspec : out.lookup "Spectra" = some (.group spec))
    (h1 : spec.lookup "instrument_wngrid" = some (.num ⟨[n1], .floats wn⟩))
    (h2 : spec.lookup "instrument_spectrum" = some (.num ⟨[n2], .floats sp⟩))
    (h3 : spec.lookup "instrument_noise" = some (.num ⟨[n3], .floats noise⟩))
    (h4 : spec.lookup "instrument_wnwidth" = some (.num ⟨[n4], .floats wd⟩))
    (hdiv : w.div10000 = wlOfWn) (hww : w.wlwidth = wnwidthToWlwidth) :
    SrcC16.hdf5_to_observation w.ext (.str path)
      = w.call (.fn "ArraySpectrum") [.obj (.matT [wlOfWn wn, sp, noise, wnwidthToWlwidth wn wd])] [] := by
  unfold SrcC16.hdf5_to_observation
  simp only [eff_pure_bind, l_open, hfile, l_enter, getItem_group w root out _ hout,
    getItem_group w out spec _ hspec, eff_try_pure, getItem_h5, h1, h2, h3, h4, nodeObj, l_ellipsis, l_div10000,
    l_global, ne_eq, String.reduceEq, not_false_eq_true, l_wlwidth, l_np, l_vstack, l_T, l_arraySpectrum, Dyn.withExit, l_exit, truthy_none, eff_bind_pure,
    Bool.false_eq_true, if_false, hdiv, hww]
  rw [with_noexit]
  simp only [eff_bind_assoc, eff_pure_bind, eff_bind_pure]

/-- … and `KeyError` (the file is closed again) when the file has no `Output` group -/
theorem src_hdf5_to_observation_nokey (w : LWorld α) (path : String) (root : List (String × Node α))
    (hfile : w.fileOf path = some root) (hout : root.lookup "Output" = none) :
    SrcC16.hdf5_to_observation w.ext (.str path) = throw .KeyError := by
  unfold SrcC16.hdf5_to_observation
  simp only [l_global, ne_eq, String.reduceEq, not_false_eq_true, eff_pure_bind, l_open, hfile, l_enter,
    getItem_h5, hout, eff_throw_bind, eff_try_throw, Exc.isaAny, Exc.isa, List.any_cons, BEq.rfl, Bool.true_or, if_true,
    Dyn.withExit, l_exit, truthy_none, Bool.false_eq_true, if_false]

end observation

end loader

end Taurex.C16Src
