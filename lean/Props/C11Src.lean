/-
  C11 — source tie.  `TaurexModel/Gen/SrcC11.lean` is regenerated on every run by `harness/translate.py` (array idioms:
  `harness/translate_arr.py`) from the source text of taurex/data/planet.py,
  taurex/data/profiles/pressure/{pressureprofile,arraypressure}.py, taurex/model/simplemodel.py and taurex/util/output.py.
  The theorems below state, for EVERY carrier (no algebra is used), that each regenerated definition computes what the
  hand-written model function of `TaurexModel/Structure.lean` computes — the functions the C11 theorems are about and that
  `driver_c11` executes.  Arrays are functions `Nat → α` on the source side and lists on the
  model side; the statements are entry by entry on the valid index range.  A source change that alters one of these
  functions makes the corresponding theorem fail to check.
-/
import TaurexModel.Gen.SrcC11
import TaurexModel.Structure
import Proofs.C11Src
import Proofs.ListCore
set_option linter.unusedSectionVars false

namespace Taurex.C11Src
open Taurex Taurex.Structure

section
variable {α : Type} [Add α] [Sub α] [Mul α] [Div α] [Neg α] [LT α] [LE α]
  [DecidableLT α] [DecidableLE α] [Taurex.Transc α] [OfNat α 0] [OfNat α 1] [OfNat α 2]

/-- `BasePlanet.gravity` (a property; `G` is the module constant, `fullMass` / `fullRadius` the planet's attributes) is
    `surfaceGravity` with `gm = G * M`. -/
theorem src_gravity (bigG mass r : α) :
    Gen.SrcC11.gravity bigG mass r = surfaceGravity (bigG * mass) r := rfl

/-- `BasePlanet.gravity_at_height(height)` is `gravityAt`.  (`x**2` is `x*x`.) -/
theorem src_gravity_at_height (bigG mass r h : α) :
    Gen.SrcC11.gravity_at_height h bigG mass r = gravityAt (bigG * mass) r h := rfl

/-- the regenerated `calculate_scale_properties` IS a `foldl` over `range' 1 n` of a loop body `step` from an initial state
    `init` (both found by unification with the regenerated text: `rfl`), and that body satisfies the four point-wise
    equations that `C11Src.fold_scale` (Proofs/C11Src.lean) needs: `deltaz[i]`, `z[i]`, `g[i]` and `H[i]` (the latter two only when
    `i < nlayers`) are written at index `i` from the entries at `i-1`, all other entries are kept. -/
theorem src_scale_loop_shape (kb bigG mass r unit : α) (T pl mu : Nat → α) (n : Nat) :
    ∃ (step : St α → Nat → St α) (init : St α),
      Gen.SrcC11.calculate_scale_properties T pl mu n (G := bigG) (KBOLTZ := kb) (fullMass := mass)
          (fullRadius := r) (unit := unit)
        = ((fun i => ((List.range' 1 n).foldl step init).2.1 i * unit),
           (fun i => ((List.range' 1 n).foldl step init).2.2.2 i * unit),
           (fun i => ((List.range' 1 n).foldl step init).2.2.1 i * unit),
           (fun i => ((List.range' 1 n).foldl step init).1 (i + 1) * unit)) ∧
      (∀ st i, (step st i).1 = fun j => if j = i then
        ((-1 : α) * st.2.2.2 (i - 1)) * log (pl i / pl (i - 1)) else st.1 j) ∧
      (∀ st i, (step st i).2.1 = fun j => if j = i then st.2.1 (i - 1) + (step st i).1 i else st.2.1 j) ∧
      (∀ st i, (step st i).2.2.1 = if i < n then
        (fun j => if j = i then gravityAt (bigG * mass) r ((step st i).2.1 i) else st.2.2.1 j) else st.2.2.1) ∧
      (∀ st i, (step st i).2.2.2 = if i < n then
        (fun j => if j = i then (kb * T i) / (mu i * (step st i).2.2.1 i) else st.2.2.2 j)
        else st.2.2.2) ∧
      init.2.1 0 = 0 ∧ init.2.2.1 0 = surfaceGravity (bigG * mass) r ∧
      init.2.2.2 0 = (kb * T 0) / (mu 0 * init.2.2.1 0) := by
  refine ⟨_, _, rfl, ?_, ?_, ?_, ?_, ?_, ?_, ?_⟩
  · intro st i; rfl
  · intro st i; rfl
  · intro st i
    by_cases h : i < n <;> simp only [h, decide_true, decide_false, if_true, if_false] <;> rfl
  · intro st i
    by_cases h : i < n <;> simp only [h, decide_true, decide_false, if_true, if_false] <;> rfl
  · rfl
  · rfl
  · rfl

/-- **the bottom-up hydrostatic loop** `BasePlanet.calculate_scale_properties(T, Pl, mu)`, called with arrays of `n`, `n+1`,
    `n` entries, returns entry by entry what the model `scaleProps` (structural recursion `scaleLoop`, the function the
    C11 theorems are about and `driver_c11` executes) returns, each multiplied by the unit factor
    `conversion_factor('m', length_units)` exactly as the code does (`z*factor`, …; the harness checks the factor is 1).
    Generic in the carrier: induction over the layers (`fold_scale`), no algebra. -/
theorem src_scale_properties (kb bigG mass r unit : α) (T pl mu : List α) (n : Nat)
    (hT : T.length = n) (hmu : mu.length = n) (hpl : pl.length = n + 1) :
    let res := Gen.SrcC11.calculate_scale_properties (fun i => T.getD i 0) (fun i => pl.getD i 0)
        (fun i => mu.getD i 0) n (G := bigG) (KBOLTZ := kb) (fullMass := mass) (fullRadius := r) (unit := unit)
    let m := scaleProps kb bigG mass r T pl mu
    (∀ i, i ≤ n → res.1 i = m.z.getD i 0 * unit) ∧ (∀ i, i < n → res.2.1 i = m.H.getD i 0 * unit) ∧
    (∀ i, i < n → res.2.2.1 i = m.g.getD i 0 * unit) ∧ (∀ i, i < n → res.2.2.2 i = m.dz.getD i 0 * unit) := by
  obtain ⟨step, init, heq, hdz, hz, hg, hH, hz0, hg0, hH0⟩ := src_scale_loop_shape kb bigG mass r unit
    (fun i => T.getD i 0) (fun i => pl.getD i 0) (fun i => mu.getD i 0) n
  have hm := fold_scale kb (bigG * mass) r T mu pl n hT hmu hpl step hdz hz hg hH init hH0
  rw [hz0, hg0] at hm
  intro res m
  have hres : res = _ := heq
  rw [hres]
  simp only [m, scaleProps, hm, List.map_map, Function.comp_def, List.getD_eq_getElem?_getD]
  refine ⟨fun i hi => ?_, fun i hi => ?_, fun i hi => ?_, fun i hi => ?_⟩
  · by_cases h : i < n
    · rw [List.getElem?_append_left (by simpa using h)]; simp [h]
    · obtain rfl : i = n := by omega
      rw [List.getElem?_append_right (by simp)]; simp
  all_goals simp [hi]

/-- `SimpleForwardModel.densityProfile` = `P/(KBOLTZ*T)` element-wise is `density`. -/
theorem src_density (kb : α) (P T : List α) (i : Nat) (hP : i < P.length) (hT : i < T.length) :
    Gen.SrcC11.densityProfile kb (fun i => P.getD i 0) (fun i => T.getD i 0) i = (density kb P T).getD i 0 := by
  simp [Gen.SrcC11.densityProfile, density, List.getD_eq_getElem?_getD, List.getElem?_zipWith, hP, hT]

theorem logLevels_length (n : Nat) (pmin pmax : α) : (logLevels n pmin pmax).length = n + 1 :=
  Structure.logLevels_length n pmin pmax

/-- `SimplePressureProfile.compute_pressure_profile`: with `np.logspace(a, b, m)` = `10**linspace` (the documented numpy
    behaviour the model assumes, ASSUMPTIONS of harness/c11.py) and `self.nLevels = nLayers + 1`, the stored
    `pressure_profile_levels` (the reversal `[::-1]`) and `pressure_profile` (`levels[:-1] * sqrt(levels[1:]/levels[:-1])`)
    are, entry by entry, `logLevels` and `layerPressures (logLevels …)`. -/
theorem src_pressure_profile (n : Nat) (pmin pmax : α) :
    let res := Gen.SrcC11.compute_pressure_profile
        (logspace := fun a b m i => ((linspace (m - 1) a b).map pow10).getD i 0) (nLevels := n + 1)
        (pmax := pmax) (pmin := pmin)
    (∀ i, i ≤ n → res.1 i = (logLevels n pmin pmax).getD i 0) ∧
    (∀ i, i < n → res.2 i = (layerPressures (logLevels n pmin pmax)).getD i 0) := by
  have hlen : ((linspace n (log10 pmin) (log10 pmax)).map pow10).length = n + 1 := by simp [linspace]
  -- `levels[i] = logspace(…)[nLevels - 1 - i]` is entry `i` of the reversed list
  have hlv : ∀ i, i ≤ n →
      ((linspace n (log10 pmin) (log10 pmax)).map pow10).getD (n - i) 0 = (logLevels n pmin pmax).getD i 0 := by
    intro i hi
    simp only [logLevels, List.getD_eq_getElem?_getD]
    rw [List.getElem?_reverse (by omega), hlen, Nat.add_sub_cancel]
  simp only [Gen.SrcC11.compute_pressure_profile, Nat.add_sub_cancel]
  refine ⟨hlv, fun i hi => ?_⟩
  have h0 : i < (logLevels n pmin pmax).length := by rw [logLevels_length]; omega
  have h1 : i + 1 < (logLevels n pmin pmax).length := by rw [logLevels_length]; omega
  rw [hlv i (by omega), hlv (i + 1) (by omega)]
  simp only [List.getD_eq_getElem?_getD, layerPressures_getElem?, List.getElem?_eq_getElem h0,
    List.getElem?_eq_getElem h1, Option.bind_some, Option.map_some, Option.getD_some]

/-- **profile bookkeeping** `SimpleForwardModel._compute_altitude_gravity_scaleheight_profile(mu_profile)`: whether the
    molecular-weight profile is passed or taken from the chemistry (`mu_profile is None`), the five stored per-layer /
    per-level arrays (`altitude_profile = z[:-1]`, `scaleheight_profile`, `gravity_profile`, `altitude_boundaries`,
    `deltaz`) are the fields of `views (scaleProps …)`. -/
theorem src_views (kb bigG mass r unit : α) (T pl mu : List α) (mo : Option (Nat → α)) (cm : Nat → α) (n : Nat)
    (hT : T.length = n) (hmu : mu.length = n) (hpl : pl.length = n + 1)
    (hmo : mo.getD cm = fun i => mu.getD i 0) :
    let res := Gen.SrcC11.compute_altitude_gravity_scaleheight_profile mo n (G := bigG) (KBOLTZ := kb)
        (chem_mu := cm) (fullMass := mass) (fullRadius := r) (levels := fun i => pl.getD i 0)
        (temperatureProfile := fun i => T.getD i 0) (unit := unit)
    let v := views (scaleProps kb bigG mass r T pl mu)
    (∀ i, i < n → res.1 i = v.altitudeProfile.getD i 0 * unit) ∧
    (∀ i, i < n → res.2.1 i = v.scaleheightProfile.getD i 0 * unit) ∧
    (∀ i, i < n → res.2.2.1 i = v.gravityProfile.getD i 0 * unit) ∧
    (∀ i, i ≤ n → res.2.2.2.1 i = v.altitudeBoundaries.getD i 0 * unit) ∧
    (∀ i, i < n → res.2.2.2.2 i = v.deltaz.getD i 0 * unit) := by
  obtain ⟨hz, hH, hg, hdz⟩ := src_scale_properties kb bigG mass r unit T pl mu n hT hmu hpl
  have hlen : (scaleProps kb bigG mass r T pl mu).z.length = n + 1 :=
    hT ▸ (scaleProps_lengths kb bigG mass r (hmu.trans hT.symm) (hT ▸ hpl)).1
  have halt : ∀ i, i < n → (views (scaleProps kb bigG mass r T pl mu)).altitudeProfile.getD i 0
      = (scaleProps kb bigG mass r T pl mu).z.getD i 0 := by
    intro i hi
    show (scaleProps kb bigG mass r T pl mu).z.dropLast.getD i 0 = _
    rw [List.getD_eq_getElem?_getD, List.getD_eq_getElem?_getD, List.getElem?_dropLast, hlen, Nat.add_sub_cancel, if_pos hi]
  -- passed or taken from the chemistry, the molecular weights the code uses are `mu`
  cases mo <;>
  · simp only [Option.getD_none, Option.getD_some] at hmo
    subst hmo
    exact ⟨fun i hi => (hz i (Nat.le_of_lt hi)).trans (by rw [halt i hi]), hH, hg, hz, hdz⟩

/-- `ArrayPressureProfile.compute_pressure_profile` (levels from the given layer pressures: `10**np.append(logp - gradp/2,
    logp[-1] + gradp[-1]/2)`) for at least two layers is `arrayLevels`; `np.gradient` (an external; it raises for fewer than
    two entries, where the model says `none`) is `gradientAt` on the `n` entries (ASSUMPTIONS of harness/c11.py). -/
theorem src_array_pressure_levels (P : List α) (h2 : 2 ≤ P.length) :
    arrayLevels P = some ((List.range (P.length + 1)).map
      (Gen.SrcC11.array_pressure_levels P.length
        (fun f m i => gradientAt ((List.range m).map f) i) (fun i => P.getD i 0))) := by
  unfold arrayLevels Gen.SrcC11.array_pressure_levels
  have hlt : ¬ P.length < 2 := by omega
  have hmap : (List.range P.length).map (fun i => log10 (P.getD i 0)) = P.map log10 := by
    conv => rhs; rw [list_eq_map_range 0 P, List.map_map]
    rfl
  simp only [List.length_map, hlt, if_false, hmap]
  congr 1
  rw [List.range_succ, List.map_append, List.map_append, List.map_map]
  congr 1
  · apply List.map_congr_left
    intro i hi
    have : i < P.length := List.mem_range.mp hi
    simp [this, List.getD_eq_getElem?_getD]
  · have hl : P.length - 1 < P.length := by omega
    simp [List.getD_eq_getElem?_getD, List.getElem?_eq_getElem hl]

/-- `SimplePressureProfile.compute_pressure_profile`, the relation between the two arrays it stores, for WHATEVER values
    `np.logspace` returns (the external `logspace` is arbitrary here): `pressure_profile` is `layerPressures` of
    `pressure_profile_levels` (`levels[:-1] * sqrt(levels[1:] / levels[:-1])`). -/
theorem src_layers_of_levels (logspace : α → α → Nat → Nat → α) (m : Nat) (pmin pmax : α) :
    (List.range (m - 1)).map (Gen.SrcC11.compute_pressure_profile logspace m pmax pmin).2
      = layerPressures ((List.range m).map (Gen.SrcC11.compute_pressure_profile logspace m pmax pmin).1) := by
  unfold Gen.SrcC11.compute_pressure_profile layerPressures
  simp only
  apply List.ext_getElem
  · simp [List.length_zipWith]
  · intro i h1 h2
    have hi : i < m - 1 := by simpa using h1
    simp [List.getElem_zipWith, List.getElem_tail]

end

/-- a value of the regenerated dictionary as a value of the model's -/
def toProf {α : Type} : Gen.Np.PyVal α → ProfVal α
  | .arr l => .arr l
  | .arr2 rows => .arr2 rows
  | .none => .none

/-- **`SimpleForwardModel.generate_profiles`** (`output.generate_profile_dict(self)`: `out = {}`, one `out[key] = …` per
    profile, the condensate table under `if model.chemistry.hasCondensates`; then `prof['mu_profile'] = …`) builds the model's
    `profileDict`: the same keys in the same insertion order with the same values.  The model object's attributes are
    instantiated with what the model takes: the stored views `v` for scale height / altitude / gravity, `hasCondensates` =
    "there is a condensate table". -/
theorem src_generate_profiles {α : Type} (v : Views α) (temp press dens mu : List α)
    (act inact cond : Option (List (List α))) :
    (Gen.SrcC11.generate_profiles act v.altitudeProfile (cond.getD []) dens v.gravityProfile cond.isSome inact mu press
        v.scaleheightProfile temp).map (fun e => (e.1, toProf e.2))
      = profileDict v temp press dens mu act inact cond := by
  have htab : ∀ o : Option (List (List α)),
      toProf (Option.elim o Gen.Np.PyVal.none Gen.Np.PyVal.arr2) = ProfVal.ofTable o := by
    intro o; cases o <;> rfl
  unfold Gen.SrcC11.generate_profiles Gen.SrcC11.generate_profile_dict profileDict
  -- the keys are literals: each `dictSet` appends
  cases cond <;> simp [Gen.Np.dictSet, toProf] <;> exact ⟨htab act, htab inact⟩

end Taurex.C11Src
