/-
  C14 — the property theorems restated about the REGENERATED source.  `Props/C14Src.lean` proves that the definitions
  translated on every run from the readers (`PickleOpacity._load_pickle_file`, `HDF5Opacity._load_hdf_file`,
  `PickleKTable._load_pickle_file`, `HDF5KTable._load_pickle_file`, `PickleCIA._load_pickle_file`, the end of
  `HitranCIA.load_hitran_file` with `fill_gaps` / `fill_temperature` / `compute_final_grid`), from the name handling of
  the opacity classes (`…_name`, `clean_molecule_name`, `discover`) and from `OpacityCache.__getitem__` (with
  `load_opacity`, `load_opacity_from_path`, `add_opacity`) compute the model's decoders (`decPickle`, `decHdf`, `decPickleK`,
  `decHdfK`, `decPickleC`, `decHitran`), `discName` / `objName`, and `step fs s (.get m)`; `Props/C14.lean` proves the
  property about these.  The corollaries below compose the two: they are statements about the text of the code.
  `Props/C14.lean` is generic in an ordered field `K`; the corollaries are at `K = ℝ` (the ties need the carrier
  classes of the generated file, which ℝ has).

  What is composed
    * readers: `srcPickleLoad f`, `srcHdfLoad f mem p0 x0`, `srcPickleKLoad f`, `srcHdfKLoad f mem p0 w0 x0`,
      `srcPickleCLoad f` = the regenerated reader applied to the cells of the container `f`, instantiated exactly as in the
      ties (`allocate_as_shared = id`, the two unit parsers = `unitDirect` / `unitCds` read as raising `ValueError`); the
      result is the tuple of attributes the reader assigns (and, for HDF5, whether it raised).  "The file written from the
      table" is the model's `encPickle`, `encHdf`, … (a writer is not part of the package).
    * Exo-Transmit: `srcExoLoad parse E tiny lines` = the regenerated `_load_exo_transmit` after `f.readlines()` (block
      splitting, counters, stores into the table, argsort / re-ordering of the wavenumber axis, unit factors), with
      `parse` for the float-parsing of a line, `E` for `np.empty` (`EmptyOk`), `1e-6 := 1/1000000`, `1e-60 := tiny`.  The tie
      (`src_exo_load`) holds for well-formed files (`ExoWF`: non-empty header rows — the reader takes their `min()` —,
      blocks of one wavelength line and one row per header pressure); `ExoText` says the lines parse to the file's numbers.
    * HITRAN: `srcHitranTab hk blocks t0 w0 x0` = the table `(wavenumber_grid, temperature_grid, xsec_grid)` the
      regenerated end of `load_hitran_file` leaves behind when the reading loop has collected `hLoad blocks`;
      `srcHitranFile tx hk blocks` = the table the regenerated WHOLE function (reading loop, `read_header`, clipping, grouping
      into ranges included) loads from the text lines `tx.lines blocks` (`HText`: tokeniser / number parsers / how a block is
      written; `tx.Ok`: the tokens parse back; `HashOk`: `hashwn` separates the file's headers).  The tie's
      hypotheses are discharged: `hlt` (ℝ is linearly ordered), every range has a temperature (`hLoad_ts_ne_nil`).
    * names: the regenerated `PickleOpacity_name`, `ExoTransmit_name`, `HDF5KTable_name`, `…_clean_molecule_name`,
      `…_discover`, with `pathlib.Path(x).stem = stemS` and `sanitize_molecule_string = sanitizeStr` (the model's scanner;
      the regular expression is not translated).
    * cache: `srcGet fs klasses s m` = the regenerated `OpacityCache()[m]` on the Python layout of the state `s`
      (instantiated as in `src_getitem`: classes `Fmt`, `discover = discoverM fs`, constructor `constructM`); it returns
      `((opacity_dict, world), outcome)`.  Every other method is tied on its own (one call = one `step`,
      `src_set_interpolation`, `src_clear_cache`, …); a history is a `run` of the model, each step of which is one tied
      call, so the corollaries speak of the regenerated `__getitem__` applied to the layout of any state a history
      reaches.  Tie hypothesis kept visible: `VisitOrder fs klasses` (the model lists a directory's files in the order
      in which the classes are visited).
    * k-table cache: `srcKGet fs klasses pa s m` = the regenerated `KTableCache()[m]` (`src_k_getitem`: it is `stepK`);
      with `UniqueDisc fs` it is the cross-section machine (`ktable_same_machine`), so `served_same`, `loaded_once`,
      `interp_effective` are restated about it.
    * CIA cache: `srcCiaGet fs stem s m` = the regenerated `CIACache()[m]` (`src_cia_getitem`: it is `CiaSM.step`);
      hypothesis kept visible: `hdisc` (the model's pair name of a file is its stem up to the first `_`).

  Not restated (no tie)
    * `hitran_range_row`: a statement about the specification `rangeRow` alone.
    * `sanitize_idem`, `sanitize_alnum`, and the `sanitizeStr` / `.cia` conjuncts of `sanitize_examples`: `sanitizeStr` is
      the parameter standing for the regular expression; the sanitising of CIA pair names is not translated.  The file-name
      conjuncts of `sanitize_examples` are restated.
    * `names_consistent` for `.cia` (not translated) — restated for `.pickleXsec`, `.hdfK`, `.exo`.
    * `mem_mode_ignored`: about `loadObj`, the model of the constructor call (the parameter `constructM` of the tie).
    * `inconsistent_entry_reloads`: a concrete `trace` of the model kept as a witness.
    * `cia_partners`: `pairOne` / `pairTwo` of a CIA object are not translated.
    * everything about `CacheConf` (`interp_effective_routes`, `parfile_as_setters`, `path_unset_nothing_served`,
      `interp_effective_after_drift`, `load_other_served_from_configured`): the parameter parser, `GlobalCache` writes and
      `load_opacity(opacity_path=…)` calls that `stepX` / `stepY` model are tied method by method only as far as they are
      methods of the caches (`src_set_interpolation`, `src_set_opacity_path`, `src_load_opacity`, …), not as events.
    * `cia_both_formats_raise_pinned`: its `stepPinned` half is about the scan without the cached-pair test, which is not
      the text of the code; its `step` half is restated (`src_cia_both_formats_served`).
-/
import Props.C14
import Props.C14Src
import Proofs.RealInst

namespace Taurex.C14SrcProps
open Taurex.Loaders Taurex.Sanitize Taurex.CacheSM Taurex.Interp Taurex.Gen Taurex.C14 Taurex.C14Src

/-! ## readers: the container written from a table loads to that table -/

/-- `PickleOpacity._load_pickle_file`: `(_wavenumber_grid, _temperature_grid, _pressure_grid, _xsec_grid)` -/
noncomputable def srcPickleLoad (f : PickleX ℝ) : List ℝ × List ℝ × List ℝ × List (List (List ℝ)) :=
  Gen.SrcC14.PickleOpacity_load id f.p f.t f.wno f.xsecarr

theorem srcPickleLoad_eq (f : PickleX ℝ) :
    srcPickleLoad f = ((decPickle f).wn, (decPickle f).t, (decPickle f).p, (decPickle f).x) :=
  src_pickle_opacity_load f

/-- `HDF5Opacity._load_hdf_file`; `p0`, `x0` the previous values of the attributes assigned last -/
noncomputable def srcHdfLoad (f : HdfX ℝ) (mem : Bool) (p0 : List ℝ) (x0 : List (List (List ℝ))) :
    (List ℝ × List ℝ × List ℝ × List (List (List ℝ))) × Except Py.Err Unit :=
  Gen.SrcC14.HDF5Opacity_load id f.binEdges f.p f.units f.t f.xsecarr mem p0
    (fun n => optE (unitDirect n)) (fun n => optE (unitCds n)) x0

theorem srcHdfLoad_eq (f : HdfX ℝ) (mem : Bool) (p0 : List ℝ) (x0 : List (List (List ℝ))) :
    (∀ tab, decHdf f = some tab → srcHdfLoad f mem p0 x0 = ((tab.wn, tab.t, tab.p, tab.x), Except.ok ())) ∧
    (decHdf f = none → srcHdfLoad f mem p0 x0 = ((f.binEdges, f.t, p0, x0), Except.error Py.Err.valueError)) := by
  have h := src_hdf5_opacity_load f mem p0 x0
  unfold srcHdfLoad
  constructor
  · intro tab ht; rw [h, ht]
  · intro ht; rw [h, ht]

/-- `PickleKTable._load_pickle_file`: `(wavenumber grid, ngauss, temperatures, pressures, k-coefficients, weights)` -/
noncomputable def srcPickleKLoad (f : PickleK ℝ) :
    List ℝ × Nat × List ℝ × List ℝ × List (List (List (List ℝ))) × List ℝ :=
  Gen.SrcC14.PickleKTable_load f.binCenters f.kcoeff f.ngauss f.p f.t f.weights

theorem srcPickleKLoad_eq (f : PickleK ℝ) :
    srcPickleKLoad f
      = ((decPickleK f).wn, f.ngauss, (decPickleK f).t, (decPickleK f).p, (decPickleK f).k, (decPickleK f).weights) :=
  src_pickle_ktable_load f

/-- `HDF5KTable._load_pickle_file` -/
noncomputable def srcHdfKLoad (f : HdfK ℝ) (mem : Bool) (p0 w0 : List ℝ) (x0 : List (List (List (List ℝ)))) :
    (List ℝ × Nat × List ℝ × List ℝ × List (List (List (List ℝ))) × List ℝ) × Except Py.Err Unit :=
  Gen.SrcC14.HDF5KTable_load f.binCenters f.kcoeff f.ngauss f.p f.units f.t f.weights mem p0
    (fun n => optE (unitDirect n)) (fun n => optE (unitCds n)) w0 x0

theorem srcHdfKLoad_eq (f : HdfK ℝ) (mem : Bool) (p0 w0 : List ℝ) (x0 : List (List (List (List ℝ)))) :
    (∀ tab, decHdfK f = some tab →
      srcHdfKLoad f mem p0 w0 x0 = ((tab.wn, f.ngauss, tab.t, tab.p, tab.k, tab.weights), Except.ok ())) ∧
    (decHdfK f = none →
      srcHdfKLoad f mem p0 w0 x0 = ((f.binCenters, f.ngauss, f.t, p0, x0, w0), Except.error Py.Err.valueError)) := by
  have h := src_hdf5_ktable_load f mem p0 w0 x0
  unfold srcHdfKLoad
  constructor
  · intro tab ht; rw [h, ht]
  · intro ht; rw [h, ht]

/-- `PickleCIA._load_pickle_file`: `(wavenumber grid, temperature grid, table)` -/
noncomputable def srcPickleCLoad (f : PickleC ℝ) : List ℝ × List ℝ × List (List ℝ) :=
  Gen.SrcC14.PickleCIA_load f.t f.wno f.xsecarr

theorem srcPickleCLoad_eq (f : PickleC ℝ) :
    srcPickleCLoad f = ((decPickleC f).wn, (decPickleC f).t, (decPickleC f).x) :=
  src_pickle_cia_load f

/-- **dec_enc_pickle**, about the regenerated `PickleOpacity._load_pickle_file`: pressures written in bar come back in
    Pa, everything else as stored -/
theorem src_dec_enc_pickle (tab : XTab ℝ) : srcPickleLoad (encPickle tab) = (tab.wn, tab.t, tab.p, tab.x) := by
  rw [srcPickleLoad_eq, dec_enc_pickle]

/-- **dec_enc_hdf**, about the regenerated `HDF5Opacity._load_hdf_file`: with any pressure unit the reader converts the
    declared unit is undone exactly, and the reader does not raise -/
theorem src_dec_enc_hdf (tab : XTab ℝ) (units name : String) (c : ℝ) (hu : unitFactor true units = some c)
    (mem : Bool) (p0 : List ℝ) (x0 : List (List (List ℝ))) :
    srcHdfLoad (encHdf units c name tab) mem p0 x0 = ((tab.wn, tab.t, tab.p, tab.x), Except.ok ()) := by
  exact (srcHdfLoad_eq _ mem p0 x0).1 tab (dec_enc_hdf tab units name c hu)

/-- **dec_enc_pickleC**, about the regenerated `PickleCIA._load_pickle_file`: the table as it is -/
theorem src_dec_enc_pickleC (tab : CTab ℝ) : srcPickleCLoad (encPickleC tab) = (tab.wn, tab.t, tab.x) := by
  rw [srcPickleCLoad_eq, dec_enc_pickleC]

/-- **dec_enc_pickleK**, about the regenerated `PickleKTable._load_pickle_file` -/
theorem src_dec_enc_pickleK (tab : KTab ℝ) (name : String) :
    srcPickleKLoad (encPickleK name tab) = (tab.wn, tab.weights.length, tab.t, tab.p, tab.k, tab.weights) := by
  rw [srcPickleKLoad_eq, dec_enc_pickleK]
  rfl

/-- **dec_enc_hdfK**, about the regenerated `HDF5KTable._load_pickle_file` -/
theorem src_dec_enc_hdfK (tab : KTab ℝ) (units : String) (c : ℝ) (hu : unitFactor true units = some c)
    (mem : Bool) (p0 w0 : List ℝ) (x0 : List (List (List (List ℝ)))) :
    srcHdfKLoad (encHdfK units c tab) mem p0 w0 x0
      = ((tab.wn, tab.weights.length, tab.t, tab.p, tab.k, tab.weights), Except.ok ()) := by
  exact (srcHdfKLoad_eq _ mem p0 w0 x0).1 tab (dec_enc_hdfK tab units c hu)

/-- **formats_agree** (pickle and HDF5 conjuncts), about the regenerated readers: the two cross-section containers
    written from one table load the same attributes, those of the table -/
theorem src_formats_agree (tab : XTab ℝ) (units name : String) (c : ℝ) (hu : unitFactor true units = some c)
    (mem : Bool) (p0 : List ℝ) (x0 : List (List (List ℝ))) :
    srcHdfLoad (encHdf units c name tab) mem p0 x0 = (srcPickleLoad (encPickle tab), Except.ok ()) ∧
    srcPickleLoad (encPickle tab) = (tab.wn, tab.t, tab.p, tab.x) := by
  rw [src_dec_enc_hdf tab units name c hu, src_dec_enc_pickle]
  exact ⟨rfl, rfl⟩

/-- **formats_agree_k**, about the regenerated k-table readers -/
theorem src_formats_agree_k (tab : KTab ℝ) (units name : String) (c : ℝ) (hu : unitFactor true units = some c)
    (mem : Bool) (p0 w0 : List ℝ) (x0 : List (List (List (List ℝ)))) :
    srcHdfKLoad (encHdfK units c tab) mem p0 w0 x0 = (srcPickleKLoad (encPickleK name tab), Except.ok ()) ∧
    srcPickleKLoad (encPickleK name tab) = (tab.wn, tab.weights.length, tab.t, tab.p, tab.k, tab.weights) := by
  rw [src_dec_enc_hdfK tab units c hu, src_dec_enc_pickleK]
  exact ⟨rfl, rfl⟩

/-! ## Exo-Transmit -/

/-- the text lines `l0 :: l1 :: body` parse to the numbers of the file `f` -/
def ExoText (parse : String → List ℝ) (l0 l1 : String) (body : List String) (f : ExoFile ℝ) : Prop :=
  parse l0 = f.trow ∧ parse l1 = f.prow ∧ body.map parse = f.body

/-- a well-formed Exo-Transmit file: non-empty header rows; the body is a sequence of blocks, each a wavelength line followed
    by one row `P xsec(T₀) …` per pressure of the header -/
def ExoWF (f : ExoFile ℝ) : Prop :=
  f.trow ≠ [] ∧ f.prow ≠ [] ∧ ∃ B : List (ℝ × List (List ℝ)), f.body = B.flatMap (fun b => [b.1] :: b.2) ∧
    ∀ b ∈ B, b.2.length = f.prow.length ∧ ∀ r ∈ b.2, r.length = f.trow.length + 1

/-- `np.empty(shape)`: some array of that shape -/
def EmptyOk (E : Nat × Nat × Nat → List (List (List ℝ))) : Prop := ∀ a b c, ∃ g, E (a, b, c) = tab3 a b c g

/-- the table the regenerated `_load_exo_transmit` leaves behind: `(_wavenumber_grid, _temperature_grid, _pressure_grid,
    _xsec_grid)` as an `XTab`, and whether it raised -/
noncomputable def srcExoLoad (parse : String → List ℝ) (E : Nat × Nat × Nat → List (List (List ℝ))) (tiny : ℝ)
    (lines : List String) : XTab ℝ × Except Py.Err Unit :=
  let r := Gen.SrcC14.ExoTransmit_load lines (c1em06 := 1 / 1000000) (c1em60 := tiny) 0 0 0 0 argsort E parse [] [] [] []
  ({ wn := r.1.2.2.1, t := r.1.1, p := r.1.2.1, x := r.1.2.2.2.1 }, r.2)

theorem srcExoLoad_eq (parse : String → List ℝ) (E : Nat × Nat × Nat → List (List (List ℝ))) (hE : EmptyOk E) (tiny : ℝ)
    (l0 l1 : String) (body : List String) (f : ExoFile ℝ) (htx : ExoText parse l0 l1 body f) (hwf : ExoWF f) :
    srcExoLoad parse E tiny (l0 :: l1 :: body) = (decExo tiny f, Except.ok ()) := by
  obtain ⟨h0, h1, hb⟩ := htx
  obtain ⟨hT, hP, B, hB, hrows⟩ := hwf
  have := src_exo_load parse E hE tiny l0 l1 body B (by rw [hb, hB]) (by rw [h0, h1]; exact hrows) (by rw [h0]; exact hT)
    (by rw [h1]; exact hP) 0 0 0 0 [] [] [] []
  unfold srcExoLoad
  rw [this, h0, h1, hb]

theorem exoWF_encExo (tab : XTab ℝ) (ht : tab.t ≠ []) (hp : tab.p ≠ []) : ExoWF (encExo tab) := by
  refine ⟨ht, fun h => hp (List.map_eq_nil_iff.mp h), _, encExo_body tab, ?_⟩
  intro b hb
  obtain ⟨k, _, rfl⟩ := List.mem_map.mp hb
  exact ⟨(exoRows_length tab k).trans (List.length_map _).symm, length_of_mem_exoRows tab k⟩

section exo
variable (parse : String → List ℝ) (E : Nat × Nat × Nat → List (List (List ℝ))) (hE : EmptyOk E)
  (l0 l1 : String) (body : List String)
include hE

/-- **dec_enc_exo**, about the regenerated `_load_exo_transmit`: the text written from a table (wavelengths ascending, rows
    `P(bar) xsec(T)…` in m²) loads — without raising — to that table, every entry `v` coming back as
    `(v/10000 + tiny)·10000`, wavenumbers re-sorted ascending with the table permuted alike, pressures in Pa -/
theorem src_dec_enc_exo (tiny : ℝ) (tab : XTab ℝ) (htx : ExoText parse l0 l1 body (encExo tab)) (hwf : tab.WF)
    (ht : tab.t ≠ []) (hp : tab.p ≠ []) (hwn : tab.wn.Pairwise (· < ·)) (hpos : ∀ w ∈ tab.wn, 0 < w) :
    srcExoLoad parse E tiny (l0 :: l1 :: body) =
      ({ wn := tab.wn, t := tab.t, p := tab.p,
         x := tab.x.map fun row => row.map fun col => col.map (exoShift tiny) }, Except.ok ()) := by
  rw [srcExoLoad_eq parse E hE tiny l0 l1 body _ htx (exoWF_encExo tab ht hp), dec_enc_exo tiny tab hwf ht hwn hpos]

/-- **dec_enc_exo_exact** and the Exo-Transmit conjunct of **formats_agree**, about the regenerated readers: with the
    reader's `1e-60` set to 0 the text written from a table loads to the table the pickle container loads to — the table
    itself -/
theorem src_formats_agree_exo (tab : XTab ℝ) (htx : ExoText parse l0 l1 body (encExo tab)) (hwf : tab.WF)
    (ht : tab.t ≠ []) (hp : tab.p ≠ []) (hwn : tab.wn.Pairwise (· < ·)) (hpos : ∀ w ∈ tab.wn, 0 < w) :
    (srcExoLoad parse E 0 (l0 :: l1 :: body)).1 = tab ∧
    ((srcExoLoad parse E 0 (l0 :: l1 :: body)).1.wn, (srcExoLoad parse E 0 (l0 :: l1 :: body)).1.t,
      (srcExoLoad parse E 0 (l0 :: l1 :: body)).1.p, (srcExoLoad parse E 0 (l0 :: l1 :: body)).1.x)
      = srcPickleLoad (encPickle tab) := by
  rw [srcExoLoad_eq parse E hE 0 l0 l1 body _ htx (exoWF_encExo tab ht hp), dec_enc_exo_exact tab hwf ht hwn hpos,
    src_dec_enc_pickle]
  exact ⟨rfl, rfl⟩

variable (f : ExoFile ℝ) (htx : ExoText parse l0 l1 body f) (hwf : ExoWF f)
include htx hwf

/-- **exo_sorted**, about the regenerated `_load_exo_transmit`: whatever the order of the wavelength blocks in a
    well-formed file, the loaded wavenumber grid is ascending and a permutation of the file's wavenumbers -/
theorem src_exo_sorted (tiny : ℝ) :
    (srcExoLoad parse E tiny (l0 :: l1 :: body)).1.wn.Pairwise (· ≤ ·) ∧
    (srcExoLoad parse E tiny (l0 :: l1 :: body)).1.wn.Perm ((exoGroup f.body).map (fun b => exoWn b.1)) := by
  rw [srcExoLoad_eq parse E hE tiny l0 l1 body f htx hwf]
  exact exo_sorted tiny f

/-- **exo_aligned**, about the regenerated `_load_exo_transmit`: the table is permuted exactly like the wavenumber axis -/
theorem src_exo_aligned (tiny : ℝ) (i j : Nat) (hi : i < f.prow.length) (hj : j < f.trow.length) :
    let blocks := exoGroup f.body
    let wn0 := blocks.map (fun b => exoWn b.1)
    (srcExoLoad parse E tiny (l0 :: l1 :: body)).1.wn = (argsort wn0).map (fun k => wn0.getD k 0) ∧
    ((srcExoLoad parse E tiny (l0 :: l1 :: body)).1.x.getD i []).getD j [] =
      (argsort wn0).map (fun k => ((((blocks.getD k (0, [])).2.getD i []).getD (j + 1) 0) + tiny) * 10000) := by
  rw [srcExoLoad_eq parse E hE tiny l0 l1 body f htx hwf]
  exact exo_aligned tiny f i j hi hj

/-- **exo_axes**, about the regenerated `_load_exo_transmit`: temperatures as stored, pressures ×1e5, table shaped
    [P][T][wn] -/
theorem src_exo_axes (tiny : ℝ) :
    (srcExoLoad parse E tiny (l0 :: l1 :: body)).1.t = f.trow ∧
    (srcExoLoad parse E tiny (l0 :: l1 :: body)).1.p = f.prow.map (fun v => v * 100000) ∧
    (srcExoLoad parse E tiny (l0 :: l1 :: body)).1.x.length = f.prow.length ∧
    (∀ row ∈ (srcExoLoad parse E tiny (l0 :: l1 :: body)).1.x, row.length = f.trow.length ∧
      ∀ col ∈ row, col.length = (srcExoLoad parse E tiny (l0 :: l1 :: body)).1.wn.length) := by
  rw [srcExoLoad_eq parse E hE tiny l0 l1 body f htx hwf]
  exact exo_axes tiny f

/-- **exo_wn_order_invariant**, about the regenerated `_load_exo_transmit`: two well-formed files whose blocks carry the
    same wavelengths in any two orders load the same wavenumber grid -/
theorem src_exo_wn_order_invariant (tiny : ℝ) (l0' l1' : String) (body' : List String) (f' : ExoFile ℝ)
    (htx' : ExoText parse l0' l1' body' f') (hwf' : ExoWF f')
    (h : ((exoGroup f.body).map (fun b => exoWn b.1)).Perm ((exoGroup f'.body).map (fun b => exoWn b.1))) :
    (srcExoLoad parse E tiny (l0 :: l1 :: body)).1.wn = (srcExoLoad parse E tiny (l0' :: l1' :: body')).1.wn := by
  rw [srcExoLoad_eq parse E hE tiny l0 l1 body f htx hwf, srcExoLoad_eq parse E hE tiny l0' l1' body' f' htx' hwf']
  exact exo_wn_order_invariant tiny f f' h

end exo

/-! ## HITRAN -/

/-- what the regenerated end of `HitranCIA.load_hitran_file` returns after the reading loop collected `hLoad blocks`:
    `((temperature_grid, _wn_dict, wavenumber_grid, xsec_grid), exception)` -/
noncomputable def srcHitranTail (hk : ℝ × ℝ → String) (blocks : List (HBlock ℝ)) (t0 w0 : List ℝ) (x0 : List (List ℝ)) :=
  Gen.SrcC14.HitranCIA_load_tail (hLoad blocks).1 argsort t0 w0 (gdict hk (hLoad blocks).2) x0

/-- the loaded table `(wavenumber_grid, temperature_grid, xsec_grid)` -/
noncomputable def srcHitranTab (hk : ℝ × ℝ → String) (blocks : List (HBlock ℝ)) (t0 w0 : List ℝ) (x0 : List (List ℝ)) :
    CTab ℝ :=
  { wn := (srcHitranTail hk blocks t0 w0 x0).1.2.2.1, t := (srcHitranTail hk blocks t0 w0 x0).1.1,
    x := (srcHitranTail hk blocks t0 w0 x0).1.2.2.2 }

theorem hLoad_ts_ne (blocks : List (HBlock ℝ)) : ∀ g ∈ (hLoad blocks).2, g.ts ≠ [] := hLoad_ts_ne_nil blocks

theorem srcHitranTab_eq (hk : ℝ × ℝ → String) (blocks : List (HBlock ℝ)) (t0 w0 : List ℝ) (x0 : List (List ℝ)) :
    srcHitranTab hk blocks t0 w0 x0 = decHitran blocks ∧ (srcHitranTail hk blocks t0 w0 x0).2 = Except.ok () := by
  obtain ⟨h1, h2, h3, h4⟩ :=
    src_load_hitran_decHitran (fun _ _ => not_lt) hk blocks (hLoad_ts_ne blocks) t0 w0 x0
  refine ⟨?_, h1⟩
  unfold srcHitranTab srcHitranTail
  rw [h2, h3, h4]

/-- **hitran_nonneg**, about the regenerated `fill_gaps` / `compute_final_grid`: no negative cross-section reaches the
    unified table of ANY HITRAN file -/
theorem src_hitran_nonneg (hk : ℝ × ℝ → String) (blocks : List (HBlock ℝ)) (t0 w0 : List ℝ) (x0 : List (List ℝ)) :
    ∀ row ∈ (srcHitranTab hk blocks t0 w0 x0).x, ∀ v ∈ row, 0 ≤ v := by
  rw [(srcHitranTab_eq hk blocks t0 w0 x0).1]; exact hitran_nonneg blocks

/-- **hitran_interp_nonneg**, about the regenerated `interp_lin_only`: between two non-negative values whose
    temperatures bracket `t` the interpolated value is non-negative -/
theorem src_hitran_interp_nonneg {u v t a b : ℝ} (hu : 0 ≤ u) (hv : 0 ≤ v) (h1 : a ≤ t) (h2 : t ≤ b) :
    0 ≤ Gen.SrcC14.interp_lin_only u v t a b := by
  rw [src_interp_lin_only]; exact hitran_interp_nonneg hu hv h1 h2

/-- **hitran_single_range**, about the regenerated end of `load_hitran_file` and `PickleCIA._load_pickle_file`: a HITRAN
    file with ONE wavenumber range loads to the table it was written from — the same attributes the pickle `.db` form
    gives -/
theorem src_hitran_single_range (hk : ℝ × ℝ → String) (pair : String) (tab : CTab ℝ) (hwf : tab.WF) (ht : tab.t ≠ [])
    (hts : tab.t.Pairwise (· < ·)) (hwn : tab.wn.Pairwise (· ≤ ·)) (t0 w0 : List ℝ) (x0 : List (List ℝ)) :
    ((srcHitranTab hk (encHitran pair tab) t0 w0 x0).wn, (srcHitranTab hk (encHitran pair tab) t0 w0 x0).t,
        (srcHitranTab hk (encHitran pair tab) t0 w0 x0).x) = srcPickleCLoad (encPickleC tab) ∧
    srcHitranTab hk (encHitran pair tab) t0 w0 x0 = tab := by
  rw [(srcHitranTab_eq hk (encHitran pair tab) t0 w0 x0).1, (hitran_single_range pair tab hwf ht hts hwn).2,
    src_dec_enc_pickleC]
  exact ⟨rfl, rfl⟩

/-- **hitran_unified**, about the regenerated end of `load_hitran_file`: for ANY HITRAN file in which no
    `(range, temperature)` pair occurs twice the loaded table IS the documented unified table -/
theorem src_hitran_unified (hk : ℝ × ℝ → String) (blocks : List (HBlock ℝ)) (hu : UniqueBlocks blocks)
    (t0 w0 : List ℝ) (x0 : List (List ℝ)) : srcHitranTab hk blocks t0 w0 x0 = hitranUnified blocks := by
  rw [(srcHitranTab_eq hk blocks t0 w0 x0).1]; exact hitran_unified blocks hu

/-- **hitran_master**, about the regenerated end of `load_hitran_file`: the loaded temperature axis is strictly
    increasing and holds exactly the temperatures that head some block -/
theorem src_hitran_master (hk : ℝ × ℝ → String) (blocks : List (HBlock ℝ)) (t0 w0 : List ℝ) (x0 : List (List ℝ)) :
    (srcHitranTab hk blocks t0 w0 x0).t = (hitranUnified blocks).t ∧ (hitranUnified blocks).t.Pairwise (· < ·) ∧
    ∀ T, T ∈ (hitranUnified blocks).t ↔ ∃ b ∈ blocks, b.temp = T := by
  rw [(srcHitranTab_eq hk blocks t0 w0 x0).1]; exact hitran_master blocks

/-! ### the whole of `load_hitran_file`, reading loop included (`src_load_hitran_file`) -/

/-- the table `(wavenumber_grid, temperature_grid, xsec_grid)` the regenerated `HitranCIA.load_hitran_file` leaves behind for
    the file whose lines are `tx.lines blocks` (text encoding `tx`, hash `hk`), and whether it raised -/
noncomputable def srcHitranFile (tx : HText ℝ) (hk : ℝ × ℝ → String) (blocks : List (HBlock ℝ)) : CTab ℝ × Except Py.Err Unit :=
  let r := Gen.SrcC14.HitranCIA_load_hitran_file (c1em10 := 1 / 10000000000) (tx.lines blocks) (blocks.length + 1)
    (fun a b => hk (a, b)) (fun _ _ => ([], [])) argsort "" tx.splitWs [] tx.toFloat tx.toInt [] [] []
  ({ wn := r.1.2.2.2.1, t := r.1.2.1, x := r.1.2.2.2.2 }, r.2)

theorem srcHitranFile_eq (tx : HText ℝ) (hk : ℝ × ℝ → String) (blocks : List (HBlock ℝ)) (hok : tx.Ok blocks)
    (hh : HashOk hk blocks) : srcHitranFile tx hk blocks = (decHitran blocks, Except.ok ()) := by
  obtain ⟨pn, h⟩ := src_load_hitran_file (fun _ _ => not_lt) tx hk blocks hok hh "" [] [] []
  unfold srcHitranFile
  rw [h]

/-- non-vacuity of the hypotheses of `srcHitranFile_eq`: a one-block file `H2-H2 10 20 2 300 1` / `10 -5` / `20 7` -/
example :
    let b : HBlock ℝ := ⟨"H2-H2", 10, 20, 300, 1, [(10, -5), (20, 7)]⟩
    let tx : HText ℝ :=
      { splitWs := fun s => if s = "h" then ["H2-H2", "10", "20", "2", "300", "1"] else if s = "d1" then ["10", "-5"] else ["20", "7"]
        toFloat := fun s => if s = "10" then 10 else if s = "20" then 20 else if s = "300" then 300 else if s = "-5" then -5
          else if s = "7" then 7 else 1
        toInt := fun _ => 2
        hdr := fun _ => "h"
        dat := fun q => if q.1 = 10 then "d1" else "d2" }
    tx.Ok [b] ∧ HashOk (fun _ => "k") [b] ∧ tx.lines [b] = ["h", "d1", "d2"] := by
  intro b tx
  refine ⟨?_, ?_, ?_⟩
  · intro b' hb'
    simp only [List.mem_singleton] at hb'
    subst hb'
    refine ⟨⟨by decide, by simp [tx, b], by simp [tx, b], by simp [tx, b], by simp [tx, b]⟩, ?_⟩
    intro q hq
    simp only [b, List.mem_cons, List.mem_nil_iff, or_false] at hq
    rcases hq with rfl | rfl <;> simp [tx]
  · intro b1 h1 b2 h2
    simp only [List.mem_singleton] at h1 h2
    subst h1; subst h2
    simp [keyEq, eqv]
  · simp [HText.lines, tx, b]

section hitranfile
variable (tx : HText ℝ) (hk : ℝ × ℝ → String) (blocks : List (HBlock ℝ)) (hok : tx.Ok blocks) (hh : HashOk hk blocks)
include hok hh

/-- **hitran_nonneg** (with **hitran_clip_nonneg**: the clipping is part of the translated reading loop), about the
    regenerated `load_hitran_file` as a whole: the file is read without an exception and no negative cross-section reaches the
    table, whatever the signs of the numbers in the file -/
theorem src_file_hitran_nonneg :
    (srcHitranFile tx hk blocks).2 = Except.ok () ∧ ∀ row ∈ (srcHitranFile tx hk blocks).1.x, ∀ v ∈ row, 0 ≤ v := by
  rw [srcHitranFile_eq tx hk blocks hok hh]; exact ⟨rfl, hitran_nonneg blocks⟩

/-- **hitran_unified**, about the regenerated `load_hitran_file` as a whole: the table loaded from the text of ANY file in
    which no `(range, temperature)` pair occurs twice IS the documented unified table -/
theorem src_file_hitran_unified (hu : UniqueBlocks blocks) : (srcHitranFile tx hk blocks).1 = hitranUnified blocks := by
  rw [srcHitranFile_eq tx hk blocks hok hh]; exact hitran_unified blocks hu

/-- **hitran_master**, about the regenerated `load_hitran_file` as a whole -/
theorem src_file_hitran_master :
    (srcHitranFile tx hk blocks).1.t = (hitranUnified blocks).t ∧ (hitranUnified blocks).t.Pairwise (· < ·) ∧
    ∀ T, T ∈ (hitranUnified blocks).t ↔ ∃ b ∈ blocks, b.temp = T := by
  rw [srcHitranFile_eq tx hk blocks hok hh]; exact hitran_master blocks

end hitranfile

/-- **hitran_single_range**, about the regenerated `load_hitran_file` as a whole and `PickleCIA._load_pickle_file`: the text
    of a HITRAN file with ONE wavenumber range loads to the table it was written from — the attributes the pickle `.db` form
    gives -/
theorem src_file_hitran_single_range (tx : HText ℝ) (hk : ℝ × ℝ → String) (pair : String) (tab : CTab ℝ)
    (hok : tx.Ok (encHitran pair tab)) (hh : HashOk hk (encHitran pair tab)) (hwf : tab.WF) (ht : tab.t ≠ [])
    (hts : tab.t.Pairwise (· < ·)) (hwn : tab.wn.Pairwise (· ≤ ·)) :
    (srcHitranFile tx hk (encHitran pair tab)).1 = tab ∧
    ((srcHitranFile tx hk (encHitran pair tab)).1.wn, (srcHitranFile tx hk (encHitran pair tab)).1.t,
      (srcHitranFile tx hk (encHitran pair tab)).1.x) = srcPickleCLoad (encPickleC tab) := by
  rw [srcHitranFile_eq tx hk _ hok hh, (hitran_single_range pair tab hwf ht hts hwn).2, src_dec_enc_pickleC]
  exact ⟨rfl, rfl⟩

/-- **hitran_ranges**, about the regenerated `load_hitran_file` as a whole: the `_wn_dict` it leaves behind holds one range
    object per distinct `(start, end)` header — the ranges `hLoad` groups the blocks into, each filled up to the master
    temperature grid -/
theorem src_file_hitran_ranges (tx : HText ℝ) (hk : ℝ × ℝ → String) (blocks : List (HBlock ℝ)) (hok : tx.Ok blocks)
    (hh : HashOk hk blocks) :
    (Gen.SrcC14.HitranCIA_load_hitran_file (c1em10 := 1 / 10000000000) (tx.lines blocks) (blocks.length + 1)
        (fun a b => hk (a, b)) (fun _ _ => ([], [])) argsort "" tx.splitWs [] tx.toFloat tx.toInt [] [] []).1.2.2.1
      = gdict hk (fillGaps ((hLoad blocks).1.mergeSort (fun a b => decide (a ≤ b))) (hLoad blocks).2) ∧
    ((hLoad blocks).2.map (·.key)).Nodup ∧ (∀ b ∈ blocks, bKey b ∈ (hLoad blocks).2.map (·.key)) := by
  obtain ⟨pn, h⟩ := src_load_hitran_file (fun _ _ => not_lt) tx hk blocks hok hh "" [] [] []
  rw [h]
  exact ⟨rfl, (hitran_ranges blocks).1, (hitran_ranges blocks).2.1⟩

/-! ## molecule names -/

/-- **sanitize_examples** (file-name conjuncts), about the regenerated name handling of the three classes -/
theorem src_name_examples :
    Gen.SrcC14.PickleOpacity_name "1H2-16O.R100.TauREx.pickle" stemS sanitizeStr = "H2O" ∧
    Gen.SrcC14.ExoTransmit_name "opac1H2-16O.dat" stemS sanitizeStr = "H2O" ∧
    Gen.SrcC14.HDF5KTable_name "1H2-16O__POKAZATEL__R1000.ktable.TauREx.h5" stemS sanitizeStr = "H2O" := by
  obtain ⟨_, _, _, _, _, h6, h7, _, h9, _⟩ := sanitize_examples
  refine ⟨?_, ?_, ?_⟩
  · rw [(src_pickle_opacity_names _ []).2]; exact h6
  · rw [(src_exo_names _ []).2]; exact h7
  · rw [(src_hdf5_ktable_names _ []).2]; exact h9

/-- **clean_noop**, about the regenerated `clean_molecule_name` of the three classes: it never changes a sanitised name -/
theorem src_clean_noop (x : String) :
    Gen.SrcC14.PickleOpacity_clean_molecule_name (sanitizeStr x) = sanitizeStr x ∧
    Gen.SrcC14.PickleKTable_clean_molecule_name (sanitizeStr x) = sanitizeStr x ∧
    Gen.SrcC14.HDF5KTable_clean_molecule_name (sanitizeStr x) = sanitizeStr x := by
  obtain ⟨h1, h2, h3⟩ := src_clean_molecule_name (sanitizeStr x)
  have e : String.ofList (firstPart '_' (sanitizeStr x).toList) = sanitizeStr x := by
    unfold sanitizeStr
    rw [String.toList_ofList, clean_noop]
  exact ⟨h1.trans e, h2.trans e, h3.trans e⟩

/-- **names_consistent**, about the regenerated classes: the name the object built from a file reports
    (`clean_molecule_name` of the name derived from the file name) is the name derived from the file name, which is what
    `discover()` advertises for the file -/
theorem src_names_consistent (fname : String) (files : List String) (interp : Option String) :
    Gen.SrcC14.PickleOpacity_clean_molecule_name (Gen.SrcC14.PickleOpacity_name fname stemS sanitizeStr)
      = Gen.SrcC14.PickleOpacity_name fname stemS sanitizeStr ∧
    Gen.SrcC14.HDF5KTable_clean_molecule_name (Gen.SrcC14.HDF5KTable_name fname stemS sanitizeStr)
      = Gen.SrcC14.HDF5KTable_name fname stemS sanitizeStr ∧
    (Gen.SrcC14.PickleOpacity_discover files stemS sanitizeStr interp).map (·.1)
      = files.map (fun f => Gen.SrcC14.PickleOpacity_name f stemS sanitizeStr) ∧
    (Gen.SrcC14.HDF5KTable_discover files stemS sanitizeStr interp).map (·.1)
      = files.map (fun f => Gen.SrcC14.HDF5KTable_name f stemS sanitizeStr) ∧
    (Gen.SrcC14.ExoTransmit_discover files stemS sanitizeStr interp).map (·.1)
      = files.map (fun f => Gen.SrcC14.ExoTransmit_name f stemS sanitizeStr) := by
  refine ⟨?_, ?_, ?_, ?_, ?_⟩
  · rw [(src_pickle_opacity_names fname []).1, (src_pickle_opacity_names fname []).2,
      names_consistent .pickleXsec fname.toList (by decide)]
  · rw [(src_hdf5_ktable_names fname []).1, (src_hdf5_ktable_names fname []).2,
      names_consistent .hdfK fname.toList (by decide)]
  · rw [src_pickle_opacity_discover, List.map_map]
    exact List.map_congr_left (fun f _ => ((src_pickle_opacity_names f []).2).symm)
  · rw [src_hdf5_ktable_discover, List.map_map]
    exact List.map_congr_left (fun f _ => ((src_hdf5_ktable_names f []).2).symm)
  · rw [src_exo_discover, List.map_map]
    exact List.map_congr_left (fun f _ => ((src_exo_names f []).2).symm)

/-! ## the cache -/

/-- the tie's hypothesis on the file system: the model lists a directory's files in the order in which
    `load_opacity_from_path` visits them (class by class, in the order of `klasses`) -/
def VisitOrder (fs : List Dir) (klasses : List Fmt) : Prop :=
  ∀ s : CSt, klasses.flatMap (fun c => (curFiles fs s).filter (fun e => decide (e.fmt = c))) = curFiles fs s

/-- the regenerated `OpacityCache()[m]` on the layout of the state `s`: `((opacity_dict, world), outcome)` -/
def srcGet (fs : List Dir) (klasses : List Fmt) (s : CSt) (m : String) :
    (List (String × Obj) × World) × Except Py.Err Obj :=
  Gen.SrcC14.OpacityCache_getitem m constructM (discoverM fs) klasses (fun o => o.mol)
    s.dict (worldOf s) s.interp s.memMode s.path

theorem srcGet_eq (fs : List Dir) (klasses : List Fmt) (hord : VisitOrder fs klasses) (s : CSt) (m : String) :
    srcGet fs klasses s m = (encS (step fs s (.get m)).1, respE (step fs s (.get m)).2) :=
  src_getitem fs klasses s m (hord s)

theorem respE_ok {r : Resp} {o : Obj} (h : respE r = Except.ok o) : r = .served o := by
  cases r <;> simp [respE] at h ⊢
  exact h

section cache
variable (fs : List Dir) (klasses : List Fmt) (hord : VisitOrder fs klasses)
include hord

/-- **served_same**, about the regenerated `__getitem__`: between two cache clears a molecule is served by one and the
    same object, and serving it again touches neither the dict nor the world (no further load) -/
theorem src_served_same (s : CSt) (m : String) (o : Obj) (ops : List COp)
    (hops : ∀ op ∈ ops, op.clears = false) (h : (srcGet fs klasses s m).2 = Except.ok o) :
    srcGet fs klasses (run fs (step fs s (.get m)).1 ops) m
      = (encS (run fs (step fs s (.get m)).1 ops), Except.ok o) := by
  rw [srcGet_eq fs klasses hord] at h
  rw [srcGet_eq fs klasses hord, served_same fs s m o ops hops (respE_ok h)]
  rfl

/-- **loaded_once**, about the regenerated `__getitem__`: between two cache clears a molecule is constructed at most
    once — the constructor-call log the request leaves behind holds at most one more call for `m` than the log the
    history started from -/
theorem src_loaded_once (hc : consistent fs) (s : CSt) (m : String) (ops : List COp)
    (hops : ∀ op ∈ ops, op.clears = false) :
    ((srcGet fs klasses (run fs s ops) m).1.2.1.filter (fun e => e.1 == m)).length ≤ loadsOf s m + 1 := by
  rw [srcGet_eq fs klasses hord]
  have h := loaded_once fs hc s m (ops ++ [.get m])
    (fun op hop => (List.mem_append.1 hop).elim (hops op) (fun h => by rw [List.mem_singleton.1 h]; rfl))
  rwa [run, List.foldl_append] at h

/-- **interp_effective**, about the regenerated `__getitem__`: after `set_interpolation k` every object loaded from a
    file and served later has mode `k` (until the mode is changed again) -/
theorem src_interp_effective (s : CSt) (k : Nat) (ops : List COp) (m : String) (o : Obj)
    (hops : ∀ op ∈ ops, ∀ k', op ≠ .setInterp k')
    (h : (srcGet fs klasses (run fs (step fs s (.setInterp k)).1 ops) m).2 = Except.ok o) (hsrc : o.src ≠ none) :
    o.mode = k := by
  rw [srcGet_eq fs klasses hord] at h
  exact interp_effective fs s k ops m o hops (respE_ok h) hsrc

/-- **served_values_history_free**, about the regenerated `__getitem__`: what a request serves from a file is — source
    file, interpolation mode, name, memory flag — exactly what the same request serves on an emptied cache with the same
    configuration (premise: the path was not changed since the cache was last emptied) -/
theorem src_served_values_history_free (hc : consistent fs) (s : CSt) (c : COp) (hcl : c.clears = true)
    (ops : List COp) (hops : ∀ op ∈ ops, ∀ p, op ≠ .setPath p) (m : String) (o : Obj)
    (h : (srcGet fs klasses (run fs (step fs s c).1 ops) m).2 = Except.ok o) (hsrc : o.src ≠ none) :
    ∃ o', (srcGet fs klasses { run fs (step fs s c).1 ops with dict := [] } m).2 = Except.ok o' ∧
      o'.src = o.src ∧ o'.mode = o.mode ∧ o'.mol = o.mol ∧ o'.inMem = o.inMem := by
  rw [srcGet_eq fs klasses hord] at h
  obtain ⟨o', h1, rest⟩ := served_values_history_free fs hc s c hcl ops hops m o (respE_ok h) hsrc
  refine ⟨o', ?_, rest⟩
  rw [srcGet_eq fs klasses hord, h1]
  rfl

/-- **get_missing_error**, about the regenerated `__getitem__`: a molecule that is neither cached nor discoverable under
    the configured path raises `Exception('Opacity could not be loaded')`, leaving dict and world as they were -/
theorem src_get_missing_error (s : CSt) (m : String) (hd : lookup s.dict m = none)
    (hf : ∀ e ∈ curFiles fs s, e.disc ≠ m) :
    srcGet fs klasses s m = (encS s, Except.error Py.Err.exception) := by
  rw [srcGet_eq fs klasses hord, get_missing_error fs s m hd hf]
  rfl

end cache

/-! ## the k-table cache -/

/-- the regenerated `KTableCache()[m]` on the layout of the state `s` (`pa`: what `self._opacity_path` holds — handed on and
    never used): `((opacity_dict, world), outcome)` -/
def srcKGet (fs : List Dir) (klasses : List Fmt) (pa : Option Nat) (s : CSt) (m : String) :
    (List (String × Obj) × World) × Except Py.Err Obj :=
  Gen.SrcC14.KTableCache_getitem m constructM (discoverK fs) klasses s.path (fun o => o.mol)
    s.dict pa (worldOf s) s.interp

theorem srcKGet_eq (fs : List Dir) (klasses : List Fmt) (hord : VisitOrder fs klasses) (pa : Option Nat) (s : CSt)
    (m : String) : srcKGet fs klasses pa s m = (encS (stepK fs s (.get m)).1, respE (stepK fs s (.get m)).2) :=
  src_k_getitem fs klasses s m pa (hord s)

section kcache
variable (fs : List Dir) (klasses : List Fmt) (hord : VisitOrder fs klasses) (hu : UniqueDisc fs) (pa : Option Nat)
include hord hu

/-- **ktable_same_machine**, about the regenerated `KTableCache.__getitem__`: with at most one k-table file per molecule
    and directory it computes what the cross-section machine computes -/
theorem src_ktable_same_machine (s : CSt) (m : String) :
    srcKGet fs klasses pa s m = (encS (step fs s (.get m)).1, respE (step fs s (.get m)).2) := by
  rw [srcKGet_eq fs klasses hord, (ktable_same_machine fs hu s []).1]

/-- **served_same**, about the regenerated `KTableCache.__getitem__` -/
theorem src_k_served_same (s : CSt) (m : String) (o : Obj) (ops : List COp)
    (hops : ∀ op ∈ ops, op.clears = false) (h : (srcKGet fs klasses pa s m).2 = Except.ok o) :
    srcKGet fs klasses pa (run fs (step fs s (.get m)).1 ops) m
      = (encS (run fs (step fs s (.get m)).1 ops), Except.ok o) := by
  rw [src_ktable_same_machine fs klasses hord hu pa] at h
  rw [src_ktable_same_machine fs klasses hord hu pa, served_same fs s m o ops hops (respE_ok h)]
  rfl

/-- **loaded_once**, about the regenerated `KTableCache.__getitem__` -/
theorem src_k_loaded_once (hc : consistent fs) (s : CSt) (m : String) (ops : List COp)
    (hops : ∀ op ∈ ops, op.clears = false) :
    ((srcKGet fs klasses pa (run fs s ops) m).1.2.1.filter (fun e => e.1 == m)).length ≤ loadsOf s m + 1 := by
  rw [src_ktable_same_machine fs klasses hord hu pa, ← srcGet_eq fs klasses hord]
  exact src_loaded_once fs klasses hord hc s m ops hops

/-- **interp_effective**, about the regenerated `KTableCache.__getitem__`: after `OpacityCache().set_interpolation(k)`
    (which empties the k-table cache as well, `src_set_interpolation`) every k-table loaded and served later has mode `k` -/
theorem src_k_interp_effective (s : CSt) (k : Nat) (ops : List COp) (m : String) (o : Obj)
    (hops : ∀ op ∈ ops, ∀ k', op ≠ .setInterp k')
    (h : (srcKGet fs klasses pa (run fs (step fs s (.setInterp k)).1 ops) m).2 = Except.ok o) (hsrc : o.src ≠ none) :
    o.mode = k := by
  rw [src_ktable_same_machine fs klasses hord hu pa] at h
  exact interp_effective fs s k ops m o hops (respE_ok h) hsrc

end kcache

/-! ## the CIA cache -/

/-- the regenerated `CIACache()[m]` on the layout of the state `s`: `((cia_dict, world), outcome)`; `stem` stands for
    `Path(f).stem` -/
def srcCiaGet (fs : List CiaSM.CDir) (stem : CiaSM.CFile → String) (s : CiaSM.St) (m : String) :
    (List (String × CiaSM.CObj) × CWorld) × Except Py.Err CiaSM.CObj :=
  Gen.SrcC14.CIACache_getitem m () () s.dict s.path constructH constructP (globC fs) isList isStr
    (fun o => o.pair) pathItems Prod.mk stem (s.log, s.nextId)

section ciacache
variable (fs : List CiaSM.CDir) (stem : CiaSM.CFile → String)
  (hdisc : ∀ e, (Py.split1 '_' (stem e)).getD 0 "" = e.disc)
include hdisc

theorem srcCiaGet_eq (s : CiaSM.St) (m : String) :
    srcCiaGet fs stem s m = (encC (CiaSM.step fs s (.get m)).1, respC (CiaSM.step fs s (.get m)).2) :=
  src_cia_getitem fs stem hdisc s m

omit hdisc in
theorem respC_ok {r : CiaSM.Resp} {o : CiaSM.CObj} (h : respC r = Except.ok o) : r = .served o := by
  cases r <;> simp [respC] at h ⊢
  exact h

/-- **cia_served_same**, about the regenerated `CIACache.__getitem__`: a pair that was served is served by the same object
    after any history, and serving it touches neither the dict nor the world -/
theorem src_cia_served_same (s : CiaSM.St) (m : String) (o : CiaSM.CObj) (ops : List CiaSM.Op)
    (h : (srcCiaGet fs stem s m).2 = Except.ok o) :
    srcCiaGet fs stem (CiaSM.run fs (CiaSM.step fs s (.get m)).1 ops) m
      = (encC (CiaSM.run fs (CiaSM.step fs s (.get m)).1 ops), Except.ok o) := by
  rw [srcCiaGet_eq fs stem hdisc] at h
  rw [srcCiaGet_eq fs stem hdisc, cia_served_same fs s m o ops (respC_ok h)]
  rfl

/-- **cia_loaded_once**, about the regenerated `CIACache.__getitem__`: requesting a cached pair leaves the constructor-call
    log as it is -/
theorem src_cia_loaded_once (s : CiaSM.St) (m : String) (o : CiaSM.CObj) (ops : List CiaSM.Op)
    (h : CiaSM.lookup s.dict m = some o) :
    ((srcCiaGet fs stem (CiaSM.run fs s ops) m).1.2.1.filter (fun e => e.1 == m)).length = CiaSM.loadsOf s m := by
  rw [srcCiaGet_eq fs stem hdisc]
  have := cia_loaded_once fs s m o (ops ++ [.get m]) h
  simp only [CiaSM.run, List.foldl_append, List.foldl_cons, List.foldl_nil] at this
  exact this

/-- **cia_first_container_served**, about the regenerated `CIACache.__getitem__`: however many containers of the pair lie in
    the configured path, the request for an uncached pair returns the object built from the FIRST file in scan order that
    advertises it (directories in path order, `.db` before `.cia`); exactly one constructor call is logged; nothing raises -/
theorem src_cia_first_container_served (hc : CiaSM.consistent fs) (s : CiaSM.St) (m : String)
    (hl : CiaSM.lookup s.dict m = none) (e0 : CiaSM.CFile)
    (hf : (CiaSM.scan fs s.path).find? (fun e => e.disc == m) = some e0) :
    srcCiaGet fs stem s m =
      ((s.dict ++ [(m, { id := s.nextId, pair := m, src := some e0.fileId })], (s.log ++ [(m, e0.fileId)], s.nextId + 1)),
       Except.ok { id := s.nextId, pair := m, src := some e0.fileId }) := by
  rw [srcCiaGet_eq fs stem hdisc, cia_first_container_served fs hc s m hl e0 hf]
  rfl

/-- **cia_get_never_dup**, about the regenerated `CIACache.__getitem__`: it raises only `Exception('cia could notn be
    loaded')` — for a pair without a container in the path, leaving dict and world as they were — never the duplicate
    exception of `add_cia` -/
theorem src_cia_get_never_dup (hc : CiaSM.consistent fs) (s : CiaSM.St) (m : String) :
    ((srcCiaGet fs stem s m).2 = Except.error Py.Err.exception →
      (CiaSM.step fs s (.get m)).2 = .missing) ∧
    (CiaSM.lookup s.dict m = none → (CiaSM.scan fs s.path).find? (fun e => e.disc == m) = none →
      srcCiaGet fs stem s m = (encC s, Except.error Py.Err.exception)) := by
  rw [srcCiaGet_eq fs stem hdisc]
  refine ⟨?_, ?_⟩
  · intro h
    have hnd := (cia_get_never_dup fs hc s m).1
    cases hr : (CiaSM.step fs s (.get m)).2 with
    | served o => rw [hr] at h; simp [respC] at h
    | missing => rfl
    | done => exact absurd hr (CiaSM.step_get_ne_done fs s m)
    | dup => exact absurd hr hnd
  · intro hl hf
    rw [(cia_get_never_dup fs hc s m).2 hl hf]
    rfl

/-- the both-containers directory (`H2-H2.db` beside `H2-H2_2011.cia`), about the regenerated `CIACache.__getitem__`: the
    first request is served the `.db` object, the next one the same object -/
theorem src_cia_both_formats_served :
    let fs : List CiaSM.CDir := [[⟨.db, 0, "H2-H2", "H2-H2"⟩, ⟨.cia, 1, "H2-H2", "H2-H2"⟩]]
    let s0 : CiaSM.St := { CiaSM.init with path := some (.single 0) }
    (srcCiaGet fs stem s0 "H2-H2").2 = Except.ok ⟨0, "H2-H2", some 0⟩ ∧
    (srcCiaGet fs stem (CiaSM.step fs s0 (.get "H2-H2")).1 "H2-H2").2 = Except.ok ⟨0, "H2-H2", some 0⟩ ∧
    (CiaSM.step fs s0 (.get "H2-H2")).1.log = [("H2-H2", 0)] := by
  intro fs s0
  rw [srcCiaGet_eq fs stem hdisc, srcCiaGet_eq fs stem hdisc]
  refine ⟨?_, ?_, ?_⟩ <;> decide +kernel

end ciacache

end Taurex.C14SrcProps
