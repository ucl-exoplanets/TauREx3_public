/-
  C10 — source tie.  `TaurexModel/Gen/SrcC10.lean` is regenerated on every run by `harness/translate.py` (idioms of
  `harness/translate_arr.py`) from the source text of taurex/data/profiles/chemistry/taurexchemistry.py, autochemistry.py,
  chemistry.py, the five classes under gas/ and `movingaverage` of taurex/util/util.py.  The theorems below state, for EVERY carrier (no algebra: induction over the Python lists), that
  each regenerated definition computes the hand-written model function of `TaurexModel/Chemistry.lean` that the C10 theorems
  are about and that `driver_c10` executes.  The code's arrays are functions `Nat → α`, its lists of arrays `List (Nat → α)`;
  `listOf n` / `rowsOf n` (Proofs/C10Src.lean) cut them to the `n` layers to compare with the model's lists.
  The functions translated in the dialect `seq` (harness/translate_seq.py: `taurex.util.movingaverage`, the WHOLE
  `TwoLayerGas.initialize_profile`, `ArrayGas.initialize_profile`, `AutoChemistry.determine_active_inactive`,
  `Chemistry.__init__`) keep arrays and name lists as `List`s of run-time length and raise where Python / numpy raise
  (`Except.error "ValueError"`); `outcomeOf` reads that as the model's `Outcome`.  Externals are instantiated with the model's
  `npInterp` / `linspace` (TaurexModel/NpInterp.lean); Python's `int()` / int → float are the parameters `pyInt` / `toF`,
  whose properties are explicit hypotheses; the cumsum trick of `movingaverage` equals the model's window means over ℝ only
  (`src_movingaverage`), it enters the generic `src_two_layer_gas` as the hypothesis `hma`.
  `Chemistry.get_gas_mix_profile` is translated with the `@property` getters it reads (`activeGases`, `inactiveGases`,
  `activeGasMixProfile`, `inactiveGasMixProfile` of `AutoChemistry`: optional 2-D array, optional index array) and tied to the
  model's `getGasMixProfile` in the object state `determine_active_inactive` leaves (`src_get_gas_mix_profile`).
  A source change that alters one of these functions makes the corresponding theorem fail to check.
-/
import TaurexModel.Gen.SrcC10
import TaurexModel.Chemistry
import Proofs.SeqSrcReal
import Proofs.C10Lemmas
import Proofs.FoldCore
set_option linter.unusedSectionVars false

namespace Taurex.C10Src
open Taurex Taurex.NpInterp Taurex.Chemistry
open Taurex.SeqSrc (outcomeOf outcomeOf_ok assemble_tie assemble_side ma_cumsum argmin_abs getInt_nat)

section
variable {α : Type} [Add α] [Sub α] [Mul α] [Div α] [Neg α] [LT α] [LE α]
  [DecidableLT α] [DecidableLE α] [Taurex.Transc α] [OfNat α 0] [OfNat α 1]

/-- `ConstantGas.initialize_profile` (`mix_ratio * np.ones(nlayers)`) is `constantGas`. -/
theorem src_constant_gas (mix : α) (n : Nat) :
    listOf n (Gen.SrcC10.constant_gas n mix) = constantGas mix n := by
  unfold Gen.SrcC10.constant_gas constantGas
  exact listOf_const n _

/-- `TwoPointGas.initialize_profile` (straight line in (log10 P, log10 X) stored into `[1:-1]`, then the two end layers),
    with `nlayers = len(pressure_profile)`, is `twoPointGas`. -/
theorem src_two_point_gas (surf top : α) (P : List α) :
    listOf P.length (Gen.SrcC10.two_point_gas P.length (fun i => P.getD i 0) P.length surf top)
      = twoPointGas surf top P := by
  unfold Gen.SrcC10.two_point_gas twoPointGas listOf
  apply List.map_congr_left
  intro i hmem
  have hlt : i < P.length := List.mem_range.mp hmem
  by_cases h1 : i = P.length - 1
  · simp [h1]
  · by_cases h0 : i = 0
    · simp [h0]
    · have hi : 1 ≤ i := Nat.one_le_iff_ne_zero.mpr h0
      have hc : 1 ≤ i ∧ i < P.length - 1 := ⟨hi, by omega⟩
      simp only [h1, h0, if_false, Nat.sub_add_cancel hi, hc, and_self, if_true]

/-- `PowerGas.initialize_profile`, the formula after the coefficient look-up (`P = pressure_profile*1e-5` … `self._mix_profile
    = mix`), is `powerGas` with `barFactor` = the literal `1e-5`; `np.power(P, alpha)` is read as `exp (alpha * log P)`
    (`hpow`, the model's definition of the real power; ASSUMPTIONS of harness/c10.py). -/
theorem src_power_gas (ms a b c bf : α) (rpow : α → α → α) (hpow : ∀ x y, rpow x y = exp (y * log x))
    (P T : List α) (n : Nat) (hP : P.length = n) (hT : T.length = n) :
    listOf n (Gen.SrcC10.power_gas (fun i => T.getD i 0) (fun i => P.getD i 0) a b bf c ms rpow)
      = powerGas ms a b c bf P T := by
  unfold Gen.SrcC10.power_gas powerGas
  simp only [hpow]
  conv => rhs; rw [← listOf_getD_self P n hP, ← listOf_getD_self T n hT]
  rw [zipWith_listOf]

/-- **the remainder split among the fill gases** `TaurexChemistry.fill_atmosphere(mixratio_remainder)` with
    `len(self._fill_gases) = nFill` and `self._fill_ratio = ratios` is `fillAtmosphere` (rows: main fill gas first, then one
    row per ratio, `zip` stopping at the shorter of `fill_gases[1:]` and the ratios). -/
theorem src_fill_atmosphere (nFill : Nat) (ratios : List α) (n : Nat) (rem : Nat → α) :
    rowsOf n (Gen.SrcC10.fill_atmosphere rem nFill ratios) = fillAtmosphere nFill ratios (listOf n rem) := by
  unfold Gen.SrcC10.fill_atmosphere fillAtmosphere
  by_cases h : nFill = 1
  · simp [h, rowsOf]
  · simp only [h, decide_false, Bool.false_eq_true, if_false]
    rw [foldl_append_map, List.nil_append, rowsOf_append]
    simp only [rowsOf, List.map_cons, List.map_nil, List.singleton_append, List.map_map, listOf_map]
    rfl

/-- **`initialize_chemistry` up to the row list** (trace profiles `gasMix k`, k < m, each of `n` layers; the constructor has
    enforced the ratio count `hcount`): the model `mixProfile` is `invalid` exactly when the code raises
    `InvalidChemistryException` (`np.any(sum(mix_profile) > 1.0)`), and otherwise its rows are the code's `mix_profile`
    (fill gases from `fill_atmosphere(1 - total)` first, then the traces).  The code's
    `mixratio_remainder += np.zeros(nlayers)` needs `x + 0 = x` (`h0`: true in ℝ, ℚ and for every float but `-0.0`). -/
theorem src_initialize_chemistry (h0 : ∀ x : α, x + 0 = x) (nFill : Nat) (ratios : List α) (n m : Nat)
    (gasMix : Nat → Nat → α) (hcount : ¬ (1 < nFill ∧ ratios.length ≠ nFill - 1)) :
    mixProfile nFill ratios (rowsOf n ((List.range m).map gasMix)) n
      = match Gen.SrcC10.initialize_chemistry n m ratios gasMix nFill with
        | none => Outcome.invalid
        | some rows => Outcome.ok (rowsOf n rows) := by
  unfold Gen.SrcC10.initialize_chemistry mixProfile
  simp only [hcount, if_false, ← List.range_eq_range']
  rw [foldl_append_map, List.nil_append, totalMix_rowsOf, any_listOf]
  split
  · rfl
  · simp only [h0]
    rw [rowsOf_append, src_fill_atmosphere, listOf_map]

/-- **mean molecular weight** `AutoChemistry.compute_mu_profile(nlayers)` (`mu += mixProfile[idx] * mass(gas_idx)` over all
    gases, `mixProfile` not None) is `muProfile` on the rows and masses cut from the code's arrays. -/
theorem src_mu_profile (n m : Nat) (mix : Nat → Nat → α) (massAt : Nat → α) :
    listOf n (Gen.SrcC10.compute_mu_profile n m massAt mix)
      = muProfile (rowsOf n ((List.range m).map mix)) ((List.range m).map massAt) n := by
  unfold Gen.SrcC10.compute_mu_profile muProfile rowsOf
  simp only [← List.range_eq_range']
  rw [List.map_map, List.zip_map, List.foldl_map, ← listOf_const]
  simp only [Function.comp_def, Prod.map_fst, Prod.map_snd, listOf_map]
  have hz : (List.range m).zip (List.range m) = (List.range m).map (fun k => (k, k)) := by
    simp [List.zip_eq_zipWith, List.zipWith_self]
  rw [hz, List.foldl_map]
  rw [foldl_zipWith_listOf n (fun k i => mix k i * massAt k) (List.range m) (fun _ => 0)]
  apply listOf_congr
  intro i _
  exact foldl_fun_apply (fun k i => mix k i * massAt k) (List.range m) (fun _ => 0) i

/-! ### the whole `PowerGas.initialize_profile` (coefficient look-up + formula) -/

/-- the formula part of the `seq` translation of `PowerGas.initialize_profile`, with numpy's shape test of `P`-terms
    against `T`-terms, for resolved coefficients and profiles of equal length: `powerGas` -/
theorem power_formula (m a b g bf : α) (rpow : α → α → α) (hpow : ∀ x y, rpow x y = exp (y * log x))
    (P T : List α) (h : P.length = T.length) :
    outcomeOf "InvalidModelException"
      (if !(Gen.Np.bcastOk
            (List.length (List.map (fun x__ => ((pow10 (g * (-(1 : α)))) * x__))
              (List.map (fun x__ => (rpow x__ a)) (List.map (fun x__ => (x__ * bf)) P))))
            (List.length (List.map (fun x__ => (pow10 x__)) (List.map (fun x__ => (b / x__)) T))))
       then (Except.error "ValueError" : Except String (List α))
       else Except.ok (List.map (fun x__ => (x__ * x__)) (List.map (fun x__ => ((1 : α) / x__))
          (List.map (fun x__ => (((1 : α) / (sqrt m)) + x__)) (List.map (fun x__ => ((1 : α) / x__))
            (List.map (fun x__ => (sqrt x__))
              (Gen.Np.zip2 (fun x__ y__ => (x__ * y__))
                (List.map (fun x__ => ((pow10 (g * (-(1 : α)))) * x__))
                  (List.map (fun x__ => (rpow x__ a)) (List.map (fun x__ => (x__ * bf)) P)))
                (List.map (fun x__ => (pow10 x__)) (List.map (fun x__ => (b / x__)) T)))))))))
      = Outcome.ok (powerGas m a b g bf P T) := by
  simp only [Gen.Np.bcastOk, List.length_map, h, beq_self_eq_true, Bool.true_or, Bool.not_true, Bool.false_eq_true,
    if_false, outcomeOf_ok]
  rw [Gen.Np.zip2_eq _ _ _ (by simp only [List.length_map, h])]
  unfold powerGas
  simp only [List.map_map, List.zipWith_map_left, List.zipWith_map_right, List.map_zipWith, Function.comp_def, hpow]

/-- **`PowerGas.initialize_profile`, the whole function**: every coefficient the constructor left `None` is taken from the
    tuple `check_known(profile_type)` returns (external `known`; its components are `(alpha, beta, gamma, A)`), a coefficient
    that is `None` there too raises ValueError (`error`), then the formula: `powerGasAuto`.  `np.power(P, alpha)` is read as
    `exp (alpha * log P)` (`hpow`); pressure and temperature profile have the same length. -/
theorem src_power_gas_full (ms a b g : Option α) (known : String → Option α × Option α × Option α × Option α)
    (ptype : String) (bf : α) (rpow : α → α → α) (hpow : ∀ x y, rpow x y = exp (y * log x)) (P T : List α) (n : Nat)
    (h : P.length = T.length) :
    outcomeOf "InvalidModelException" (Gen.SrcC10.power_gas_full n T P a b bf known g ms ptype rpow)
      = powerGasAuto ms a b g (known ptype) bf P T := by
  unfold Gen.SrcC10.power_gas_full powerGasAuto
  dsimp only
  generalize known ptype = k
  rw [powerCoeff_lookup ms k.2.2.2 _ (by cases k.2.2.2 <;> rfl), powerCoeff_lookup a k.1 _ (by cases k.1 <;> rfl),
    powerCoeff_lookup b k.2.1 _ (by cases k.2.1 <;> rfl), powerCoeff_lookup g k.2.2.1 _ (by cases k.2.2.1 <;> rfl)]
  -- the first coefficient that cannot be resolved raises; the model's match falls through to `error` there
  cases powerCoeff ms k.2.2.2 with
  | none => rfl
  | some m =>
  cases powerCoeff a k.1 with
  | none => rfl
  | some a =>
  cases powerCoeff b k.2.1 with
  | none => rfl
  | some b =>
  cases powerCoeff g k.2.2.1 with
  | none => rfl
  | some g => exact power_formula m a b g bf rpow hpow P T h

/-! ### `ArrayGas` and the whole `TwoLayerGas.initialize_profile` (dialect `seq`: lists of run-time length, Python ints,
    numpy's shape tests as `Except.error "ValueError"`) -/

section
variable [NatConv α] [OfNat α 2] [OfNat α 100]

/-- `ArrayGas.initialize_profile` (`np.interp(np.linspace(0, 1, nlayers), np.linspace(0, 1, len(arr)), arr)`) is `arrayGas`;
    `np.linspace` / `np.interp` are the model's `linspace` / `npInterp` (TaurexModel/NpInterp.lean). -/
theorem src_array_gas (arr : List α) (n : Nat) :
    Gen.SrcC10.array_gas n (fun x xp fp => npInterp xp fp x) (fun a b k => linspace a b k) arr = arrayGas arr n := by
  unfold Gen.SrcC10.array_gas arrayGas
  rfl

/-- `wsize = int(…); if wsize % 2 == 0: wsize += 1` on Python ints, for a non-negative truncation `t`: the body of `oddWindow` at `t` -/
theorem odd_window_int (t : Nat) :
    (if decide ((Int.ofNat t) % 2 = (0 : Int)) then Int.ofNat t + (1 : Int) else Int.ofNat t)
      = Int.ofNat (if t % 2 = 0 then t + 1 else t) :=
  SeqSrc.odd_window_int t

theorem oddWindow_odd_gen (n : Nat) (w : α) : oddWindow n w % 2 = 1 :=
  oddWindow_odd n w

/-- **`TwoLayerGas.initialize_profile`, the whole function** (the layer next to the boundary pressure by `argmin`, the
    transition layers `max(int(P_layer - w/2), 0)` / `min(int(P_layer + w/2), nlayers - 1)`, `np.interp` in log P through the
    four nodes, the odd smoothing window, `movingaverage` of `log10`, the border store into `self._mix_profile`) is
    `twoLayerGas`; numpy's ValueError at the slice store is `error`.  `np.interp` is the model's `npInterp`, `pyInt` is
    Python's `int()`, `toF` the int → float conversion.  Hypotheses (facts about numbers, none about the code):
    `hF` float(n) is the model's `ofNat'`; `hInt` the model's `truncNat` is the non-negative part of `int()`; `hend`, `hw`
    the upper transition layer and the window product are not negative (true for a non-negative smoothing window);
    `hn` at least one layer; `hhalf` `int(k / 2) = k // 2` for `k ≥ 0`; `hma` the cumsum trick of `movingaverage` gives the
    window means (`src_movingaverage`: exact over ℝ, up to rounding on floats). -/
theorem src_two_layer_gas (surf top pb w : α) (nlayers : Nat) (pressure : List α) (pyInt : α → Int) (toF : Int → α)
    (hn : 1 ≤ nlayers)
    (hF : ∀ n : Nat, toF (Int.ofNat n) = ofNat' n)
    (hInt : ∀ x : α, max (pyInt x) 0 = Int.ofNat (truncNat x))
    (hend : 0 ≤ pyInt (ofNat' (argminAbs pressure pb) + w / 2))
    (hw : 0 ≤ pyInt (ofNat' nlayers * (w / 100)))
    (hhalf : ∀ k : Nat, pyInt (toF (Int.ofNat k) / 2) = Int.ofNat (k / 2))
    (hma : Gen.SrcC10.movingaverage ((twoLayerRaw surf top pb w nlayers pressure).map log10)
        (Int.ofNat (oddWindow nlayers w)) toF
      = Except.ok (movingAverage ((twoLayerRaw surf top pb w nlayers pressure).map log10) (oddWindow nlayers w))) :
    outcomeOf "InvalidModelException"
      (Gen.SrcC10.two_layer_gas nlayers pressure (fun x xp fp => npInterp xp fp x) pb surf top pyInt w toF)
      = twoLayerGas surf top pb w nlayers pressure := by
  have hnonneg : ∀ x : α, 0 ≤ pyInt x → pyInt x = Int.ofNat (truncNat x) := by
    intro x hx
    rw [← hInt x]; omega
  have hmin : min (Int.ofNat (truncNat (ofNat' (argminAbs pressure pb) + w / 2))) (Int.ofNat nlayers - (1 : Int))
      = Int.ofNat (min (truncNat (ofNat' (argminAbs pressure pb) + w / 2)) (nlayers - 1)) := by
    rw [show Int.ofNat nlayers - (1 : Int) = Int.ofNat (nlayers - 1) from (Int.ofNat_sub hn).symm]
    simp only [Int.ofNat_eq_natCast]; omega
  have hraw : List.map (fun p => pow10 (npInterp
        [log (pressure.getD (pressure.length - 1) 0),
          log (pressure.getD (min (truncNat (ofNat' (argminAbs pressure pb) + w / 2)) (nlayers - 1)) 0),
          log (pressure.getD (truncNat (ofNat' (argminAbs pressure pb) - w / 2)) 0), log (pressure.getD 0 0)]
        [log10 top, log10 top, log10 surf, log10 surf] (log p))) pressure.reverse
      = twoLayerRaw surf top pb w nlayers pressure := rfl
  have hodd : (if truncNat (ofNat' nlayers * (w / 100)) % 2 = 0
      then truncNat (ofNat' nlayers * (w / 100)) + 1 else truncNat (ofNat' nlayers * (w / 100)))
      = oddWindow nlayers w := rfl
  have hfuse : ∀ xp fp : List α,
      List.map (fun x__ => pow10 x__) (List.map (fun x__ => npInterp xp fp x__)
        (List.map (fun x__ => log x__) (List.reverse pressure)))
      = List.map (fun p => pow10 (npInterp xp fp (log p))) pressure.reverse := fun xp fp => by
    simp only [List.map_map, Function.comp_def]
  unfold Gen.SrcC10.two_layer_gas twoLayerGas
  -- the nodes and the window in the model's terms, then the raw profile and the smoothed one
  simp only [hfuse, Gen.SrcC10.two_layer_mixRatioSurface, Gen.SrcC10.two_layer_mixRatioTop, argmin_abs, hF, hInt,
    hnonneg _ hend, hmin, getInt_nat, hnonneg _ hw, odd_window_int, List.reverse_cons, List.reverse_nil,
    List.nil_append, List.cons_append, List.map_cons, List.map_nil]
  simp only [hraw, hodd, hma]
  exact SeqSrc.smooth_store_tie "InvalidModelException" (by decide) pyInt toF hhalf
    ((twoLayerRaw surf top pb w nlayers pressure).map log10) _ _ (halfWindow nlayers w) (List.length_map _)
    (by rw [List.length_map, oddWindow_eq])

end

end

/-! ### the active / inactive split -/

/-- the pairs `(name, position)` of the gases satisfying `keep`, as the comprehension over `enumerate` builds them: their
    names are the filtered list, their positions the model's `maskFrom` -/
theorem unzip_filter (keep : String → Bool) : ∀ (gs : List String) (k : Nat),
    (List.map (fun it => (it.1, it.2)) (List.filter (fun it => keep it.1) (List.zipIdx gs k))).map (fun p => p.1)
      = gs.filter keep ∧
    (List.map (fun it => (it.1, it.2)) (List.filter (fun it => keep it.1) (List.zipIdx gs k))).map (fun p => p.2)
      = maskFrom keep gs k
  | [], _ => by simp [maskFrom]
  | g :: gs, k => by
    have ih := unzip_filter keep gs (k + 1)
    rw [List.zipIdx_cons]
    by_cases h : keep g = true
    · simp only [List.filter_cons, h, if_true, List.map_cons, maskFrom]
      exact ⟨by rw [ih.1], by rw [ih.2]⟩
    · simp only [List.filter_cons, h, maskFrom]
      exact ih

/-- **`AutoChemistry.determine_active_inactive`** (`zip(*[(m, i) for i, m in enumerate(self.gases) if m in
    self.availableActive])`, the ValueError of unpacking an empty `zip` caught, the same with `not in`, then `np.array` of the
    masks that are not None) leaves in `_active`, `_inactive` the model's `activeGases`, `inactiveGases` and in `_active_mask`,
    `_inactive_mask` the model's `activeMask`, `inactiveMask` — `None` instead of an empty mask. -/
theorem src_determine_active_inactive (gases avail : List String) :
    Gen.SrcC10.determine_active_inactive avail gases
      = (activeGases gases avail,
         (if (activeMask gases avail).isEmpty then none else some (activeMask gases avail)),
         inactiveGases gases avail,
         (if (inactiveMask gases avail).isEmpty then none else some (inactiveMask gases avail))) := by
  have key : ∀ keep : String → Bool,
      (if (List.map (fun it => (it.1, it.2)) (List.filter (fun it => keep it.1) (List.zipIdx gases))).isEmpty
        then (([] : List String), (none : Option (List Nat)))
        else ((List.map (fun it => (it.1, it.2)) (List.filter (fun it => keep it.1) (List.zipIdx gases))).map (fun p => p.1),
              some ((List.map (fun it => (it.1, it.2)) (List.filter (fun it => keep it.1) (List.zipIdx gases))).map
                (fun p => p.2))))
      = (gases.filter keep, if (maskFrom keep gases 0).isEmpty then none else some (maskFrom keep gases 0)) := by
    intro keep
    obtain ⟨h1, h2⟩ := unzip_filter keep gases 0
    rw [← h1, ← h2]
    cases List.map (fun it => (it.1, it.2)) (List.filter (fun it => keep it.1) (List.zipIdx gases)) <;> rfl
  unfold Gen.SrcC10.determine_active_inactive activeGases inactiveGases activeMask inactiveMask
  simp only [Option.map_id', key (fun g => avail.contains g), key (fun g => !avail.contains g)]

/-- **`Chemistry.__init__`** (the molecule list of the k-table cache or of the cross-section cache, by the global option
    `opacity_method`, minus the names in the option `deactive_molecules` when it is a list) leaves in `_avail_active` the
    model's `availableActive`.  The caches and `GlobalCache` are externals (parameters). -/
theorem src_chemistry_init (kt op : List String) (ktables : Bool) (deactive : Option (List String)) :
    Gen.SrcC10.chemistry_init deactive kt ktables op = availableActive (if ktables then kt else op) deactive := by
  unfold Gen.SrcC10.chemistry_init availableActive
  cases deactive <;> cases ktables <;> simp [Option.elim]

/-- the same with `deactive_molecules` given as ONE bare string: it names that molecule (`[deactive_list]`) -/
theorem src_chemistry_init_str (kt op : List String) (ktables : Bool) (d : String) :
    Gen.SrcC10.chemistry_init_str d kt ktables op = availableActive (if ktables then kt else op) (some [d]) := by
  unfold Gen.SrcC10.chemistry_init_str availableActive
  cases ktables <;> simp

/-- **`taurex.util.movingaverage`** (the cumsum trick `ret = cumsum(a); ret[n:] = ret[n:] - ret[:-n]; ret[n-1:] / n`, with
    the shape tests numpy makes at the subtraction and at the slice store) for a window `w ≥ 1` never raises and returns
    the `len(a) - w + 1` window means of the model's `movingAverage` (none when the window is longer than the array).
    An algebraic identity (telescoping sums): over ℝ. -/
theorem src_movingaverage (a : List ℝ) (w : Nat) (hw : 1 ≤ w) (toF : Int → ℝ)
    (hF : ∀ n : Nat, toF (Int.ofNat n) = (n : ℝ)) :
    Gen.SrcC10.movingaverage a (Int.ofNat w) toF = Except.ok (movingAverage a w) := by
  obtain ⟨h1, h2, h3⟩ := ma_cumsum a w hw (toF (Int.ofNat w)) (hF w)
  unfold Gen.SrcC10.movingaverage
  simp only [h1, h2, Bool.not_true, Bool.false_eq_true, if_false, h3]

/-! ### the look-up of one gas -/

/-- **`Chemistry.get_gas_mix_profile(name)`** with the `@property` getters it reads (`activeGases` / `inactiveGases`: the
    attributes `_active` / `_inactive`; `activeGasMixProfile` / `inactiveGasMixProfile`: `raise Exception` while
    `self.mixProfile` is None, `None` while the mask is None, else `self.mixProfile[mask]`), on an object whose attributes
    `(_active, _active_mask, _inactive, _inactive_mask)` are what the regenerated `determine_active_inactive` leaves and whose
    `mixProfile` is the 2-D array `mix`: the row the model's `getGasMixProfile` returns, `KeyError` where the model says
    `none`.  The other exits of the translated text (`ValueError` of `list.index`, `TypeError` of subscripting the `None` a
    getter returns for an empty mask, `Exception`) are unreachable in this state: a name found in `_active` makes the mask
    non-empty. -/
theorem src_get_gas_mix_profile {β : Type} (gases avail : List String) (mix : List (List β)) (name : String) :
    Gen.SrcC10.get_gas_mix_profile name
        (Gen.SrcC10.determine_active_inactive avail gases).1
        (Gen.SrcC10.determine_active_inactive avail gases).2.1
        (Gen.SrcC10.determine_active_inactive avail gases).2.2.1
        (Gen.SrcC10.determine_active_inactive avail gases).2.2.2 (some mix)
      = (getGasMixProfile gases avail mix name).elim (Except.error "KeyError") Except.ok := by
  rw [src_determine_active_inactive]
  unfold Gen.SrcC10.get_gas_mix_profile Gen.SrcC10.auto_activeGases Gen.SrcC10.auto_inactiveGases
    Gen.SrcC10.auto_activeGasMixProfile Gen.SrcC10.auto_inactiveGasMixProfile getGasMixProfile
  have hne : ∀ (keep : String → Bool), (gases.filter keep).contains name = true →
      (maskFrom keep gases 0).isEmpty = false := by
    intro keep h
    refine List.isEmpty_eq_false_iff.2 (List.ne_nil_of_length_pos ?_)
    rw [maskFrom_length]
    exact List.length_pos_of_mem (List.contains_iff_mem.1 h)
  by_cases ha : (activeGases gases avail).contains name = true
  · have h1 : (activeMask gases avail).isEmpty = false := hne _ ha
    simp only [ha, h1, Bool.not_true, Bool.false_eq_true, ↓reduceIte, Option.elim, selectRows, Gen.Np.take]
  · have ha' : (activeGases gases avail).contains name = false := by simpa using ha
    by_cases hi : (inactiveGases gases avail).contains name = true
    · have h1 : (inactiveMask gases avail).isEmpty = false := hne _ hi
      simp only [ha', hi, h1, Bool.not_true, Bool.false_eq_true, ↓reduceIte, Option.elim, selectRows, Gen.Np.take]
    · have hi' : (inactiveGases gases avail).contains name = false := by simpa using hi
      simp only [ha', hi', Bool.false_eq_true, ↓reduceIte, Option.elim]

/-- the same before `initialize_chemistry` has run (`self.mixProfile` is None): the getter raises `Exception` for a gas of
    the mixture, and an unknown name is still a `KeyError` -/
theorem src_get_gas_mix_profile_uninit {β : Type} (gases avail : List String) (name : String) :
    Gen.SrcC10.get_gas_mix_profile (α := β) name
        (Gen.SrcC10.determine_active_inactive avail gases).1
        (Gen.SrcC10.determine_active_inactive avail gases).2.1
        (Gen.SrcC10.determine_active_inactive avail gases).2.2.1
        (Gen.SrcC10.determine_active_inactive avail gases).2.2.2 none
      = if gases.contains name then Except.error "Exception" else Except.error "KeyError" := by
  -- which exit is taken depends only on whether the name is a gas and whether it is available
  have hc : ∀ keep : String → Bool, (gases.filter keep).contains name = (gases.contains name && keep name) :=
    fun keep => by
      rw [Bool.eq_iff_iff]
      simp only [List.contains_iff_mem, List.mem_filter, Bool.and_eq_true]
  rw [src_determine_active_inactive]
  unfold Gen.SrcC10.get_gas_mix_profile Gen.SrcC10.auto_activeGases Gen.SrcC10.auto_inactiveGases
    Gen.SrcC10.auto_activeGasMixProfile Gen.SrcC10.auto_inactiveGasMixProfile
  simp only [activeGases, inactiveGases, hc]
  cases gases.contains name <;> cases avail.contains name <;> rfl

end Taurex.C10Src
