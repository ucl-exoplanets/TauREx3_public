/-
  C08 — prior transforms are monotone inverse-CDF maps in the declared space.

  Theorems over ℝ about `Taurex.Priors` (`mkUniform`, `mkLogUniform`, `mkLogUniformLin`, `mkLogGaussian`, `defaultPrior`,
  `Prior.sample`, `Prior.back`, `Prior.boundaries`, `parseToks`/`printToks`), the same definitions `driver_c08` executes
  against `taurex.core.priors` / `parse_priors` / `create_prior` (harness/c08.py).

  Externals: `scipy.stats.uniform.ppf(u, loc, scale) = u*scale + loc`; `scipy.stats.norm.ppf(u, loc, scale) =
  ppf u * scale + loc` where `ppf` (= `scipy.special.ndtri`) is a parameter, assumed monotone (resp. a right inverse of
  the standard normal CDF `Φ`) exactly where a theorem says so.
-/
import Proofs.C08
import Proofs.C08Lex
import Proofs.FittableTable
import Proofs.C08Objects
import Proofs.C08File

namespace Taurex.C08
open Taurex.Priors Taurex.FittableTable

/-! ### uniform priors -/

/-- the order of the two bounds is irrelevant -/
theorem uniform_order_free (a b : ℝ) :
    mkUniform a b = mkUniform b a ∧ mkLogUniform a b = mkLogUniform b a := by
  simp only [mkUniform_real, mkLogUniform_real, min_comm a b, max_comm a b, and_self]

/-- the stored bounds are (min, max) whatever the order given -/
theorem uniform_boundaries (a b : ℝ) (ppf : ℝ → ℝ) :
    (mkUniform a b).boundaries ppf = (min a b, max a b) ∧ (mkLogUniform a b).boundaries ppf = (min a b, max a b) := by
  rw [mkUniform_real, mkLogUniform_real]
  exact ⟨rfl, rfl⟩

/-- `sample` of a uniform prior is `low + (high - low) * u` -/
theorem uniform_sample (a b u : ℝ) (ppf : ℝ → ℝ) :
    (mkUniform a b).sample ppf u = min a b + (max a b - min a b) * u ∧
    (mkLogUniform a b).sample ppf u = min a b + (max a b - min a b) * u := by
  rw [mkUniform_real, mkLogUniform_real]
  simp only [Prior.sample, uniformPpf]
  constructor <;> ring

/-- monotone in `u`, strictly when the bounds differ -/
theorem uniform_mono (a b : ℝ) (ppf : ℝ → ℝ) :
    Monotone ((mkUniform a b).sample ppf) ∧ (a ≠ b → StrictMono ((mkUniform a b).sample ppf)) ∧
    Monotone ((mkLogUniform a b).sample ppf) ∧ (a ≠ b → StrictMono ((mkLogUniform a b).sample ppf)) := by
  rw [mkUniform_real, mkLogUniform_real]
  have hmono := uniformPpf_eq_normPpf _ _ ▸ normPpf_monotone monotone_id (min a b) (width_nonneg a b)
  have hstrict := fun h : a ≠ b =>
    uniformPpf_eq_normPpf _ _ ▸ normPpf_strictMono strictMono_id (min a b) (width_pos h)
  exact ⟨hmono, hstrict, hmono, hstrict⟩

/-- the unit interval is mapped onto `[low, high]`: end points, range, surjectivity -/
theorem uniform_onto (a b : ℝ) (ppf : ℝ → ℝ) :
    (mkUniform a b).sample ppf 0 = min a b ∧ (mkUniform a b).sample ppf 1 = max a b ∧
    (∀ u, 0 ≤ u → u ≤ 1 → min a b ≤ (mkUniform a b).sample ppf u ∧ (mkUniform a b).sample ppf u ≤ max a b) ∧
    (∀ x, min a b ≤ x → x ≤ max a b → ∃ u, 0 ≤ u ∧ u ≤ 1 ∧ (mkUniform a b).sample ppf u = x) := by
  have hm := (uniform_mono a b ppf).1
  rw [mkUniform_real] at hm ⊢
  refine ⟨uniformPpf_zero _ _, uniformPpf_one _ _, fun u h0 h1 =>
    ⟨(uniformPpf_zero _ _).symm.trans_le (hm h0), (hm h1).trans_eq (uniformPpf_one _ _)⟩, fun x hlo hhi => ?_⟩
  exact uniformPpf_surj _ (width_nonneg a b) hlo (hhi.trans_eq (add_sub_cancel _ _).symm)

/-- inverse-CDF identity: the CDF of the uniform distribution on `[low, high]`, evaluated at `sample u`, is `u` -/
theorem uniform_inverse_cdf (a b u : ℝ) (ppf : ℝ → ℝ) (h : a ≠ b) :
    ((mkUniform a b).sample ppf u - min a b) / (max a b - min a b) = u := by
  rw [(uniform_sample a b u ppf).1, add_sub_cancel_left, mul_div_cancel_left₀ _ (width_pos h).ne']

/-! ### log space -/

/-- `lin_bounds = b` is the same prior as `bounds = log10 b`; non-positive linear bounds are refused -/
theorem log_lin_equiv (l0 l1 : ℝ) :
    (0 < l0 → 0 < l1 → mkLogUniformLin l0 l1 = some (mkLogUniform (log10 l0) (log10 l1))) ∧
    (¬ (0 < l0 ∧ 0 < l1) → mkLogUniformLin l0 l1 = none) := by
  constructor
  · intro h0 h1
    rw [mkLogUniformLin, log10?_pos h0, log10?_pos h1]
    rfl
  · intro h
    unfold mkLogUniformLin
    by_cases h0 : 0 < l0
    · rw [log10?_pos h0, log10?_of_not_pos fun h1 => h ⟨h0, h1⟩]
      rfl
    · rw [log10?_of_not_pos h0]
      rfl

/-- `lin_mean = m` is the same prior as `mean = log10 m`, `lin_std = s` as `std = log10 s`; absent ones keep `mean`/`std` -/
theorem log_lin_equiv_gaussian (mean std lm ls : ℝ) (hm : 0 < lm) (hs : 0 < ls) :
    mkLogGaussian mean std (some lm) none = mkLogGaussian (log10 lm) std none none ∧
    mkLogGaussian mean std none (some ls) = mkLogGaussian mean (log10 ls) none none ∧
    mkLogGaussian mean std none none = some (.logGaussian mean std) := by
  simp only [mkLogGaussian, log10?_pos hm, log10?_pos hs]
  exact ⟨rfl, rfl, rfl⟩

/-- what reaches the model: `x` for the linear classes, `10 ** x` for the log classes; so a log-space coordinate
    `log10 v` comes back as `v` -/
theorem prior_back (p : Prior ℝ) (x v : ℝ) (hv : 0 < v) :
    (p.mode = .linear → p.back x = x) ∧ (p.mode = .log → p.back x = (10 : ℝ) ^ x ∧ p.back (log10 v) = v) := by
  constructor
  · intro h; simp [Prior.back, h]
  · intro h
    simp only [Prior.back, h]
    exact ⟨rfl, pow10_log10 hv⟩

/-- the two `Log…` classes and only they live in log space -/
theorem mode_of_class (a b : ℝ) :
    (mkUniform a b).mode = .linear ∧ (mkLogUniform a b).mode = .log ∧ (mkGaussian a b).mode = .linear ∧
    (∀ p, mkLogGaussian a b none none = some p → p.mode = .log) := by
  refine ⟨rfl, rfl, rfl, fun p hp => ?_⟩
  cases Option.some.inj hp
  rfl

/-- a log-uniform prior given by linear bounds hands the model values from exactly `[min l, max l]`:
    the end points come back as the linear bounds and the map `u ↦ prior(sample u)` is monotone -/
theorem log_uniform_linear_range (l0 l1 : ℝ) (h0 : 0 < l0) (h1 : 0 < l1) (ppf : ℝ → ℝ) :
    ∃ p, mkLogUniformLin l0 l1 = some p ∧ p.back (p.sample ppf 0) = min l0 l1 ∧ p.back (p.sample ppf 1) = max l0 l1 ∧
      Monotone (fun u => p.back (p.sample ppf u)) := by
  refine ⟨_, (log_lin_equiv l0 l1).1 h0 h1, ?_, ?_, pow10_strictMono.monotone.comp (uniform_mono _ _ ppf).2.2.1⟩
  · rw [← pow10_log10 (lt_min h0 h1), log10_strictMonoOn.monotoneOn.map_min h0 h1, mkLogUniform_real]
    exact congrArg pow10 (uniformPpf_zero _ _)
  · rw [← pow10_log10 (lt_max_of_lt_left h0), log10_strictMonoOn.monotoneOn.map_max h0 h1, mkLogUniform_real]
    exact congrArg pow10 (uniformPpf_one _ _)

/-! ### Gaussian priors -/

/-- with a positive width and a monotone standard-normal quantile function, `sample` is monotone (strictly if `ppf` is) -/
theorem gaussian_mono (mean std : ℝ) (hs : 0 < std) (ppf : ℝ → ℝ) :
    (Monotone ppf → Monotone ((mkGaussian mean std).sample ppf)) ∧
    (StrictMono ppf → StrictMono ((mkGaussian mean std).sample ppf)) ∧
    (Monotone ppf → Monotone ((Prior.logGaussian mean std).sample ppf)) :=
  ⟨fun hp => normPpf_monotone hp mean hs.le, fun hp => normPpf_strictMono hp mean hs,
    fun hp => normPpf_monotone hp mean hs.le⟩

/-- inverse-CDF identity: if `ppf` is a right inverse of the standard normal CDF `Φ` at `u`, then the CDF of
    N(mean, std²) at `sample u` is `u` -/
theorem gaussian_inverse_cdf (mean std u : ℝ) (hs : 0 < std) (ppf Φ : ℝ → ℝ) (hΦ : Φ (ppf u) = u) :
    Φ (((mkGaussian mean std).sample ppf u - mean) / std) = u := by
  simp only [mkGaussian, Prior.sample, normPpf]
  have : (ppf u * std + mean - mean) / std = ppf u := by
    rw [add_sub_cancel_right, mul_div_cancel_right₀ _ (ne_of_gt hs)]
  rw [this, hΦ]

/-- `boundaries()` of a Gaussian are its 10 % and 90 % quantiles -/
theorem gaussian_boundaries (mean std : ℝ) (ppf : ℝ → ℝ) :
    (mkGaussian mean std).boundaries ppf = (ppf 0.1 * std + mean, ppf 0.9 * std + mean) := by
  simp [mkGaussian, Prior.boundaries, Prior.sample, normPpf]

/-! ### default priors -/

/-- the default prior derives from the parameter's mode and bounds: uniform between the bounds in linear mode,
    log-uniform between their log10 in log mode (positive bounds), and no default exists for a log-mode parameter
    with a non-positive bound -/
theorem default_from_bounds (b0 b1 : ℝ) :
    defaultPrior .linear b0 b1 = some (.uniform (min b0 b1) (max b0 b1)) ∧
    (0 < b0 → 0 < b1 → defaultPrior .log b0 b1 =
        some (.logUniform (min (log10 b0) (log10 b1)) (max (log10 b0) (log10 b1)))) ∧
    (¬ (0 < b0 ∧ 0 < b1) → defaultPrior .log b0 b1 = none) := by
  refine ⟨congrArg some (mkUniform_real b0 b1), fun h0 h1 => ?_, (log_lin_equiv b0 b1).2⟩
  rw [← mkLogUniform_real]
  exact (log_lin_equiv b0 b1).1 h0 h1

/-! ### default priors of DECLARED parameters (decorator / `add_fittable_param`, then `modify_bounds`) -/

/-- declaration → tuple: keywords given are stored as given (whatever the route: `@fitparam(...)`, `fitparam(f, ...)`,
    `add_fittable_param`); keywords left out of the decorator take the signature defaults `'linear'`, `False`, `[0, 1]` -/
theorem declaration_tuple (name : String) (m : FitMode) (f : Bool) (b0 b1 : ℝ) :
    (Decl.entry ⟨name, some m, some f, some (b0, b1)⟩ = ⟨name, m, f, b0, b1⟩) ∧
    (Decl.entry (α := ℝ) ⟨name, none, none, none⟩ = ⟨name, .linear, false, 0, 1⟩) := ⟨rfl, rfl⟩

/-- **Defaults derive from the declared mode and the current bounds.**  For an object whose declarations and
    `modify_bounds` calls all succeed, the default prior `compile_params` builds for a declared parameter is
    `defaultPrior` of the mode it was DECLARED with and of the bounds of the LAST `modify_bounds` naming it (its declared
    bounds when there is none): no boundary change touches the mode, and no other parameter's change touches it. -/
theorem default_from_declaration (decls : List (Decl ℝ)) (hist : List (String × ℝ × ℝ)) (t : List (Entry ℝ))
    (h : declaredTable decls hist = some t) (d : Decl ℝ) (hd : d ∈ decls) :
    defaultOf t d.name = some (defaultPrior (d.mode.getD .linear)
      (lastBounds d.name hist (d.entry.b0, d.entry.b1)).1 (lastBounds d.name hist (d.entry.b0, d.entry.b1)).2) := by
  unfold defaultOf
  rw [(declaredTable_spec decls hist t h).2 d hd]
  rfl

/-- in particular a parameter declared `'log'` whose current bounds are positive gets the log-uniform prior between
    the log10 of the current bounds, one declared `'linear'` (or without a mode) the uniform prior between them -/
theorem default_from_declaration_classes (decls : List (Decl ℝ)) (hist : List (String × ℝ × ℝ)) (t : List (Entry ℝ))
    (h : declaredTable decls hist = some t) (d : Decl ℝ) (hd : d ∈ decls) (b0 b1 : ℝ)
    (hb : lastBounds d.name hist (d.entry.b0, d.entry.b1) = (b0, b1)) :
    (d.mode = some .log → 0 < b0 → 0 < b1 →
      defaultOf t d.name = some (some (.logUniform (min (log10 b0) (log10 b1)) (max (log10 b0) (log10 b1))))) ∧
    (d.mode ≠ some .log → defaultOf t d.name = some (some (.uniform (min b0 b1) (max b0 b1)))) := by
  have hm := default_from_declaration decls hist t h d hd
  rw [hb] at hm
  constructor
  · intro hlog h0 h1
    rw [hm, hlog]
    simp only [Option.getD_some]
    rw [(default_from_bounds b0 b1).2.1 h0 h1]
  · intro hlin
    rw [hm]
    have : d.mode.getD .linear = .linear := by
      cases hmo : d.mode with
      | none => rfl
      | some m => cases m with
        | linear => rfl
        | log => exact absurd hmo hlin
    rw [this, (default_from_bounds b0 b1).1]

/-! ### priors written as text are NEW objects (`create_prior`; one per `X:prior` line and per read of a file) -/

section objects
open Taurex.PriorObjects

/-- **Text builds a fresh object, exactly as a direct constructor call does.**  Whatever objects exist already (`h`) and
    whatever texts were parsed before, `create_prior` of a text the factory accepts (`createPrior … = .ok p`) adds ONE new
    object whose value is the one direct construction gives (`p`) and leaves every existing object as it is — also when the
    same text was parsed before.  From then on the new object is changed by `set_bounds` calls on ITSELF only: after any
    history `ops` it is `p` re-bounded by its own calls, and simply `p` when there are none. -/
theorem text_prior_is_fresh_object (half quarter : ℝ) (h : Heap ℝ) (c : Call ℝ) (p : Prior ℝ)
    (hc : createPrior half quarter c = .ok p) (ops : List (PriorObjects.Op ℝ)) :
    PriorObjects.step half quarter h (.create c) = h ++ [p] ∧
    (∀ j, j < h.length → (PriorObjects.step half quarter h (.create c))[j]? = h[j]?) ∧
    (PriorObjects.run half quarter (h ++ [p]) ops)[h.length]? = some (reboundAll p (ownCalls h.length ops)) ∧
    (ownCalls h.length ops = [] → (PriorObjects.run half quarter (h ++ [p]) ops)[h.length]? = some p) := by
  have hstep : PriorObjects.step half quarter h (.create c) = h ++ [p] := by simp [PriorObjects.step, hc]
  have hrun := getElem?_run half quarter ops (h ++ [p]) h.length (by simp)
  simp only [List.getElem?_concat_length, Option.map_some] at hrun
  refine ⟨hstep, ?_, hrun, ?_⟩
  · intro j hj
    rw [hstep, List.getElem?_append_left hj]
  · intro hown
    rw [hrun, hown]
    rfl

/-- **An object is changed by its own `set_bounds` calls only.**  After any history (texts parsed, bounds of any objects
    replaced) object `j` is what it was, re-bounded by the calls that name `j`, in order; a re-bounded uniform / log-uniform
    object is the prior of the new bounds (as freshly built), the Gaussian classes are not touched. -/
theorem object_changed_by_own_set_bounds_only (half quarter : ℝ) (h : Heap ℝ) (ops : List (PriorObjects.Op ℝ)) (j : ℕ)
    (hj : j < h.length) :
    (PriorObjects.run half quarter h ops)[j]? = (h[j]?).map (fun p => reboundAll p (ownCalls j ops)) ∧
    (∀ a b b0 b1 : ℝ, rebound (mkUniform a b) b0 b1 = mkUniform b0 b1 ∧
      rebound (mkLogUniform a b) b0 b1 = mkLogUniform b0 b1 ∧ rebound (mkGaussian a b) b0 b1 = mkGaussian a b) :=
  ⟨getElem?_run half quarter ops h j hj, fun _ _ _ _ => ⟨rfl, rfl, rfl⟩⟩

/-- the factory accepts the documented text `Uniform(bounds=(0.1, 10))` (hypothesis `hc`), and a history that re-bounds
    ANOTHER object and parses the same text again has no call on the object created first (hypothesis `ownCalls … = []`) -/
example : createPrior (1/2 : ℝ) (1/4) ⟨"Uniform", [("bounds", .tuple [1/10, 10])]⟩ = .ok (mkUniform (1/10) 10) := rfl

example (h : Heap ℝ) : ownCalls h.length
    [PriorObjects.Op.setBounds (h.length + 1) (6 : ℝ) 5, .create ⟨"Uniform", [("bounds", .tuple [1/10, 10])]⟩] = [] := by
  simp [ownCalls]

/-- two priors from the SAME text, the first one re-bounded, the text parsed a third time: the second and the third object
    are the prior the text describes -/
example : PriorObjects.run (1/2 : ℝ) (1/4) []
    [.create ⟨"Uniform", [("bounds", .tuple [1/10, 10])]⟩, .create ⟨"Uniform", [("bounds", .tuple [1/10, 10])]⟩,
     .setBounds 0 6 5, .create ⟨"Uniform", [("bounds", .tuple [1/10, 10])]⟩] =
    [mkUniform 6 5, mkUniform (1/10) 10, mkUniform (1/10) 10] := rfl

end objects

/-! ### the input-file route: `[Fitting]` section, `setup_optimizer`, `enable_fit`, `compile_params` -/

section file
open Taurex.OptimizerSM Taurex.FittingSection Taurex.C07

/-- **What an input file says about a parameter's prior holds whenever that parameter is fitted.**  On a fresh optimizer
    (names unique across the tables, derived names disjoint) let `setup_optimizer` run through on the sections, then switch
    on any parameters `en` with `enable_fit`, then compile.  The result is exactly `implied` of the settings the FILE
    describes with the fit flags of `en` set (`fileSettings`) — and in it a parameter the file mentions (record `r`) gets, once
    it is fitted — by the file's own `fit = True` or by a later `enable_fit` —,
      * the prior written for it as text (`X:prior = "…"`, built by `mkPrior` = `create_prior`) if there is one,
      * otherwise the default prior of the mode and bounds the file describes for it (`X:mode`, `X:bounds` — else the
        `X:factor` multiples of its value, else its declared ones),
    whether or not the file itself switches the fit on: options of a parameter with `fit = False` (or no `fit` line) are
    not dropped. -/
theorem file_prior_after_enable (mkPrior : OptVal ℝ → Option (Prior ℝ)) (model obs : List (Param String ℝ))
    (dm dob : List (Derived String)) (fitting derive : List (String × OptVal ℝ))
    (hwf : WF (initSt model obs dm dob)) (hdd : DisjD (initSt model obs dm dob : St String ℝ))
    (hok : (setupOptimizer mkPrior (initSt model obs dm dob) fitting derive).2.1 = .ok) (en : List String) :
    ∃ grp dl, parseFitting mkPrior fitting [] = .ok grp ∧ splitAll derive = some dl ∧
      (view (step (run (setupOptimizer mkPrior (initSt model obs dm dob) fitting derive).1 (enableOps en)) .compile).1,
       (step (run (setupOptimizer mkPrior (initSt model obs dm dob) fitting derive).1 (enableOps en)) .compile).2) =
        implied (fileSettings (initSt model obs dm dob) grp (deriveRecs dl []) en) ∧
      ∀ (o : Owner) (p : Param String ℝ) (r : Rec ℝ), getRec grp p.name = some r →
        (∀ pr, r.prior = some pr →
          impliedRow (describePriors grp) o (switchedOn (describeParam r p)) = some (entryOf o (describeParam r p), pr)) ∧
        (r.prior = none →
          impliedRow (describePriors grp) o (switchedOn (describeParam r p)) =
            (defaultPrior (describeParam r p).mode (describeParam r p).b0 (describeParam r p).b1).map
              (fun pr => (entryOf o (describeParam r p), pr))) := by
  obtain ⟨grp, dl, hp, hsd, hnd, hc⟩ :=
    setup_enable_compile mkPrior (initSt model obs dm dob) hwf hdd rfl fitting derive hok en
  exact ⟨grp, dl, hp, hsd, hc, fun o p r hr => impliedRow_described grp hnd o p r hr⟩

/-- start state of the non-vacuity example below (model parameters `T` and `H2O`, neither fitted).  There `T` is
    configured with a text prior but NOT switched on, `H2O` gets linear mode and bounds without a fit
    line; `setup_optimizer` runs through (hypothesis `hok`), and after `enable_fit` of both the file's settings have both
    fit flags set, the written bounds and mode in place and the text prior recorded for `T` -/
noncomputable def exFileInit : St String ℝ :=
  initSt [⟨"T", .linear, false, 100, 2000, 1500⟩, ⟨"H2O", .log, false, 1, 100, 10⟩] [] [] []

noncomputable def exFileFitting : List (String × OptVal ℝ) :=
  [("T:fit", .bool false), ("T:prior", .str "Gaussian(mean=1500, std=100)"), ("H2O:mode", .str "linear"),
   ("H2O:bounds", .nums [2, 50])]

noncomputable def exMkPrior : OptVal ℝ → Option (Prior ℝ)
  | .str _ => some (.gaussian 1500 100)
  | _ => none

example : WF exFileInit ∧ DisjD exFileInit := by
  constructor
  · simp [WF, exFileInit, initSt, names]
  · intro n hn; simp [exFileInit, initSt, dnames] at hn

example : (setupOptimizer exMkPrior exFileInit exFileFitting []).2.1 = .ok ∧
    (fileSettings exFileInit [("T", { fit := .bool false, prior := some (.gaussian 1500 100) }),
        ("H2O", { mode := some (.str "linear"), bounds := some (.nums [2, 50]) })] [] ["T", "H2O"]).model =
      [⟨"T", .linear, true, 100, 2000, 1500⟩, ⟨"H2O", .linear, true, 2, 50, 10⟩] := by
  refine ⟨by decide +kernel, ?_⟩
  -- `str.lower` is defined by well-founded recursion: only the kernel evaluates it
  have m : parseMode "linear".toLower = some FitMode.linear := by decide +kernel
  have hH : describeParam (α := ℝ) { mode := some (.str "linear"), bounds := some (.nums [2, 50]) }
      ⟨"H2O", .log, false, 1, 100, 10⟩ = ⟨"H2O", (parseMode "linear".toLower).getD .log, false, 2, 50, 10⟩ := rfl
  rw [m] at hH
  show enabled ["T", "H2O"] [describeParam _ _, describeParam _ _] = _
  rw [hH]
  rfl

end file

/-! ### the scripting route: the optimizer's own setters in any order, then `compile_params` / `update_model` -/

section api
open Taurex.OptimizerSM Taurex.C07

/-- **Default priors derive from the CURRENT bounds and mode — after any calls, in any order, any number of compilations.**
    From any well-formed optimizer state run any history of `enable_fit` / `disable_fit` / `set_mode` / `set_boundary` /
    `set_factor_boundary` / `set_prior` / `compile_params` / `update_model` calls, then compile: the result is `implied` of the
    settings as they are NOW, in which a fitted parameter `p` (of the model or of the observation, `o`)
      * that has no explicit prior gets the default prior of the mode and bounds its tuple holds now
        (`Uniform(bounds)` / `LogUniform(lin_bounds=bounds)`), whatever an earlier compilation derived for it, and
      * that was given a prior with `set_prior` is fitted with that prior. -/
theorem api_prior_after_history (init : St String ℝ) (hwf : WF init) (ops : List (Op String ℝ)) :
    (view (run init (ops ++ [.compile])), (step (run init ops) .compile).2) = implied (settings (run init ops)) ∧
    ∀ (o : Owner) (p : Param String ℝ),
      (tget (run init ops).userPriors p.name = none →
        impliedRow (run init ops).userPriors o p = (defaultPrior p.mode p.b0 p.b1).map (fun pr => (entryOf o p, pr))) ∧
      (∀ pr, tget (run init ops).userPriors p.name = some pr →
        impliedRow (run init ops).userPriors o p = some (entryOf o p, pr)) := by
  refine ⟨?_, fun o p => ⟨fun h => by simp [impliedRow, h], fun pr h => by simp [impliedRow, h]⟩⟩
  rw [run_append]
  simp only [run]
  exact compile_eq_implied (run init ops) (WF_run init ops hwf)

/-- **Only `set_prior` touches the explicit priors.**  Every other call — the bound / mode / fit setters, a compilation, a
    write of a parameter vector — leaves the table of explicit priors as it is: an explicit prior given BEFORE
    `set_boundary` (…) is still the parameter's prior afterwards, and no compilation adds a derived default to it. -/
theorem explicit_priors_changed_by_set_prior_only (s : St String ℝ) (op : Op String ℝ)
    (h : ∀ n p, op ≠ .setPrior n p) : (step s op).1.userPriors = s.userPriors :=
  userPriors_step s op h

/-- **The model receives `prior.prior(x)` — `10 ** x` for the log-space classes, `x` for the others — whatever the
    parameter's declared mode.**  After any history from a fresh optimizer, a vector of the right length writes to the
    parameter of row `i` the back-transform of ITS PRIOR (`Prior.back`), not of its tuple's mode. -/
theorem api_back_through_prior (model obs : List (Param String ℝ)) (hwf : WF (initSt model obs [] []))
    (ops : List (Op String ℝ)) (v : List ℝ)
    (hlen : v.length = (run (initSt model obs [] []) ops).compiled.length) :
    let s := run (initSt model obs [] []) ops
    (step s (.updateModel v)).2 = .ok ∧
    ∀ epx ∈ s.compiled.zip (s.compiledPriors.zip v),
      getValue (step s (.updateModel v)).1 epx.1.owner epx.1.name = some (epx.2.1.back epx.2.2) :=
  updateModel_sets _ (Inv_run ops (initSt model obs [] []) hwf (by simp [C07.Inv, initSt, keys])) v hlen

/-- `set_mode` accepts any spelling of the two modes and stores the mode it names -/
example : parseMode "LOG" = some FitMode.log ∧ parseMode "Log" = some FitMode.log ∧ parseMode "Linear" = some FitMode.linear ∧
    parseMode "lg" = none := by decide +kernel

/-- start state of the non-vacuity example below (model parameter `T`, observation parameter `H2O`, both fitted).  There
    `T` is given a Gaussian prior and its boundaries are set AFTERWARDS, `H2O` is switched to log space with
    the spelling `LOG`; the history is well-formed, `T` still has its explicit prior (second rule of
    `api_prior_after_history`), `H2O` has none (first rule: `LogUniform(lin_bounds=(1, 100))`), and no call but `set_prior`
    is excluded by `explicit_priors_changed_by_set_prior_only` -/
noncomputable def exApiInit : St String ℝ :=
  initSt [⟨"T", .linear, true, 100, 2000, 1500⟩] [⟨"H2O", .linear, true, 1, 100, 10⟩] [] []

noncomputable def exApiOps : List (Op String ℝ) :=
  [.setPrior "T" (.gaussian 1500 100), .setBoundary "T" 5 50, .setMode "H2O" "LOG"]

example : WF exApiInit ∧
    tget (run exApiInit exApiOps).userPriors "T" = some (.gaussian 1500 100) ∧
    tget (run exApiInit exApiOps).userPriors "H2O" = none ∧
    (run exApiInit exApiOps).model = [⟨"T", .linear, true, 5, 50, 1500⟩] ∧
    (run exApiInit exApiOps).obs = [⟨"H2O", .log, true, 1, 100, 10⟩] := by
  have m1 : parseMode "LOG" = some FitMode.log := by decide +kernel
  simp [WF, exApiInit, exApiOps, initSt, names, run, step, withParam, ownerOf, hasName, table, setTable, modifyParam, tset,
    tget, m1]

example : ∀ n p, (Op.setBoundary "T" (5 : ℝ) 50 : Op String ℝ) ≠ .setPrior n p := by intro n p h; cases h

/-- non-vacuity of `api_back_through_prior`: a log-space prior on a linear-mode row hands `10 ** x` to the model -/
example : (Prior.logUniform (2 : ℝ) 4).back 3 = pow10 3 := by simp [Prior.back, Prior.mode]

end api

/-! ### prior text -/

/-- print/parse round trip at token level: for every call (any name, any keyword list, numbers carried as literal
    tokens) the parser recovers exactly the call from its printed token sequence -/
theorem parse_print_tokens (c : Call String) : parseToks (printToks c) = some c := by
  unfold parseToks printToks
  simp only
  rw [parseArgs_printArgs c.args _ (length_printArgs_ge c.args)]

/-- **Print/parse round trip on text.**  For every prior description whose class name and keywords are identifiers
    and whose numbers are literals of the documented form `[+-](digits[.[digits]] | .digits)[(e|E)[+-]digits]`
    (`WFCall`, numbers carried as their literal text), parsing the printed text gives back the description. -/
theorem parse_print (c : Call String) (h : WFCall c) : parsePrior (printPrior c) = some c := by
  unfold parsePrior printPrior parseChars
  rw [String.toList_ofList, lex_render_printToks c h]
  exact parse_print_tokens c

/-! ### non-vacuity -/

example : (mkUniform (5 : ℝ) (-2)).boundaries id = (-2, 5) := by
  rw [(uniform_boundaries 5 (-2) id).1]; norm_num

example : (mkUniform (5 : ℝ) (-2)).sample id 0.25 = -0.25 := by
  rw [(uniform_sample 5 (-2) 0.25 id).1]; norm_num

example : StrictMono ((mkUniform (5 : ℝ) (-2)).sample id) := (uniform_mono 5 (-2) id).2.1 (by norm_num)

example : mkLogUniformLin (1 : ℝ) 100 = some (mkLogUniform (log10 1) (log10 100)) :=
  (log_lin_equiv 1 100).1 (by norm_num) (by norm_num)

example : mkLogUniformLin (-1 : ℝ) 100 = none := (log_lin_equiv (-1) 100).2 (by norm_num)

example : ∃ p, mkLogUniformLin (1e-12 : ℝ) 1e-2 = some p ∧ p.back (p.sample id 1) = max 1e-12 1e-2 := by
  obtain ⟨p, h1, _, h3, _⟩ := log_uniform_linear_range 1e-12 1e-2 (by norm_num) (by norm_num) id
  exact ⟨p, h1, h3⟩

/-- a monotone `ppf` exists (the hypotheses of `gaussian_mono` / `gaussian_inverse_cdf` are satisfiable) -/
example : StrictMono ((mkGaussian (1 : ℝ) 2).sample id) := (gaussian_mono 1 2 (by norm_num) id).2.1 strictMono_id

example : (id : ℝ → ℝ) ((id : ℝ → ℝ) 0.3) = 0.3 := rfl

example : (Prior.logUniform (0 : ℝ) 1).back (log10 100) = 100 :=
  ((prior_back (.logUniform 0 1) 0 100 (by norm_num)).2 rfl).2

example : defaultPrior FitMode.log (1 : ℝ) 100 ≠ none := by
  rw [(default_from_bounds 1 100).2.1 one_pos (by norm_num)]
  exact Option.some_ne_none _

/-- `default_from_declaration` is not vacuous: a log parameter declared through the decorator with bounds [1e-6, 1e6],
    narrowed by `modify_bounds` to [2000, 20] (the order the caller gave), next to a linear one left alone -/
example : declaredTable (α := ℝ) [⟨"scale", some .log, none, some (1e-6, 1e6)⟩, ⟨"offset", none, none, none⟩]
    [("scale", 2000, 20)] = some [⟨"scale", .log, false, 2000, 20⟩, ⟨"offset", .linear, false, 0, 1⟩] := by
  rfl

example : lastBounds (α := ℝ) "scale" [("scale", 2000, 20), ("offset", 3, 4)] (1e-6, 1e6) = (2000, 20) := by
  simp [lastBounds]

/-- the documented example `LogUniform(lin_bounds=(1e-12, 1e-2))` round-trips through the token printer -/
example : parseToks (printToks ⟨"LogUniform", [("lin_bounds", .tuple ["1e-12", "1e-2"])]⟩) =
    some ⟨"LogUniform", [("lin_bounds", .tuple ["1e-12", "1e-2"])]⟩ := parse_print_tokens _

/-- …and the text itself lexes and parses to that call -/
example : parsePrior "LogUniform(lin_bounds=(1e-12, 1e-2))" =
    some ⟨"LogUniform", [("lin_bounds", .tuple ["1e-12", "1e-2"])]⟩ := by decide +kernel

/-- `parse_print` is not vacuous: a call with two keywords, a tuple and a list, signed / fractional / exponent literals
    is well formed -/
example : WFCall ⟨"LogUniform", [("lin_bounds", .tuple ["1e-12", "-.5E+2"]), ("bounds", .list ["3.", "+0.25"])]⟩ := by
  refine ⟨⟨'L', "ogUniform".toList, by decide +kernel⟩, ?_⟩
  intro a ha
  simp only [List.mem_cons, List.not_mem_nil, or_false] at ha
  rcases ha with rfl | rfl
  · refine ⟨⟨'l', "in_bounds".toList, by decide +kernel⟩, ?_⟩
    intro x hx
    simp only [List.mem_cons, List.not_mem_nil, or_false] at hx
    rcases hx with rfl | rfl
    · exact ⟨⟨[], ['1'], none, some ('e', ['-'], ['1', '2'])⟩, by decide +kernel⟩
    · exact ⟨⟨['-'], [], some ['5'], some ('E', ['+'], ['2'])⟩, by decide +kernel⟩
  · refine ⟨⟨'b', "ounds".toList, by decide +kernel⟩, ?_⟩
    intro x hx
    simp only [List.mem_cons, List.not_mem_nil, or_false] at hx
    rcases hx with rfl | rfl
    · exact ⟨⟨[], ['3'], some [], none⟩, by decide +kernel⟩
    · exact ⟨⟨['+'], ['0'], some ['2', '5'], none⟩, by decide +kernel⟩
end Taurex.C08
