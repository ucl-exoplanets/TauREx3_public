/-
  C11 — the property theorems restated about the REGENERATED source.  `Props/C11Src.lean` proves that the definitions
  translated on every run from `BasePlanet.calculate_scale_properties` (with `gravity`, `gravity_at_height`),
  `SimplePressureProfile.compute_pressure_profile`, `SimpleForwardModel._compute_altitude_gravity_scaleheight_profile` and
  `SimpleForwardModel.densityProfile` compute, entry by entry, the model's `scaleProps`, `logLevels`/`layerPressures`,
  `views`, `density`; `Props/C11.lean` proves the property about those.  The corollaries below compose the two: statements
  about the text of the code as regenerated, over ℝ.

  The source expressions (`srcScale`, `srcPressure`, `srcViews`, `Gen.SrcC11.densityProfile`) are instantiated exactly as
  the tie theorems instantiate them.  The code's arrays are functions `Nat → ℝ`; `cut n f` lists their entries `0 … n-1`
  (the index range on which the ties speak).
  The unit factor `conversion_factor('m', length_units)` that the code multiplies into every returned array (a parameter
  `unit` of the ties) is instantiated with `1`, the value harness/c11.py checks on every run: the physical formulas
  (`H = kT/(mu g)` …) relate the returned arrays only in that unit.
  Hypotheses of the ties that stay visible: array lengths `len(mu) = len(T)`, `len(Pl) = len(T) + 1`; `hmo` (which
  molecular-weight profile the code takes).

  `layer_geomean` is restated for ARBITRARY decreasing levels (`src_layer_geomean_levels`: the external `np.logspace` left
  arbitrary, the stored layers are `layerPressures` of the stored levels whatever these are) and on the log-spaced grid
  (`src_layer_geomean`).  `ArrayPressureProfile` goes the other way (levels derived from the given layer pressures by
  `np.gradient`): there the geometric-mean relation holds on LOG-REGULAR grids only (`src_array_layer_geomean`), not for
  arbitrary layer pressures.

  Not restated (no source counterpart):
  * `lengths`: source-side arrays are functions without a length; the ties are entry by entry on the valid index range
    (what the length statement becomes on the source side — each stored view is the corresponding returned array on that
    range, `altitude_profile = z[:-1]` — is `src_views_aligned`; for the stored dictionary: `src_profile_dict`).
  * `length_factor`: `conversion_factor` is not translated (the ties carry its value as the parameter `unit`).
-/
import Props.C11
import Props.C11Src
set_option linter.unusedSectionVars false

namespace Taurex.C11SrcProps
open Taurex Taurex.Structure Taurex.C11

/-- entries `0 … n-1` of a source-side array -/
noncomputable def cut (n : Nat) (f : Nat → ℝ) : List ℝ := (List.range n).map f

theorem cut_eq (n : Nat) (f : Nat → ℝ) (l : List ℝ) (hl : l.length = n) (h : ∀ i, i < n → f i = l.getD i 0) :
    cut n f = l :=
  map_range_eq_of_getD hl h

/-- `(z, H, g, deltaz)` as the regenerated `calculate_scale_properties(T, Pl, mu)` returns them (unit factor 1) -/
noncomputable def srcScale (kb G M R : ℝ) (T pl mu : List ℝ) : (Nat → ℝ) × (Nat → ℝ) × (Nat → ℝ) × (Nat → ℝ) :=
  Gen.SrcC11.calculate_scale_properties (fun i => T.getD i 0) (fun i => pl.getD i 0) (fun i => mu.getD i 0) T.length
    (G := G) (KBOLTZ := kb) (fullMass := M) (fullRadius := R) (unit := 1)

noncomputable def srcZ (kb G M R : ℝ) (T pl mu : List ℝ) : List ℝ := cut (T.length + 1) (srcScale kb G M R T pl mu).1
noncomputable def srcH (kb G M R : ℝ) (T pl mu : List ℝ) : List ℝ := cut T.length (srcScale kb G M R T pl mu).2.1
noncomputable def srcG (kb G M R : ℝ) (T pl mu : List ℝ) : List ℝ := cut T.length (srcScale kb G M R T pl mu).2.2.1
noncomputable def srcDz (kb G M R : ℝ) (T pl mu : List ℝ) : List ℝ := cut T.length (srcScale kb G M R T pl mu).2.2.2

/-- `(pressure_profile_levels, pressure_profile)` of the regenerated `SimplePressureProfile.compute_pressure_profile` -/
noncomputable def srcPressure (n : Nat) (pmin pmax : ℝ) : (Nat → ℝ) × (Nat → ℝ) :=
  Gen.SrcC11.compute_pressure_profile
    (logspace := fun a b m i => ((linspace (m - 1) a b).map pow10).getD i 0) (nLevels := n + 1)
    (pmax := pmax) (pmin := pmin)

noncomputable def srcLevels (n : Nat) (pmin pmax : ℝ) : List ℝ := cut (n + 1) (srcPressure n pmin pmax).1
noncomputable def srcLayers (n : Nat) (pmin pmax : ℝ) : List ℝ := cut n (srcPressure n pmin pmax).2

/-- `(altitude_profile, scaleheight_profile, gravity_profile, altitude_boundaries, deltaz)` as stored by the regenerated
    `_compute_altitude_gravity_scaleheight_profile(mu_profile = mo)` (unit factor 1) -/
noncomputable def srcViews (mo : Option (Nat → ℝ)) (cm : Nat → ℝ) (kb G M R : ℝ) (T pl : List ℝ) :
    (Nat → ℝ) × (Nat → ℝ) × (Nat → ℝ) × (Nat → ℝ) × (Nat → ℝ) :=
  Gen.SrcC11.compute_altitude_gravity_scaleheight_profile mo T.length (G := G) (KBOLTZ := kb)
    (chem_mu := cm) (fullMass := M) (fullRadius := R) (levels := fun i => pl.getD i 0)
    (temperatureProfile := fun i => T.getD i 0) (unit := 1)

theorem srcScale_eq (kb G M R : ℝ) (T pl mu : List ℝ) (hmu : mu.length = T.length) (hpl : pl.length = T.length + 1) :
    srcZ kb G M R T pl mu = (scaleProps kb G M R T pl mu).z ∧ srcH kb G M R T pl mu = (scaleProps kb G M R T pl mu).H ∧
    srcG kb G M R T pl mu = (scaleProps kb G M R T pl mu).g ∧
    srcDz kb G M R T pl mu = (scaleProps kb G M R T pl mu).dz := by
  obtain ⟨hz, hH, hg, hdz⟩ := C11Src.src_scale_properties kb G M R 1 T pl mu T.length rfl hmu hpl
  obtain ⟨lz, lH, lg, ldz⟩ := scaleProps_lengths kb G M R hmu hpl
  exact ⟨map_range_eq_of_mul_one lz fun i hi => hz i (Nat.le_of_lt_succ hi), map_range_eq_of_mul_one lH hH,
    map_range_eq_of_mul_one lg hg, map_range_eq_of_mul_one ldz hdz⟩

theorem srcPressure_eq (n : Nat) (pmin pmax : ℝ) :
    srcLevels n pmin pmax = logLevels n pmin pmax ∧ srcLayers n pmin pmax = layerPressures (logLevels n pmin pmax) := by
  obtain ⟨h1, h2⟩ := C11Src.src_pressure_profile n pmin pmax
  exact ⟨cut_eq _ _ _ (logLevels_length n pmin pmax) fun i hi => h1 i (by omega),
    cut_eq _ _ _ (layers_length n pmin pmax) fun i hi => h2 i hi⟩

theorem srcViews_eq (mo : Option (Nat → ℝ)) (cm : Nat → ℝ) (kb G M R : ℝ) (T pl mu : List ℝ)
    (hmu : mu.length = T.length) (hpl : pl.length = T.length + 1) (hmo : mo.getD cm = fun i => mu.getD i 0) :
    cut T.length (srcViews mo cm kb G M R T pl).1 = (views (scaleProps kb G M R T pl mu)).altitudeProfile ∧
    cut T.length (srcViews mo cm kb G M R T pl).2.1 = (views (scaleProps kb G M R T pl mu)).scaleheightProfile ∧
    cut T.length (srcViews mo cm kb G M R T pl).2.2.1 = (views (scaleProps kb G M R T pl mu)).gravityProfile ∧
    cut (T.length + 1) (srcViews mo cm kb G M R T pl).2.2.2.1
      = (views (scaleProps kb G M R T pl mu)).altitudeBoundaries ∧
    cut T.length (srcViews mo cm kb G M R T pl).2.2.2.2 = (views (scaleProps kb G M R T pl mu)).deltaz := by
  obtain ⟨h1, h2, h3, h4, h5⟩ := C11Src.src_views kb G M R 1 T pl mu mo cm T.length rfl hmu hpl hmo
  obtain ⟨_, _, _, _, l1, l2, l3, l4, l5, _⟩ :=
    lengths kb G M R (T := T) (pl := pl) (mu := mu) (P := T) (n := T.length) rfl hmu hpl rfl
  exact ⟨map_range_eq_of_mul_one l1 h1, map_range_eq_of_mul_one l2 h2, map_range_eq_of_mul_one l3 h3,
    map_range_eq_of_mul_one l5 fun i hi => h4 i (Nat.le_of_lt_succ hi), map_range_eq_of_mul_one l4 h5⟩

/-! ### the log-spaced pressure grid -/

/-- on the log-spaced grid (`pmin < pmax`, at least one layer) the `n+1` pressure levels the regenerated
    `compute_pressure_profile` stores decrease strictly from the surface (`pmax`) to the top (`pmin`) -/
theorem src_levels_strict_anti {n : ℕ} (hn : 1 ≤ n) {pmin pmax : ℝ} (h0 : 0 < pmin) (h : pmin < pmax) :
    (srcLevels n pmin pmax).Pairwise (· > ·) ∧ (srcLevels n pmin pmax).length = n + 1 ∧
      (srcLevels n pmin pmax).head? = some pmax ∧ (srcLevels n pmin pmax).getLast? = some pmin := by
  rw [(srcPressure_eq n pmin pmax).1]; exact levels_strict_anti hn h0 h

/-- each layer pressure the regenerated `compute_pressure_profile` stores is the geometric mean of its two levels and
    lies strictly between them -/
theorem src_layer_geomean {n : ℕ} (hn : 1 ≤ n) {pmin pmax : ℝ} (h0 : 0 < pmin) (h : pmin < pmax) {l : ℕ} (hl : l < n) :
    ∃ p lo up, (srcLayers n pmin pmax)[l]? = some p ∧ (srcLevels n pmin pmax)[l]? = some lo ∧
      (srcLevels n pmin pmax)[l + 1]? = some up ∧ p * p = lo * up ∧ up < p ∧ p < lo := by
  rw [(srcPressure_eq n pmin pmax).1, (srcPressure_eq n pmin pmax).2]
  exact layer_geomean logLevels_pos (levels_strict_anti hn h0 h).1 (by rw [logLevels_length]; omega)

/-- the number of layer pressures is the number of levels minus one, regenerated `compute_pressure_profile`: the layer
    array is the level array's entries `0 … n-1` scaled (`levels[:-1] * sqrt(levels[1:]/levels[:-1])`) -/
theorem src_layers_length (n : ℕ) (pmin pmax : ℝ) :
    (srcLayers n pmin pmax).length = n ∧ (srcLayers n pmin pmax).length + 1 = (srcLevels n pmin pmax).length := by
  rw [(srcPressure_eq n pmin pmax).1, (srcPressure_eq n pmin pmax).2, layers_length, logLevels_length]
  exact ⟨rfl, rfl⟩

/-! ### the hydrostatic loop -/

/-- altitude starts at zero at the surface, for every input, regenerated `calculate_scale_properties` -/
theorem src_z0_zero (kb G M R : ℝ) (T pl mu : List ℝ) (hmu : mu.length = T.length) (hpl : pl.length = T.length + 1) :
    (srcZ kb G M R T pl mu).head? = some 0 := by
  rw [(srcScale_eq kb G M R T pl mu hmu hpl).1]; exact z0_zero kb G M R T pl mu

/-- hydrostatic step of the regenerated `calculate_scale_properties`: in every layer `dz = H ln(P_lower/P_upper)`,
    `H = k T/(mu g)`, `g = G M/(R+z)²` with `z` the altitude of the layer's lower boundary, the next boundary is `z + dz` -/
theorem src_dz_formula (kb G M R : ℝ) {T pl mu : List ℝ} (hmu : mu.length = T.length)
    (hpl : pl.length = T.length + 1) (hpos : ∀ p ∈ pl, 0 < p) {l : ℕ} (hl : l < T.length) :
    (srcDz kb G M R T pl mu).getD l 0
      = (srcH kb G M R T pl mu).getD l 0 * Real.log (pl.getD l 0 / pl.getD (l + 1) 0) ∧
    (srcH kb G M R T pl mu).getD l 0 = kb * T.getD l 0 / (mu.getD l 0 * (srcG kb G M R T pl mu).getD l 0) ∧
    (srcG kb G M R T pl mu).getD l 0
      = G * M / ((R + (srcZ kb G M R T pl mu).getD l 0) * (R + (srcZ kb G M R T pl mu).getD l 0)) ∧
    (srcZ kb G M R T pl mu).getD (l + 1) 0
      = (srcZ kb G M R T pl mu).getD l 0 + (srcDz kb G M R T pl mu).getD l 0 := by
  obtain ⟨ez, eH, eg, edz⟩ := srcScale_eq kb G M R T pl mu hmu hpl
  rw [ez, eH, eg, edz]
  exact dz_formula kb G M R hmu hpl hpos hl

/-- for strictly decreasing positive levels and positive `k, G, M, R, T, mu` every thickness, scale height and gravity
    the regenerated `calculate_scale_properties` returns is positive -/
theorem src_dz_pos {kb G M R : ℝ} (hkb : 0 < kb) (hG : 0 < G) (hM : 0 < M) (hR : 0 < R) {T pl mu : List ℝ}
    (hmul : mu.length = T.length) (hpl : pl.length = T.length + 1)
    (hT : ∀ t ∈ T, 0 < t) (hmu : ∀ m ∈ mu, 0 < m) (hpos : ∀ p ∈ pl, 0 < p) (hdec : pl.Pairwise (· > ·)) :
    (∀ d ∈ srcDz kb G M R T pl mu, 0 < d) ∧ (∀ h ∈ srcH kb G M R T pl mu, 0 < h) ∧
      (∀ g ∈ srcG kb G M R T pl mu, 0 < g) := by
  obtain ⟨_, eH, eg, edz⟩ := srcScale_eq kb G M R T pl mu hmul hpl
  rw [eH, eg, edz]
  exact dz_pos hkb hG hM hR hT hmu hpos hdec

/-- … and the boundary altitudes it returns increase strictly (altitude is non-negative and ordered like the levels) -/
theorem src_z_strict_mono {kb G M R : ℝ} (hkb : 0 < kb) (hG : 0 < G) (hM : 0 < M) (hR : 0 < R) {T pl mu : List ℝ}
    (hmul : mu.length = T.length) (hpl : pl.length = T.length + 1)
    (hT : ∀ t ∈ T, 0 < t) (hmu : ∀ m ∈ mu, 0 < m) (hpos : ∀ p ∈ pl, 0 < p) (hdec : pl.Pairwise (· > ·)) :
    (srcZ kb G M R T pl mu).Pairwise (· < ·) ∧ ∀ x ∈ srcZ kb G M R T pl mu, 0 ≤ x := by
  rw [(srcScale_eq kb G M R T pl mu hmul hpl).1]
  exact z_strict_mono hkb hG hM hR hT hmu hpos hdec

/-! ### the stored per-layer views -/

/-- every view the regenerated `_compute_altitude_gravity_scaleheight_profile` stores is, on the layer range, the array
    `calculate_scale_properties` returned (one value per layer, aligned with the pressure profile):
    `altitude_profile = z[:-1]`, `scaleheight_profile = H`, `gravity_profile = g`, `altitude_boundaries = z`,
    `deltaz = deltaz` — whether the molecular-weight profile was passed or taken from the chemistry -/
theorem src_views_aligned (mo : Option (Nat → ℝ)) (cm : Nat → ℝ) (kb G M R : ℝ) (T pl mu : List ℝ)
    (hmu : mu.length = T.length) (hpl : pl.length = T.length + 1) (hmo : mo.getD cm = fun i => mu.getD i 0) :
    cut T.length (srcViews mo cm kb G M R T pl).1 = (srcZ kb G M R T pl mu).dropLast ∧
    cut T.length (srcViews mo cm kb G M R T pl).2.1 = srcH kb G M R T pl mu ∧
    cut T.length (srcViews mo cm kb G M R T pl).2.2.1 = srcG kb G M R T pl mu ∧
    cut (T.length + 1) (srcViews mo cm kb G M R T pl).2.2.2.1 = srcZ kb G M R T pl mu ∧
    cut T.length (srcViews mo cm kb G M R T pl).2.2.2.2 = srcDz kb G M R T pl mu := by
  obtain ⟨ez, eH, eg, edz⟩ := srcScale_eq kb G M R T pl mu hmu hpl
  rw [ez, eH, eg, edz]
  exact srcViews_eq mo cm kb G M R T pl mu hmu hpl hmo

/-- the stored altitude boundaries start at zero and increase strictly, the stored thicknesses, scale heights and
    gravities are positive (regenerated `_compute_altitude_gravity_scaleheight_profile`) -/
theorem src_views_hydrostatic (mo : Option (Nat → ℝ)) (cm : Nat → ℝ) {kb G M R : ℝ} (hkb : 0 < kb) (hG : 0 < G)
    (hM : 0 < M) (hR : 0 < R) {T pl mu : List ℝ} (hmul : mu.length = T.length) (hpl : pl.length = T.length + 1)
    (hmo : mo.getD cm = fun i => mu.getD i 0)
    (hT : ∀ t ∈ T, 0 < t) (hmu : ∀ m ∈ mu, 0 < m) (hpos : ∀ p ∈ pl, 0 < p) (hdec : pl.Pairwise (· > ·)) :
    (cut (T.length + 1) (srcViews mo cm kb G M R T pl).2.2.2.1).head? = some 0 ∧
    (cut (T.length + 1) (srcViews mo cm kb G M R T pl).2.2.2.1).Pairwise (· < ·) ∧
    (∀ d ∈ cut T.length (srcViews mo cm kb G M R T pl).2.2.2.2, 0 < d) ∧
    (∀ h ∈ cut T.length (srcViews mo cm kb G M R T pl).2.1, 0 < h) ∧
    (∀ g ∈ cut T.length (srcViews mo cm kb G M R T pl).2.2.1, 0 < g) := by
  obtain ⟨_, e2, e3, e4, e5⟩ := srcViews_eq mo cm kb G M R T pl mu hmul hpl hmo
  rw [e2, e3, e4, e5]
  obtain ⟨p1, p2, p3⟩ := dz_pos hkb hG hM hR hT hmu hpos hdec
  exact ⟨z0_zero kb G M R T pl mu, (z_strict_mono hkb hG hM hR hT hmu hpos hdec).1, p1, p2, p3⟩

/-- number density is `P/(kT)` layer by layer, regenerated `densityProfile` -/
theorem src_density_formula (kb : ℝ) (P T : List ℝ) (l : ℕ) (hP : l < P.length) (hT : l < T.length) :
    Gen.SrcC11.densityProfile kb (fun i => P.getD i 0) (fun i => T.getD i 0) l = P[l] / (kb * T[l]) := by
  have h := density_formula kb P T l
  rw [List.getElem?_eq_getElem hP, List.getElem?_eq_getElem hT] at h
  rw [C11Src.src_density kb P T l hP hT, List.getD_eq_getElem?_getD, h]
  rfl

/-! ### the relation between layers and levels, for whatever levels the grid has -/

/-- **layer_geomean beyond the log grid**, about the regenerated `SimplePressureProfile.compute_pressure_profile`: whatever
    values `np.logspace` returns (the external is ARBITRARY here — the relation between the two stored arrays does not
    depend on the levels being log-spaced), if the `m` stored levels are positive and strictly decreasing, every stored
    layer pressure is the geometric mean of its two levels and lies strictly between them -/
theorem src_layer_geomean_levels (logspace : ℝ → ℝ → ℕ → ℕ → ℝ) (m : ℕ) (pmin pmax : ℝ)
    (hpos : ∀ i < m, 0 < (Gen.SrcC11.compute_pressure_profile logspace m pmax pmin).1 i)
    (hdec : ∀ i j, i < j → j < m →
      (Gen.SrcC11.compute_pressure_profile logspace m pmax pmin).1 j
        < (Gen.SrcC11.compute_pressure_profile logspace m pmax pmin).1 i)
    {l : ℕ} (hl : l + 1 < m) :
    let lev := (Gen.SrcC11.compute_pressure_profile logspace m pmax pmin).1
    let lay := (Gen.SrcC11.compute_pressure_profile logspace m pmax pmin).2
    lay l * lay l = lev l * lev (l + 1) ∧ lev (l + 1) < lay l ∧ lay l < lev l := by
  intro lev lay
  have hlv : ∀ p ∈ cut m lev, 0 < p := List.forall_mem_map.2 fun i hi => hpos i (List.mem_range.1 hi)
  have hd : (cut m lev).Pairwise (· > ·) :=
    List.pairwise_map.2 (List.pairwise_lt_range.imp_of_mem fun _ hj hij => hdec _ _ hij (List.mem_range.1 hj))
  obtain ⟨p, lo, up, h1, h2, h3, h4, h5, h6⟩ := layer_geomean hlv hd (l := l) (by simpa [cut] using hl)
  have e := C11Src.src_layers_of_levels logspace m pmin pmax
  have hl1 : l < m - 1 := by omega
  have hp : p = lay l := by
    rw [show (cut m lev) = (List.range m).map lev from rfl, ← e] at h1
    simpa [hl1] using h1.symm
  have hlo : lo = lev l := by
    have : l < m := by omega
    simpa [cut, this] using h2.symm
  have hup : up = lev (l + 1) := by simpa [cut, hl] using h3.symm
  subst hp hlo hup
  exact ⟨h4, h5, h6⟩

/-! ### the dictionary of stored profiles -/

/-- `generate_profiles()` as the regenerated code builds it from the regenerated arrays: the views stored by the
    regenerated `_compute_altitude_gravity_scaleheight_profile`, the regenerated `densityProfile`, the layer pressures `P`,
    temperatures `T`, molecular weights `mu` and the chemistry's tables (`cond = some …` = the chemistry has condensates);
    arrays cut to the `len(T)` layers, dictionary values read as the model's `ProfVal` -/
noncomputable def srcProfiles (mo : Option (Nat → ℝ)) (cm : Nat → ℝ) (kb G M R : ℝ) (T pl P mu : List ℝ)
    (act inact cond : Option (List (List ℝ))) : List (String × ProfVal ℝ) :=
  (Gen.SrcC11.generate_profiles act (cut T.length (srcViews mo cm kb G M R T pl).1) (cond.getD [])
      (cut T.length (Gen.SrcC11.densityProfile kb (fun i => P.getD i 0) (fun i => T.getD i 0)))
      (cut T.length (srcViews mo cm kb G M R T pl).2.2.1) cond.isSome inact mu P
      (cut T.length (srcViews mo cm kb G M R T pl).2.1) T).map (fun e => (e.1, C11Src.toProf e.2))

theorem srcProfiles_eq (mo : Option (Nat → ℝ)) (cm : Nat → ℝ) (kb G M R : ℝ) (T pl P mu : List ℝ)
    (act inact cond : Option (List (List ℝ))) (hmu : mu.length = T.length) (hpl : pl.length = T.length + 1)
    (hP : P.length = T.length) (hmo : mo.getD cm = fun i => mu.getD i 0) :
    srcProfiles mo cm kb G M R T pl P mu act inact cond
      = profileDict (views (scaleProps kb G M R T pl mu)) T P (density kb P T) mu act inact cond := by
  obtain ⟨e1, e2, e3, _, _⟩ := srcViews_eq mo cm kb G M R T pl mu hmu hpl hmo
  have ed : cut T.length (Gen.SrcC11.densityProfile kb (fun i => P.getD i 0) (fun i => T.getD i 0)) = density kb P T :=
    cut_eq _ _ _ (by simp [density, List.length_zipWith, hP]) fun i hi =>
      C11Src.src_density kb P T i (by omega) hi
  unfold srcProfiles
  rw [e1, e2, e3, ed]
  exact C11Src.src_generate_profiles (views (scaleProps kb G M R T pl mu)) T P (density kb P T) mu act inact cond

/-- **profile_dict / one value per layer in everything that is stored**, about the regenerated `generate_profiles`,
    `generate_profile_dict`, `_compute_altitude_gravity_scaleheight_profile`, `calculate_scale_properties` and
    `densityProfile`: the dictionary has exactly the documented keys in insertion order, every entry has one value per
    layer, and the structure entries are the arrays `calculate_scale_properties` returned (`altitude_profile = z[:-1]`) -/
theorem src_profile_dict (mo : Option (Nat → ℝ)) (cm : Nat → ℝ) (kb G M R : ℝ) (T pl P mu : List ℝ)
    (act inact cond : Option (List (List ℝ))) (hmu : mu.length = T.length) (hpl : pl.length = T.length + 1)
    (hP : P.length = T.length) (hmo : mo.getD cm = fun i => mu.getD i 0)
    (hact : ∀ rows, act = some rows → ∀ r ∈ rows, r.length = T.length)
    (hinact : ∀ rows, inact = some rows → ∀ r ∈ rows, r.length = T.length)
    (hcond : ∀ rows, cond = some rows → ∀ r ∈ rows, r.length = T.length) :
    let d := srcProfiles mo cm kb G M R T pl P mu act inact cond
    d.map (·.1) = ["temp_profile", "active_mix_profile", "inactive_mix_profile", "density_profile",
        "scaleheight_profile", "altitude_profile", "gravity_profile", "pressure_profile"]
        ++ (if cond.isSome then ["condensate_profile"] else []) ++ ["mu_profile"] ∧
    (∀ e ∈ d, e.2.PerLayer T.length) ∧
    d.lookup "altitude_profile" = some (.arr (srcZ kb G M R T pl mu).dropLast) ∧
    d.lookup "scaleheight_profile" = some (.arr (srcH kb G M R T pl mu)) ∧
    d.lookup "gravity_profile" = some (.arr (srcG kb G M R T pl mu)) ∧
    d.lookup "pressure_profile" = some (.arr P) ∧ d.lookup "temp_profile" = some (.arr T) ∧
    d.lookup "mu_profile" = some (.arr mu) := by
  intro d
  have hd : d = profileDict (views (scaleProps kb G M R T pl mu)) T P (density kb P T) mu act inact cond :=
    srcProfiles_eq mo cm kb G M R T pl P mu act inact cond hmu hpl hP hmo
  obtain ⟨ez, eH, eg, _⟩ := srcScale_eq kb G M R T pl mu hmu hpl
  obtain ⟨h1, h2, h3, h4, h5, _, h7, h8, h9⟩ :=
    profile_dict kb G M R (T := T) (pl := pl) (mu := mu) (P := P) (n := T.length) rfl hmu hpl hP act inact cond
      hact hinact hcond
  rw [hd, ez, eH, eg]
  exact ⟨h1, h2, h3, h4, h5, h7, h8, h9⟩

/-! ### `ArrayPressureProfile`: levels derived from given layer pressures -/

/-- `np.gradient` (unit spacing) of an arithmetic progression is its step, at the ends (one-sided differences) and inside -/
theorem gradientAt_regular (a d : ℝ) (n : ℕ) (h2 : 2 ≤ n) (i : ℕ) (hi : i < n) :
    gradientAt ((List.range n).map (fun (k : ℕ) => a + (k : ℝ) * d)) i = d := by
  have hg : ∀ k, k < n → ((List.range n).map (fun (k : ℕ) => a + (k : ℝ) * d)).getD k 0 = a + (k : ℝ) * d :=
    fun k hk => getD_map_range _ hk
  -- with `n = m + 2` the three index patterns of `np.gradient` are `0`, `m + 1` and `j + 1` between them
  obtain ⟨m, rfl⟩ : ∃ m, n = m + 2 := ⟨n - 2, by omega⟩
  unfold gradientAt
  simp only [List.length_map, List.length_range, Nat.add_sub_cancel, Nat.add_one_sub_one]
  rcases i with _ | j
  · rw [if_pos rfl, hg 1 (by omega), hg 0 (by omega)]; push_cast; ring
  · rw [if_neg (Nat.succ_ne_zero j)]
    split_ifs
    · rw [hg (m + 1) (by omega), hg m (by omega)]; push_cast; ring
    · rw [Nat.add_sub_cancel, hg (j + 1 + 1) (by omega), hg j (by omega)]; push_cast; ring

/-- **the layer / level relation of `ArrayPressureProfile`**, about the regenerated `compute_pressure_profile`
    (`np.gradient` = `gradientAt`, the tie's instantiation): on a LOG-REGULAR grid of at least two layers (`log10 P_i =
    a + i·d`, `d < 0`: pressures falling by a constant factor) every GIVEN layer pressure is the geometric mean of the two
    DERIVED levels around it and lies strictly between them.  (For other layer pressures the derived levels
    `10**(logp ∓ gradp/2)` do not have this property: the relation is specific to log-regular grids, which is where
    harness/c11.py judges it.) -/
theorem src_array_layer_geomean (a d : ℝ) (hd : d < 0) (n : ℕ) (h2 : 2 ≤ n) {l : ℕ} (hl : l < n) :
    let P : ℕ → ℝ := fun i => (10 : ℝ) ^ (a + (i : ℝ) * d)
    let lev := Gen.SrcC11.array_pressure_levels n (fun f m i => gradientAt ((List.range m).map f) i) P
    P l * P l = lev l * lev (l + 1) ∧ lev (l + 1) < P l ∧ P l < lev l := by
  intro P lev
  have hP : ∀ i : ℕ, (log10 (P i) : ℝ) = a + (i : ℝ) * d := fun i => log10_pow10 _
  -- the gradient of `log10 P` is `d` everywhere, so level `i` sits half a step below layer `i` in `log10`
  have hlev : ∀ i, i ≤ n → lev i = (10 : ℝ) ^ (a + (i : ℝ) * d - d / 2) := by
    intro i hi
    simp only [lev, Gen.SrcC11.array_pressure_levels, hP, pow10_real]
    by_cases hin : i < n
    · rw [if_pos (decide_eq_true hin), gradientAt_regular a d n h2 i hin]
    · obtain rfl : i = n := by omega
      obtain ⟨k, rfl⟩ : ∃ k, i = k + 1 := ⟨i - 1, by omega⟩
      rw [if_neg (by simp), Nat.add_sub_cancel, gradientAt_regular a d (k + 1) h2 k (by omega)]
      congr 1; push_cast; ring
  rw [hlev l (by omega), hlev (l + 1) (by omega)]
  have h10 : (1 : ℝ) < 10 := by norm_num
  refine ⟨?_, ?_, ?_⟩
  · simp only [P]
    rw [← Real.rpow_add (by norm_num), ← Real.rpow_add (by norm_num)]
    congr 1; push_cast; ring
  · simp only [P]
    apply Real.rpow_lt_rpow_of_exponent_lt h10
    push_cast; linarith
  · simp only [P]
    apply Real.rpow_lt_rpow_of_exponent_lt h10
    linarith

end Taurex.C11SrcProps
