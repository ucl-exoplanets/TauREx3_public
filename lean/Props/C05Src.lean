/-
  C05 — source tie.  `TaurexModel/Gen/SrcC05.lean` is regenerated on every run by the list dialect of the source
  translator (`harness/translate_list.py`) from the source text of taurex/util/util.py and taurex/binning/fluxbinner.py
  (`FluxBinner.bindown` once per calling pattern: `grid_width` absent / an array / one number, `error` absent / an array;
  `util.bindown` for 1-D data and — one row, the leading axis lifted — for 2-D data).
  The theorems below state, for EVERY carrier (no algebra is used), that each regenerated definition computes the
  hand-written model function of `TaurexModel/Binning.lean` that the C05 theorems are about and that `driver_c05`
  executes.  numpy's primitives are the definitions of `TaurexModel/Gen/Prelude.lean` (`Np.*`); the helper lemmas are in
  `Proofs/C05SrcNp.lean`, the loop of `FluxBinner.bindown` (written once, with the arrays it reads as parameters; every
  calling pattern is that loop by unfolding) in `Proofs/C05Bindown.lean`.  A source change that alters one of these
  functions makes the corresponding theorem fail.

  The arrays the code receives are the columns of the model's rows: `wngrid = rows.map Row.c`, `spectrum = rows.map Row.s`,
  `grid_width = rows.map Row.w`, `error = rows.map Row.e`; the binner's attributes are the columns of the target bins
  (`self._wngrid = targets.map TBin.c`, `self._wngrid_width = targets.map TBin.w`), which is what
  `FluxBinner.__init__` stores (`src_init_*`).
-/
import TaurexModel.Gen.SrcC05
import TaurexModel.Observation
import Proofs.C05Bindown
set_option linter.unusedSectionVars false
set_option linter.unusedSimpArgs false

namespace Taurex.C05Src
open Taurex.Binning Taurex.Gen

section
variable {α : Type} [Add α] [Sub α] [Mul α] [Div α] [Neg α] [LT α] [LE α]
  [DecidableLT α] [DecidableLE α] [Taurex.Transc α] [OfNat α 0] [OfNat α 1] [OfNat α 2] [OfNat α 10000]

/-- `compute_bin_edges(wngrid)` is `computeBinEdges` (edges and widths) -/
theorem src_compute_bin_edges (g : List α) : SrcC05.compute_bin_edges g = computeBinEdges g := by
  simp only [SrcC05.compute_bin_edges, Np.midEdges_eq]
  simp only [Np.diff_eq]
  rfl

/-- **`FluxBinner.bindown(wngrid, spectrum, grid_width=<array>)`**: the binned spectrum (second component of the returned
    tuple) is `fluxBindown true`: argsort + fancy indexing is the model's `sortBy`, the loop is the map of `fluxBinVal`
    over the target bins (skipped bins keep the initial 0). -/
theorem src_bindown_widths (rows : List (Row α)) (targets : List (TBin α)) :
    (SrcC05.fluxbinner_bindown_w (rows.map Row.c) (rows.map Row.s) (rows.map Row.w)
        (targets.map TBin.c) (targets.map TBin.w)).2.1 = fluxBindown true Row.s rows targets := by
  -- the regenerated function is `bindownLoop` by unfolding; the two grid arguments are written out because with `_` the
  -- unifier compares the loop bodies before it knows the lists (a hundred times slower)
  show (bindownLoop _ _ _ (targets.map TBin.c) (targets.map TBin.w)).2.2 = _
  simp only [Np.take_argsort, List.map_map, Np.zip2_map_map]
  exact bindownLoop_spectrum Row.s (sortBy Row.c rows) targets

/-- **`FluxBinner.bindown(wngrid, spectrum)`** (no `grid_width`: the widths are `compute_bin_edges(sorted wngrid)[-1]`) is
    `fluxBindown false` -/
theorem src_bindown_midpoint (rows : List (Row α)) (targets : List (TBin α)) :
    (SrcC05.fluxbinner_bindown (rows.map Row.c) (rows.map Row.s)
        (targets.map TBin.c) (targets.map TBin.w)).2.1 = fluxBindown false Row.s rows targets := by
  show (bindownLoop _ _ _ (targets.map TBin.c) (targets.map TBin.w)).2.2 = _
  simp only [Np.take_argsort, src_compute_bin_edges]
  rw [midpoint_edge, midpoint_edge, midpoint_col rows Row.s (fun _ _ => rfl)]
  exact bindownLoop_spectrum Row.s (nativeBins false rows) targets

/-- `FluxBinner.bindown(wngrid, spectrum, grid_width=<array>, error=<array>)`: the binned spectrum -/
theorem src_bindown_widths_err_spectrum (rows : List (Row α)) (targets : List (TBin α)) :
    (SrcC05.fluxbinner_bindown_we (rows.map Row.c) (rows.map Row.s) (rows.map Row.w) (rows.map Row.e)
        (targets.map TBin.c) (targets.map TBin.w)).2.1 = fluxBindown true Row.s rows targets := by
  show (bindownLoopE _ _ _ _ (targets.map TBin.c) (targets.map TBin.w)).2.2.1 = _
  simp only [Np.take_argsort, List.map_map, Np.zip2_map_map]
  exact bindownLoopE_spectrum Row.s _ (sortBy Row.c rows) targets

/-- **`FluxBinner.bindown(wngrid, spectrum, grid_width=<array>, error=<array>)`: the binned error** (third component) is
    `fluxBindownErr true` (`sqrt(Σ w²·e² / Σw / Σw)` over the same window) -/
theorem src_bindown_widths_err (rows : List (Row α)) (targets : List (TBin α)) :
    (SrcC05.fluxbinner_bindown_we (rows.map Row.c) (rows.map Row.s) (rows.map Row.w) (rows.map Row.e)
        (targets.map TBin.c) (targets.map TBin.w)).2.2.1 = fluxBindownErr true Row.e rows targets := by
  show (bindownLoopE _ _ _ _ (targets.map TBin.c) (targets.map TBin.w)).2.2.2 = _
  simp only [Np.take_argsort, List.map_map, Np.zip2_map_map]
  exact bindownLoopE_error Row.e _ (sortBy Row.c rows) targets

/-- `FluxBinner.bindown(wngrid, spectrum, error=<array>)` (mid-point widths): the binned spectrum -/
theorem src_bindown_midpoint_err_spectrum (rows : List (Row α)) (targets : List (TBin α)) :
    (SrcC05.fluxbinner_bindown_e (rows.map Row.c) (rows.map Row.s) (rows.map Row.e)
        (targets.map TBin.c) (targets.map TBin.w)).2.1 = fluxBindown false Row.s rows targets := by
  show (bindownLoopE _ _ _ _ (targets.map TBin.c) (targets.map TBin.w)).2.2.1 = _
  simp only [Np.take_argsort, src_compute_bin_edges]
  rw [midpoint_edge, midpoint_edge, midpoint_col rows Row.s (fun _ _ => rfl)]
  exact bindownLoopE_spectrum Row.s _ (nativeBins false rows) targets

/-- `FluxBinner.bindown(wngrid, spectrum, error=<array>)` (mid-point widths): the binned error is `fluxBindownErr false` -/
theorem src_bindown_midpoint_err (rows : List (Row α)) (targets : List (TBin α)) :
    (SrcC05.fluxbinner_bindown_e (rows.map Row.c) (rows.map Row.s) (rows.map Row.e)
        (targets.map TBin.c) (targets.map TBin.w)).2.2.1 = fluxBindownErr false Row.e rows targets := by
  show (bindownLoopE _ _ _ _ (targets.map TBin.c) (targets.map TBin.w)).2.2.2 = _
  simp only [Np.take_argsort, src_compute_bin_edges]
  rw [midpoint_edge, midpoint_edge, midpoint_col rows Row.e (fun _ _ => rfl)]
  exact bindownLoopE_error Row.e _ (nativeBins false rows) targets

/-- `FluxBinner.bindown` returns the binner's own grid and widths next to the binned values -/
theorem src_bindown_grid (rows : List (Row α)) (targets : List (TBin α)) :
    (SrcC05.fluxbinner_bindown (rows.map Row.c) (rows.map Row.s) (targets.map TBin.c) (targets.map TBin.w)).1
        = targets.map TBin.c ∧
    (SrcC05.fluxbinner_bindown (rows.map Row.c) (rows.map Row.s) (targets.map TBin.c) (targets.map TBin.w)).2.2.2
        = targets.map TBin.w := ⟨rfl, rfl⟩

/-- **`FluxBinner.__init__(wngrid, wngrid_width=<array>)`** stores the columns of `targetBins .array`: grid and widths
    permuted together by the argsort of the grid (the length test of the code passes: both are columns of `ts`). -/
theorem src_init_array (ts : List (TBin α)) :
    SrcC05.fluxbinner_init_array (ts.map TBin.c) (ts.map TBin.w)
      = ((targetBins WidthMode.array ts).map TBin.c, (targetBins WidthMode.array ts).map TBin.w) := by
  simp [SrcC05.fluxbinner_init_array, Np.take_argsort, targetBins, Binning.length_sortBy]

/-- `FluxBinner.__init__(wngrid, wngrid_width=<number>)`: `np.ones_like(grid) * width`.  The model stores the number
    itself, the code `1 * width`: the only algebraic fact used is `h1 : 1 * x = x` (true on ℝ and on floats). -/
theorem src_init_scalar (h1 : ∀ x : α, 1 * x = x) (ts : List (TBin α)) (w : α) :
    SrcC05.fluxbinner_init_scalar (ts.map TBin.c) w
      = ((targetBins (WidthMode.scalar w) ts).map TBin.c, (targetBins (WidthMode.scalar w) ts).map TBin.w) := by
  simp only [SrcC05.fluxbinner_init_scalar, Np.take_argsort, targetBins, List.map_map, Function.comp_def, h1]

/-- `FluxBinner.__init__(wngrid)` (no widths): mid-point widths of the sorted grid.  Guard: a non-empty grid (on an empty
    one `compute_bin_edges` raises IndexError). -/
theorem src_init_none (ts : List (TBin α)) (hne : ts ≠ []) :
    SrcC05.fluxbinner_init_none (ts.map TBin.c)
      = ((targetBins WidthMode.none ts).map TBin.c, (targetBins WidthMode.none ts).map TBin.w) := by
  simp only [SrcC05.fluxbinner_init_none, Np.take_argsort, src_compute_bin_edges, targetBins]
  have hpos : 0 < ts.length := List.length_pos_iff.2 hne
  have h := Np.zipWith_setw (sortBy TBin.c ts) (computeBinEdges ((sortBy TBin.c ts).map TBin.c)).2 (by
    rw [Np.length_widths, List.length_map, Binning.length_sortBy]; omega)
  rw [h.1, h.2]

/-- **`util.bindown(original_bin, original_data, new_bin)`** on 1-D data is `histMean1`: the edge array assembled by the
    element and slice stores is `histEdges`, and the quotient of the two `np.histogram` calls is the per-bin mean.
    `np.histogram` is an external: it is instantiated with its documented behaviour (`npHistogram`, `npHistogramW` in
    `Proofs/C05SrcNp.lean`: per-bin count / weighted sum over `[e_i, e_{i+1})`, last bin closed — the ASSUMPTION the harness
    validates numerically).  Guard: `new_bin` not empty (IndexError otherwise). -/
theorem src_util_bindown (rows : List (Row α)) (nb : List α) (hne : nb ≠ []) :
    SrcC05.util_bindown (rows.map Row.c) (rows.map Row.s) nb npHistogram npHistogramW = histMean1 Row.s rows nb := by
  simp only [SrcC05.util_bindown]
  rw [filter_lhs_eq nb hne]
  simp only [npHistogram, npHistogramW, Np.zip2_map_map, histMean1, histEdges, meanOf, List.zip_map', List.filter_map,
    List.map_map, Function.comp_def]

/-- `SimpleBinner.bindown(wngrid, spectrum)` returns its own grid, `util.bindown` of the spectrum, `None`, its widths -/
theorem src_simplebinner_bindown (rows : List (Row α)) (nb tw : List α) (hne : nb ≠ []) :
    SrcC05.simplebinner_bindown (rows.map Row.c) (rows.map Row.s) npHistogram npHistogramW (u_wn_width := tw)
        (u_wngrid := nb) = (nb, histMean1 Row.s rows nb, (), tw) := by
  simp only [SrcC05.simplebinner_bindown, src_util_bindown rows nb hne]

/-- `SimpleBinner.__init__`: the grid as given (not sorted) and the given or mid-point widths -/
theorem src_simplebinner_init (g w : List α) :
    SrcC05.simplebinner_init_array g w = (g, w) ∧ SrcC05.simplebinner_init_none g = (g, (computeBinEdges g).2) := by
  refine ⟨rfl, ?_⟩
  simp only [SrcC05.simplebinner_init_none, src_compute_bin_edges]

/-- `NativeBinner.bindown` returns its arguments (`nativeBindown`) -/
theorem src_nativebinner_bindown (wn s w e : List α) :
    SrcC05.nativebinner_bindown wn s w e = nativeBindown (wn, s, e, w) := rfl

/-- `Binner.bin_model(model_output)` = `self.bindown(model_output[0], model_output[1])` (here `FluxBinner.bindown`) -/
theorem src_bin_model (rows : List (Row α)) (targets : List (TBin α)) :
    (SrcC05.bin_model (rows.map Row.c, rows.map Row.s) (targets.map TBin.c) (targets.map TBin.w)).2.1
      = fluxBindown false Row.s rows targets :=
  src_bindown_midpoint rows targets

/-- `wnwidth_to_wlwidth(grid, width) = 10000*width/grid**2` element by element (`Observation.widthConv`, the C17 model).
    Guard: one width per grid point (numpy would broadcast a single width). -/
theorem src_wnwidth_to_wlwidth (g w : List α) (h : g.length = w.length) :
    SrcC05.wnwidth_to_wlwidth g w = List.zipWith Observation.widthConv g w := by
  simp only [SrcC05.wnwidth_to_wlwidth]
  rw [Np.zip2_eq _ _ _ (by simp [h]), List.zipWith_map, List.zipWith_comm]
  rfl

/-! ### `FluxBinner.bindown` with one width for all native bins -/

def setWidth (w : α) (r : Row α) : Row α := { r with w := w }

/-- **`FluxBinner.bindown(wngrid, spectrum, grid_width=<one number>)`**: `hasattr(grid_width, '__len__')` is False, the width
    is not permuted and broadcasts in `old_spect_wn ± old_spect_width/2` — `fluxBindown true` on the rows with every
    width set to that number -/
theorem src_bindown_scalar (rows : List (Row α)) (w : α) (targets : List (TBin α)) :
    (SrcC05.fluxbinner_bindown_s (rows.map Row.c) (rows.map Row.s) w
        (targets.map TBin.c) (targets.map TBin.w)).2.1 = fluxBindown true Row.s (rows.map (setWidth w)) targets := by
  show (bindownLoop _ _ _ (targets.map TBin.c) (targets.map TBin.w)).2.2 = _
  simp only [Np.take_argsort]
  rw [scalar_lo, scalar_hi, scalar_col w rows Row.s Row.s (fun _ => rfl)]
  exact bindownLoop_spectrum Row.s _ targets

/-- … with `error=<array>`: the binned spectrum -/
theorem src_bindown_scalar_err_spectrum (rows : List (Row α)) (w : α) (targets : List (TBin α)) :
    (SrcC05.fluxbinner_bindown_se (rows.map Row.c) (rows.map Row.s) w (rows.map Row.e)
        (targets.map TBin.c) (targets.map TBin.w)).2.1 = fluxBindown true Row.s (rows.map (setWidth w)) targets := by
  show (bindownLoopE _ _ _ _ (targets.map TBin.c) (targets.map TBin.w)).2.2.1 = _
  simp only [Np.take_argsort]
  rw [scalar_lo, scalar_hi, scalar_col w rows Row.s Row.s (fun _ => rfl)]
  exact bindownLoopE_spectrum Row.s _ _ targets

/-- … and the binned error, `fluxBindownErr true` on the same rows -/
theorem src_bindown_scalar_err (rows : List (Row α)) (w : α) (targets : List (TBin α)) :
    (SrcC05.fluxbinner_bindown_se (rows.map Row.c) (rows.map Row.s) w (rows.map Row.e)
        (targets.map TBin.c) (targets.map TBin.w)).2.2.1 = fluxBindownErr true Row.e (rows.map (setWidth w)) targets := by
  show (bindownLoopE _ _ _ _ (targets.map TBin.c) (targets.map TBin.w)).2.2.2 = _
  simp only [Np.take_argsort]
  rw [scalar_lo, scalar_hi, scalar_col w rows Row.e Row.e (fun _ => rfl)]
  exact bindownLoopE_error Row.e _ _ targets

/-! ### `util.bindown` on N-D data: the `np.digitize` path -/

/-- `np.digitize(x, bins, right)` for increasing `bins`: numpy evaluates it as `np.searchsorted(bins, x, side='left')`
    (`right=True`: the index `i` with `bins[i-1] < x <= bins[i]`) resp. `side='right'` — the number of edges below (not
    above) each point -/
def npDigitize (x edges : List α) (right : Bool) : List Nat :=
  x.map (fun v => if right then Np.searchsortedLeft edges v else Np.searchsortedRight edges v)

theorem compress_map_map {β γ : Type} (f : β → γ) (p : β → Bool) (l : List β) :
    Np.compress (l.map f) (l.map p) = (l.filter p).map f :=
  Np.compress_map_filter f p l

theorem length_histEdges (nb : List α) (hne : nb ≠ []) : (histEdges nb).length = nb.length + 1 := by
  have hn : 1 ≤ nb.length := List.length_pos_iff.2 hne
  simp only [histEdges, List.length_cons, List.length_append, length_midPts, List.length_cons, List.length_nil]
  omega

/-- **`util.bindown(original_bin, original_data, new_bin)` on 2-D data** (the `np.digitize` path; one row of the data, the
    leading axis lifted), in the form the code computes it: for every bin index `i = 1 … len(new_bin)` the mean
    (`Binning.meanOf`: sum / count) of the native points whose `np.digitize` index is `i`.  `np.digitize(…, right=True)` is an
    external, instantiated with numpy's evaluation for increasing edges (`npDigitize`: the number of edges below the
    point) — the ASSUMPTION the harness validates.  `Props/C05SrcProps.lean` turns this into the model's `histMeanN` (for
    increasing edges, over ℝ: `srcHistN_eq`).  Guard: `new_bin` not empty. -/
theorem src_util_bindown_nd (rows : List (Row α)) (nb : List α) (hne : nb ≠ []) :
    SrcC05.util_bindown_nd (rows.map Row.c) (rows.map Row.s) nb npDigitize
      = (List.range' 1 nb.length).map (fun i => meanOf Row.s (rows.filter (fun r =>
          decide ((histEdges nb).countP (fun e => decide (e < r.c)) = i)))) := by
  simp only [SrcC05.util_bindown_nd]
  rw [filter_lhs_eq nb hne, length_histEdges nb hne, Nat.add_sub_cancel]
  apply List.map_congr_left
  intro i _
  simp only [npDigitize, if_true, List.map_map, Np.searchsortedLeft]
  rw [compress_map_map Row.s _ rows]
  simp only [Np.mean, meanOf, Np.sum, sumL, List.map_map, Function.comp_def]

end
end Taurex.C05Src
