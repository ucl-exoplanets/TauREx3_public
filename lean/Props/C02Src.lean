/-
  C02 — source tie.  `TaurexModel/Gen/SrcC02.lean` is regenerated on every run by `harness/translate.py` from the source
  text of taurex/util/emission.py, taurex/model/emission.py, taurex/model/directimage.py, taurex/contributions/
  contribution.py, cia.py and taurex/data/stellar/star.py.  The theorems below state, for EVERY carrier (no algebra is
  used: `rfl`, or induction over the loops), that each regenerated definition is the hand-written model function of
  `TaurexModel/Emission.lean` that the C02 theorems are about and that `driver_c02` executes.
  A source change that alters one of these functions makes the corresponding theorem fail to check.
  Besides the intensity, `evaluate_emission` is tied for its fourth component, the contribution function `tau` that
  `path_integral` / `model()` hand to the user (`src_evaluate_emission_tau`, `src_path_integral_tau`), and the
  orchestration of `partial_model` is tied through the `dyn` dialect (`src_partial_model`: the sequence of calls on the
  model, its star and its contributions, oracle in `Proofs/C02SrcPartial.lean`).
-/
import TaurexModel.Gen.SrcC02
import TaurexModel.Emission
import Proofs.C02SrcLemmas
import Proofs.C02SrcPartial
set_option linter.unusedSectionVars false

namespace Taurex.C02Src
open Taurex.Emission Taurex.SrcLemmas

section
variable {α : Type} [Add α] [Sub α] [Mul α] [Div α] [Neg α] [LT α] [LE α]
  [DecidableLT α] [DecidableLE α] [Taurex.Transc α] [OfNat α 0] [OfNat α 1] [OfNat α 2] [OfNat α 4] [OfNat α 10]
  [OfNat α 10000]

/-- `_convert_lamb`: wavenumber (cm⁻¹) → wavelength (m), the `wl` of `planck` -/
theorem src_convert_lamb (pi h c kb lit nu : α) :
    Gen.SrcC02.convert_lamb nu lit = (pcOf pi h c kb lit).conv / nu := rfl

/-- `_black_body_vec(wl, temp)` is the Planck expression of `planck` at `wl = conv/nu` -/
theorem src_black_body_vec (pi h c kb lit nu t : α) :
    Gen.SrcC02.black_body_vec ((pcOf pi h c kb lit).conv / nu) t kb pi h c lit = planck (pcOf pi h c kb lit) nu t := rfl

/-- `black_body` (the module-level name, bound to the kernel `black_body_numba`) is `planck` -/
theorem src_black_body (pi h c kb lit nu t : α) :
    Gen.SrcC02.black_body nu t kb pi h c lit = planck (pcOf pi h c kb lit) nu t := rfl

/-- `EmissionModel.compute_final_flux` is `eclipse` -/
theorem src_emission_final_flux (f sed rp rs : α) :
    Gen.SrcC02.emission_final_flux f rp rs sed = eclipse f sed rp rs := rfl

/-- `DirectImageModel.compute_final_flux` is `direct` (`pc` = the literal `3.08567758e16`) -/
theorem src_direct_final_flux (pi f rp dist pc : α) :
    Gen.SrcC02.direct_final_flux f pi pc rp dist = direct pi f rp dist pc := rfl

/-! ### the optical-depth kernels and the `contribute` methods -/

/-- `contribute_tau(lo, hi, 0, sigma, density, path, …, layer=0, tau)` (one wavenumber) leaves in `tau[0]` what
    `tauAcc` of a `σ·dz·ρ` contribution computes from the previous `tau[0]` — the call `evaluate_emission` makes. -/
theorem src_contribute_tau (sig dz dens : List α) (lo hi : Nat) (tau : Nat → α) :
    Gen.SrcC02.contribute_tau lo hi 0 (fn sig) (fn dens) (fn dz) 0 tau 0
      = tauAcc (Kind.lin, sig) dz dens lo hi (tau 0) :=
  foldl_update_at (fun k => fn sig (k + 0) * fn dz k * fn dens (k + 0)) 0 _ tau

/-- `contribute_cia` likewise, for a `σ·dz·ρ·ρ` contribution -/
theorem src_contribute_cia (sig dz dens : List α) (lo hi : Nat) (tau : Nat → α) :
    Gen.SrcC02.contribute_cia lo hi 0 (fn sig) (fn dens) (fn dz) 0 tau 0
      = tauAcc (Kind.sq, sig) dz dens lo hi (tau 0) :=
  foldl_update_at (fun k => fn sig (k + 0) * fn dz k * fn dens (k + 0) * fn dens (k + 0)) 0 _ tau

/-- `Contribution.contribute` passes its arguments and `self.sigma_xsec` on to `contribute_tau` -/
theorem src_contribution_contribute (sig dz dens : List α) (lo hi : Nat) (tau : Nat → α) :
    Gen.SrcC02.contribution_contribute lo hi 0 0 (fn dens) tau (fn dz) (fn sig) 0
      = tauAcc (Kind.lin, sig) dz dens lo hi (tau 0) :=
  src_contribute_tau sig dz dens lo hi tau

/-- `CIAContribution.contribute` with at least one pair (`self._total_cia > 0`) passes them on to `contribute_cia` -/
theorem src_cia_contribute (sig dz dens : List α) (lo hi ncia : Nat) (hn : 0 < ncia) (tau : Nat → α) :
    Gen.SrcC02.cia_contribute lo hi 0 0 (fn dens) tau (fn dz) (fn sig) ncia 0
      = tauAcc (Kind.sq, sig) dz dens lo hi (tau 0) := by
  unfold Gen.SrcC02.cia_contribute
  simp only [hn, decide_true, if_true]
  exact src_contribute_cia sig dz dens lo hi tau

/-! ### the layer loop of `EmissionModel.evaluate_emission` -/

/-- what `contrib.contribute(self, lo, hi, off, layer, density, tau, path_length=path)` runs for the contribution at
    position `ci` of `contribution_list`, on a `tau` buffer of shape `(1, nw)`: Python's method dispatch selects
    `Contribution.contribute` (absorption, Rayleigh, …: kind `lin`) or `CIAContribution.contribute` (kind `sq`; at least
    one pair), both as regenerated from the source, column by column (`sigma_xsec[:, j]` = the column's `sig`). -/
def dispatch (cols : List (Col α)) (ci lo hi off layer : Nat) (density buf path : Nat → α) : Nat → α := fun j =>
  let c := ((cols.getD j ⟨0, []⟩).sig.getD ci (Kind.lin, []))
  match c.1 with
  | .lin => Gen.SrcC02.contribution_contribute lo hi off layer density (fun _ => buf j) path (fn c.2) layer
  | .sq => Gen.SrcC02.cia_contribute lo hi off layer density (fun _ => buf j) path (fn c.2) 1 layer

theorem dispatch_eq (cols : List (Col α)) (dz dens : List α) (ci lo hi j : Nat) (buf : Nat → α) :
    dispatch cols ci lo hi 0 0 (fn dens) buf (fn dz) j
      = tauAcc ((cols.getD j ⟨0, []⟩).sig.getD ci (Kind.lin, [])) dz dens lo hi (buf j) := by
  unfold dispatch
  generalize (cols.getD j ⟨0, []⟩).sig.getD ci (Kind.lin, []) = c
  obtain ⟨kd, sg⟩ := c
  cases kd
  · exact src_contribution_contribute sg dz dens lo hi (fun _ => buf j)
  · exact src_cia_contribute sg dz dens lo hi 1 (by decide) (fun _ => buf j)

/-- the loop `for contrib in self.contribution_list: contrib.contribute(self, lo, hi, 0, 0, density, buf, path_length=dz)`
    leaves in column `j` of the buffer the model's fold over that column's contributions -/
theorem contrib_loop (cols : List (Col α)) (dz dens : List α) (nc lo hi j : Nat) (buf : Nat → α)
    (hn : (cols.getD j ⟨0, []⟩).sig.length = nc) :
    ((List.range' 0 nc).foldl (fun (b : Nat → α) ci => dispatch cols ci lo hi 0 0 (fn dens) b (fn dz)) buf) j
      = (cols.getD j ⟨0, []⟩).sig.foldl (fun a c => tauAcc c dz dens lo hi a) (buf j) :=
  contribLoop_eq (dispatch_eq cols dz dens) lo hi j buf hn

theorem ite_app {β γ : Type} (c : Prop) [Decidable c] (f g : β → γ) (x : β) :
    (if c then f else g) x = if c then f x else g x := by
  split <;> rfl

/-- **`EmissionModel.evaluate_emission`** (cross-section branch, `usingKTables = False`), component `I` of the returned
    tuple, for all wavenumbers at once and one emission angle (`self._mu_quads[q] = mq`), is the model's `intensity`:
    for every column `j` of the wavenumber grid
      `evaluate_emission(wngrid, …)[0][q, j] = intensity k cols dz dens temps (1/mq) cols[j]`.
    Instantiation of what the code reads: `wngrid[j]` = the column's wavenumber, `self._clamp = 10` (set in `__init__`),
    `contribution_list` = `nc` contributions dispatched as in `dispatch` (every column lists the same `nc`
    contributions: `hsig`), `deltaz / densityProfile / temperatureProfile` = the model's lists, `nLayers` = their length.
    The statements that only feed the `tau` component of the result are sliced away by the translator. -/
theorem src_evaluate_emission (pi h c kb lit mq : α) (cols : List (Col α)) (dz dens temps : List α) (nc : Nat)
    (hsig : ∀ j, j < cols.length → (cols.getD j ⟨0, []⟩).sig.length = nc) (ktI : Nat → α) (j : Nat)
    (hj : j < cols.length) :
    Gen.SrcC02.evaluate_emission (fun j => (cols.getD j ⟨0, []⟩).nu) cols.length kb pi h c lit (10 : α)
        (dispatch cols) (fn dz) (fn dens) ktI mq temps.length nc (fn temps) false j
      = intensity (pcOf pi h c kb lit) cols dz dens temps ((1 : α) / mq) (cols.getD j ⟨0, []⟩) := by
  unfold Gen.SrcC02.evaluate_emission intensity intensityRows rowsOf rowsWith
  simp only [Bool.false_eq_true, if_false, List.foldl_map, List.range_eq_range', allContrib_pair]
  -- the layer loop, observed at column j
  refine (foldl_proj_mem _ (fun (st : (Nat → α) × (Nat → α) × (Nat → α) × (Nat → α)) => st.2.2.2 j)
    (fun i l => i + (planck (pcOf pi h c kb lit) (cols.getD j ⟨0, []⟩).nu (temps.getD l 0) / pi)
      * (trans (keepLOf cols dz dens temps.length l) (layerTau (cols.getD j ⟨0, []⟩).sig dz dens temps.length l) ((1 : α) / mq)
        - trans (keepDOf cols dz dens temps.length l) (dTau (cols.getD j ⟨0, []⟩).sig dz dens temps.length l) ((1 : α) / mq)))
    (List.range' 0 temps.length) ?_ _).trans ?_
  · intro st l _
    exact congrArg (fun x => st.2.2.2 j + (planck (pcOf pi h c kb lit) (cols.getD j ⟨0, []⟩).nu (temps.getD l 0) / pi) * x)
      (clamped_pair_at (dispatch_eq cols dz dens) hsig (fun t => Transc.exp ((-t) * ((1 : α) / mq))) temps.length l j hj)
  · show List.foldl _ ((Gen.SrcC02.black_body (cols.getD j ⟨0, []⟩).nu (fn temps 0) kb pi h c lit / pi)
        * Transc.exp ((-(allContrib (dispatch cols) dz dens nc 0 temps.length j)) * ((1 : α) / mq))) _ = _
    rw [allContrib_eq (dispatch_eq cols dz dens) hsig _ _ j hj]
    refine foldl_proj_mem _ id _ _ (fun i l hl => ?_) _
    have hl' : l < temps.length := by have := List.mem_range'_1.1 hl; omega
    unfold flagsOf
    rw [getD_map_range _ hl']
    rfl

/-- the property `usingKTables`: `GlobalCache()['opacity_method'] == 'ktables'` (`'ktables'` coded as 1, any other value
    of the setting as another number) -/
theorem src_usingKTables (m : Nat) : Gen.SrcC02.usingKTables m = decide (m = 1) := rfl

/-- the mode switch of `evaluate_emission`: with the setting `'ktables'` the result is whatever
    `self.evaluate_emission_ktables(wngrid, return_contrib)` returns (component `I`: `ktI`; tied to `KTau.emissionK` in
    `Props/C20Src.lean`), for any other setting the cross-section loop of `src_evaluate_emission` runs -/
theorem src_evaluate_emission_switch (pi h c kb lit mq clamp : α) (nus dz dens temps ktI : Nat → α) (nw n nc m : Nat)
    (contribute : Nat → Nat → Nat → Nat → Nat → (Nat → α) → (Nat → α) → (Nat → α) → (Nat → α)) :
    Gen.SrcC02.evaluate_emission nus nw kb pi h c lit clamp contribute dz dens ktI mq n nc temps
        (Gen.SrcC02.usingKTables m)
      = if m = 1 then ktI
        else Gen.SrcC02.evaluate_emission nus nw kb pi h c lit clamp contribute dz dens ktI mq n nc temps false := by
  unfold Gen.SrcC02.usingKTables
  by_cases hm : m = 1
  · subst hm; rfl
  · simp only [hm, decide_false, if_false]

/-- `Star.initialize` stores `black_body(wngrid, T*)`, which `spectralEmissionDensity` returns: the stellar SED the
    driver evaluates as `planck k nu tstar` -/
theorem src_star_sed (pi h c kb lit nu ts : α) :
    Gen.SrcC02.star_sed (Gen.SrcC02.star_initialize nu kb pi h c lit ts) = planck (pcOf pi h c kb lit) nu ts := rfl

/-! ### angles: quadrature nodes, the other components of `evaluate_emission`, `path_integral` -/

/-- `set_num_gauss`: with `mu, weight = leggauss(n)` (one node `x`, weight `wt`) the new `(_mu_quads, _wi_quads)` -/
theorem src_set_num_gauss (x wt : α) : Gen.SrcC02.set_num_gauss wt x = (muOf x, wOf wt) := rfl

/-- `set_quadratures` maps user-supplied nodes the same way -/
theorem src_set_quadratures (x wt : α) : Gen.SrcC02.set_quadratures x wt = (muOf x, wOf wt) := rfl

/-- component `_mu` of `evaluate_emission` (cross-section branch) is `1/_mu_quads`: `muInvOf x` after `set_num_gauss` -/
theorem src_evaluate_emission_mu (x kt : α) :
    Gen.SrcC02.evaluate_emission_mu kt (muOf x) false = muInvOf x := rfl

/-- component `_w` of `evaluate_emission` is `_wi_quads`: `wOf wt` after `set_num_gauss` -/
theorem src_evaluate_emission_w (wt kt : α) :
    Gen.SrcC02.evaluate_emission_w kt false (wOf wt) = wOf wt := rfl

/-- **`EmissionModel.path_integral`** for one wavenumber: with `I, _mu, _w` as `evaluate_emission` returns them for the
    `leggauss` nodes `xs` / weights `wts` (`_mu = 1/_mu_quads`, `_w = _wi_quads`, one entry per angle; `np.pi = npPi`) the
    returned spectrum is `compute_final_flux` of the model's `fluxOf`.  `final` is whatever `self.compute_final_flux`
    dispatches to (see the two corollaries).  The angle sum is Python's `sum`: `0 + …`, left to right. -/
theorem src_path_integral (npPi tauE : α) (is xs wts : List α) (final : α → α) (h1 : xs.length = is.length)
    (h2 : wts.length = is.length) :
    Gen.SrcC02.path_integral (fn is) final (fun q => muInvOf (xs.getD q 0)) is.length npPi tauE
        (fun q => wOf (wts.getD q 0)) = final (fluxOf npPi is xs wts) := by
  unfold Gen.SrcC02.path_integral fluxOf fluxTotal angleSum
  simp only [List.foldl_map]
  have hlen : (is.zip (xs.zip wts)).length = is.length := by simp [List.length_zip, h1, h2]
  rw [← hlen]
  congr 2
  apply foldl_range'_eq (fun a (q : α × α × α) => a + q.1 * (wOf q.2.2 / muInvOf q.2.1)) (is.zip (xs.zip wts))
    (fun r => (fn is r, xs.getD r 0, wts.getD r 0)) 0
  intro i hi
  simp only [List.length_zip, Nat.lt_min] at hi
  simp [fn, List.getD_eq_getElem?_getD, hi.1, hi.2.1, hi.2.2]

/-- eclipse: `path_integral` followed by `EmissionModel.compute_final_flux` is `eclipse (fluxOf …)` -/
theorem src_path_integral_eclipse (npPi tauE sed rp rs : α) (is xs wts : List α) (h1 : xs.length = is.length)
    (h2 : wts.length = is.length) :
    Gen.SrcC02.path_integral (fn is) (fun f => Gen.SrcC02.emission_final_flux f rp rs sed)
        (fun q => muInvOf (xs.getD q 0)) is.length npPi tauE (fun q => wOf (wts.getD q 0))
      = eclipse (fluxOf npPi is xs wts) sed rp rs :=
  src_path_integral npPi tauE is xs wts _ h1 h2

/-- direct image: `path_integral` followed by `DirectImageModel.compute_final_flux` is `direct … (fluxOf …)` -/
theorem src_path_integral_direct (npPi tauE pi rp dist pc : α) (is xs wts : List α) (h1 : xs.length = is.length)
    (h2 : wts.length = is.length) :
    Gen.SrcC02.path_integral (fn is) (fun f => Gen.SrcC02.direct_final_flux f pi pc rp dist)
        (fun q => muInvOf (xs.getD q 0)) is.length npPi tauE (fun q => wOf (wts.getD q 0))
      = direct pi (fluxOf npPi is xs wts) rp dist pc :=
  src_path_integral npPi tauE is xs wts _ h1 h2

/-- **`EmissionModel.evaluate_emission`** (cross-section branch), component `tau` of the returned tuple — the CONTRIBUTION
    FUNCTION that `path_integral` and `model()` hand on to the user —, for all wavenumbers at once: entry `[l, j]` is the
    model's `contribFn` (`contribOf` of the row of layer `l` in column `j`): `exp(-layer_tau) - exp(-dtau)` with each term
    dropped (`0.0`) when its optical depth is ≥ `self._clamp = 10` at EVERY wavenumber (`x.min() < self._clamp`), added to the
    zeroed table.  The code's `if isinstance(_tau, float): tau[layer] += _tau else: tau[layer] += _tau[0]` (both terms
    dropped: a Python float; otherwise an array of shape `(1, nw)`) has ONE translation for both branches.  The statements
    that only feed the intensity are sliced away.  Instantiations as in `src_evaluate_emission`; the black-body constants do
    not enter (`k` arbitrary). -/
theorem src_evaluate_emission_tau (k : PC α) (cols : List (Col α)) (dz dens temps : List α) (nc : Nat)
    (hsig : ∀ j, j < cols.length → (cols.getD j ⟨0, []⟩).sig.length = nc) (ktT : Nat → Nat → α) (l j : Nat)
    (hl : l < temps.length) (hj : j < cols.length) :
    Gen.SrcC02.evaluate_emission_tau cols.length (10 : α) (dispatch cols) (fn dz) (fn dens) ktT temps.length nc false l j
      = (contribFn k cols dz dens temps (cols.getD j ⟨0, []⟩)).getD l 0 := by
  let F : Nat → α := fun l' =>
    cut (keepLOf cols dz dens temps.length l') (layerTau (cols.getD j ⟨0, []⟩).sig dz dens temps.length l')
      - cut (keepDOf cols dz dens temps.length l') (dTau (cols.getD j ⟨0, []⟩).sig dz dens temps.length l')
  unfold Gen.SrcC02.evaluate_emission_tau
  simp only [Bool.false_eq_true, if_false, allContrib_pair]
  refine (congrFun (foldl_proj_mem _ (fun (st : (Nat → α) × (Nat → α) × (Nat → Nat → α)) => fun i => st.2.2 i j)
    (fun (tt : Nat → α) g => fun i => if i = g then tt g + F g else tt i)
    (List.range' 0 temps.length) ?_ _) l).trans ?_
  · intro st l' _
    funext i
    have e := clamped_pair_at (dispatch_eq cols dz dens) hsig (fun t => Transc.exp (-t)) temps.length l' j hj
    by_cases hi : i = l'
    · subst hi
      exact (if_pos rfl).trans ((congrArg (st.2.2 i j + ·) e).trans (if_pos rfl).symm)
    · exact (if_neg hi).trans (if_neg hi).symm
  · rw [foldl_update_each F temps.length 0 (fun _ => (0 : α)) l]
    have h0 : (0 ≤ l ∧ l < 0 + temps.length) := ⟨Nat.zero_le _, by omega⟩
    rw [if_pos h0]
    unfold contribFn rowsOf rowsWith flagsOf
    simp only [List.map_map, List.getD_eq_getElem?_getD, List.getElem?_map, List.getElem?_range hl, Option.map_some,
      Option.getD_some, Function.comp, contribOf]
    rfl

/-- `path_integral(...)[1]`, the second value `model()` receives, is the `tau` of `evaluate_emission`, untouched -/
theorem src_path_integral_tau (I mu w : Nat → α) (tauE : α) : Gen.SrcC02.path_integral_tau I mu tauE w = tauE := rfl

end

/-! ### the orchestration of `partial_model` -/

section partialModel
open Taurex.Gen Taurex.Gen.Dyn
variable {φ : Type} [FloatLike φ]

/-- the two ways `partial_model` is called: without `wngrid` (`None`), or with one -/
def wnArg (given : Bool) : PV φ := if given then .obj .wn else .none

/-- **`EmissionModel.partial_model(wngrid, cutoff_grid)`** (dialect `dyn`, oracle `pext n`: a model with `n` contributions,
    `Proofs/C02SrcPartial.lean`): it calls, in this order, `self.initialize_profiles()`, `self._star.initialize(grid)`,
    `contrib.prepare(self, grid)` for every contribution in list order, and returns `self.evaluate_emission(grid, False)` —
    the model's `partialModelSteps` —, where `grid` is `self.nativeWavenumberGrid`, clipped by
    `clip_native_to_wngrid(native_grid, wngrid)` exactly when a `wngrid` is passed and `cutoff_grid` is true.  No call is
    made before, between or after these (the log is exactly the list). -/
theorem src_partial_model (n : Nat) (given cutoff : Bool) (s : List Step) :
    Gen.SrcC02.partial_model (pext (α := φ) n) (.obj .model) (wnArg given) (.bool cutoff) s
      = (.ok (.obj (.result (if (given && cutoff) then 1 else 0))), s ++ partialModelSteps n (given && cutoff)) := by
  suffices h : Emits (Gen.SrcC02.partial_model (pext (α := φ) n) (.obj .model) (wnArg given) (.bool cutoff))
      (partialModelSteps n (given && cutoff)) (.obj (.result (if (given && cutoff) then 1 else 0))) from h s
  unfold Gen.SrcC02.partial_model partialModelSteps
  -- one step per statement of the method; the oracle's answer at each is found by unification
  refine .log (fun _ => rfl) ?_
  refine .silent (fun _ => rfl) ?_
  -- `wngrid is not None and cutoff_grid`, then the clip: without a `wngrid` the value of `cutoff_grid` is not looked at
  refine .silent (a := given && cutoff) ?_ ?_
  · cases given <;> cases cutoff <;> exact fun _ => rfl
  refine .silent (a := .obj (.grid (if given && cutoff then 1 else 0))) ?_ ?_
  · cases given <;> cases cutoff <;> exact fun _ => rfl
  -- from here on the grid in use is a variable
  generalize (if (given && cutoff) = true then 1 else 0) = g
  refine .silent (fun _ => rfl) ?_
  refine .log (fun _ => rfl) ?_
  refine .silent (fun _ => rfl) ?_
  refine .silent (fun _ => rfl) ?_
  refine .bind (Emits.forM_map _ _ (fun i => Step.prepare i g) _ fun _ _ => rfl) ?_
  exact .log (fun _ => rfl) (Emits.pure _)
end partialModel

end Taurex.C02Src
