/-
  C13 — source tie.  `TaurexModel/Gen/SrcC13.lean` is regenerated on every run by the list dialect of the source translator
  (`harness/translate_list.py`) from the source text of taurex/util/util.py and taurex/opacity/opacity.py.  The theorems
  below state that each regenerated definition computes the hand-written model function of `TaurexModel/Grid.lean` that
  the C13 theorems are about and that `driver_c13` executes.  numpy's primitives are the definitions of
  `TaurexModel/Gen/Prelude.lean`.
-/
import TaurexModel.Gen.SrcC13
import Proofs.C13SrcReal
set_option linter.unusedSectionVars false
set_option linter.unusedSimpArgs false

namespace Taurex.C13Src
open Taurex.Binning Taurex.Grid Taurex.Gen

section
variable {α : Type} [Add α] [Sub α] [Mul α] [Div α] [Neg α] [LT α] [LE α]
  [DecidableLT α] [DecidableLE α] [Taurex.Transc α] [OfNat α 0] [OfNat α 1] [OfNat α 2] [OfNat α 4] [OfNat α 5]

/-- `compute_bin_edges` (the same source function as in C05) is `computeBinEdges` -/
theorem src_compute_bin_edges (g : List α) : SrcC13.compute_bin_edges g = computeBinEdges g := by
  simp only [SrcC13.compute_bin_edges, Np.midEdges_eq]
  simp only [Np.diff_eq]
  rfl

/-- **`clip_native_to_wngrid(native_grid, wngrid)`** is `clipNative`: the boolean mask
    `(native >= wn_min) & (native <= wn_max)` selects exactly `native.filter (inClip wngrid)`, with
    `wn_min/max = wngrid.min()/max() ∓ 1.25*compute_bin_edges(wngrid)[-1].max()`; the float literal `1.25` of the
    source is the parameter `c1p25`, instantiated with the model's `5/4`.  Every carrier. -/
theorem src_clip_native (native wngrid : List α) :
    SrcC13.clip_native_to_wngrid native wngrid (c1p25 := 5 / 4) = clipNative native wngrid := by
  simp only [SrcC13.clip_native_to_wngrid, src_compute_bin_edges, Np.zip2_map_map, Np.compress_map]
  rfl

set_option hygiene false in
/-- the tie of an `opacity` method as one tactic script (the names are those of the theorem statements): unfold the
    regenerated definition `d`, turn masks / `np.where` / `take` / `np.arange` into the model's `filter` / `drop` / `take`,
    then follow the outcome of the first `np.array_equal` test.  It proves either tie when invoked on it; the ties below
    are proved by the lemma `opacity_of_selection` (Proofs/C13SrcNp.lean) instead, which says the same once. -/
local macro "opacity_tie" d:ident : tactic => `(tactic| (
  have hpos : 0 < nativeWn.length := List.length_pos_iff.2 hne
  have hmask : ∀ (x : α), (decide (Np.amin 0 req ≤ x) && decide (x ≤ Np.amax 0 req)) = inRange req x := fun _ => rfl
  have hsl : ∀ (l : List α) (v : α), Np.searchsortedLeft l v = Interp.searchLeft l v := fun _ _ => rfl
  have hsr : ∀ (l : List α) (v : α), Np.searchsortedRight l v = Interp.searchRight l v := fun _ _ => rfl
  have hmin : Np.amin 0 req = minL req := rfl
  have hmax : Np.amax 0 req = maxL req := rfl
  simp only [$d:ident, Np.zip2_map_map, hmask]
  simp only [Np.arrayEqual_eq, hsl, hsr, hmin, hmax, Nat.max_zero]
  have hF : Np.take 0 nativeWn (Np.where_ (List.map (fun x => inRange req x) nativeWn))
      = nativeWn.filter (inRange req) := by
    rw [Np.take_where 0 _ nativeWn (by simp), Np.compress_map]
  have hV : Np.take 0 vals (Np.where_ (List.map (fun x => inRange req x) nativeWn))
      = ((nativeWn.zip vals).filter (fun p => inRange req p.1)).map (·.2) := by
    rw [Np.take_where 0 _ vals (by simp; omega), Np.compress_zip]
  simp only [opacityOnGrid, Np.filter_zip_fst (inRange req) nativeWn vals (by omega)]
  cases h1 : eqL (nativeWn.filter (inRange req)) req
  · have hb := h2 h1
    simp only [bracketEq] at hb
    have hk : ∀ (l : List α), l.length = nativeWn.length →
        Np.take 0 l (List.range' (Interp.searchRight nativeWn (minL req) - 1)
          (min (Interp.searchLeft nativeWn (maxL req)) (nativeWn.length - 1) + 1 - (Interp.searchRight nativeWn (minL req) - 1)))
        = (l.drop (Interp.searchRight nativeWn (minL req) - 1)).take
          (min (Interp.searchLeft nativeWn (maxL req)) (nativeWn.length - 1) + 1 - (Interp.searchRight nativeWn (minL req) - 1)) := by
      intro l hl
      by_cases hle : Interp.searchRight nativeWn (minL req) - 1 ≤ min (Interp.searchLeft nativeWn (maxL req)) (nativeWn.length - 1) + 1
      · exact Np.take_range' 0 l _ _ (by omega)
      · have : min (Interp.searchLeft nativeWn (maxL req)) (nativeWn.length - 1) + 1 - (Interp.searchRight nativeWn (minL req) - 1) = 0 := by omega
        rw [this]; simp [Np.take]
    simp only [hF, h1, Bool.not_false, if_true, hk nativeWn rfl, hk vals hlen, hb, Bool.false_eq_true, if_false]
  · simp only [hF, hV, h1, Bool.not_true, Bool.false_eq_true, if_false, if_true]
))

/-- **`Opacity.opacity(T, P, wngrid=req)`** is `opacityOnGrid`, for every carrier.  The externals are instantiated with what
    the model assumes of them: `compute_opacity(T, P, idx)` returns the native values `vals` at the indices `idx`
    (point-wise in wavenumber: C04), `np.interp` is `NpInterp.npInterp`.  Guards: `vals` has one value per native point and
    the native grid is not empty (the code raises otherwise).  `h2`: the code tests `np.array_equal` a second time, on the
    bracketing index range, where the model re-uses the outcome of the first test; on a strictly increasing native grid
    the two tests agree (`second_test_agrees`, over ℝ). -/
theorem src_opacity_on_grid (nativeWn vals req : List α) (hlen : vals.length = nativeWn.length) (hne : nativeWn ≠ [])
    (h2 : eqL (nativeWn.filter (inRange req)) req = false → bracketEq nativeWn req = false) :
    SrcC13.opacity_on_grid req (fun idx => Np.take 0 vals idx) (fun x xp fp => NpInterp.npInterp xp fp x) nativeWn
      = opacityOnGrid nativeWn vals req := by
  exact opacity_of_selection nativeWn vals req hlen hne h2

/-- **`KTable.opacity(T, P, wngrid=req)`**, one g-point column: the same selection of native points as `Opacity.opacity`,
    then scipy's `interp1d(x, y, axis=0, bounds_error=False, fill_value=(y[0], y[-1]), assume_sorted=True)`, instantiated
    with what the model assumes of it: linear interpolation with clamped ends, i.e. `npInterp` mapped over the request
    (the harness validates this numerically against the real scipy). -/
theorem src_ktable_opacity_on_grid (nativeWn vals req : List α) (hlen : vals.length = nativeWn.length)
    (hne : nativeWn ≠ [])
    (h2 : eqL (nativeWn.filter (inRange req)) req = false → bracketEq nativeWn req = false) :
    SrcC13.ktable_opacity_on_grid req (fun idx => Np.take 0 vals idx)
        (fun xp fp _ _ _ _ _ r => r.map (NpInterp.npInterp xp fp)) nativeWn
      = opacityOnGrid nativeWn vals req := by
  exact opacity_of_selection nativeWn vals req hlen hne h2

end

/-- **`Opacity.opacity` over ℝ, unconditionally**: on a strictly increasing native grid and a non-empty request the second
    `np.array_equal` test agrees with the first (`second_test_agrees`, Proofs/C13SrcReal.lean), so the regenerated function
    is the model `opacityOnGrid` that `own_grid_identity` / `other_grid_between` (Props/C13.lean) are about. -/
theorem src_opacity_on_grid_real (nativeWn vals req : List ℝ) (hlen : vals.length = nativeWn.length)
    (hs : nativeWn.Pairwise (· < ·)) (hne : nativeWn ≠ []) (hreq : req ≠ []) :
    SrcC13.opacity_on_grid req (fun idx => Np.take 0 vals idx) (fun x xp fp => NpInterp.npInterp xp fp x) nativeWn
      = opacityOnGrid nativeWn vals req :=
  src_opacity_on_grid nativeWn vals req hlen hne (second_test_agrees nativeWn req hs hreq)

/-- `KTable.opacity` over ℝ, unconditionally (strictly increasing native grid, non-empty request) -/
theorem src_ktable_opacity_on_grid_real (nativeWn vals req : List ℝ) (hlen : vals.length = nativeWn.length)
    (hs : nativeWn.Pairwise (· < ·)) (hne : nativeWn ≠ []) (hreq : req ≠ []) :
    SrcC13.ktable_opacity_on_grid req (fun idx => Np.take 0 vals idx)
        (fun xp fp _ _ _ _ _ r => r.map (NpInterp.npInterp xp fp)) nativeWn
      = opacityOnGrid nativeWn vals req :=
  src_ktable_opacity_on_grid nativeWn vals req hlen hne (second_test_agrees nativeWn req hs hreq)

end Taurex.C13Src
