/-
  C04 — the property theorems restated about the REGENERATED source.  `Props/C04Src.lean` proves that the definition
  translated on every run from `InterpolatingOpacity.interp_bilinear_grid` (with `find_closest_pair`, the four kernels, the
  two one-axis helpers) equals the model's `bilinearGrid`; `Props/C04.lean` proves the property about `bilinearGrid`.
  The corollaries below compose the two: they are statements about the text of the code, at the real carrier.
  `srcValue mode tg pg tab t p` is the value `interp_bilinear_grid(T, log10 P, *find_closest_index(T, log10 P))` computes
  for one wavenumber: the indices are `find_closest_pair`'s, `pressureBounds`/`temperatureBounds` the first and last node.

  Restated: `between_nodes_linear`, `between_nodes_exp`, `both_min_zero`, `nonneg_linear`.  The other theorems of
  `Props/C04.lean` are not: those about `bilinearGrid` (`nonneg_exp`, `at_node_*`, `interior_*`) would go through
  `srcValue_eq` in the same way; `discovered_mode*` are about the cache model, of which `Props/C04Src.lean` regenerates
  nothing.
-/
import Props.C04
import Props.C04Src
set_option linter.unusedSectionVars false

namespace Taurex.C04SrcProps
open Taurex.Interp Taurex.C04 Taurex.C04Src Taurex.C04L

/-- what the regenerated `interp_bilinear_grid` returns, called as `compute_opacity` calls it -/
noncomputable def srcValue (mode : Mode) (tg pg : List ℝ) (tab : List (List ℝ)) (t p : ℝ) : ℝ :=
  Gen.SrcC04.interp_bilinear_grid t p
    (Gen.SrcC04.find_closest_pair tg.length (searchLeft tg t)).1 (Gen.SrcC04.find_closest_pair tg.length (searchLeft tg t)).2
    (Gen.SrcC04.find_closest_pair pg.length (searchLeft pg p)).1 (Gen.SrcC04.find_closest_pair pg.length (searchLeft pg p)).2
    (mode := modeCode mode) (nP := pg.length) (nT := tg.length)
    (pMaxB := pg.getD (pg.length - 1) 0) (pMinB := pg.getD 0 0) (pg := fun i => pg.getD i 0) (pressureMax := 0)
    (tMaxB := tg.getD (tg.length - 1) 0) (tMinB := tg.getD 0 0) (temperatureMax := 0)
    (tg := fun i => tg.getD i 0) (xsec := fun i j => at2 tab i j)

theorem srcValue_eq (mode : Mode) (tg pg : List ℝ) (tab : List (List ℝ)) (t p : ℝ) :
    srcValue mode tg pg tab t p = bilinearGrid mode tg pg tab t p := by
  unfold srcValue
  rw [src_find_closest_pair, src_find_closest_pair]
  exact src_bilinear_grid mode tg pg tab t p 0 0

theorem src_between_nodes_linear (tg pg : List ℝ) (tab : List (List ℝ)) (t p : ℝ)
    (hT : Sorted tg) (hP : Sorted pg) (hnT : 2 ≤ tg.length) (hnP : 2 ≤ pg.length)
    (hnb : ¬ (t < tg.getD 0 0 ∧ p < pg.getD 0 0)) :
    nodeMin tab (bracketIdx pg p) (bracketIdx tg t) ≤ srcValue .linear tg pg tab t p ∧
    srcValue .linear tg pg tab t p ≤ nodeMax tab (bracketIdx pg p) (bracketIdx tg t) := by
  rw [srcValue_eq]; exact between_nodes_linear tg pg tab t p hT hP hnT hnP hnb

theorem src_both_min_zero (mode : Mode) (tg pg : List ℝ) (tab : List (List ℝ)) (t p : ℝ)
    (hT : Sorted tg) (hP : Sorted pg) (hnT : 2 ≤ tg.length) (hnP : 2 ≤ pg.length)
    (ht : t < tg.getD 0 0) (hp : p < pg.getD 0 0) : srcValue mode tg pg tab t p = 0 := by
  rw [srcValue_eq]; exact both_min_zero mode tg pg tab t p hT hP hnT hnP ht hp

theorem src_nonneg_linear (tg pg : List ℝ) (tab : List (List ℝ)) (t p : ℝ)
    (hT : Sorted tg) (hP : Sorted pg) (hnT : 2 ≤ tg.length) (hnP : 2 ≤ pg.length)
    (h0 : ∀ i j, 0 ≤ at2 tab i j) : 0 ≤ srcValue .linear tg pg tab t p := by
  rw [srcValue_eq]; exact nonneg_linear tg pg tab t p hT hP hnT hnP h0

theorem src_between_nodes_exp (tg pg : List ℝ) (tab : List (List ℝ)) (t p : ℝ)
    (hT : Sorted tg) (hP : Sorted pg) (hnT : 2 ≤ tg.length) (hnP : 2 ≤ pg.length)
    (hpos : TabPos tab) (hTpos : 0 < tg.getD 0 0)
    (hnb : ¬ (t < tg.getD 0 0 ∧ p < pg.getD 0 0)) :
    nodeMin tab (bracketIdx pg p) (bracketIdx tg t) ≤ srcValue .exp tg pg tab t p ∧
    srcValue .exp tg pg tab t p ≤ nodeMax tab (bracketIdx pg p) (bracketIdx tg t) := by
  rw [srcValue_eq]; exact between_nodes_exp tg pg tab t p hT hP hnT hnP hpos hTpos hnb

end Taurex.C04SrcProps
