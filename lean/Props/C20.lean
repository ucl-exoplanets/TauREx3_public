/-
  C20 — correlated-k reduces to cross-sections when the k-distribution is degenerate.
  Theorems about `TaurexModel/KTau.lean` (the definitions `driver_c20` executes), over the real carrier.
  Weights `≥ 0`, `Σ w = 1` throughout.
-/
import Proofs.C20

namespace Taurex.C20
open Taurex.Emission Taurex.KTau

/-- Jensen: the weight-averaged exponential is at least the exponential of the weight-averaged optical depth
    (i.e. the k-transmittance is at least the transmittance of the averaged coefficient). -/
theorem k_jensen (taus ws : List ℝ) (hlen : taus.length = ws.length) (hw0 : ∀ w ∈ ws, 0 ≤ w) (hw : ws.sum = 1) :
    Real.exp (-((taus.zip ws).map (fun p => p.1 * p.2)).sum) ≤ transK taus ws := by
  rw [transK_eq]
  exact jensen_exp (taus.zip ws) (fun p hp => hw0 p.2 (List.of_mem_zip hp).2) (by rw [sum_snd_zip taus ws hlen, hw])

example : Real.exp (-(([1, 2, 5].zip [(1/2 : ℝ), 1/3, 1/6]).map (fun p => p.1 * p.2)).sum)
    ≤ transK [1, 2, 5] [1/2, 1/3, 1/6] :=
  k_jensen _ _ rfl nv_w3.1 nv_w3.2

/-- the transmittance along a path lies in `(0, 1]` for non-negative optical depths -/
theorem k_trans_unit (taus ws : List ℝ) (hlen : taus.length = ws.length) (hw0 : ∀ w ∈ ws, 0 ≤ w) (hw : ws.sum = 1)
    (ht : ∀ t ∈ taus, 0 ≤ t) : 0 < transK taus ws ∧ transK taus ws ≤ 1 := by
  refine ⟨transK_pos hlen hw0 hw, ?_⟩
  rw [transK_eq, ← hw, ← sum_snd_zip taus ws hlen]
  exact List.sum_le_sum fun p hp => mul_le_of_le_one_left (hw0 p.2 (List.of_mem_zip hp).2)
    (Real.exp_le_one_iff.2 (neg_nonpos.2 (ht p.1 (List.of_mem_zip hp).1)))

example : 0 < transK [1, 2, 5] [(1/2 : ℝ), 1/3, 1/6] ∧ transK [1, 2, 5] [(1/2 : ℝ), 1/3, 1/6] ≤ 1 :=
  k_trans_unit _ _ rfl nv_w3.1 nv_w3.2
    (by simp only [List.forall_mem_cons, List.not_mem_nil, false_imp_iff, implies_true, and_true]; norm_num)

/-- the optical depth the k-path adds is non-negative and at most the weight-averaged optical depth -/
theorem k_tau_bounds (taus ws : List ℝ) (hlen : taus.length = ws.length) (hw0 : ∀ w ∈ ws, 0 ≤ w) (hw : ws.sum = 1)
    (ht : ∀ t ∈ taus, 0 ≤ t) :
    0 ≤ ktau taus ws ∧ ktau taus ws ≤ ((taus.zip ws).map (fun p => p.1 * p.2)).sum := by
  obtain ⟨hpos, hle⟩ := k_trans_unit taus ws hlen hw0 hw ht
  have hj := k_jensen taus ws hlen hw0 hw
  unfold ktau
  simp only [log_real]
  refine ⟨neg_nonneg.2 (Real.log_nonpos hpos.le hle), ?_⟩
  have := Real.log_le_log (Real.exp_pos _) hj
  rw [Real.log_exp] at this
  exact neg_le.1 this

/-- degenerate k-distribution (all g-points carry the same optical depth): the k-path adds exactly `τ`,
    for any weights summing to one -/
theorem k_degenerate (taus ws : List ℝ) (τ : ℝ) (hlen : taus.length = ws.length) (hall : ∀ t ∈ taus, t = τ)
    (hw : ws.sum = 1) : ktau taus ws = τ :=
  ktau_const taus ws τ hlen hall hw

example : ktau [3, 3, 3] [(1/2 : ℝ), 1/3, 1/6] = 3 :=
  k_degenerate _ _ 3 rfl (by simp) nv_w3.2

/-- transmission: with coefficients identical across g, `contribute_ktau` adds to `tau[l, wn]` exactly what
    `contribute_tau` adds for the same numbers used as a cross-section -/
theorem k_degenerate_row (sigma3 : List (List ℝ)) (sigma path dens ws : List ℝ) (n l : Nat) (acc : ℝ)
    (hdeg : ∀ k g, g < ws.length → at3 sigma3 k g = sigma.getD k 0) (hw : ws.sum = 1) :
    ktauRow sigma3 path dens ws n l acc = tauRowX sigma path dens n l acc := by
  unfold ktauRow
  rw [tauRowX_acc]
  congr 1
  refine ktau_const _ ws _ (by simp) (forall_mem_map_range fun g hg => ?_) hw
  unfold tauG tauRowX
  congr 1
  funext a k
  rw [hdeg (k + l) g hg]

example : ktauRow [[2, 2], [3, 3]] [1, 1] [1, 1] [(1/4 : ℝ), 3/4] 2 0 0 = tauRowX [2, 3] [1, 1] [1, 1] 2 0 0 :=
  k_degenerate_row _ _ _ _ _ 2 0 0 (fun k g hg => at3_replicate [2, 3] 2 k g hg) nv_w2.2

/-- emission: with coefficients identical across g (and weights summing to one) the k-table intensity of
    `evaluate_emission_ktables` equals the documented (unclamped) integral of the cross-section model on the same
    numbers, the molecular absorption entering as an ordinary `σ·dz·ρ` contribution.  Together with `C02.clamp_band`
    this bounds the difference to the cross-section code path by the licensed `exp(-10)` band. -/
theorem k_degenerate_emission (k : PC ℝ) (nonmol : List (Kind × List ℝ)) (sigma3 : List (List ℝ))
    (sigma ws dz dens temps : List ℝ) (nu m : ℝ)
    (hdeg : ∀ j g, g < ws.length → at3 sigma3 j g = sigma.getD j 0) (hw : ws.sum = 1) :
    emissionK k nonmol sigma3 ws dz dens temps nu m
      = intensityUncut k dz dens temps m ⟨nu, (Kind.lin, sigma) :: nonmol⟩ := by
  -- both sides in level form; every g-weighted transmittance collapses to one exponential (`levelTrans_deg`)
  rw [intensityUncut_levels, emissionK_layered, levelTrans_deg hdeg hw]
  rw [transKmu_deg _ ws _ m (fun g hg => kRange_deg sigma3 dz dens sigma 0 _ g fun j => hdeg j g hg) hw]
  exact Real.exp_pos _

example : emissionK ⟨3, 1, 1, 1, 1, 1⟩ [(Kind.sq, [1, 1])] [[2, 2], [3, 3]] [(1/4 : ℝ), 3/4] [1, 1] [1, 2] [5, 4] 2 1
    = intensityUncut ⟨3, 1, 1, 1, 1, 1⟩ [1, 1] [1, 2] [5, 4] 1 ⟨2, [(Kind.lin, [2, 3]), (Kind.sq, [1, 1])]⟩ :=
  k_degenerate_emission _ _ _ _ _ _ _ _ _ _ (fun k g hg => at3_replicate [2, 3] 2 k g hg) nv_w2.2

/-- emission WITHOUT a molecular absorption contribution (a model built from scattering / haze / CIA contributions only; each
    non-molecular entry of `model_contrib()`): the k-table path `evaluate_emission_ktables` then computes, for whatever
    k-tables are installed, the documented (unclamped) integral of the cross-section model over the same contributions.
    Together with `C02.clamp_band` this bounds the difference to the cross-section code path by the licensed band, as in
    `k_degenerate_emission`; with a single molecular contribution and no other, `k_degenerate_emission` (`nonmol = []`) is
    the statement for the `Absorption` entry of `model_contrib()`. -/
theorem k_emission_without_molecules (k : PC ℝ) (contribs : List (Kind × List ℝ)) (dz dens temps : List ℝ) (nu m : ℝ) :
    emissionKNoMol k contribs dz dens temps nu m = intensityUncut k dz dens temps m ⟨nu, contribs⟩ := by
  rw [intensityUncut_levels, emissionKNoMol_levels]

example : emissionKNoMol ⟨3, 1, 1, 1, 1, 1⟩ [(Kind.lin, [2, 3]), (Kind.sq, [1, 1])] [1, 1] [1, 2] [5, 4] 2 (1 : ℝ)
    = intensityUncut ⟨3, 1, 1, 1, 1, 1⟩ [1, 1] [1, 2] [5, 4] 1 ⟨2, [(Kind.lin, [2, 3]), (Kind.sq, [1, 1])]⟩ :=
  k_emission_without_molecules _ _ _ _ _ _ _

/-- **linear identification**: the weight-averaged optical depth of the g-points is the optical depth of the
    weight-averaged coefficient -/
theorem k_avg_linear (sigma3 : List (List ℝ)) (path dens ws : List ℝ) (n l : Nat) :
    ((((List.range ws.length).map (tauG sigma3 path dens n l)).zip ws).map (fun p => p.1 * p.2)).sum
      = tauRowX ((List.range n).map (avgSigma sigma3 ws)) path dens n l 0 := by
  rw [zip_range_map]
  unfold tauG tauRowX
  simp only [foldl_add_sum, zero_add]
  have h := sum_comm_range (fun k g => at3 sigma3 (k + l) g) (fun k => path.getD k 0 * dens.getD (k + l) 0)
    (fun g => ws.getD g 0) (n - l) ws.length
  simp only [← mul_assoc] at h
  rw [h]
  congr 1
  apply List.map_congr_left
  intro k hk
  have hk' : k + l < n := by
    have := List.mem_range.1 hk; omega
  rw [getD_map_range _ hk']
  unfold avgSigma
  ring

/-- **Jensen at row level**: the k-transmittance of a tangent layer is at least the transmittance obtained from the
    weight-averaged coefficient used as a cross-section -/
theorem k_jensen_row (sigma3 : List (List ℝ)) (path dens ws : List ℝ) (n l : Nat)
    (hw0 : ∀ w ∈ ws, 0 ≤ w) (hw : ws.sum = 1) :
    Real.exp (-(tauRowX ((List.range n).map (avgSigma sigma3 ws)) path dens n l 0))
      ≤ transK ((List.range ws.length).map (tauG sigma3 path dens n l)) ws := by
  rw [← k_avg_linear]
  exact k_jensen _ ws (by simp) hw0 hw

/-- NV: the weights 1/4, 3/4 of the examples above are non-negative and sum to one -/
example : (∀ w ∈ [(1/4 : ℝ), 3/4], 0 ≤ w) ∧ [(1/4 : ℝ), 3/4].sum = 1 := nv_w2

end Taurex.C20
