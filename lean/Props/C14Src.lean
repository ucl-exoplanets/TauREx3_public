/-
  C14 — source tie.  `TaurexModel/Gen/SrcC14.lean` is regenerated on every run by `harness/translate.py` (dialect `py`,
  harness/translate_py.py) from the source text of taurex/cia/hitrancia.py, taurex/cia/picklecia.py, taurex/util/util.py
  (`find_closest_pair`), taurex/util/math.py (`interp_lin_only`), the three caches (taurex/cache/opacitycache.py,
  ktablecache.py, ciaacache.py), the file readers and name handling of the opacity / k-table classes and the Exo-Transmit
  text parser (taurex/opacity/exotransmit.py).  The theorems state that each regenerated definition is
  the hand-written model function of `TaurexModel/Loaders.lean` / `Interp.lean` that `driver_c14` executes and the C14 theorems
  are about.  Generic in the carrier `α`.

  Reading of the Python values: a 1-D numpy array is the list of its elements, a 2-D table the list of its rows,
  `HitranCiaGrid.Tsigma` a list of pairs (temperature, row).  List subscripts are TOTALISED as in the model (`getD`): the code
  only subscripts with indices that `searchsorted` / `find_closest_pair` produced for the same grid.  What Python raises on an
  empty grid (`min([])`, `a.max()` of an empty array: `ValueError`) is kept: the theorems carry the hypothesis `≠ []`.
  `hlt : ¬ b < a ↔ a ≤ b` (any linear order; `Float` without NaN) relates Python's sort, which compares with `<`, to the
  model's merge sort by `≤`.
-/
import Proofs.C14SrcCaches
import Proofs.C14SrcExo
import Proofs.C14SrcHitran
set_option linter.unusedSectionVars false

namespace Taurex.C14Src
open Taurex.Loaders Taurex.Interp Taurex.Gen

section
variable {α : Type} [Add α] [Sub α] [Mul α] [Div α] [Neg α] [LT α] [LE α] [DecidableLT α] [DecidableLE α]
  [Taurex.Transc α] [OfNat α 0]

/-- `interp_lin_only` (the numba kernel the module binds to that name), on one element, is `interpLin` -/
theorem src_interp_lin_only (x11 x12 p pmin pmax : α) :
    Gen.SrcC14.interp_lin_only x11 x12 p pmin pmax = interpLin x11 x12 p pmin pmax := rfl

/-- `find_closest_pair(arr, value)` with `arr.searchsorted(value)` = number of elements `< value` is `findClosestPair` -/
theorem src_find_closest_pair (arr : List α) (v : α) :
    Gen.SrcC14.find_closest_pair arr v = findClosestPair arr v := by
  simp [Gen.SrcC14.find_closest_pair, findClosestPair, Py.searchsortedLeft, searchLeft]

/-- `HitranCiaGrid.add_temperature(T, sigma)` appends the pair (the `ts ++ [e]` of `upsert` and `fillOne`) -/
theorem src_add_temperature (ts : List (α × List α)) (t : α) (sigma : List α) :
    Gen.SrcC14.Grid_add_temperature t sigma ts = ts ++ [(t, sigma)] := rfl

/-- the properties `temperature` / `sigma` of `HitranCiaGrid`: the two columns of `Tsigma` -/
theorem src_temperature (ts : List (α × List α)) : Gen.SrcC14.Grid_temperature ts = ts.map (·.1) := rfl

theorem src_sigma (ts : List (α × List α)) : Gen.SrcC14.Grid_sigma ts = ts.map (·.2) := rfl

/-- `HitranCiaGrid.find_closest_temperature_index(t)`: `(searchRight temps t - 1, searchRight temps t - 1 + 1)`, the indices
    `fillOne` uses -/
theorem src_grid_find_closest (ts : List (α × List α)) (t : α) :
    Gen.SrcC14.Grid_find_closest_temperature_index t ts
      = (searchRight (ts.map (·.1)) t - 1, searchRight (ts.map (·.1)) t - 1 + 1) := rfl

/-- `HitranCiaGrid.interp_linear_grid(T, i, j)`: the row `fillOne` inserts -/
theorem src_grid_interp (ts : List (α × List α)) (t : α) (i j : Nat) :
    Gen.SrcC14.Grid_interp_linear_grid t i j ts
      = List.zipWith (fun u v => interpLin u v t (ts.getD i (0, [])).1 (ts.getD j (0, [])).1)
          (ts.getD i (0, [])).2 (ts.getD j (0, [])).2 := by
  simp only [Gen.SrcC14.Grid_interp_linear_grid, src_temperature, src_sigma, getD_map_fst, getD_map_snd]
  rfl

/-- `HitranCiaGrid.sortTempSigma()` is `sortTs` -/
theorem src_sortTempSigma (hlt : ∀ a b : α, ¬ b < a ↔ a ≤ b) (ts : List (α × List α)) :
    Gen.SrcC14.Grid_sortTempSigma ts = sortTs ts :=
  sortOn_eq_mergeSort hlt _ ts

/-- **`HitranCiaGrid.fill_temperature(temperatures)` is `fillTemperature`**: `min` / `max` of the grid's own temperatures are
    taken once; every master temperature that is missing gets a zero row (outside the range) or the row interpolated
    linearly between its neighbours, and the list is re-sorted after each insertion -/
theorem src_fill_temperature (hlt : ∀ a b : α, ¬ b < a ↔ a ≤ b) (wn : List α) (ts : List (α × List α)) (temps : List α)
    (hne : ts ≠ []) :
    Gen.SrcC14.Grid_fill_temperature temps ts wn = (fillTemperature wn ts temps, Except.ok ()) := by
  have hne' : ts.map (·.1) ≠ [] := by simpa using hne
  unfold Gen.SrcC14.Grid_fill_temperature
  simp only [src_temperature, minE_eq _ hne', maxE_eq _ hne', Py.caseE_ok, fillTemperature]
  congr 1
  congr 1
  funext st t
  simp only [fillOne, any_eq_memv, src_add_temperature, src_sortTempSigma hlt, src_grid_find_closest, src_grid_interp]
  by_cases hm : memv t (st.map (·.1)) = true
  · simp [hm]
  · simp only [hm, Bool.false_eq_true, if_false]
    by_cases ho : (decide (t < lmin (ts.map (·.1))) || decide (lmax (ts.map (·.1)) < t)) = true
    · simp [ho]
    · simp [ho]

/-- **`PickleCIA.compute_cia(T)` is `ciaCompute`** (clamp outside the temperature grid, else linear in T between the rows
    `find_closest_pair` selects) -/
theorem src_pickle_compute_cia (c : CTab α) (T : α) (hne : c.t ≠ []) :
    Gen.SrcC14.PickleCIA_compute_cia T c.t c.x = Except.ok (ciaCompute c T) := by
  simp only [Gen.SrcC14.PickleCIA_compute_cia, Gen.SrcC14.PickleCIA_interp_linear_grid,
    Gen.SrcC14.PickleCIA_find_closest_temperature_index, Gen.SrcC14.PickleCIA_temperatureGrid, maxE_eq _ hne,
    minE_eq _ hne, Py.caseE_ok, src_find_closest_pair, ciaCompute, getD_zero_eq_headD]
  by_cases h1 : lmax c.t < T
  · simp [h1]
  · by_cases h2 : T < lmin c.t
    · simp [h1, h2]
    · simp only [h1, h2, decide_false, Bool.false_eq_true, if_false]
      rfl

/-- **`HitranCIA.compute_cia(T)` is `ciaCompute`** on the unified grids -/
theorem src_hitran_compute_cia (c : CTab α) (T : α) (hne : c.t ≠ []) :
    Gen.SrcC14.HitranCIA_compute_cia T c.t c.x = Except.ok (ciaCompute c T) :=
  src_pickle_compute_cia c T hne

end

/-! ### the opacity cache (taurex/cache/opacitycache.py) against `TaurexModel/CacheSM.lean`

  Layout (`Proofs/C14SrcLemmas.lean`): `opacity_dict` is the model's `dict`; the GlobalCache cells `xsec_path`,
  `xsec_interpolation`, `xsec_in_memory` are `path`, `interp`, `memMode`; the world `(log, nextId)` is what constructor calls
  change.  Instantiation of what the translated text leaves open: classes `K := Fmt`, `c.discover() := discoverM fs` (the files
  of that class under the configured path, with the GlobalCache settings as constructor arguments), `c(*args) := constructM`,
  `op.moleculeName := o.mol`, `os.path.isdir := isdirM fs`, `klass_list` = the classes in priority order. -/

section
open Taurex.CacheSM

/-- `OpacityCache.add_opacity(opacity, molecule_filter)` is `addOpacity` (a filter list `[f]` is the model's `some f`) -/
theorem src_add_opacity (s : CSt) (o : Obj) (filter : Option String) :
    Gen.SrcC14.OpacityCache_add_opacity o (filter.map (fun f => [f])) (fun o => o.mol) s.dict
      = (addOpacity s o filter).dict :=
  congrArg Prod.fst (encS_addOpacity s o filter)

/-- `add_opacity` touches nothing but the dict -/
theorem src_add_opacity_frame (s : CSt) (o : Obj) (filter : Option String) :
    addOpacity s o filter = { s with dict := (addOpacity s o filter).dict } := by
  unfold addOpacity
  split
  · rfl
  · cases filter with
    | none => rfl
    | some f => by_cases hf : (o.mol == f) = true <;> simp [hf]

/-- **`OpacityCache.load_opacity_from_path(path, molecule_filter=[m])` is `loadFrom fs m`**: the double loop over the classes
    in priority order and over what each class discovers constructs an object for every discovered file that advertises `m`
    while `m` is not yet cached, and adds it under the name the OBJECT reports.  `hord`: the model's file list is the
    concatenation of the classes' discoveries in visiting order.  `p` (the argument `path`) is arbitrary: the function never
    reads it, the classes discover under `GlobalCache()['xsec_path']`. -/
theorem src_load_opacity_from_path (fs : List Dir) (klasses : List Fmt) (s : CSt) (m : String) (p : Option Nat)
    (hord : klasses.flatMap (fun c => (curFiles fs s).filter (fun e => decide (e.fmt = c))) = curFiles fs s) :
    Gen.SrcC14.OpacityCache_load_opacity_from_path p [m] constructM (discoverM fs) klasses (fun o => o.mol)
        s.dict (worldOf s) s.interp s.memMode s.path = encS (loadFrom fs m s) := by
  unfold Gen.SrcC14.OpacityCache_load_opacity_from_path loadFrom
  rw [← hord, List.foldl_flatMap]
  simp only [Prod.eta]
  -- the loop over the classes, then the loop over what one class discovers
  refine foldl_sim encS _ _ (fun t => Same t s) (fun t c h => foldl_same _ (loadStep_same m) _ t s h) (fun s' c hs => ?hF)
    klasses s ⟨rfl, rfl, rfl⟩
  case hF =>
    simp only [discoverM_eq, List.foldl_map]
    refine foldl_sim encS _ (loadStep m) (fun t => Same t s) (fun t e h => loadStep_same m t s e h) (fun s'' e hs' => ?hG)
      _ s' hs
    case hG =>
      rw [loadStep_eq]
      exact file_pass m s'' s hs' e c (!hasKey s''.dict e.disc)

/-- `load_opacity(molecule_filter=[m])` as `__getitem__` calls it (no objects, no path given): the path is read from the
    GlobalCache and `load_opacity_from_path` does the work -/
theorem src_load_opacity (fs : List Dir) (klasses : List Fmt) (s : CSt) (m : String)
    (hord : klasses.flatMap (fun c => (curFiles fs s).filter (fun e => decide (e.fmt = c))) = curFiles fs s) :
    Gen.SrcC14.OpacityCache_load_opacity [m] constructM (discoverM fs) klasses (fun o => o.mol)
        s.dict (worldOf s) s.interp s.memMode s.path = encS (loadFrom fs m s) := by
  unfold Gen.SrcC14.OpacityCache_load_opacity
  simp only [src_load_opacity_from_path fs klasses s m s.path hord]

/-- how a response of the model reads as the outcome of `__getitem__` -/
def respE : Resp → Except Py.Err Obj
  | .served o => .ok o
  | _ => .error .exception

/-- **`OpacityCache()[m]` is `step fs s (.get m)`**: a cached molecule is served as it is; otherwise the configured path is
    searched once, and the object now cached under `m` is served, or `Exception('Opacity could not be loaded')` is raised;
    dict and world afterwards are the model's -/
theorem src_getitem (fs : List Dir) (klasses : List Fmt) (s : CSt) (m : String)
    (hord : klasses.flatMap (fun c => (curFiles fs s).filter (fun e => decide (e.fmt = c))) = curFiles fs s) :
    Gen.SrcC14.OpacityCache_getitem m constructM (discoverM fs) klasses (fun o => o.mol)
        s.dict (worldOf s) s.interp s.memMode s.path
      = (encS (step fs s (.get m)).1, respE (step fs s (.get m)).2) := by
  unfold Gen.SrcC14.OpacityCache_getitem
  simp only [step, lookup_eq_dget, Py.dhas_eq_isSome, Py.dgetE]
  cases h1 : Py.dget s.dict m with
  | some o => simp [encS, respE]
  | none =>
    simp only [Option.isSome_none, Bool.false_eq_true, if_false, src_load_opacity fs klasses s m hord, encS]
    cases h2 : Py.dget (loadFrom fs m s).dict m with
    | some o => simp [respE]
    | none => simp [respE]

/-- loading touches the dict and the world only: the GlobalCache settings stay -/
theorem src_get_frame (fs : List Dir) (s : CSt) (m : String) : Same (step fs s (.get m)).1 s := by
  rcases step_get_state fs s m with h | h <;> rw [h]
  · exact ⟨rfl, rfl, rfl⟩
  · exact ⟨(loadFrom_le fs m s).path, (loadFrom_le fs m s).interp, (loadFrom_le fs m s).memMode⟩

/-- `OpacityCache.clear_cache()` is `step fs s .clear` -/
theorem src_clear_cache (fs : List Dir) (s : CSt) :
    (Gen.SrcC14.OpacityCache_clear_cache : List (String × Obj)) = (step fs s .clear).1.dict ∧
    (step fs s .clear).1 = { s with dict := (step fs s .clear).1.dict } := ⟨rfl, rfl⟩

/-- **`OpacityCache.set_interpolation(mode)` is `step fs s (.setInterp k)`**: the setting is stored in the GlobalCache and the
    cache is emptied — and so is the k-table cache (`kd`, `kp`: its dict and remembered path), which takes its mode from the
    same setting -/
theorem src_set_interpolation (fs : List Dir) (s : CSt) (k : Nat) (kd : List (String × Obj)) (kp kpath : Option Nat) :
    Gen.SrcC14.OpacityCache_set_interpolation k kd kp kpath s.dict
      = ((step fs s (.setInterp k)).1.interp, (step fs s (.setInterp k)).1.dict, [], kpath) ∧
    (step fs s (.setInterp k)).1 = { s with interp := (step fs s (.setInterp k)).1.interp,
                                            dict := (step fs s (.setInterp k)).1.dict } := ⟨rfl, rfl⟩

/-- `OpacityCache.set_memory_mode(b)` is `step fs s (.setMem b)` -/
theorem src_set_memory_mode (fs : List Dir) (s : CSt) (b : Bool) :
    Gen.SrcC14.OpacityCache_set_memory_mode b s.dict
      = ((step fs s (.setMem b)).1.memMode, (step fs s (.setMem b)).1.dict) ∧
    (step fs s (.setMem b)).1 = { s with memMode := (step fs s (.setMem b)).1.memMode,
                                         dict := (step fs s (.setMem b)).1.dict } := ⟨rfl, rfl⟩

/-- `OpacityCache.set_opacity_path(p)` is `step fs s (.setPath p)`: the path is stored even when it is not a directory, and
    then `NotADirectoryError` is raised -/
theorem src_set_opacity_path (fs : List Dir) (s : CSt) (p : Nat) :
    Gen.SrcC14.OpacityCache_set_opacity_path p (isdirM fs) (worldOf s)
      = ((step fs s (.setPath p)).1.path,
         match (step fs s (.setPath p)).2 with
         | .done => Except.ok ()
         | _ => Except.error (Py.Err.other "NotADirectoryError")) ∧
    (step fs s (.setPath p)).1 = { s with path := (step fs s (.setPath p)).1.path } := by
  unfold Gen.SrcC14.OpacityCache_set_opacity_path
  rcases h : fs[p]? with _ | d
  · simp [step, isdirM, h]
  · cases hd : d.isDir <;> simp [step, isdirM, h, hd]

/-- `add_opacity(opacity)` as a user calls it is `step fs s (.add m k)` for the object the model gives the next identity -/
theorem src_add (fs : List Dir) (s : CSt) (m : String) (k : Nat) :
    Gen.SrcC14.OpacityCache_add_opacity { id := s.nextId, mol := m, mode := k, inMem := none, src := none } none
        (fun o => o.mol) s.dict = (step fs s (.add m k)).1.dict := by
  have := src_add_opacity { s with nextId := s.nextId + 1 } { id := s.nextId, mol := m, mode := k, inMem := none, src := none } none
  simpa [step] using this

end

/-! ### the k-table cache (taurex/cache/ktablecache.py) against `CacheSM.stepK`

  Same layout as above with `opacity_dict := KTableCache().opacity_dict`, `path := GlobalCache()['ktable_path']`;
  `c.discover() := discoverK fs` (the files of the class under that path with the interpolation setting; it does not raise). -/

section
open Taurex.CacheSM

theorem discoverK_eq (fs : List Dir) (w : World) (s : CSt) (c : Fmt) :
    discoverK fs w s.path s.interp c
      = .ok (((curFiles fs s).filter (fun e => decide (e.fmt = c))).map (argsOf s)) := by
  unfold discoverK discoverM
  show Except.ok (List.map _ (List.filter _ (curFiles fs s))) = _
  congr 1
  apply List.map_congr_left
  intro e _
  simp [argsOf, memOrTrue_eq]

/-- `KTableCache.add_opacity(opacity, molecule_filter)` is `addOpacity` -/
theorem src_k_add_opacity (s : CSt) (o : Obj) (filter : Option String) :
    Gen.SrcC14.KTableCache_add_opacity o (filter.map (fun f => [f])) (fun o => o.mol) s.dict
      = (addOpacity s o filter).dict := src_add_opacity s o filter

/-- **`KTableCache.load_opacity_from_path(path, molecule_filter=[m])` is `loadFromK fs m`**: as for the cross-section cache,
    but EVERY discovered file that advertises `m` is constructed (the loop has no `mol not in self.opacity_dict` test); the
    `try: c.discover() except NotImplementedError: continue` of the loop is part of the translated text (`discoverK` does not
    raise).  `path` (`self._opacity_path`) is not used by the function: the classes read `GlobalCache()['ktable_path']`. -/
theorem src_k_load_opacity_from_path (fs : List Dir) (klasses : List Fmt) (s : CSt) (m : String) (p : Option Nat)
    (hord : klasses.flatMap (fun c => (curFiles fs s).filter (fun e => decide (e.fmt = c))) = curFiles fs s) :
    Gen.SrcC14.KTableCache_load_opacity_from_path p [m] constructM (discoverK fs) klasses s.path (fun o => o.mol)
        s.dict (worldOf s) s.interp = (encS (loadFromK fs m s), Except.ok ()) := by
  unfold Gen.SrcC14.KTableCache_load_opacity_from_path loadFromK
  rw [← hord, List.foldl_flatMap]
  simp only [Prod.eta]
  generalize hR : Py.forE klasses _ _ = R
  have key : R = (encS (klasses.foldl (fun t c =>
      ((curFiles fs s).filter (fun e => decide (e.fmt = c))).foldl (loadStepK m) t) s), none) := by
    rw [← hR]
    refine forE_sim encS _ (fun t => Same t s) _ (fun t c h => foldl_same _ (loadStepK_same m) _ t s h)
      (fun s' c hs => ?_) klasses s ⟨rfl, rfl, rfl⟩
    simp only [encS, discoverK_eq fs _ s c, Py.caseE_ok]
    rw [List.foldl_map]
    show (List.foldl _ (encS s') _, none) = _
    rw [foldl_sim encS _ (loadStepK m) (fun t => Same t s) (fun t e h => loadStepK_same m t s e h)
      (fun s'' e hs' => ?hG) _ s' hs]
    case hG =>
      have h := file_pass m s'' s hs' e c true
      simp only [Bool.and_true] at h
      exact h
    rfl
  rw [key]
  rfl

/-- `KTableCache.load_opacity(molecule_filter=[m])` as `__getitem__` calls it -/
theorem src_k_load_opacity (fs : List Dir) (klasses : List Fmt) (s : CSt) (m : String) (pa : Option Nat)
    (hord : klasses.flatMap (fun c => (curFiles fs s).filter (fun e => decide (e.fmt = c))) = curFiles fs s) :
    Gen.SrcC14.KTableCache_load_opacity [m] constructM (discoverK fs) klasses s.path (fun o => o.mol)
        s.dict pa (worldOf s) s.interp = (encS (loadFromK fs m s), Except.ok ()) := by
  unfold Gen.SrcC14.KTableCache_load_opacity
  simp only [src_k_load_opacity_from_path fs klasses s m pa hord, Py.caseE_ok]

/-- **`KTableCache()[m]` is `stepK fs s (.get m)`** -/
theorem src_k_getitem (fs : List Dir) (klasses : List Fmt) (s : CSt) (m : String) (pa : Option Nat)
    (hord : klasses.flatMap (fun c => (curFiles fs s).filter (fun e => decide (e.fmt = c))) = curFiles fs s) :
    Gen.SrcC14.KTableCache_getitem m constructM (discoverK fs) klasses s.path (fun o => o.mol)
        s.dict pa (worldOf s) s.interp
      = (encS (stepK fs s (.get m)).1, respE (stepK fs s (.get m)).2) := by
  unfold Gen.SrcC14.KTableCache_getitem
  simp only [stepK, lookup_eq_dget, Py.dhas_eq_isSome, Py.dgetE]
  cases h1 : Py.dget s.dict m with
  | some o => simp [encS, respE]
  | none =>
    simp only [Option.isSome_none, Bool.false_eq_true, if_false, src_k_load_opacity fs klasses s m pa hord, encS,
      Py.caseE_ok]
    cases h2 : Py.dget (loadFromK fs m s).dict m with
    | some o => simp [respE]
    | none => simp [respE]

/-- `KTableCache.set_ktable_path(p)` is `stepK fs s (.setPath p)` (the path is stored, then `NotADirectoryError`) -/
theorem src_set_ktable_path (fs : List Dir) (s : CSt) (p : Nat) :
    Gen.SrcC14.KTableCache_set_ktable_path p (isdirM fs) (worldOf s)
      = ((stepK fs s (.setPath p)).1.path,
         match (stepK fs s (.setPath p)).2 with
         | .done => Except.ok ()
         | _ => Except.error (Py.Err.other "NotADirectoryError")) ∧
    (stepK fs s (.setPath p)).1 = { s with path := (stepK fs s (.setPath p)).1.path } :=
  src_set_opacity_path fs s p

/-- `KTableCache.clear_cache()` is `stepK fs s .clear`; `_opacity_path` is re-read from the GlobalCache -/
theorem src_k_clear_cache (fs : List Dir) (s : CSt) :
    (Gen.SrcC14.KTableCache_clear_cache s.path : List (String × Obj) × Option Nat)
      = ((stepK fs s .clear).1.dict, s.path) ∧
    (stepK fs s .clear).1 = { s with dict := (stepK fs s .clear).1.dict } := ⟨rfl, rfl⟩

/-- `KTableCache.add_opacity(opacity)` as a user calls it is `stepK fs s (.add m k)` -/
theorem src_k_add (fs : List Dir) (s : CSt) (m : String) (k : Nat) :
    Gen.SrcC14.KTableCache_add_opacity { id := s.nextId, mol := m, mode := k, inMem := none, src := none } none
        (fun o => o.mol) s.dict = (stepK fs s (.add m k)).1.dict := src_add fs s m k

end

/-! ### the CIA cache (taurex/cache/ciaacache.py) against `CiaSM` of TaurexModel/CacheSM.lean

  Layout (`Proofs/C14SrcCaches.lean`): `cia_dict` is the model's `dict`, `_cia_path` its `path`, the world `(log, nextId)`.
  Instantiation of what the translated text leaves open: `isinstance(p, str) := isStr`, `isinstance(p, (list,)) := isList`,
  iterating a list of paths `:= pathItems`, `os.path.join := Prod.mk`, `glob := globC fs` (the `*.db` / `*.cia` files of a
  directory in glob order), `Path(f).stem := stem` — any function with `hdisc`: the stem up to the first `_` is the pair name
  the model records for the file —, `PickleCIA(f, name) := constructP`, `HitranCIA(f) := constructH`, `cia.pairName := o.pair`. -/

section
open Taurex.CiaSM

/-- `CIACache.add_cia(cia)` is `addCia` -/
theorem src_cia_add_cia (s : St) (o : CObj) :
    Gen.SrcC14.CIACache_add_cia o s.dict (fun o => o.pair) = ((addCia s o).1.dict, excB (addCia s o).2) :=
  add_cia_eq s o

/-- the filter of `add_cia(cia, pair_filter)` has no effect: the object is stored either way -/
theorem src_cia_add_filter_ignored (d : List (String × CObj)) (o : CObj) (f : List String) :
    Gen.SrcC14.CIACache_add_cia_filtered o f d (fun o => o.pair) = Gen.SrcC14.CIACache_add_cia o d (fun o => o.pair) := by
  unfold Gen.SrcC14.CIACache_add_cia_filtered Gen.SrcC14.CIACache_add_cia
  cases hk : Py.dhas d o.pair with
  | true => simp
  | false =>
    by_cases hf : Py.lhas f o.pair = true
    · simp [hf, Py.dset_dset_same]
    · simp [hf]

section
variable (fs : List CDir) (stem : CFile → String) (hdisc : ∀ e, (Py.split1 '_' (stem e)).getD 0 "" = e.disc)
include hdisc

/-- **`CIACache.load_cia_from_path(path, pair_filter=[m])` is `loadDir fs m`**: the `*.db` files of the directory, then its
    `*.cia` files; every file whose stem up to the first `_` is `m` — unless `m` is cached by then (so the first container
    found is the one served) — is constructed and handed to `add_cia`, whose exception (a `.cia` file whose headers
    name another, cached pair) ends the function with the cache as it is then -/
theorem src_cia_load_from_path (s : St) (m : String) (p : Nat) :
    Gen.SrcC14.CIACache_load_cia_from_path (CPath.single p) (some [m]) () () s.dict constructH constructP (globC fs)
        (fun o => o.pair) Prod.mk stem (s.log, s.nextId)
      = (encC (loadDir fs m s p).1, excB (loadDir fs m s p).2) :=
  cia_load_from_path_of fs stem (fun _ _ e _ => hdisc e) s m p

/-- **`CIACache.load_cia(pair_filter=[m])` is `loadCia fs m`**: nothing without a path; one directory; or the directories of
    a list in order, stopping at the first exception -/
theorem src_cia_load_cia (s : St) (m : String) :
    Gen.SrcC14.CIACache_load_cia (some [m]) () () s.dict s.path constructH constructP (globC fs) isList isStr
        (fun o => o.pair) pathItems Prod.mk stem (s.log, s.nextId)
      = (encC (loadCia fs m s).1, excB (loadCia fs m s).2) :=
  cia_load_cia_of fs stem (fun _ _ e _ => hdisc e) s m

/-- **`CIACache()[m]` is `CiaSM.step fs s (.get m)`**: a cached pair is served as it is; otherwise the path is searched; an
    exception of `add_cia` (a second object of a cached name) leaves `__getitem__`; else the object now cached under `m` is
    served or `Exception('cia could notn be loaded')` raised -/
theorem src_cia_getitem (s : St) (m : String) :
    Gen.SrcC14.CIACache_getitem m () () s.dict s.path constructH constructP (globC fs) isList isStr
        (fun o => o.pair) pathItems Prod.mk stem (s.log, s.nextId)
      = (encC (step fs s (.get m)).1, respC (step fs s (.get m)).2) :=
  cia_getitem_of fs stem (fun _ _ e _ => hdisc e) s m

end

/-- `CIACache.set_cia_path(p)` is `CiaSM.step fs s (.setPath p)`: the path is stored, nothing else happens -/
theorem src_cia_set_path (fs : List CDir) (s : St) (p : CPath) :
    Gen.SrcC14.CIACache_set_cia_path p = (step fs s (.setPath p)).1.path ∧
    (step fs s (.setPath p)).1 = { s with path := (step fs s (.setPath p)).1.path } := ⟨rfl, rfl⟩

/-- `add_cia(cia)` as a user calls it is `CiaSM.step fs s (.add m)` for the object the model gives the next identity -/
theorem src_cia_add (fs : List CDir) (s : St) (m : String) :
    Gen.SrcC14.CIACache_add_cia { id := s.nextId, pair := m, src := none } s.dict (fun o => o.pair)
      = ((step fs s (.add m)).1.dict, match (step fs s (.add m)).2 with
          | .dup => Except.error Py.Err.exception
          | _ => Except.ok ()) := by
  have h := src_cia_add_cia { s with nextId := s.nextId + 1 } { id := s.nextId, pair := m, src := none }
  simp only [] at h
  rw [h]
  simp only [step, stepWith]
  rcases addCia { s with nextId := s.nextId + 1 } { id := s.nextId, pair := m, src := none } with ⟨s', b⟩
  cases b <;> simp [excB]

end

/-! ### the Exo-Transmit text reader (taurex/opacity/exotransmit.py:_load_exo_transmit after `f.readlines()`)

  `lines` are the text lines; `parse` stands for `np.array([float(l) for l in line.split()])`; `E` for `np.empty` (any array
  of the requested shape: `hE`); `argsort` is the model's; the literals `1e-6`, `1e-60` are `1/1000000` and `tiny`.  The file is
  well-formed: the lines after the two header lines are, block by block (`B`), a one-number wavelength line followed by one
  row `P xsec(T₀) …` per pressure of the header (`hbody`, `hrows`); both header lines hold at least one number (the reader
  takes `min()` / `max()` of them: `ValueError` otherwise).  Then the attributes the reader assigns are the fields of
  `decExo tiny` of the parsed file. -/

section
variable {α : Type} [Add α] [Mul α] [Div α] [OfNat α 0] [OfNat α 10000] [Sub α] [Neg α] [LT α] [LE α] [DecidableLT α]
  [DecidableLE α] [OfNat α 1] [OfNat α 10] [OfNat α 100] [OfNat α 760] [OfNat α 1000]
  [OfNat α 100000] [OfNat α 101325] [OfNat α 1000000] [OfNat α 1000000000] [OfNat α 10000000000]
  [OfNat α 133322387415]

/-- **`ExoTransmitOpacity._load_exo_transmit` (after `readlines`) is `decExo`** for a well-formed file -/
theorem src_exo_load (parse : String → List α) (E : Nat × Nat × Nat → List (List (List α)))
    (hE : ∀ a b c, ∃ g, E (a, b, c) = tab3 a b c g)
    (tiny : α) (l0 l1 : String) (body : List String) (B : List (α × List (List α)))
    (hbody : body.map parse = B.flatMap (fun b => [b.1] :: b.2))
    (hrows : ∀ b ∈ B, b.2.length = (parse l1).length ∧ ∀ r ∈ b.2, r.length = (parse l0).length + 1)
    (hT : parse l0 ≠ []) (hP : parse l1 ≠ [])
    (mxp mxt mnp mnt : α) (p0 t0 w0 : List α) (x0 : List (List (List α))) :
    Gen.SrcC14.ExoTransmit_load (l0 :: l1 :: body) (c1em06 := 1 / 1000000) (c1em60 := tiny) mxp mxt mnp mnt
        argsort E parse p0 t0 w0 x0
      = (((decExo tiny ⟨parse l0, parse l1, body.map parse⟩).t, (decExo tiny ⟨parse l0, parse l1, body.map parse⟩).p,
          (decExo tiny ⟨parse l0, parse l1, body.map parse⟩).wn, (decExo tiny ⟨parse l0, parse l1, body.map parse⟩).x,
          lmin ((parse l1).map (fun v => v * 100000)), lmax ((parse l1).map (fun v => v * 100000)),
          lmin (parse l0), lmax (parse l0)), Except.ok ()) := by
  have hP' : (parse l1).map (fun v => v * (100000 : α)) ≠ [] := by simpa using hP
  have hnT : 1 ≤ (parse l0).length := by
    cases h : parse l0 with
    | nil => exact absurd h hT
    | cons a t => simp
  have hne1 : ∀ b ∈ B, ∀ r ∈ b.2, r.length ≠ 1 := by
    intro b hb r hr
    have := (hrows b hb).2 r hr
    omega
  unfold Gen.SrcC14.ExoTransmit_load
  simp only [List.getD_cons_zero, List.getD_cons_succ, List.drop_succ_cons, List.drop_zero, minE_eq _ hP', maxE_eq _ hP',
    minE_eq _ hT, maxE_eq _ hT, Py.caseE_ok, Gen.SrcC14.ExoTransmit_pressureGrid, Gen.SrcC14.ExoTransmit_temperatureGrid,
    Gen.SrcC14.ExoTransmit_wavenumberGrid]
  rw [foldl_via (wnStep (1 / 1000000)) parse _ ?h1 [] body]
  case h1 => intro st it; simp [wnStep]
  rw [foldl_via (xsStep tiny) parse _ ?h2 _ body]
  case h2 => intro st it; simp [xsStep]
  rw [hbody, wn_blocks _ B hne1]
  simp only [List.nil_append, List.length_map, argsort_length]
  obtain ⟨g, hg⟩ := hE (parse l1).length (parse l0).length B.length
  have h0 : ((-1 : Int), (0 : Int), E ((parse l1).length, (parse l0).length, B.length))
      = (((0 : Nat) : Int) - 1, (0 : Int), tab3 (parse l1).length (parse l0).length B.length g) := by
    rw [hg]; rfl
  obtain ⟨pc', hloop⟩ := blocks_loop tiny (parse l1).length (parse l0).length B.length hnT B 0 g 0 (by omega) hrows
  rw [h0, hloop]
  unfold decExo
  simp only [exoGroup_blocks B hne1, exoWn, gather]
  refine Prod.ext (Prod.ext rfl (Prod.ext rfl (Prod.ext rfl (Prod.ext ?_ rfl)))) rfl
  simp only [Py.takeLast3, tab3, List.map_map]
  apply List.map_congr_left
  intro i _
  simp only [Function.comp, List.map_map]
  apply List.map_congr_left
  intro j _
  simp only [Function.comp, List.map_map]
  apply List.map_congr_left
  intro k hk
  have hk' : k < B.length := by
    have := argsort_lt _ k hk
    simpa using this
  simp only [Function.comp]
  rw [getD_map_range _ hk']
  have c : (0 ≤ k ∧ k < 0 + B.length) := ⟨by omega, by omega⟩
  rw [if_pos c, Nat.sub_zero]

end

/-! ### the readers: container contents -> loaded table

  `start_at` / `stop_at` in the specs select the assignments that turn what the container library delivered (the declared
  cells `self._spec_dict[...]`) into the loaded axes and table; the theorems state that these are the decoders of
  `TaurexModel/Loaders.lean`.  `allocate_as_shared` (a copy into shared memory) is instantiated with the identity;
  `u.Unit(name).to(u.Pa)` / `u.Unit(name, format='cds').to(u.Pa)` with the model's tables `unitDirect` / `unitCds`
  (`ValueError` for a name the parser does not know). -/

section
variable {α : Type} [Add α] [Sub α] [Mul α] [Div α] [Neg α] [LT α] [LE α] [DecidableLT α] [DecidableLE α]
  [OfNat α 0] [OfNat α 1] [OfNat α 10] [OfNat α 100] [OfNat α 760] [OfNat α 1000] [OfNat α 10000]
  [OfNat α 100000] [OfNat α 101325] [OfNat α 1000000] [OfNat α 1000000000] [OfNat α 10000000000]
  [OfNat α 133322387415] [Taurex.Transc α]

/-- `none` of the model read as `ValueError` -/
def optE {β : Type} : Option β → Except Py.Err β
  | some v => .ok v
  | none => .error .valueError

/-- the unit conversion both HDF5 readers end up with (`try … except …: format="cds"`) is `unitFactor true` -/
theorem unit_try_except (name : String) (caught : Py.Err → Bool) (hc : caught .valueError = true) :
    Py.caseE (optE (unitDirect (α := α) name)) (fun e => if caught e then optE (unitCds name) else Except.error e)
      (fun v => Except.ok v) = optE (unitFactor true name) := by
  unfold unitFactor
  cases unitDirect (α := α) name with
  | some f => rfl
  | none => simp [optE, hc]

theorem unit_bare_except (name : String) :
    Py.caseE (optE (unitDirect (α := α) name)) (fun _ => optE (unitCds name)) (fun v => Except.ok v)
      = optE (unitFactor true name) :=
  unit_try_except name (fun _ => true) rfl

/-- `PickleOpacity._load_pickle_file`: `decPickle` (pressures bar -> Pa, everything else as stored) -/
theorem src_pickle_opacity_load (f : PickleX α) :
    Gen.SrcC14.PickleOpacity_load id f.p f.t f.wno f.xsecarr
      = ((decPickle f).wn, (decPickle f).t, (decPickle f).p, (decPickle f).x) := rfl

/-- `HDF5Opacity._load_hdf_file`: `decHdf` — `bin_edges` is the wavenumber grid, pressures times the factor of the declared
    unit; when the unit converts under neither parser the reader raises (`ValueError`) with the pressure and cross-section
    attributes not yet assigned (`p0`, `x0`: their previous values) -/
theorem src_hdf5_opacity_load (f : HdfX α) (mem : Bool) (p0 : List α) (x0 : List (List (List α))) :
    Gen.SrcC14.HDF5Opacity_load id f.binEdges f.p f.units f.t f.xsecarr mem p0
        (fun n => optE (unitDirect n)) (fun n => optE (unitCds n)) x0
      = match decHdf f with
        | some tab => ((tab.wn, tab.t, tab.p, tab.x), Except.ok ())
        | none => ((f.binEdges, f.t, p0, x0), Except.error Py.Err.valueError) := by
  unfold Gen.SrcC14.HDF5Opacity_load decHdf
  simp only []
  rw [unit_try_except f.units _ (by simp)]
  cases unitFactor (α := α) true f.units with
  | none => rfl
  | some c => cases mem <;> rfl

/-- `PickleKTable._load_pickle_file`: `decPickleK` -/
theorem src_pickle_ktable_load (f : PickleK α) :
    Gen.SrcC14.PickleKTable_load f.binCenters f.kcoeff f.ngauss f.p f.t f.weights
      = ((decPickleK f).wn, f.ngauss, (decPickleK f).t, (decPickleK f).p, (decPickleK f).k, (decPickleK f).weights) := rfl

/-- `HDF5KTable._load_pickle_file`: `decHdfK` (bare `except:` — every parse failure falls back to the CDS parser) -/
theorem src_hdf5_ktable_load (f : HdfK α) (mem : Bool) (p0 w0 : List α) (x0 : List (List (List (List α)))) :
    Gen.SrcC14.HDF5KTable_load f.binCenters f.kcoeff f.ngauss f.p f.units f.t f.weights mem p0
        (fun n => optE (unitDirect n)) (fun n => optE (unitCds n)) w0 x0
      = match decHdfK f with
        | some tab => ((tab.wn, f.ngauss, tab.t, tab.p, tab.k, tab.weights), Except.ok ())
        | none => ((f.binCenters, f.ngauss, f.t, p0, x0, w0), Except.error Py.Err.valueError) := by
  unfold Gen.SrcC14.HDF5KTable_load decHdfK
  simp only []
  rw [unit_bare_except f.units]
  cases unitFactor (α := α) true f.units with
  | none => rfl
  | some c => cases mem <;> rfl

/-- `PickleCIA._load_pickle_file`: `decPickleC` -/
theorem src_pickle_cia_load (f : PickleC α) :
    Gen.SrcC14.PickleCIA_load f.t f.wno f.xsecarr = ((decPickleC f).wn, (decPickleC f).t, (decPickleC f).x) := rfl

end

/-! ### HitranCIA: the grid objects of `_wn_dict`

  `_wn_dict` maps `hashwn(start, end)` to a `HitranCiaGrid`; an object is read as the record `(wn, Tsigma)` of its attributes,
  the dict as the model's list of grids in insertion order (`hk` = the hash of a grid's key: any function). -/

section
variable {α : Type} [Add α] [Sub α] [Mul α] [Div α] [Neg α] [LT α] [LE α] [DecidableLT α] [DecidableLE α]
  [Taurex.Transc α] [OfNat α 0] [OfNat α 1] [OfNat α 10] [OfNat α 100] [OfNat α 760] [OfNat α 1000] [OfNat α 10000]
  [OfNat α 100000] [OfNat α 101325] [OfNat α 1000000] [OfNat α 1000000000] [OfNat α 10000000000]
  [OfNat α 133322387415]

/-- **`HitranCIA.fill_gaps(temperature)` is `fillGaps`**: every grid object is sorted and filled up to the master temperature
    grid, in place; no exception as long as every grid has at least one temperature -/
theorem src_fill_gaps (hlt : ∀ a b : α, ¬ b < a ↔ a ≤ b) (hk : α × α → String) (temps : List α) (grids : List (HGrid α))
    (hne : ∀ g ∈ grids, g.ts ≠ []) :
    Gen.SrcC14.HitranCIA_fill_gaps temps (gdict hk grids) = (gdict hk (fillGaps temps grids), Except.ok ()) := by
  unfold Gen.SrcC14.HitranCIA_fill_gaps
  simp only []
  rw [forE_inplace ("", ([], [])) (fun (o : List α × List (α × List α)) => o.2 ≠ [])
    (fun o => (o.1, fillTemperature o.1 (sortTs o.2) temps)) _ ?hF (gdict hk grids) ?hP]
  case hP =>
    intro kv hkv
    simp only [gdict, List.mem_map] at hkv
    obtain ⟨g, hg, rfl⟩ := hkv
    exact hne g hg
  case hF =>
    intro st i hP
    simp only [src_sortTempSigma hlt, src_fill_temperature hlt _ _ temps (sortTs_ne_nil hP), Py.caseE_ok]
  simp [gdict, fillGaps, List.map_map, Function.comp_def]

/-- **`HitranCIA.compute_final_grid()` is `finalGrid`**: the wavenumber grids of all range objects are joined and sorted; for
    every temperature of the master grid the rows of all ranges are joined and put into the same order.  `np.argsort` is the
    model's `argsort` (an ASSUMPTION of the model: the sorting permutation of pairwise distinct keys). -/
theorem src_compute_final_grid (hk : α × α → String) (temps : List α) (grids : List (HGrid α)) :
    Gen.SrcC14.HitranCIA_compute_final_grid argsort temps (gdict hk grids)
      = ((finalGrid temps grids).wn, (finalGrid temps grids).x) := by
  have hv : Py.values (gdict hk grids) = grids.map (fun g => (g.wn, g.ts)) := by
    simp [Py.values, gdict, List.map_map, Function.comp_def]
  simp only [Gen.SrcC14.HitranCIA_compute_final_grid, finalGrid, hv, foldl_append_map, List.nil_append, List.map_map,
    Function.comp_def, List.flatMap_def, gather]
  rw [← map_fst_enumerate _ temps]

/-- `temp_list.sort()` is the model's merge sort by `≤` (same remark as for `sortTempSigma`) -/
theorem sort_eq_mergeSort (hlt : ∀ a b : α, ¬ b < a ↔ a ≤ b) (l : List α) :
    Py.sortOn (fun a b => decide (a < b)) (fun (e : α) => e) l = l.mergeSort (fun a b => decide (a ≤ b)) :=
  sortOn_eq_mergeSort hlt _ l

/-- **the end of `HitranCIA.load_hitran_file`** (after the reading loop has collected the temperatures `tl` and the range
    objects `grids`): sort the temperatures, fill the gaps of every range, unify — `decHitran` after `hLoad`.
    `t0 w0 x0`: the previous values of the attributes (overwritten). -/
theorem src_load_hitran_tail (hlt : ∀ a b : α, ¬ b < a ↔ a ≤ b) (hk : α × α → String) (tl : List α)
    (grids : List (HGrid α)) (hne : ∀ g ∈ grids, g.ts ≠ []) (t0 w0 : List α) (x0 : List (List α)) :
    Gen.SrcC14.HitranCIA_load_tail tl argsort t0 w0 (gdict hk grids) x0
      = ((tl.mergeSort (fun a b => decide (a ≤ b)),
          gdict hk (fillGaps (tl.mergeSort (fun a b => decide (a ≤ b))) grids),
          (finalGrid (tl.mergeSort (fun a b => decide (a ≤ b)))
            (fillGaps (tl.mergeSort (fun a b => decide (a ≤ b))) grids)).wn,
          (finalGrid (tl.mergeSort (fun a b => decide (a ≤ b)))
            (fillGaps (tl.mergeSort (fun a b => decide (a ≤ b))) grids)).x), Except.ok ()) := by
  unfold Gen.SrcC14.HitranCIA_load_tail
  simp only [sort_eq_mergeSort hlt, src_fill_gaps hlt hk _ grids hne, Py.caseE_ok, src_compute_final_grid]

/-- the loaded CIA table is `decHitran` of the file's blocks, given that the reading loop leaves what `hLoad` computes -/
theorem src_load_hitran_decHitran (hlt : ∀ a b : α, ¬ b < a ↔ a ≤ b) (hk : α × α → String) (blocks : List (HBlock α))
    (hne : ∀ g ∈ (hLoad blocks).2, g.ts ≠ []) (t0 w0 : List α) (x0 : List (List α)) :
    let r := Gen.SrcC14.HitranCIA_load_tail (hLoad blocks).1 argsort t0 w0 (gdict hk (hLoad blocks).2) x0
    r.2 = Except.ok () ∧ r.1.2.2.1 = (decHitran blocks).wn ∧ r.1.1 = (decHitran blocks).t ∧ r.1.2.2.2 = (decHitran blocks).x := by
  intro r
  have hr : r = _ := src_load_hitran_tail hlt hk (hLoad blocks).1 (hLoad blocks).2 hne t0 w0 x0
  rw [hr, decHitran_eq]
  exact ⟨rfl, rfl, rfl, rfl⟩

/-- `HitranCIA.read_header(f)` on a file that starts with the header line of the block `b`: the line is consumed, its tokens
    1–5 are the header fields, token 0 becomes `_pair_name` -/
theorem src_read_header (tx : HText α) (blocks : List (HBlock α)) (hok : tx.Ok blocks) (b : HBlock α) (hb : b ∈ blocks)
    (rest : List String) (pn : String) :
    Gen.SrcC14.HitranCIA_read_header (tx.hdr b :: rest) pn tx.splitWs tx.toFloat tx.toInt
      = ((rest, (tx.splitWs (tx.hdr b)).getD 0 ""),
         Except.ok (b.wn0, b.wn1, b.pts.length, b.temp, tx.toFloat ((tx.splitWs (tx.hdr b)).getD 5 ""))) := by
  obtain ⟨⟨hne, h1, h2, h3, h4⟩, _⟩ := hok b hb
  unfold Gen.SrcC14.HitranCIA_read_header
  simp only [List.headD_cons, List.tail_cons, Bool.false_or, decide_eq_true_eq, hne, if_false, h1, h2, h3, h4]

/-- `read_header` at the end of the file raises `EndOfHitranCIAException` -/
theorem src_read_header_eof (tx : HText α) (pn : String) :
    Gen.SrcC14.HitranCIA_read_header ([] : List String) pn tx.splitWs tx.toFloat tx.toInt
      = (([], pn), Except.error (Py.Err.other "EndOfHitranCIAException")) := by
  unfold Gen.SrcC14.HitranCIA_read_header
  simp

/-- **the WHOLE of `HitranCIA.load_hitran_file` is `decHitran`**, reading loop included.  The open file is the list of its lines
    (`tx.lines blocks`: per block its header line and one line per data point; `tx.Ok`: the tokens of these lines parse back to
    the numbers — `line.split()`, `float`, `int` are `tx.splitWs`, `tx.toFloat`, `tx.toInt`); `hashwn := hk` separates the
    `(start, end)` headers of the file as the model's comparison does (`HashOk`); `HitranCiaGrid(a, b)` makes an empty grid
    object; `1e-10 := 1/10000000000`; `np.argsort := argsort`; `fuel` = one pass per block and the pass that finds the end of
    the file.  Then `while True` reads the blocks one by one (`read_header`, the loop over the data lines with the clipping of
    negative values, the look-up / creation of the range object in `_wn_dict` — which IS the dict's element —,
    `add_temperature`, the overwritten wavenumber grid) exactly as the fold `hLoad` does, and the rest of the function (sort,
    `fill_gaps`, `compute_final_grid`) gives the temperature grid, wavenumber grid and table of `decHitran blocks`. -/
theorem src_load_hitran_file (hlt : ∀ a b : α, ¬ b < a ↔ a ≤ b) (tx : HText α) (hk : α × α → String)
    (blocks : List (HBlock α)) (hok : tx.Ok blocks) (hh : HashOk hk blocks)
    (pn0 : String) (t0 w0 : List α) (x0 : List (List α)) :
    ∃ pn, Gen.SrcC14.HitranCIA_load_hitran_file (c1em10 := 1 / 10000000000) (tx.lines blocks) (blocks.length + 1) (fun a b => hk (a, b))
        (fun _ _ => ([], [])) argsort pn0 tx.splitWs t0 tx.toFloat tx.toInt w0 [] x0
      = ((pn, (decHitran blocks).t,
          gdict hk (fillGaps ((hLoad blocks).1.mergeSort (fun a b => decide (a ≤ b))) (hLoad blocks).2),
          (decHitran blocks).wn, (decHitran blocks).x), Except.ok ()) := by
  unfold Gen.SrcC14.HitranCIA_load_hitran_file
  simp only [Prod.eta]
  generalize hR : Py.whileE (blocks.length + 1) _ _ = R
  obtain ⟨pn, hw⟩ : ∃ pn, R = (([], pn, (hLoad blocks).1, gdict hk (hLoad blocks).2), none) := by
    rw [← hR]
    refine while_blocks tx hk blocks hh _ ?hEnd ?hPass blocks (fun b hb => hb) pn0 [] [] ⟨by simp, by simp⟩
    case hEnd =>
      intro pn tl d
      simp only [src_read_header_eof, Py.caseE_error]
      simp
    case hPass =>
      intro b hb rest pn tl grids hg
      refine ⟨(tx.splitWs (tx.hdr b)).getD 0 "", ?_⟩
      simp only [src_read_header tx blocks hok b hb, Py.caseE_ok]
      rw [data_loop tx _ ?hF b.pts (List.range b.pts.length) rest [] [] (by simp) (hok b hb).2]
      case hF => intro st i; simp [dataStep]
      simp only [List.nil_append, src_add_temperature, Py.dset_dset_same]
      have hm : (if (!(tl.any fun y__ => decide (b.temp ≤ y__) && decide (y__ ≤ b.temp))) = true then tl ++ [b.temp] else tl)
          = (hStep (tl, grids) b).1 := by
        show (if (!memv b.temp tl) = true then tl ++ [b.temp] else tl) = (if memv b.temp tl then tl else tl ++ [b.temp])
        cases memv b.temp tl <;> rfl
      rw [hm]
      simp only [hStep, upsert_hash hk blocks hh grids hg b hb, dhas_gdict]
      by_cases ha : grids.any (fun g => decide (hk g.key = hk (b.wn0, b.wn1))) = true
      · obtain ⟨g0, hg0, hk0⟩ := List.any_eq_true.1 ha
        have hk0' : hk g0.key = hk (b.wn0, b.wn1) := by simpa using hk0
        obtain ⟨hget, hset⟩ := gdict_hit hk (hk (b.wn0, b.wn1))
          (fun g => (b.pts.map (·.1), g.ts ++ [(b.temp, b.pts.map (fun q => clipSigma q.2))])) grids hg.1 g0 hg0 hk0'
        simp only [] at hset
        simp only [ha, Bool.not_true, Bool.false_eq_true, if_false, if_true, Py.dgetE, hget, Py.caseE_ok, hset]
      · have hf : Py.dhas (gdict hk grids) (hk (b.wn0, b.wn1)) = false := by
          rw [dhas_gdict]; simpa using ha
        simp only [ha, Bool.not_false, if_true, Bool.false_eq_true, if_false, Py.dgetE, Py.dget_dset_self, Py.caseE_ok,
          Py.dset_dset_same, List.nil_append]
        rw [Py.dset_new _ _ _ (Py.dget_eq_none_iff_dhas.2 hf)]
        simp [gdict]
  rw [hw]
  refine ⟨pn, ?_⟩
  simp only [Py.caseO_none, sort_eq_mergeSort hlt, src_fill_gaps hlt hk _ _ (hLoad_ts_ne_nil blocks), Py.caseE_ok,
    src_compute_final_grid, decHitran_eq]
  rfl

end

/-! ### molecule names (TaurexModel/Sanitize.lean)

  `pathlib.Path(x).stem := stemS` (the model's `stem` on the characters), `sanitize_molecule_string := sanitizeStr` (the model's
  scanner for the regular expression; the regular expression itself is not translated).  File names are strings; the model
  works on their characters. -/

section
open Taurex.Sanitize

/-- `clean_molecule_name()` (identical in PickleOpacity, PickleKTable, HDF5KTable): keep what precedes the first `_` -/
theorem src_clean_molecule_name (nm : String) :
    Gen.SrcC14.PickleOpacity_clean_molecule_name nm = String.ofList (firstPart '_' nm.toList) ∧
    Gen.SrcC14.PickleKTable_clean_molecule_name nm = String.ofList (firstPart '_' nm.toList) ∧
    Gen.SrcC14.HDF5KTable_clean_molecule_name nm = String.ofList (firstPart '_' nm.toList) :=
  ⟨split1_head '_' nm, split1_head '_' nm, split1_head '_' nm⟩

/-- PickleOpacity: the name `_load_pickle_file` derives from the file name, then `clean_molecule_name`, is `objName .pickleXsec`;
    what `discover()` advertises for the file is `discName .pickleXsec` -/
theorem src_pickle_opacity_names (fname : String) (stored : List Char) :
    Gen.SrcC14.PickleOpacity_clean_molecule_name (Gen.SrcC14.PickleOpacity_name fname stemS sanitizeStr)
      = String.ofList (objName .pickleXsec fname.toList stored) ∧
    Gen.SrcC14.PickleOpacity_name fname stemS sanitizeStr = String.ofList (discName .pickleXsec fname.toList) := by
  have h : Gen.SrcC14.PickleOpacity_name fname stemS sanitizeStr = String.ofList (discName .pickleXsec fname.toList) := by
    simp only [Gen.SrcC14.PickleOpacity_name, split1_head]
    simp [stemS, sanitizeStr, discName]
  refine ⟨?_, h⟩
  rw [(src_clean_molecule_name _).1, h]
  simp [objName, discName]

theorem discover_loop (name : String → String) (interp : String)
    (F : List (String × List String) → String → List (String × List String))
    (hF : ∀ acc f, F acc f = acc ++ [(name f, [f, interp])]) (files : List String) :
    List.foldl F [] files = files.map (fun f => (name f, [f, interp])) := by
  rw [show F = fun acc f => acc ++ [(name f, [f, interp])] from funext fun acc => funext (hF acc), foldl_append_map]
  rfl

/-- `GlobalCache()['xsec_interpolation'] or 'linear'` -/
def interpOrLinear (x : Option String) : String := Option.elim x "linear" (fun v => if decide (v = "") then "linear" else v)

/-- **`PickleOpacity.discover()`** (after the glob): every `*.pickle` file is advertised under `discName .pickleXsec` with the
    constructor arguments `[file, interpolation mode]` -/
theorem src_pickle_opacity_discover (files : List String) (interp : Option String) :
    Gen.SrcC14.PickleOpacity_discover files stemS sanitizeStr interp
      = files.map (fun f => (String.ofList (discName .pickleXsec f.toList), [f, interpOrLinear interp])) := by
  simp only [Gen.SrcC14.PickleOpacity_discover, foldl_append_map, List.nil_append, split1_head]
  simp [stemS, sanitizeStr, discName, interpOrLinear]

/-- ExoTransmitOpacity: `stem[4:]` sanitised, both for the object and for the discovery -/
theorem src_exo_names (fname : String) (stored : List Char) :
    Gen.SrcC14.ExoTransmit_name fname stemS sanitizeStr = String.ofList (objName .exo fname.toList stored) ∧
    Gen.SrcC14.ExoTransmit_name fname stemS sanitizeStr = String.ofList (discName .exo fname.toList) := by
  constructor <;> simp [Gen.SrcC14.ExoTransmit_name, Py.strDrop, stemS, sanitizeStr, objName, discName]

theorem src_exo_discover (files : List String) (interp : Option String) :
    Gen.SrcC14.ExoTransmit_discover files stemS sanitizeStr interp
      = files.map (fun f => (String.ofList (discName .exo f.toList), [f, interpOrLinear interp])) := by
  simp only [Gen.SrcC14.ExoTransmit_discover, foldl_append_map, List.nil_append]
  simp [Py.strDrop, stemS, sanitizeStr, discName, interpOrLinear]

/-- HDF5KTable: the name set in `__init__` (first part of the stem before `_`, sanitised), cleaned, is `objName .hdfK` -/
theorem src_hdf5_ktable_names (fname : String) (stored : List Char) :
    Gen.SrcC14.HDF5KTable_clean_molecule_name (Gen.SrcC14.HDF5KTable_name fname stemS sanitizeStr)
      = String.ofList (objName .hdfK fname.toList stored) ∧
    Gen.SrcC14.HDF5KTable_name fname stemS sanitizeStr = String.ofList (discName .hdfK fname.toList) := by
  have h : Gen.SrcC14.HDF5KTable_name fname stemS sanitizeStr = String.ofList (discName .hdfK fname.toList) := by
    simp only [Gen.SrcC14.HDF5KTable_name, split1_head]
    simp [stemS, sanitizeStr, discName]
  refine ⟨?_, h⟩
  rw [(src_clean_molecule_name _).2.2, h]
  simp [objName, discName]

theorem src_hdf5_ktable_discover (files : List String) (interp : Option String) :
    Gen.SrcC14.HDF5KTable_discover files stemS sanitizeStr interp
      = files.map (fun f => (String.ofList (discName .hdfK f.toList), [f, interpOrLinear interp])) := by
  simp only [Gen.SrcC14.HDF5KTable_discover, foldl_append_map, List.nil_append, split1_head]
  simp [stemS, sanitizeStr, discName, interpOrLinear]

/-- PickleKTable: the object is named by what the file stores under `name`, cleaned (`objName .pickleK`); the discovery
    advertises the sanitised first dotted part of the stem (`discName .pickleK`) -/
theorem src_pickle_ktable_names (fname stored : String) :
    Gen.SrcC14.PickleKTable_clean_molecule_name (Gen.SrcC14.PickleKTable_name stored)
      = String.ofList (objName .pickleK fname.toList stored.toList) := by
  rw [(src_clean_molecule_name _).2.1]
  simp [Gen.SrcC14.PickleKTable_name, objName]

theorem src_pickle_ktable_discover (files : List String) (interp : Option String) :
    Gen.SrcC14.PickleKTable_discover files stemS sanitizeStr interp
      = files.map (fun f => (String.ofList (discName .pickleK f.toList), [f, interpOrLinear interp])) := by
  simp only [Gen.SrcC14.PickleKTable_discover, foldl_append_map, List.nil_append, split1_head]
  simp [stemS, sanitizeStr, discName, interpOrLinear]

end

end Taurex.C14Src
