/-
  C04 — opacity interpolation in (T, P) is sound everywhere.
  Theorems about `Taurex.Interp` (the definitions the driver `driver_c04` executes on `Float`),
  instantiated at ℝ.  Grids are strictly increasing with at least two nodes (what every loader produces);
  `pg`/`p` are log10 pressures (see `computeOpacity_eq` for the Pa form).
-/
import Proofs.C04Lemmas
import Proofs.C14Cache

namespace Taurex.C04
open Taurex.Interp Taurex.C04L

/-- bracketing node indices along one axis: the nearest edge node outside the grid, else the two
    neighbours returned by `find_closest_pair` (which bracket the value, `pair_brackets`) -/
noncomputable def bracketIdx (g : List ℝ) (v : ℝ) : Nat × Nat :=
  if v < g.getD 0 0 then (0, 0)
  else if g.getD (g.length - 1) 0 ≤ v then (g.length - 1, g.length - 1)
  else findClosestPair g v

def nodeMin (tab : List (List ℝ)) (pi ti : Nat × Nat) : ℝ :=
  min (min (at2 tab pi.1 ti.1) (at2 tab pi.1 ti.2)) (min (at2 tab pi.2 ti.1) (at2 tab pi.2 ti.2))

def nodeMax (tab : List (List ℝ)) (pi ti : Nat × Nat) : ℝ :=
  max (max (at2 tab pi.1 ti.1) (at2 tab pi.1 ti.2)) (max (at2 tab pi.2 ti.1) (at2 tab pi.2 ti.2))

/-- `find_closest_pair` returns adjacent in-range indices which, inside the grid, bracket the value. -/
theorem pair_brackets (g : List ℝ) (h : Sorted g) (v : ℝ) (hn : 2 ≤ g.length)
    (hlo : g.getD 0 0 ≤ v) (hhi : v ≤ g.getD (g.length - 1) 0) :
    (findClosestPair g v).2 = (findClosestPair g v).1 + 1 ∧ (findClosestPair g v).2 < g.length ∧
    g.getD (findClosestPair g v).1 0 ≤ v ∧ v ≤ g.getD (findClosestPair g v).2 0 :=
  ⟨(pair_adjacent g v hn).1, (pair_adjacent g v hn).2, (C04L.pair_brackets g h v hn hlo hhi).1,
   (C04L.pair_brackets g h v hn hlo hhi).2⟩

example : Sorted [1, 2, 4] ∧ (2 : ℕ) ≤ [(1:ℝ), 2, 4].length ∧ ([(1:ℝ), 2, 4].getD 0 0 ≤ 3) := by
  refine ⟨?_, by simp, by norm_num⟩
  simp [Sorted]; norm_num

/-- inside the grid the pair returned by `find_closest_pair` is a proper bracket -/
theorem bracket_facts (g : List ℝ) (h : Sorted g) (v : ℝ) (hn : 2 ≤ g.length)
    (hlo : ¬ v < g.getD 0 0) (hhi : ¬ g.getD (g.length - 1) 0 ≤ v) :
    g.getD (findClosestPair g v).1 0 < g.getD (findClosestPair g v).2 0 ∧
    g.getD (findClosestPair g v).1 0 ≤ v ∧ v ≤ g.getD (findClosestPair g v).2 0 :=
  ⟨pair_lt g h v hn, C04L.pair_brackets g h v hn (not_lt.1 hlo) (not_le.1 hhi).le⟩

/-- **between_nodes (linear mode)**: for every `(T, P)` other than the documented both-below corner the value
    lies between the smallest and largest tabulated values at the bracketing nodes (nearest edge nodes
    outside the grid): never extrapolated. -/
theorem between_nodes_linear (tg pg : List ℝ) (tab : List (List ℝ)) (t p : ℝ)
    (hT : Sorted tg) (hP : Sorted pg) (hnT : 2 ≤ tg.length) (hnP : 2 ≤ pg.length)
    (hnb : ¬ (t < tg.getD 0 0 ∧ p < pg.getD 0 0)) :
    nodeMin tab (bracketIdx pg p) (bracketIdx tg t) ≤ bilinearGrid .linear tg pg tab t p ∧
    bilinearGrid .linear tg pg tab t p ≤ nodeMax tab (bracketIdx pg p) (bracketIdx tg t) :=
  between_nodes_minmax .linear tg pg tab hT hP hnT hnP t p (fun e => nomatch e) hnb

/-- all tabulated values are positive (what exp mode needs: it takes logarithms) -/
def TabPos (tab : List (List ℝ)) : Prop := ∀ i j, 0 < at2 tab i j

/-- **between_nodes (exp mode)**: same bound for the exponential-in-1/T, linear-in-log P form, for positive
    tables and positive grid temperatures. -/
theorem between_nodes_exp (tg pg : List ℝ) (tab : List (List ℝ)) (t p : ℝ)
    (hT : Sorted tg) (hP : Sorted pg) (hnT : 2 ≤ tg.length) (hnP : 2 ≤ pg.length)
    (hpos : TabPos tab) (hT0pos : 0 < tg.getD 0 0)
    (hnb : ¬ (t < tg.getD 0 0 ∧ p < pg.getD 0 0)) :
    nodeMin tab (bracketIdx pg p) (bracketIdx tg t) ≤ bilinearGrid .exp tg pg tab t p ∧
    bilinearGrid .exp tg pg tab t p ≤ nodeMax tab (bracketIdx pg p) (bracketIdx tg t) :=
  between_nodes_minmax .exp tg pg tab hT hP hnT hnP t p (fun _ => ⟨fun i j _ _ => hpos i j, hT0pos⟩) hnb

/-- the documented exception: below both the minimum temperature and the minimum pressure the value is zero
    (both modes) -/
theorem both_min_zero (mode : Mode) (tg pg : List ℝ) (tab : List (List ℝ)) (t p : ℝ)
    (hT : Sorted tg) (hP : Sorted pg) (hnT : 2 ≤ tg.length) (hnP : 2 ≤ pg.length)
    (ht : t < tg.getD 0 0) (hp : p < pg.getD 0 0) : bilinearGrid mode tg pg tab t p = 0 := by
  rw [bilinearGrid_eq_along mode tg pg tab hT hP hnT hnP, if_pos ⟨ht, hp⟩]

/-- never negative: with a non-negative table the linear-mode result is non-negative for every `(T, P)` -/
theorem nonneg_linear (tg pg : List ℝ) (tab : List (List ℝ)) (t p : ℝ)
    (hT : Sorted tg) (hP : Sorted pg) (hnT : 2 ≤ tg.length) (hnP : 2 ≤ pg.length)
    (h0 : ∀ i j, 0 ≤ at2 tab i j) : 0 ≤ bilinearGrid .linear tg pg tab t p := by
  by_cases hb : t < tg.getD 0 0 ∧ p < pg.getD 0 0
  · rw [both_min_zero _ tg pg tab t p hT hP hnT hnP hb.1 hb.2]
  · refine le_trans ?_ (between_nodes_linear tg pg tab t p hT hP hnT hnP hb).1
    unfold nodeMin
    exact le_min (le_min (h0 _ _) (h0 _ _)) (le_min (h0 _ _) (h0 _ _))

/-- never negative in exp mode (positive table) -/
theorem nonneg_exp (tg pg : List ℝ) (tab : List (List ℝ)) (t p : ℝ)
    (hT : Sorted tg) (hP : Sorted pg) (hnT : 2 ≤ tg.length) (hnP : 2 ≤ pg.length)
    (hpos : TabPos tab) (hT0pos : 0 < tg.getD 0 0) : 0 ≤ bilinearGrid .exp tg pg tab t p := by
  by_cases hb : t < tg.getD 0 0 ∧ p < pg.getD 0 0
  · rw [both_min_zero _ tg pg tab t p hT hP hnT hnP hb.1 hb.2]
  · refine le_trans ?_ (between_nodes_exp tg pg tab t p hT hP hnT hnP hpos hT0pos hb).1
    unfold nodeMin
    exact le_min (le_min (hpos _ _).le (hpos _ _).le) (le_min (hpos _ _).le (hpos _ _).le)

/-- `compute_opacity` is the dispatch on log10 pressures divided by 10000 (cm² → m²) -/
theorem computeOpacity_eq (mode : Mode) (tg pgPa : List ℝ) (tab : List (List ℝ)) (t pPa : ℝ) :
    computeOpacity mode tg pgPa tab t pPa
      = bilinearGrid mode tg (pgPa.map (fun x => Real.log x / Real.log 10)) tab t (Real.log pPa / Real.log 10) / 10000 :=
  rfl

/-- a strictly increasing positive pressure grid in Pa has a strictly increasing log10 grid, so the theorems above
    apply to the grid as stored -/
theorem sorted_log10 (pgPa : List ℝ) (h : Sorted pgPa) (hpos : ∀ x ∈ pgPa, 0 < x) :
    Sorted (pgPa.map (fun x => Real.log x / Real.log 10)) :=
  List.pairwise_map.2 (h.imp_of_mem fun ha _ hab => log10_lt_log10 (hpos _ ha) hab)

/-- defect F1: the pinned dispatch extrapolates in the mixed corner `T < Tmin ∧ P ≥ Pmax` and returns a negative
    cross-section from a positive table. -/
theorem pinned_mixed_corner_negative :
    bilinearGridPinned .linear [(1:ℝ), 2] [0, 1] [[1, 3], [1, 3]] 0 2 < 0 ∧
    bilinearGrid .linear [(1:ℝ), 2] [0, 1] [[1, 3], [1, 3]] 0 2 = 1 := by
  have hp : findClosestPair [(1:ℝ), 2] 0 = (0, 1) := by norm_num [findClosestPair, searchLeft]
  have c1 : (1:ℝ) ≤ 2 := by norm_num
  have c2 : ¬ (2:ℝ) ≤ 0 := by norm_num
  have c3 : ¬ (2:ℝ) < 0 := by norm_num
  have c4 : (0:ℝ) < 1 := by norm_num
  -- `P ≥ Pmax`, `T < Tmin`: the pinned order reaches `interp_temp_only` on the last pressure row, the fixed one the node
  refine ⟨?_, ?_⟩ <;>
    simp only [bilinearGridPinned, bilinearGrid, hp, List.length_cons, List.length_nil, List.getD_cons_zero,
      List.getD_cons_succ, c1, c2, c3, c4, decide_true, decide_false, Bool.and_false, Bool.and_true,
      Bool.false_eq_true, if_false, if_true, interpTempOnly, interpLin, at2, Nat.reduceAdd, Nat.reduceSub]
  norm_num

-- non-vacuity of the grid hypotheses of `between_nodes_linear` / `between_nodes_exp`: strictly increasing grids and a
-- strictly interior point (not the both-below corner); the table hypotheses are not instantiated here
example : Sorted [(100:ℝ), 200, 400] ∧ Sorted [(0:ℝ), 1, 3] ∧
    ¬ ((150:ℝ) < [(100:ℝ), 200, 400].getD 0 0 ∧ (2:ℝ) < [(0:ℝ), 1, 3].getD 0 0) := by
  refine ⟨?_, ?_, ?_⟩
  · norm_num [Sorted]
  · norm_num [Sorted]
  · norm_num

theorem node_pair (g : List ℝ) (h : Sorted g) (j : Nat) (hn : 2 ≤ g.length) (hj : j < g.length - 1) :
    ¬ g.getD (g.length - 1) 0 ≤ g.getD j 0 ∧ ¬ g.getD j 0 < g.getD 0 0 ∧
    g.getD (findClosestPair g (g.getD j 0)).1 0 < g.getD (findClosestPair g (g.getD j 0)).2 0 ∧
    ((findClosestPair g (g.getD j 0)).1 = j ∨ (findClosestPair g (g.getD j 0)).2 = j) :=
  ⟨not_le.2 (sorted_getD_lt h hj (by omega)), not_lt.2 (sorted_getD_le h (Nat.zero_le _) (by omega)),
    pair_lt g h _ hn, pair_node g h j hj⟩

theorem interpLin_at (x11 x12 v a b : ℝ) (hab : a < b) :
    (v = a → interpLin x11 x12 v a b = x11) ∧ (v = b → interpLin x11 x12 v a b = x12) :=
  ⟨fun e => e ▸ interpLin_left, fun e => by rw [e]; exact interpLin_right hab⟩

theorem interpExp_left (x11 x12 a b : ℝ) : interpExp x11 x12 a a b = x11 :=
  C04L.interpExp_left

theorem interpExp_right (x11 x12 a b : ℝ) (h1 : 0 < x11) (h2 : 0 < x12) (ha : 0 < a) (hab : a < b) :
    interpExp x11 x12 b a b = x12 :=
  C04L.interpExp_right h1 h2 ha hab

/-- **at_node (linear mode)**: at every grid node the tabulated value is returned. -/
theorem at_node_linear (tg pg : List ℝ) (tab : List (List ℝ)) (i j : Nat)
    (hT : Sorted tg) (hP : Sorted pg) (hnT : 2 ≤ tg.length) (hnP : 2 ≤ pg.length)
    (hi : i < pg.length) (hj : j < tg.length) :
    bilinearGrid .linear tg pg tab (tg.getD j 0) (pg.getD i 0) = at2 tab i j :=
  at_node .linear tg pg tab hT hP hnT hnP i j (fun e => nomatch e) hi hj

theorem interpExp_at (x11 x12 v a b : ℝ) (h1 : 0 < x11) (h2 : 0 < x12) (ha : 0 < a) (hab : a < b) :
    (v = a → interpExp x11 x12 v a b = x11) ∧ (v = b → interpExp x11 x12 v a b = x12) :=
  ⟨fun e => e ▸ interpExp_left _ _ _ _, fun e => by rw [e]; exact interpExp_right _ _ _ _ h1 h2 ha hab⟩

/-- **at_node (exp mode)**: at every grid node the tabulated value is returned (positive table, positive
    grid temperatures). -/
theorem at_node_exp (tg pg : List ℝ) (tab : List (List ℝ)) (i j : Nat)
    (hT : Sorted tg) (hP : Sorted pg) (hnT : 2 ≤ tg.length) (hnP : 2 ≤ pg.length)
    (hpos : TabPos tab) (hT0pos : 0 < tg.getD 0 0)
    (hi : i < pg.length) (hj : j < tg.length) :
    bilinearGrid .exp tg pg tab (tg.getD j 0) (pg.getD i 0) = at2 tab i j :=
  at_node .exp tg pg tab hT hP hnT hnP i j (fun _ => ⟨fun i j _ _ => hpos i j, hT0pos⟩) hi hj

/-- **interior (linear mode)**: strictly inside the grid the result is the textbook bilinear interpolation in
    (T, log10 P) between the four nodes of the cell. -/
theorem interior_bilinear (tg pg : List ℝ) (tab : List (List ℝ)) (t p : ℝ)
    (h1 : ¬ pg.getD (pg.length - 1) 0 ≤ p) (h2 : ¬ tg.getD (tg.length - 1) 0 ≤ t)
    (h3 : ¬ p < pg.getD 0 0) (h4 : ¬ t < tg.getD 0 0) :
    let tl := (findClosestPair tg t).1; let tr := (findClosestPair tg t).2
    let pl := (findClosestPair pg p).1; let pr := (findClosestPair pg p).2
    let s := (p - pg.getD pl 0) / (pg.getD pr 0 - pg.getD pl 0)
    let u := (t - tg.getD tl 0) / (tg.getD tr 0 - tg.getD tl 0)
    bilinearGrid .linear tg pg tab t p
      = (1 - s) * (1 - u) * at2 tab pl tl + (1 - s) * u * at2 tab pl tr
        + s * (1 - u) * at2 tab pr tl + s * u * at2 tab pr tr := by
  simp only [bilinearGrid, h1, h2, h3, h4, decide_false, if_false, Bool.false_eq_true, Bool.and_self, interpBilin]
  ring

/-- **interior (exp mode)**: strictly inside the grid the result is the documented form: linear in log10 P on both
    temperature nodes, then the weighted geometric mean `a^(1-λ) · b^λ` with `λ = Tmax (T - Tmin) / (T (Tmax - Tmin))`,
    i.e. `log σ` linear in `1/T`. -/
theorem interior_explin (tg pg : List ℝ) (tab : List (List ℝ)) (t p : ℝ)
    (hP : Sorted pg) (hnP : 2 ≤ pg.length) (hpos : TabPos tab)
    (h1 : ¬ pg.getD (pg.length - 1) 0 ≤ p) (h2 : ¬ tg.getD (tg.length - 1) 0 ≤ t)
    (h3 : ¬ p < pg.getD 0 0) (h4 : ¬ t < tg.getD 0 0) :
    let tl := (findClosestPair tg t).1; let tr := (findClosestPair tg t).2
    let pl := (findClosestPair pg p).1; let pr := (findClosestPair pg p).2
    let a := interpLin (at2 tab pl tl) (at2 tab pr tl) p (pg.getD pl 0) (pg.getD pr 0)
    let b := interpLin (at2 tab pl tr) (at2 tab pr tr) p (pg.getD pl 0) (pg.getD pr 0)
    let lam := tg.getD tr 0 * (t - tg.getD tl 0) / (t * (tg.getD tr 0 - tg.getD tl 0))
    bilinearGrid .exp tg pg tab t p = Real.exp ((1 - lam) * Real.log a + lam * Real.log b) := by
  obtain ⟨a', b', c'⟩ := bracket_facts pg hP p hnP h3 h1
  simp only [bilinearGrid, h1, h2, h3, h4, decide_false, if_false, Bool.false_eq_true, Bool.and_self]
  rw [interpExpLin_nested _ _ _ _ _ _ _ _ _ _ a']
  exact interpExp_geo (interpLin_pos (hpos _ _) (hpos _ _) b' c') (interpLin_pos (hpos _ _) (hpos _ _) b' c')

/-! ### the interpolation mode of a table served by a cache (`_interp_mode`, the property's state anchor)

  "The cross-section returned for a molecule" comes from an object a cache builds from a file it discovers; which of the two
  documented forms it follows inside a cell is decided by the mode handed to the loader's constructor.  In the cache machines
  (`CacheSM.loadStep` for OpacityCache, `loadStepK` for KTableCache) that mode is `GlobalCache()['xsec_interpolation'] or
  'linear'` for EVERY loader class: the format of the discovered file is read only to decide `in_memory` of an HDF5
  cross-section.  The harness holds every loader class of /repo (pickle, HDF5, Exo-Transmit cross-sections; pickle, HDF5,
  NEMESIS k-tables) to this on real files. -/

open Taurex.CacheSM in
/-- a molecule not yet cached, discovered in a file of ANY loader class, is served in the configured mode (both caches) -/
theorem discovered_mode (m : String) (s : CSt) (e : FileEntry) (hd : e.disc = m) (ho : e.obj = m)
    (hk : hasKey s.dict m = false) :
    (lookup (loadStepK m s e).dict m).map (·.mode) = some (interpOr s) ∧
    (lookup (loadStep m s e).dict m).map (·.mode) = some (interpOr s) := by
  have h : (lookup (loadStep m s e).dict m).map (·.mode) = some (interpOr s) := by
    rw [loadStep_insert m s e hd (ho.trans hd.symm) hk]
    exact congrArg (Option.map (·.mode)) (lookup_append_new (loadObj s e) (lookup_none_of_hasKey hk))
  exact ⟨loadStepK_new m s e hd hk ▸ h, h⟩

open Taurex.CacheSM in
/-- NV: an Exo-Transmit file of H2O, `xsec_interpolation = 'exp'` configured, nothing cached: served in mode 1 ('exp') -/
example : (lookup (loadStep "H2O" { init with interp := some 1, path := some 0 }
    { fmt := Fmt.exo, fileId := 0, disc := "H2O", obj := "H2O" }).dict "H2O").map (·.mode) = some 1 := by
  decide

open Taurex.CacheSM in
/-- the loader class of the discovered file does not enter what the cache machines do with it (HDF5 cross-sections, whose
    `in_memory` flag is recorded, apart): a k-table file of a class the model has no name for (NEMESIS `.kta`) is the
    machine's k-table file of any other class -/
theorem discovered_mode_any_class (m : String) (s : CSt) (e : FileEntry) (f : Fmt)
    (hf : f ≠ Fmt.hdf) (he : e.fmt ≠ Fmt.hdf) :
    loadStepK m s { e with fmt := f } = loadStepK m s e ∧ loadStep m s { e with fmt := f } = loadStep m s e := by
  simp [loadStepK, loadStep, hf, he]

open Taurex.CacheSM in
example : (Fmt.kpickle ≠ Fmt.hdf) ∧ (Fmt.khdf ≠ Fmt.hdf) ∧ (Fmt.exo ≠ Fmt.hdf) := by decide

end Taurex.C04
