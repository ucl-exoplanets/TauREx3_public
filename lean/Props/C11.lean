/-
  C11 — vertical structure is hydrostatic, ordered and one value per layer.
  Theorems about `TaurexModel/Structure.lean` (the definitions `driver_c11` executes on Float), over ℝ.
  `scaleProps kb G M R T pl mu` mirrors `Planet.calculate_scale_properties`; `logLevels`/`layerPressures` mirror
  `SimplePressureProfile.compute_pressure_profile`; `views` mirrors the profile bookkeeping of `SimpleForwardModel`.
-/
import Proofs.C11

namespace Taurex.C11
open Taurex Taurex.Structure

/-- On the log-spaced grid (`pmin < pmax`, at least one layer) the `n+1` pressure levels decrease strictly from
    the surface (`pmax`) to the top (`pmin`). -/
theorem levels_strict_anti {n : ℕ} (hn : 1 ≤ n) {pmin pmax : ℝ} (h0 : 0 < pmin) (h : pmin < pmax) :
    (logLevels n pmin pmax).Pairwise (· > ·) ∧ (logLevels n pmin pmax).length = n + 1 ∧
      (logLevels n pmin pmax).head? = some pmax ∧ (logLevels n pmin pmax).getLast? = some pmin :=
  ⟨logLevels_pairwise hn h0 h, logLevels_length n pmin pmax, logLevels_head pmin (lt_trans h0 h),
    logLevels_last hn pmax h0⟩

example : (logLevels 3 (100 : ℝ) 100000).Pairwise (· > ·) :=
  (levels_strict_anti (n := 3) (by norm_num) (by norm_num) (by norm_num)).1

/-- Each layer pressure is the geometric mean of its two levels and lies strictly between them, for any strictly
    decreasing positive levels (in particular the log-spaced ones). -/
theorem layer_geomean {lv : List ℝ} (hpos : ∀ p ∈ lv, 0 < p) (hdec : lv.Pairwise (· > ·)) {l : ℕ}
    (hl : l + 1 < lv.length) :
    ∃ p lo up, (layerPressures lv)[l]? = some p ∧ lv[l]? = some lo ∧ lv[l + 1]? = some up ∧
      p * p = lo * up ∧ up < p ∧ p < lo := by
  have hl0 : l < lv.length := Nat.lt_of_succ_lt hl
  obtain ⟨h1, h2, h3⟩ := geomean_between (hpos _ (List.getElem_mem hl))
    (List.pairwise_iff_getElem.1 hdec l (l + 1) hl0 hl (Nat.lt_succ_self l))
  refine ⟨_, lv[l], lv[l + 1], ?_, List.getElem?_eq_getElem hl0, List.getElem?_eq_getElem hl, h1, h2, h3⟩
  rw [layerPressures_getElem?, List.getElem?_eq_getElem hl0, List.getElem?_eq_getElem hl]
  rfl

example : ∃ p lo up, (layerPressures (logLevels 3 (100 : ℝ) 100000))[1]? = some p ∧
    (logLevels 3 (100 : ℝ) 100000)[1]? = some lo ∧ (logLevels 3 (100 : ℝ) 100000)[2]? = some up ∧
    p * p = lo * up ∧ up < p ∧ p < lo :=
  layer_geomean logLevels_pos
    (levels_strict_anti (n := 3) (by norm_num) (by norm_num) (by norm_num)).1
    (by rw [logLevels_length]; norm_num)

/-- The number of layer pressures is the number of levels minus one. -/
theorem layers_length (n : ℕ) (pmin pmax : ℝ) : (layerPressures (logLevels n pmin pmax)).length = n := by
  rw [layerPressures_length, logLevels_length]; rfl

/-- Altitude starts at zero at the surface, for every input. -/
theorem z0_zero (kb G M R : ℝ) (T pl mu : List ℝ) : (scaleProps kb G M R T pl mu).z.head? = some 0 := by
  obtain ⟨tl, h⟩ := zsOf_scaleLoop kb (G * M) R 0 (surfaceGravity (G * M) R) T mu pl
  rw [scaleProps_z, h]
  rfl

example : (scaleProps 1 1 1 1 [1000, 900, 800] [100000, 10000, 1000, 100] [2, 2, 2] : ScaleProps ℝ).z.head?
    = some 0 := z0_zero ..

/-- Hydrostatic step: in every layer `dz = H ln(P_lower/P_upper)`, `H = k T/(mu g)`, `g = G M/(R+z)²` with `z`
    the altitude of the layer's lower boundary, and the next boundary is `z + dz`.  (Positive levels are needed
    only to turn the code's `-ln(P_upper/P_lower)` into `ln(P_lower/P_upper)`.) -/
theorem dz_formula (kb G M R : ℝ) {T pl mu : List ℝ} (hmu : mu.length = T.length)
    (hpl : pl.length = T.length + 1) (hpos : ∀ p ∈ pl, 0 < p) {l : ℕ} (hl : l < T.length) :
    let s := scaleProps kb G M R T pl mu
    s.dz.getD l 0 = s.H.getD l 0 * Real.log (pl.getD l 0 / pl.getD (l + 1) 0) ∧
    s.H.getD l 0 = kb * T.getD l 0 / (mu.getD l 0 * s.g.getD l 0) ∧
    s.g.getD l 0 = G * M / ((R + s.z.getD l 0) * (R + s.z.getD l 0)) ∧
    s.z.getD (l + 1) 0 = s.z.getD l 0 + s.dz.getD l 0 := by
  intro s
  have hlen : l < (scaleLoop kb (G * M) R 0 (surfaceGravity (G * M) R) T mu pl).1.length := by
    rw [scaleLoop_length_of hmu hpl]; exact hl
  obtain ⟨hH, hdz, hz, hz1, hg⟩ := scaleLoop_layer kb (G * M) R 0 _ T mu pl l (List.getElem?_eq_getElem hlen)
  -- the four results at index `l` are the fields of layer `l`
  rw [show s.dz.getD l 0 = _ from getD_map_getElem _ hlen, show s.H.getD l 0 = _ from getD_map_getElem _ hlen,
    show s.g.getD l 0 = _ from getD_map_getElem _ hlen, show s.z.getD l 0 = _ from hz,
    show s.z.getD (l + 1) 0 = _ from hz1]
  have hp : ∀ i, i < pl.length → 0 < pl.getD i 0 := fun i hi => by
    rw [List.getD_eq_getElem?_getD, List.getElem?_eq_getElem hi]; exact hpos _ (List.getElem_mem hi)
  have hp0 := hp l (by omega)
  have hp1 := hp (l + 1) (by omega)
  refine ⟨?_, hH, hg (gravityAt_zero _ _).symm, rfl⟩
  rw [hdz, log_real, Real.log_div hp1.ne' hp0.ne', Real.log_div hp0.ne' hp1.ne']; ring

example : let s : ScaleProps ℝ := scaleProps 1 1 1 1 [1000, 900, 800] [100000, 10000, 1000, 100] [2, 2, 2]
    s.dz.getD 2 0 = s.H.getD 2 0 * Real.log ((1000 : ℝ) / 100) := by
  have h := (dz_formula 1 1 1 1 (T := [1000, 900, 800]) (pl := [100000, 10000, 1000, 100]) (mu := [2, 2, 2])
    rfl rfl (by intro p hp; simp at hp; rcases hp with rfl | rfl | rfl | rfl <;> norm_num) (l := 2)
    (by simp)).1
  simpa using h

/-- For any strictly decreasing positive levels and positive `k, G M, R, T, mu`: every thickness, scale height
    and gravity is positive (induction over the layers). -/
theorem dz_pos {kb G M R : ℝ} (hkb : 0 < kb) (hG : 0 < G) (hM : 0 < M) (hR : 0 < R) {T pl mu : List ℝ}
    (hT : ∀ t ∈ T, 0 < t) (hmu : ∀ m ∈ mu, 0 < m) (hpos : ∀ p ∈ pl, 0 < p) (hdec : pl.Pairwise (· > ·)) :
    let s := scaleProps kb G M R T pl mu
    (∀ d ∈ s.dz, 0 < d) ∧ (∀ h ∈ s.H, 0 < h) ∧ (∀ g ∈ s.g, 0 < g) := by
  intro s
  have hgm : 0 < G * M := mul_pos hG hM
  obtain ⟨hL, _, _⟩ := scaleLoop_pos hkb hgm hR 0 _ T mu pl (le_refl 0) (surfaceGravity_pos hgm hR) hT hmu hpos hdec
  exact ⟨List.forall_mem_map.2 fun L h => (hL L h).1, List.forall_mem_map.2 fun L h => (hL L h).2.1,
    List.forall_mem_map.2 fun L h => (hL L h).2.2.1⟩

/-- … and the boundary altitudes increase strictly (so altitude is non-negative and ordered like the levels). -/
theorem z_strict_mono {kb G M R : ℝ} (hkb : 0 < kb) (hG : 0 < G) (hM : 0 < M) (hR : 0 < R) {T pl mu : List ℝ}
    (hT : ∀ t ∈ T, 0 < t) (hmu : ∀ m ∈ mu, 0 < m) (hpos : ∀ p ∈ pl, 0 < p) (hdec : pl.Pairwise (· > ·)) :
    (scaleProps kb G M R T pl mu).z.Pairwise (· < ·) ∧ ∀ x ∈ (scaleProps kb G M R T pl mu).z, 0 ≤ x := by
  have hgm : 0 < G * M := mul_pos hG hM
  obtain ⟨_, hP, hB⟩ := scaleLoop_pos hkb hgm hR 0 _ T mu pl (le_refl 0) (surfaceGravity_pos hgm hR) hT hmu hpos hdec
  exact ⟨hP, hB⟩

/-- non-vacuity: a 3-layer Jupiter (SI units) on the log-spaced grid 1e5 … 1e2 Pa -/
example : let s : ScaleProps ℝ := (scaleProps 1.380649e-23 6.6743e-11 1.898e27 7.1492e7 [1000, 900, 800]
      (logLevels 3 100 100000) [3.8e-27, 3.7e-27, 3.6e-27])
    (∀ d ∈ s.dz, 0 < d) ∧ s.z.Pairwise (· < ·) := by
  have hdec := (levels_strict_anti (n := 3) (pmin := 100) (pmax := 100000) (by norm_num) (by norm_num)
    (by norm_num)).1
  have hT : ∀ t ∈ ([1000, 900, 800] : List ℝ), 0 < t := by
    intro t ht; simp at ht; rcases ht with rfl | rfl | rfl <;> norm_num
  have hmu : ∀ m ∈ ([3.8e-27, 3.7e-27, 3.6e-27] : List ℝ), 0 < m := by
    intro t ht; simp at ht; rcases ht with rfl | rfl | rfl <;> norm_num
  exact ⟨(dz_pos (by norm_num) (by norm_num) (by norm_num) (by norm_num) hT hmu logLevels_pos hdec).1,
    (z_strict_mono (by norm_num) (by norm_num) (by norm_num) (by norm_num) hT hmu logLevels_pos hdec).1⟩

/-- One value per layer: with `n` temperatures, `n` molecular weights and `n+1` levels, `z` has `n+1` entries,
    `H`, `g`, `dz` and the density have `n`, and every per-layer view the forward model stores (altitude,
    scale height, gravity, thickness) has exactly `n`. -/
theorem lengths (kb G M R : ℝ) {T pl mu P : List ℝ} {n : ℕ} (hT : T.length = n) (hmu : mu.length = n)
    (hpl : pl.length = n + 1) (hP : P.length = n) :
    let s := scaleProps kb G M R T pl mu
    let v := views s
    s.z.length = n + 1 ∧ s.H.length = n ∧ s.g.length = n ∧ s.dz.length = n ∧
    v.altitudeProfile.length = n ∧ v.scaleheightProfile.length = n ∧ v.gravityProfile.length = n ∧
    v.deltaz.length = n ∧ v.altitudeBoundaries.length = n + 1 ∧ (density kb P T).length = n := by
  intro s v
  obtain ⟨hz, hH, hg, hdz⟩ := scaleProps_lengths kb G M R (hmu.trans hT.symm) (hT ▸ hpl)
  rw [hT] at hz hH hg hdz
  refine ⟨hz, hH, hg, hdz, ?_, hH, hg, hdz, hz, ?_⟩
  · show (scaleProps kb G M R T pl mu).z.dropLast.length = n
    simp [hz]
  · simp [density, List.length_zipWith, hP, hT]

example : let s : ScaleProps ℝ := scaleProps 1 1 1 1 [1000, 900] [100000, 1000, 10] [2, 2]
    (views s).gravityProfile.length = 2 ∧ (views s).scaleheightProfile.length = 2 :=
  let h := lengths 1 1 1 1 (T := [1000, 900]) (pl := [100000, 1000, 10]) (mu := [2, 2]) (P := [1, 1]) (n := 2)
    rfl rfl rfl rfl
  ⟨h.2.2.2.2.2.2.1, h.2.2.2.2.2.1⟩

/-- Number density is `P/(kT)` layer by layer. -/
theorem density_formula (kb : ℝ) (P T : List ℝ) (l : ℕ) :
    (density kb P T)[l]? = (P[l]?).bind (fun p => (T[l]?).map (fun t => p / (kb * t))) := by
  unfold density
  rw [List.getElem?_zipWith]
  cases P[l]? <;> cases T[l]? <;> rfl

example : (density (2 : ℝ) [10, 20] [5, 4])[1]? = some (20 / (2 * 4)) := by
  rw [density_formula]; rfl

/-- **The stored-profile dictionary** (`generate_profiles()`): its keys are exactly the documented ones, in insertion
    order (the condensate table only when the chemistry has condensates); EVERY entry has one value per layer (1-D entries
    `n` values, every row of a gas-mix table `n` values — the tables are the rows `mixProfile[mask]`, C10); and the
    structure entries are the per-layer views the forward model stores, the density entry `P/(kT)`. -/
theorem profile_dict (kb G M R : ℝ) {T pl mu P : List ℝ} {n : ℕ} (hT : T.length = n) (hmu : mu.length = n)
    (hpl : pl.length = n + 1) (hP : P.length = n) (act inact cond : Option (List (List ℝ)))
    (hact : ∀ rows, act = some rows → ∀ r ∈ rows, r.length = n)
    (hinact : ∀ rows, inact = some rows → ∀ r ∈ rows, r.length = n)
    (hcond : ∀ rows, cond = some rows → ∀ r ∈ rows, r.length = n) :
    let v := views (scaleProps kb G M R T pl mu)
    let d := profileDict v T P (density kb P T) mu act inact cond
    d.map (·.1) = ["temp_profile", "active_mix_profile", "inactive_mix_profile", "density_profile",
        "scaleheight_profile", "altitude_profile", "gravity_profile", "pressure_profile"]
        ++ (if cond.isSome then ["condensate_profile"] else []) ++ ["mu_profile"] ∧
    (∀ e ∈ d, e.2.PerLayer n) ∧
    d.lookup "altitude_profile" = some (.arr v.altitudeProfile) ∧
    d.lookup "scaleheight_profile" = some (.arr v.scaleheightProfile) ∧
    d.lookup "gravity_profile" = some (.arr v.gravityProfile) ∧
    d.lookup "density_profile" = some (.arr (density kb P T)) ∧
    d.lookup "pressure_profile" = some (.arr P) ∧ d.lookup "temp_profile" = some (.arr T) ∧
    d.lookup "mu_profile" = some (.arr mu) := by
  intro v d
  obtain ⟨_, _, _, _, halt, hH, hg, _, _, hdens⟩ := lengths kb G M R hT hmu hpl hP
  have ha : (ProfVal.ofTable act).PerLayer n := by
    cases act with
    | none => trivial
    | some rows => exact hact rows rfl
  have hi : (ProfVal.ofTable inact).PerLayer n := by
    cases inact with
    | none => trivial
    | some rows => exact hinact rows rfl
  refine ⟨by cases cond <;> rfl, ?_, by
    cases cond <;>
      simp only [d, profileDict, List.cons_append, List.nil_append, List.append_nil, List.lookup_cons, String.reduceBEq,
        and_self]⟩
  simp only [d, profileDict, List.forall_mem_append, List.forall_mem_cons]
  refine ⟨⟨⟨hT, ha, hi, hdens, hH, halt, hg, hP, fun _ h => absurd h List.not_mem_nil⟩, ?_⟩, hmu,
    fun _ h => absurd h List.not_mem_nil⟩
  cases cond with
  | none => exact fun _ h => absurd h List.not_mem_nil
  | some c => exact List.forall_mem_singleton.2 (hcond c rfl)

example : let v := views (scaleProps (1 : ℝ) 1 1 1 [1000, 900] [100000, 1000, 10] [2, 2])
    ((profileDict v [1000, 900] [5000, 50] (density 1 [5000, 50] [1000, 900]) [2, 2] (some [[1, 1]]) none none).map
      (·.1)).length = 9 := by
  intro v; rfl

/-- **length units**: `conversion_factor(a, b)` between metre multiples is the ratio size(a)/size(b) of the unit sizes —
    a length of `x` units `a` is `x·f` units `b` with `f · size(b) = size(a)` (metres to kilometres: 1/1000, never 1000) —
    and converting back is the reciprocal.  All four results of `calculate_scale_properties` carry the one factor
    `conversion_factor('m', length_units)` (`C11Src.src_scale_properties`; the model `scaleProps` is in metres), so with
    `dz_formula` the scale height in the requested unit is `kT/(μ g)` expressed in it. -/
theorem length_factor (a b : String) (f : ℝ) (h : lengthFactor a b = some f) :
    ∃ sa sb : ℝ, metresPer a = some sa ∧ metresPer b = some sb ∧ 0 < sa ∧ 0 < sb ∧ f * sb = sa ∧
      lengthFactor b a = some (1 / f) := by
  unfold lengthFactor at h
  cases ha : (metresPer a : Option ℝ) with
  | none => simp [ha] at h
  | some sa =>
    cases hb : (metresPer b : Option ℝ) with
    | none => simp [ha, hb] at h
    | some sb =>
      simp only [ha, hb, Option.some.injEq] at h
      have hsa := metresPer_pos a sa ha
      have hsb := metresPer_pos b sb hb
      refine ⟨sa, sb, rfl, rfl, hsa, hsb, ?_, ?_⟩
      · rw [← h]; field_simp
      · unfold lengthFactor
        simp only [ha, hb]
        rw [← h]; congr 1; field_simp

example : lengthFactor (α := ℝ) "m" "km" = some (1 / (10 * 10 * 10)) := rfl

end Taurex.C11
