/-
  C01 — the transmission spectrum equals the documented transit-depth integral.
  All statements are about `Taurex.Transmission` (the definitions `driver_c01` executes on Float) at the carrier ℝ.
  Hypotheses: `Shells` (the altitude grid built by `calculate_scale_properties`: C11), non-negative densities and
  prepared opacities (`Contrib.Nonneg`), `0 < rs`.  `Real.sqrt`/division totalisations are guarded:
  `chord*_radicand_nonneg` show no negative radicand occurs; `0 < rs` is carried by the depth statements and by
  `WellFormed`, although the inequalities hold for every `rs` (`depth_mono_tr` divides by `rs ^ 2 ≥ 0`, and `x / 0 = 0`).
-/
import Proofs.C01Geom
import Proofs.C01Abs

open Finset

namespace Taurex.C01
open Taurex.Transmission

/-! ### the depth integral between the bare planet and the opaque atmosphere -/

/-- never below the bare-planet value `(Rp/Rs)^2` -/
theorem depth_ge_bare (rp rs : ℝ) (hrs : 0 < rs) (n : ℕ) (z dz tau : ℕ → ℝ)
    (hz : ∀ l < n, 0 ≤ rp + z l) (hdz : ∀ l < n, 0 ≤ dz l) (ht : ∀ l < n, 0 ≤ tau l) :
    rp ^ 2 / rs ^ 2 ≤ depth rp rs n z dz (fun l => Transmission.trans (tau l)) := by
  have e : depth rp rs n z dz (fun _ => 1) = rp ^ 2 / rs ^ 2 := by rw [depth_eq]; simp
  rw [← e]
  exact depth_mono_tr rp rs n z dz _ _ hz hdz (fun l hl => trans_le_one _ (ht l hl))

example : (1 : ℝ) ^ 2 / 2 ^ 2 ≤ depth 1 2 3 (fun l => (l : ℝ)) (fun _ => 1)
    (fun l => Transmission.trans (if l = 0 then (20 : ℝ) else 0)) :=
  depth_ge_bare 1 2 (by norm_num) 3 _ _ (fun l => if l = 0 then (20 : ℝ) else 0) (fun l _ => by positivity)
    (fun l _ => by norm_num) (fun l _ => by split <;> norm_num)

/-- never above the value for an atmosphere opaque to its top -/
theorem depth_le_opaque (rp rs : ℝ) (hrs : 0 < rs) (n : ℕ) (z dz tau : ℕ → ℝ)
    (hz : ∀ l < n, 0 ≤ rp + z l) (hdz : ∀ l < n, 0 ≤ dz l) :
    depth rp rs n z dz (fun l => Transmission.trans (tau l)) ≤ (rp ^ 2 + ∑ l ∈ range n, 2 * (rp + z l) * dz l) / rs ^ 2 := by
  have e : depth rp rs n z dz (fun _ => 0) = (rp ^ 2 + ∑ l ∈ range n, 2 * (rp + z l) * dz l) / rs ^ 2 := by
    rw [depth_eq]; simp
  rw [← e]
  exact depth_mono_tr rp rs n z dz _ _ hz hdz (fun l _ => (trans_pos _).le)

example : depth 1 2 3 (fun l => (l : ℝ)) (fun _ => 1) (fun l => Transmission.trans (if l = 0 then (20 : ℝ) else 0))
    ≤ ((1 : ℝ) ^ 2 + ∑ l ∈ range 3, 2 * (1 + (l : ℝ)) * 1) / 2 ^ 2 :=
  depth_le_opaque 1 2 (by norm_num) 3 _ _ (fun l => if l = 0 then (20 : ℝ) else 0) (fun l _ => by positivity)
    (fun l _ => by norm_num)

/-- the opaque annulus is inside the disc of the top of the atmosphere -/
theorem opaque_le_disc (rp : ℝ) (n : ℕ) (zb z dz : ℕ → ℝ) (S : Shells rp n zb z dz) :
    ∑ l ∈ range n, 2 * (rp + z l) * dz l ≤ (rp + zb n) ^ 2 - (rp + zb 0) ^ 2 := by
  have key : ∀ m ≤ n, ∑ l ∈ range m, 2 * (rp + z l) * dz l ≤ (rp + zb m) ^ 2 - (rp + zb 0) ^ 2 := by
    intro m hm
    induction m with
    | zero => simp
    | succ m ih =>
      have hm' : m < n := hm
      rw [Finset.sum_range_succ, S.step m hm', S.hz m hm']
      have e : (rp + (zb m + dz m)) ^ 2 = (rp + zb m) ^ 2 + 2 * (rp + zb m) * dz m + dz m ^ 2 := by ring
      rw [e]
      linarith only [ih hm'.le, sq_nonneg (dz m)]
  exact key n (le_refl _)

example : Shells (1 : ℝ) 3 (fun l => (l : ℝ)) (fun l => (l : ℝ)) (fun _ => 1) :=
  shells_unit 3

/-- the depth never decreases when optical depths grow -/
theorem depth_mono_tau (rp rs : ℝ) (hrs : 0 < rs) (n : ℕ) (z dz tau tau' : ℕ → ℝ)
    (hz : ∀ l < n, 0 ≤ rp + z l) (hdz : ∀ l < n, 0 ≤ dz l) (h : ∀ l < n, tau l ≤ tau' l) :
    depth rp rs n z dz (fun l => Transmission.trans (tau l)) ≤ depth rp rs n z dz (fun l => Transmission.trans (tau' l)) :=
  depth_mono_tr rp rs n z dz _ _ hz hdz (fun l hl => trans_anti (h l hl))

example : depth 1 2 3 (fun l => (l : ℝ)) (fun _ => 1) (fun l => Transmission.trans (l : ℝ))
    ≤ depth 1 2 3 (fun l => (l : ℝ)) (fun _ => 1) (fun l => Transmission.trans (2 * (l : ℝ))) :=
  depth_mono_tau 1 2 (by norm_num) 3 _ _ (fun l => (l : ℝ)) (fun l => 2 * (l : ℝ)) (fun l _ => by positivity)
    (fun l _ => by norm_num)
    (fun l _ => by have : (0 : ℝ) ≤ l := by positivity
                   linarith)

/-! ### slant optical depth -/

/-- optical depths are non-negative (with and without the early exit) -/
theorem tau_nonneg (n nwn : ℕ) (path dens : ℕ → ℝ) (l : ℕ) (hp : ∀ k < n - l, 0 ≤ path k)
    (hd : ∀ j < n, 0 ≤ dens j) (cs : List (Contrib ℝ)) (hcs : ∀ c ∈ cs, c.Nonneg) (wn : ℕ) :
    0 ≤ tauFull n path dens l cs wn ∧ 0 ≤ tauCut n nwn path dens l cs wn :=
  ⟨tauFull_nonneg n path dens l hp hd cs hcs wn, tauCut_nonneg n nwn path dens l hp hd cs hcs wn⟩

/-- pointwise larger opacities (same kernels, same order) give pointwise larger optical depths -/
theorem tau_mono_sigma (n : ℕ) (path dens : ℕ → ℝ) (l : ℕ) (hp : ∀ k < n - l, 0 ≤ path k)
    (hd : ∀ j < n, 0 ≤ dens j) (cs cs' : List (Contrib ℝ)) (h : List.Forall₂ Contrib.Le cs cs') (wn : ℕ) :
    tauFull n path dens l cs wn ≤ tauFull n path dens l cs' wn :=
  tauFullFrom_mono n path dens l hp hd cs cs' h (fun _ => le_refl _) wn

/-- non-vacuity instance: an absorber (kind `lin`) and a CIA-like term (kind `sq`), one saturated and one clear column -/
def nvContribs : List (Contrib ℝ) :=
  [{ kind := .lin, sigma := fun _ wn => if wn = 0 then 20 else 0 }, { kind := .sq, sigma := fun _ _ => 1 }]

theorem nvContribs_nonneg : ∀ c ∈ nvContribs, c.Nonneg := by
  intro c hc
  simp only [nvContribs, List.mem_cons, List.not_mem_nil, or_false] at hc
  rcases hc with rfl | rfl <;> intro l wn <;> simp only <;> [split <;> norm_num; norm_num]

example : 0 ≤ tauFull 2 (fun _ => 1) (fun _ => 1) 0 nvContribs 0 ∧ 0 ≤ tauCut 2 2 (fun _ => 1) (fun _ => 1) 0 nvContribs 0 :=
  tau_nonneg 2 2 _ _ 0 (fun _ _ => by norm_num) (fun _ _ => by norm_num) nvContribs nvContribs_nonneg 0

example : tauFull 2 (fun _ => 1) (fun _ => 1) 0 nvContribs 0
    ≤ tauFull 2 (fun _ => 1) (fun _ => 1) 0 (nvContribs.map (Contrib.scale 3)) 0 :=
  tau_mono_sigma 2 _ _ 0 (fun _ _ => by norm_num) (fun _ _ => by norm_num) _ _
    (scale_le 3 (by norm_num) _ nvContribs_nonneg) 0

/-- **the licensed deviation**: the loop with the `tau[layer].min() > 10` exit never exceeds the full sum, and
    either equals it at every wavenumber or is already above 10 at every wavenumber of the row -/
theorem cutoff_licensed (n nwn : ℕ) (path dens : ℕ → ℝ) (l : ℕ) (hp : ∀ k < n - l, 0 ≤ path k)
    (hd : ∀ j < n, 0 ≤ dens j) (cs : List (Contrib ℝ)) (hcs : ∀ c ∈ cs, c.Nonneg) :
    (∀ wn, tauCut n nwn path dens l cs wn ≤ tauFull n path dens l cs wn) ∧
    ((∀ wn, tauCut n nwn path dens l cs wn = tauFull n path dens l cs wn) ∨
      (∀ wn < nwn, 10 < tauCut n nwn path dens l cs wn)) :=
  ⟨fun wn => tauCut_le_tauFull n nwn path dens l hp hd cs hcs wn, cutoff_dichotomy n nwn path dens l cs (fun _ => 0)⟩

example := cutoff_licensed 2 2 (fun _ => (1 : ℝ)) (fun _ => (1 : ℝ)) 0 (fun _ _ => by norm_num) (fun _ _ => by norm_num)
  nvContribs nvContribs_nonneg

/-! ### the whole model: `modelTrans` / `modelDepth` (= `TransmissionModel.path_integral`) -/

section model
variable (newMethod : Bool) (rp rs : ℝ) (n nwn : ℕ) (zb z dz dens : ℕ → ℝ)

variable {newMethod rp rs n nwn zb z dz dens}

/-- with or without the early exit, the model depth lies between the bare planet and the opaque atmosphere -/
theorem model_depth_bounds {cs : List (Contrib ℝ)} (W : WellFormed newMethod rp rs n zb z dz dens cs)
    (cut : Bool) (wn : ℕ) :
    rp ^ 2 / rs ^ 2 ≤ modelDepth cut newMethod rp rs n nwn zb z dz dens cs wn ∧
    modelDepth cut newMethod rp rs n nwn zb z dz dens cs wn
      ≤ (rp ^ 2 + ∑ l ∈ range n, 2 * (rp + z l) * dz l) / rs ^ 2 := by
  unfold modelDepth modelTrans
  constructor
  · apply depth_ge_bare rp rs W.rs_pos n z dz _ (fun l hl => W.shells.z_radius_nonneg l hl) W.shells.thick
    intro l hl
    have := tau_nonneg n nwn (chord newMethod rp zb z dz l) dens l (W.path_nonneg l hl) W.dens_nonneg cs
      W.sigma_nonneg wn
    cases cut <;> simp [this.1, this.2]
  · exact depth_le_opaque rp rs W.rs_pos n z dz _ (fun l hl => W.shells.z_radius_nonneg l hl) W.shells.thick

/-- nothing absorbs ⇒ every transmittance is 1 and the depth is exactly the bare-planet value -/
theorem depth_transparent (cs : List (Contrib ℝ)) (h0 : ∀ c ∈ cs, ∀ l wn, c.sigma l wn = 0) (cut : Bool) (wn : ℕ) :
    (∀ l, modelTrans cut newMethod rp n nwn zb z dz dens cs l wn = 1) ∧
    modelDepth cut newMethod rp rs n nwn zb z dz dens cs wn = rp ^ 2 / rs ^ 2 := by
  have ht : ∀ l, modelTrans cut newMethod rp n nwn zb z dz dens cs l wn = 1 := by
    intro l
    simp only [modelTrans, tauCut, tauFull]
    rw [tauCutFrom_zero _ _ _ _ _ cs h0, tauFullFrom_zero _ _ _ _ cs h0]
    cases cut <;> simp [Transmission.trans]
  refine ⟨ht, ?_⟩
  unfold modelDepth
  simp only [ht]
  rw [depth_eq]; simp

/-- scaling every opacity by `s ≥ 1` never decreases the documented (uncut) depth -/
theorem depth_mono_scale {cs : List (Contrib ℝ)} (W : WellFormed newMethod rp rs n zb z dz dens cs)
    (s : ℝ) (hs : 1 ≤ s) (wn : ℕ) :
    modelDepth false newMethod rp rs n nwn zb z dz dens cs wn
      ≤ modelDepth false newMethod rp rs n nwn zb z dz dens (cs.map (Contrib.scale s)) wn :=
  modelDepth_mono_sigma W (scale_le s hs cs W.sigma_nonneg) wn

/-- what "to within that cut-off" means: the returned depth (early exit) is never above the documented integral
    and falls short of it by at most `exp(-10)` times the opaque annulus -/
theorem depth_cut_within {cs : List (Contrib ℝ)} (W : WellFormed newMethod rp rs n zb z dz dens cs)
    (wn : ℕ) (hwn : wn < nwn) :
    0 ≤ modelDepth false newMethod rp rs n nwn zb z dz dens cs wn
          - modelDepth true newMethod rp rs n nwn zb z dz dens cs wn ∧
    modelDepth false newMethod rp rs n nwn zb z dz dens cs wn
          - modelDepth true newMethod rp rs n nwn zb z dz dens cs wn
      ≤ Transmission.trans 10 * (∑ l ∈ range n, 2 * (rp + z l) * dz l) / rs ^ 2 := by
  unfold modelDepth modelTrans
  simp only [Bool.false_eq_true, if_false, if_true]
  apply depth_band rp rs n z dz _ _ (trans 10) (fun l hl => W.shells.z_radius_nonneg l hl) W.shells.thick
  · intro l hl
    exact (trans_cut_band n nwn _ dens l (W.path_nonneg l hl) W.dens_nonneg cs W.sigma_nonneg wn hwn).1
  · intro l hl
    exact (trans_cut_band n nwn _ dens l (W.path_nonneg l hl) W.dens_nonneg cs W.sigma_nonneg wn hwn).2

/-- scaling monotonicity of the *returned* depth, to within the cut-off -/
theorem depth_cut_mono_scale_within {cs : List (Contrib ℝ)} (W : WellFormed newMethod rp rs n zb z dz dens cs)
    (s : ℝ) (hs : 1 ≤ s) (wn : ℕ) (hwn : wn < nwn) :
    modelDepth true newMethod rp rs n nwn zb z dz dens cs wn
      ≤ modelDepth true newMethod rp rs n nwn zb z dz dens (cs.map (Contrib.scale s)) wn
        + Transmission.trans 10 * (∑ l ∈ range n, 2 * (rp + z l) * dz l) / rs ^ 2 := by
  have W' : WellFormed newMethod rp rs n zb z dz dens (cs.map (Contrib.scale s)) :=
    { W with sigma_nonneg := scale_nonneg s (by linarith) cs W.sigma_nonneg }
  -- returned ≤ documented ≤ documented of the scaled list ≤ returned of the scaled list + band
  exact (sub_nonneg.1 (depth_cut_within (nwn := nwn) W wn hwn).1).trans
    ((depth_mono_scale (nwn := nwn) W s hs wn).trans (sub_le_iff_le_add'.1 (depth_cut_within (nwn := nwn) W' wn hwn).2))

end model

/-! ### chord lengths through the spherical shells (what `compute_path_length_3d` must return) -/

/-- old method: no negative radicand under the square root of `oldHalf` -/
theorem chordOld_radicand_nonneg (rp : ℝ) (n : ℕ) (zb z dz : ℕ → ℝ) (S : Shells rp n zb z dz) (l j : ℕ)
    (hlj : l ≤ j) (hj : j < n) : 0 ≤ Transmission.sq (oldMid rp z dz j) - oldP rp z dz l := by
  have hl : l < n := Nat.lt_of_le_of_lt hlj hj
  have h : rp + dz 0 / 2 + z l ≤ oldMid rp z dz j :=
    (le_add_of_nonneg_right (div_nonneg (S.thick l hl) zero_le_two)).trans (oldMid_mono S l j hlj hj)
  exact sub_nonneg.2 (mul_self_le_mul_self (oldBase_nonneg S l hl) h)

/-- old method: every chord segment is non-negative -/
theorem chordOld_nonneg (rp : ℝ) (n : ℕ) (zb z dz : ℕ → ℝ) (S : Shells rp n zb z dz) (l k : ℕ) (hl : l < n)
    (hk : k < n - l) : 0 ≤ chordOld rp z dz l k := by
  unfold chordOld
  refine mul_nonneg ?_ zero_le_two
  split
  · exact Real.sqrt_nonneg _
  · exact sub_nonneg.2 (oldHalf_mono rp z dz l (l + k - 1) (l + k) (oldMid_nonneg S _ (by omega))
      (oldMid_mono S _ _ (Nat.sub_le _ _) (by omega)))

/-- old method: the segments of tangent layer `l` sum to twice the half-chord out to the middle of the top layer -/
theorem chordOld_sum (rp : ℝ) (n : ℕ) (z dz : ℕ → ℝ) (l : ℕ) (hl : l < n) :
    ∑ k ∈ range (n - l), chordOld rp z dz l k = 2 * oldHalf rp z dz l (n - 1) := by
  have e : n - l = (n - l - 1) + 1 := by omega
  rw [e, sum_chordOld]
  congr 2; omega

/-- new method: no negative radicand under the square root of `newD` -/
theorem chordNew_radicand_nonneg (rp : ℝ) (n : ℕ) (zb z dz : ℕ → ℝ) (S : Shells rp n zb z dz) (l i : ℕ)
    (hl : l < n) (hli : l + 1 ≤ i) (hi : i ≤ n) : 0 ≤ Transmission.sq (rp + zb i) - Transmission.sq (newB rp z dz l) := by
  have h1 := S.zb_mono (l + 1) i hli hi
  have h4 := S.thick l hl
  have h : newB rp z dz l ≤ rp + zb i := by
    unfold newB
    rw [S.hz l hl]
    linarith only [h1, S.step l hl, h4]
  have h0 : 0 ≤ newB rp z dz l := by
    unfold newB
    rw [S.hz l hl]
    linarith only [S.radius_nonneg l hl.le, h4]
  exact sub_nonneg.2 (mul_self_le_mul_self h0 h)

/-- new method: every chord segment is non-negative -/
theorem chordNew_nonneg (rp : ℝ) (n : ℕ) (zb z dz : ℕ → ℝ) (S : Shells rp n zb z dz) (l k : ℕ) (hl : l < n)
    (hk : k < n - l) : 0 ≤ chordNew rp zb z dz l k := by
  unfold chordNew
  split
  · exact mul_nonneg zero_le_two (Real.sqrt_nonneg _)
  · exact sub_nonneg.2 (newD_mono rp zb z dz l (l + k) (l + 1 + k) (S.radius_nonneg _ (by omega))
      (S.zb_mono _ _ (by omega) (by omega)))

/-- new method: the segments of tangent layer `l` sum to the full chord `2·sqrt((Rp + z_top)^2 - b_l^2)` -/
theorem chordNew_sum (rp : ℝ) (n : ℕ) (zb z dz : ℕ → ℝ) (l : ℕ) (hl : l < n) :
    ∑ k ∈ range (n - l), chordNew rp zb z dz l k = 2 * sqrt (Transmission.sq (rp + zb n) - Transmission.sq (newB rp z dz l)) := by
  have e : n - l = (n - l - 1) + 1 := by omega
  rw [e, sum_chordNew]
  have : l + 1 + (n - l - 1) = n := by omega
  rw [this]; rfl

example : 0 ≤ chordNew (1 : ℝ) (fun l => (l : ℝ)) (fun l => (l : ℝ)) (fun _ => 1) 1 1 :=
  chordNew_nonneg 1 3 _ _ _ (shells_unit 3) 1 1 (by norm_num) (by norm_num)

example : 0 ≤ chordOld (1 : ℝ) (fun l => (l : ℝ)) (fun _ => 1) 1 1 :=
  chordOld_nonneg 1 3 (fun l => (l : ℝ)) _ _ (shells_unit 3) 1 1 (by norm_num) (by norm_num)

/-- both chord methods satisfy the `path_nonneg` field of `WellFormed` on any `Shells` grid: `WellFormed` follows from the
    grid, a positive stellar radius and non-negative densities and opacities -/
theorem wellFormed_of_shells (newMethod : Bool) (rp rs : ℝ) (hrs : 0 < rs) (n : ℕ) (zb z dz dens : ℕ → ℝ)
    (S : Shells rp n zb z dz) (hd : ∀ j < n, 0 ≤ dens j) (cs : List (Contrib ℝ)) (hcs : ∀ c ∈ cs, c.Nonneg) :
    WellFormed newMethod rp rs n zb z dz dens cs := by
  refine ⟨hrs, S, ?_, hd, hcs⟩
  intro l hl k hk
  unfold chord
  cases newMethod
  · simpa using chordOld_nonneg rp n zb z dz S l k hl hk
  · simpa using chordNew_nonneg rp n zb z dz S l k hl hk

example : WellFormed true (1 : ℝ) 2 2 (fun l => (l : ℝ)) (fun l => (l : ℝ)) (fun _ => 1) (fun _ => 1) nvContribs :=
  wellFormed_of_shells true 1 2 (by norm_num) 2 _ _ _ _
    (shells_unit 2) (fun _ _ => by norm_num) nvContribs nvContribs_nonneg

/-! ### the 3-D line/sphere geometry of `new_path_method=True` (`Taurex.Geometry`, mirroring taurex/util/geometry.py) -/

open Taurex.Geometry in
/-- the ray origin `(-(R + 2·max(zb)), b, 0)` the code uses lies outside (or on) every boundary sphere.
    (An origin `-(R + 2·alt)` violates exactly this for tall atmospheres; what the code then returns: `origin_inside_clips`.) -/
theorem origin_outside (rp : ℝ) (n : ℕ) (zb z dz : ℕ → ℝ) (G : GeomOK rp n zb z dz) (alt : ℝ) (j : ℕ) (hj : j ≤ n) :
    (rp + zb j) * (rp + zb j) ≤ normSq (parallelVector rp alt (arrMax n zb)).1 := by
  have h := G.origin_outside (rp + alt) j hj
  rw [show (parallelVector rp alt (arrMax n zb)).1 = ⟨-(rp + arrMax n zb * 2), rp + alt, 0⟩ from rfl, normSq_axis]
  linarith only [h]

open Taurex.Geometry in
/-- per sphere: for a ray `o = (-X, b, 0)`, `u = (1, 0, 0)` whose origin is outside the sphere of radius `R+h`
    (`(R+h)² - b² ≤ X²`), that hits it (`0 ≤ (R+h)² - b²`) and does not cross the planet (`R² ≤ b²`), the stored
    intersection distance is the full chord `2·sqrt((R+h)² - b²)` -/
theorem sphere_chord (R h X b : ℝ) (hX : 0 ≤ X) (hhit : 0 ≤ (R + h) * (R + h) - b * b)
    (hout : (R + h) * (R + h) - b * b ≤ X * X) (hc : R * R - b * b ≤ 0) :
    hitDistance (intersect R h ⟨1, 0, 0⟩ ⟨-X, b, 0⟩) = 2 * Real.sqrt ((R + h) * (R + h) - b * b) :=
  hitDistance_eq R h hX hout hc

open Taurex.Geometry in
/-- … and what the code returns instead when the origin is strictly inside the sphere (as with a ray origin
    `-(R + 2·alt)` in place of `-(R + 2·max_alt)` in `parallel_vector`): the near parameter is clamped to 0 and the
    distance is origin-to-far-side, `X + sqrt(…)`, not the chord -/
theorem origin_inside_clips (R h X b : ℝ) (hX : 0 ≤ X) (hin : X * X < (R + h) * (R + h) - b * b)
    (hc : R * R - b * b ≤ 0) :
    hitDistance (intersect R h ⟨1, 0, 0⟩ ⟨-X, b, 0⟩) = X + Real.sqrt ((R + h) * (R + h) - b * b) :=
  hitDistance_clipped R h hX hin hc

open Taurex.Geometry in
/-- **the 3-D geometry equals the closed form**: on a well-formed shell grid (`Shells`, positive planet radius,
    surface at non-negative altitude, layers of positive thickness) the geometric path length of tangent layer `l`,
    segment `k`, is `chordNew rp zb z dz l k`, and the row has exactly `n - l` segments -/
theorem path3d_eq_chordNew (rp : ℝ) (n : ℕ) (zb z dz : ℕ → ℝ) (G : GeomOK rp n zb z dz) (l k : ℕ) (hl : l < n)
    (hk : k < n - l) : path3d rp n zb z dz l k = chordNew rp zb z dz l k := by
  unfold path3d
  rw [layerDists_eq G l hl]
  unfold segs chordNew
  by_cases h0 : k = 0
  · subst h0
    simp only [if_true]
    rw [getD_map_range' _ _ _ _ _ (by omega)]
  · simp only [h0, if_false]
    rw [getD_map_range' _ _ _ _ _ hk, getD_map_range' _ _ _ _ _ (by omega)]
    have e : l + 1 + (k - 1) = l + k := by omega
    rw [e]

open Taurex.Geometry in
theorem pathRow3d_length (rp : ℝ) (n : ℕ) (zb z dz : ℕ → ℝ) (G : GeomOK rp n zb z dz) (l : ℕ) (hl : l < n) :
    (pathRow3d rp n zb z dz l).length = n - l := by
  simp only [pathRow3d, List.length_map, List.length_range]
  rw [layerDists_eq G l hl]; simp

open Taurex.Geometry in
example : GeomOK (1 : ℝ) 3 (fun l => (l : ℝ)) (fun l => (l : ℝ)) (fun _ => 1) :=
  geomOK_unit 3

open Taurex.Geometry in
example : path3d (1 : ℝ) 3 (fun l => (l : ℝ)) (fun l => (l : ℝ)) (fun _ => 1) 1 1
    = chordNew (1 : ℝ) (fun l => (l : ℝ)) (fun l => (l : ℝ)) (fun _ => 1) 1 1 :=
  path3d_eq_chordNew 1 3 _ _ _ (geomOK_unit 3) 1 1 (by norm_num) (by norm_num)

/-- the clipped case is not vacuous: origin at distance 1, sphere of radius 3, tangent radius 1 -/
example := origin_inside_clips 1 2 1 1 (by norm_num) (by norm_num) (by norm_num)

/-! ### the cross-section entering the optical depth at a wavenumber is the molecule's cross-section at that wavenumber

  `AbsorptionGrid.absSigma` is the `sigma_xsec` of `AbsorptionContribution` on the grid of the run when every active molecule
  is tabulated on its own wavenumber grid (`Opacity.opacity(T, P, wngrid)`: own points are selected, any other request is
  interpolated between the bracketing native points).  The harness compares it with the real contribution for molecules on
  equal, sub-sampled, shifted and equally long but different grids. -/

open Taurex.AbsorptionGrid in
/-- molecules tabulated on the grid of the run enter the optical depth with exactly their tabulated cross-sections,
    weighted by their mixing ratios: `sigma_xsec[l, w] = Σ_gas xsec_gas(T_l, P_l)[w] · mix_gas[l]` -/
theorem absSigma_own_grid (gases : List (Gas ℝ)) (req : List ℝ) (l w : ℕ)
    (h : ∀ g ∈ gases, g.wn = req ∧ (g.vals l).length = req.length) :
    absSigma gases req l w = (gases.map fun g => (g.vals l).getD w 0 * g.mix l).sum := by
  rw [C01Abs.absSigma_eq]
  congr 1
  refine List.map_congr_left fun g hg => ?_
  obtain ⟨h1, h2⟩ := h g hg
  unfold gasOnGrid
  rw [← h1, C01Abs.opacityOnGrid_self g.wn (g.vals l) (by rw [h2, h1])]

open Taurex.AbsorptionGrid in
example : absSigma [⟨[1, 2, 3], fun _ => [10, 20, 30], fun _ => 2⟩, ⟨[1, 2, 3], fun _ => [1, 2, 3], fun _ => 5⟩]
    ([1, 2, 3] : List ℝ) 0 1 = 20 * 2 + 2 * 5 := by
  rw [absSigma_own_grid _ _ _ _ (by intro g hg; simp at hg; rcases hg with rfl | rfl <;> simp)]
  simp

open Taurex.AbsorptionGrid in
/-- whatever grids the molecules are tabulated on (non-decreasing, overlapping the request), non-negative tables and
    mixing ratios give a non-negative absorption cross-section on the grid of the run: the hypothesis `Contrib.Nonneg`
    of the statements above (`tau_nonneg`, `cutoff_licensed`, and through `WellFormed` `model_depth_bounds`,
    `depth_mono_scale`, …) holds for the contribution built from the tables -/
theorem absSigma_nonneg (gases : List (Gas ℝ)) (req : List ℝ) (hi : ℝ)
    (h : ∀ g ∈ gases, ∀ l, g.wn.length = (g.vals l).length ∧ g.wn.Pairwise (· ≤ ·) ∧
      (∀ v ∈ g.vals l, 0 ≤ v ∧ v ≤ hi) ∧ 0 ≤ g.mix l ∧
      0 < ((g.wn.drop (Interp.searchRight g.wn (Grid.minL req) - 1)).take
        (min (Interp.searchLeft g.wn (Grid.maxL req)) (g.wn.length - 1) + 1 -
          (Interp.searchRight g.wn (Grid.minL req) - 1))).length) :
    Contrib.Nonneg { kind := Kind.lin, sigma := absSigma gases req } := by
  intro l w
  show 0 ≤ absSigma gases req l w
  rw [C01Abs.absSigma_eq]
  refine Convex.sum_map_nonneg gases _ fun g hg => ?_
  obtain ⟨a1, a2, a3, a4, a5⟩ := h g hg l
  exact mul_nonneg (C01Abs.gasOnGrid_nonneg g req l w hi a1 a2 a3 a5) a4

open Taurex.AbsorptionGrid in
/-- on its own native points a molecule's values are selected, on any other request each value lies between the smallest
    and the largest tabulated value it is interpolated from - also when the request has as many points as the table -/
theorem gasOnGrid_between (g : Gas ℝ) (req : List ℝ) (l w : ℕ) (lo hi : ℝ) (hw : w < (Grid.opacityOnGrid g.wn (g.vals l) req).length)
    (hlen : g.wn.length = (g.vals l).length) (hs : g.wn.Pairwise (· ≤ ·))
    (hv : ∀ v ∈ g.vals l, lo ≤ v ∧ v ≤ hi)
    (hne : 0 < ((g.wn.drop (Interp.searchRight g.wn (Grid.minL req) - 1)).take
      (min (Interp.searchLeft g.wn (Grid.maxL req)) (g.wn.length - 1) + 1 -
        (Interp.searchRight g.wn (Grid.minL req) - 1))).length) :
    lo ≤ gasOnGrid g req l w ∧ gasOnGrid g req l w ≤ hi := by
  unfold gasOnGrid
  rw [List.getD_eq_getElem _ _ hw]
  exact C13L.opacityOnGrid_between g.wn (g.vals l) req lo hi hlen hs hv hne _ (List.getElem_mem _)

-- non-vacuity: a 3-point table requested on 3 OTHER points between the same limits (the selection is not empty)
open Taurex.AbsorptionGrid in
theorem nv_selection : 0 < ((([1, 2, 4] : List ℝ).drop (Interp.searchRight ([1, 2, 4] : List ℝ) (Grid.minL ([1, 3, 4] : List ℝ)) - 1)).take
    (min (Interp.searchLeft ([1, 2, 4] : List ℝ) (Grid.maxL ([1, 3, 4] : List ℝ))) (([1, 2, 4] : List ℝ).length - 1) + 1 -
      (Interp.searchRight ([1, 2, 4] : List ℝ) (Grid.minL ([1, 3, 4] : List ℝ)) - 1))).length := by
  rw [C01Abs.nv_request_min, C01Abs.nv_request_max]
  norm_num [Interp.searchRight, Interp.searchLeft, List.countP_cons]

open Taurex.AbsorptionGrid in
example : Contrib.Nonneg { kind := Kind.lin, sigma := absSigma [⟨[1, 2, 4], fun _ => [5, 0, 7], fun _ => 3⟩] ([1, 3, 4] : List ℝ) } :=
  absSigma_nonneg _ _ 7 (by
    intro g hg l
    simp only [List.mem_singleton] at hg
    subst hg
    refine ⟨rfl, C01Abs.nv_table_sorted, ?_, by norm_num, nv_selection⟩
    intro v hv
    simp only [List.mem_cons, List.not_mem_nil, or_false] at hv
    rcases hv with rfl | rfl | rfl <;> norm_num)

open Taurex.AbsorptionGrid in
example : (5 : ℝ) ≤ gasOnGrid ⟨[1, 2, 4], fun _ => [5, 6, 7], fun _ => 3⟩ ([1, 3, 4] : List ℝ) 0 1 := by
  refine (gasOnGrid_between ⟨[1, 2, 4], fun _ => [5, 6, 7], fun _ => 3⟩ [1, 3, 4] 0 1 5 7 ?_ rfl C01Abs.nv_table_sorted ?_ nv_selection).1
  · simp only [Grid.opacityOnGrid, List.length_map, apply_ite List.length]
    split
    · norm_num [Grid.inRange, C01Abs.nv_request_min, C01Abs.nv_request_max, List.filter_cons]
    · simp
  · intro v hv
    simp only [List.mem_cons, List.not_mem_nil, or_false] at hv
    rcases hv with rfl | rfl | rfl <;> norm_num

/-! ### Rayleigh scattering and CIA: the cross-section of a layer is weighted with the abundances IN THAT LAYER -/

open Taurex.AbsorptionGrid in
/-- the Rayleigh cross-section of layer `l` at wavenumber `w` is the sum over the molecules of (law of the molecule at `w`) x
    (abundance of the molecule in layer `l`); the CIA cross-section the sum over the pairs of (pair cross-section at the
    layer's temperature) x (product of both partners' abundances in layer `l`) -/
theorem speciesSigma_eq_sum (gases : List ((ℕ → ℝ) × (ℕ → ℝ))) (pairs : List ((ℕ → ℕ → ℝ) × (ℕ → ℝ) × (ℕ → ℝ)))
    (l w : ℕ) :
    scaledSigma gases l w = (gases.map fun g => g.1 w * g.2 l).sum ∧
    ciaSigma pairs l w = (pairs.map fun p => p.1 l w * (p.2.1 l * p.2.2 l)).sum := by
  unfold scaledSigma ciaSigma
  rw [Sigma.sumComps_map, Sigma.sumComps_map]
  simp only [Sigma.compScaled, Sigma.compCIA, zero_add, and_self]

open Taurex.AbsorptionGrid in
/-- … so it depends on the abundances of layer `l` ONLY: two abundance tables that agree in layer `l` give the same
    cross-section there, whatever they are elsewhere — a molecule that vanishes in other layers (confined below a cold trap,
    zero aloft in a chemistry file) scatters in the layers where it is present exactly as if it were present everywhere -/
theorem scaledSigma_layer_local (gases : List ((ℕ → ℝ) × (ℕ → ℝ) × (ℕ → ℝ))) (l w : ℕ)
    (h : ∀ g ∈ gases, g.2.1 l = g.2.2 l) :
    scaledSigma (gases.map fun g => (g.1, g.2.1)) l w = scaledSigma (gases.map fun g => (g.1, g.2.2)) l w := by
  rw [(speciesSigma_eq_sum _ [] l w).1, (speciesSigma_eq_sum _ [] l w).1, List.map_map, List.map_map]
  congr 1
  apply List.map_congr_left
  intro g hg
  simp only [Function.comp_apply, h g hg]

-- non-vacuity: N2 (law 5 at this wavenumber) with abundance 3/10 in layers 0, 1 and none above scatters in layer 1 exactly
-- as N2 at 3/10 everywhere does; H2 (law 2) fills the rest
open Taurex.AbsorptionGrid in
example : scaledSigma [(fun _ => (5 : ℝ), fun l => if l < 2 then 3 / 10 else 0), (fun _ => 2, fun _ => 7 / 10)] 1 0
    = 5 * (3 / 10) + 2 * (7 / 10) := by
  have := scaledSigma_layer_local
    [(fun _ => (5 : ℝ), fun l => if l < 2 then 3 / 10 else 0, fun _ => 3 / 10), (fun _ => 2, fun _ => 7 / 10, fun _ => 7 / 10)]
    1 0 (by intro g hg; simp at hg; rcases hg with rfl | rfl <;> simp)
  simp only [List.map_cons, List.map_nil] at this
  rw [this, (speciesSigma_eq_sum _ [] 1 0).1]
  simp

open Taurex.AbsorptionGrid in
/-- non-negative laws / pair cross-sections and abundances give contributions that satisfy `Contrib.Nonneg`, the hypothesis
    of `tau_nonneg`, `cutoff_licensed` and, through `WellFormed`, of `model_depth_bounds`, `depth_mono_scale` -/
theorem speciesSigma_nonneg (gases : List ((ℕ → ℝ) × (ℕ → ℝ))) (pairs : List ((ℕ → ℕ → ℝ) × (ℕ → ℝ) × (ℕ → ℝ)))
    (hg : ∀ g ∈ gases, (∀ w, 0 ≤ g.1 w) ∧ ∀ l, 0 ≤ g.2 l)
    (hp : ∀ p ∈ pairs, (∀ l w, 0 ≤ p.1 l w) ∧ (∀ l, 0 ≤ p.2.1 l) ∧ ∀ l, 0 ≤ p.2.2 l) :
    Contrib.Nonneg { kind := Kind.lin, sigma := scaledSigma gases } ∧
    Contrib.Nonneg { kind := Kind.sq, sigma := ciaSigma pairs } := by
  constructor
  · intro l w
    show 0 ≤ scaledSigma gases l w
    rw [(speciesSigma_eq_sum gases [] l w).1]
    exact Convex.sum_map_nonneg gases _ fun g hgm => mul_nonneg ((hg g hgm).1 w) ((hg g hgm).2 l)
  · intro l w
    show 0 ≤ ciaSigma pairs l w
    rw [(speciesSigma_eq_sum [] pairs l w).2]
    refine Convex.sum_map_nonneg pairs _ fun p hpm => ?_
    obtain ⟨a, b, c⟩ := hp p hpm
    exact mul_nonneg (a l w) (mul_nonneg (b l) (c l))

open Taurex.AbsorptionGrid in
example : Contrib.Nonneg { kind := Kind.lin, sigma := scaledSigma [(fun _ => (5 : ℝ), fun l => if l < 2 then 3 / 10 else 0)] } :=
  (speciesSigma_nonneg _ [] (by
    intro g hg
    simp only [List.mem_singleton] at hg
    subst hg
    refine ⟨fun _ => by norm_num, fun l => ?_⟩
    simp only
    split <;> norm_num) (by simp)).1

end Taurex.C01
