/-
  C05 — spectral binning is an overlap-weighted mean of the native spectrum.

  All theorems are about the definitions of `TaurexModel/Binning.lean` that `driver_c05` executes on `Float`,
  here at the carrier `ℝ`.  The non-vacuity examples use `nvRows` (`Proofs/C05Cast.lean`): five
  contiguous native bins `[0.5,1.5] … [4.5,5.5]` with values 10 … 50; targets `[2,4]` (inside), `[4.5,7.5]`
  (straddling the upper end), `[6,8]` (outside).  Guard on the native grid ("ordered bins"): after sorting by centre
  the lower edges and the upper edges `centre ∓ width/2` are each non-decreasing, widths are non-negative; target
  bins have positive width.  The guard `0 < Σ overlap` is the property's "target bin that overlaps the native
  grid"; it also keeps the code's `weight/sum_weight` away from Mathlib's `x/0 = 0`.
-/
import Proofs.C05Cast
import Proofs.C17Obs

namespace Taurex.C05
open Taurex.Binning List

/-- **window_is_overlap** (refinement).  On ordered native bins the two `searchsorted` calls, the clamps and the
    skip test of `FluxBinner.bindown` select exactly the native bins that can overlap the target `[a, b]`:
    a skipped target overlaps nothing; otherwise every bin before `start` and after `stop` has zero overlap, and
    every bin inside the slice `[start : stop+1]` gets the weight `overlap / (b - a)`. -/
theorem window_is_overlap (rows : List (Row ℝ)) (a b : ℝ) (hne : rows ≠ []) (hord : OrderedBins rows)
    (hw : ∀ r ∈ rows, r.lo ≤ r.hi) (hab : a < b) :
    (window rows a b = none → ∀ r ∈ rows, overlap a b r = 0) ∧
    (∀ s t, window rows a b = some (s, t) →
      (∀ r ∈ rows.take s, overlap a b r = 0) ∧ (∀ r ∈ rows.drop (t + 1), overlap a b r = 0) ∧
      (∀ r ∈ slice rows s t, weight a b r = overlap a b r / (b - a))) := by
  refine ⟨fun h => window_none rows a b hord h, fun s t h => ?_⟩
  obtain ⟨W1, W2, _⟩ := window_some rows a b hne hord s t h
  exact ⟨W1, W2, window_weights rows a b hne hord hw hab s t h⟩

example : window nvRows 2 4 = some (1, 3) := by
  rw [nvRows_eq, ← Rat.cast_ofNat (n := 2), ← Rat.cast_ofNat (n := 4), window_cast]
  decide +kernel

/-- **flux_is_overlap_mean**: for every target bin that overlaps the native grid the code returns
    `Σ overlap·s / Σ overlap` over *all* native bins. -/
theorem flux_is_overlap_mean (val : Row ℝ → ℝ) (rows : List (Row ℝ)) (a b : ℝ) (hne : rows ≠ [])
    (hord : OrderedBins rows) (hw : ∀ r ∈ rows, r.lo ≤ r.hi) (hab : a < b)
    (hpos : 0 < sumL (rows.map (overlap a b))) :
    fluxBinVal val rows a b = overlapMeanSpec val rows a b :=
  flux_eq_spec val rows a b hord hw hpos

example : fluxBinVal Row.s nvRows 2 4 = overlapMeanSpec Row.s nvRows 2 4 :=
  flux_is_overlap_mean Row.s nvRows 2 4 nvRows_ne nvRows_ordered nvRows_widths (by norm_num) nv_inside_pos

/-- the straddling target `[4.5, 7.5]` sees only the last native bin: its value is 50 -/
example : overlapMeanSpec Row.s nvRows 4.5 7.5 = 50 := by
  simp only [nvRows, overlapMeanSpec, List.map_cons, List.map_nil, sumL, List.foldr_cons, List.foldr_nil, overlap_eq,
    Row.lo, Row.hi]
  norm_num

/-- **const_preserved**: a constant spectrum stays constant. -/
theorem const_preserved (val : Row ℝ → ℝ) (rows : List (Row ℝ)) (a b k : ℝ) (hne : rows ≠ [])
    (hord : OrderedBins rows) (hw : ∀ r ∈ rows, r.lo ≤ r.hi) (hab : a < b)
    (hpos : 0 < sumL (rows.map (overlap a b))) (hk : ∀ r ∈ rows, val r = k) :
    fluxBinVal val rows a b = k := by
  rw [flux_eq_spec val rows a b hord hw hpos]
  exact spec_const val rows a b k hk hpos

example : fluxBinVal (fun _ => 7) nvRows 2 4 = 7 :=
  const_preserved _ nvRows 2 4 7 nvRows_ne nvRows_ordered nvRows_widths (by norm_num) nv_inside_pos
    (fun _ _ => rfl)

/-- **between_min_max**: the binned value lies between the smallest and largest native values among the bins
    that overlap the target. -/
theorem between_min_max (val : Row ℝ → ℝ) (rows : List (Row ℝ)) (a b m M : ℝ) (hne : rows ≠ [])
    (hord : OrderedBins rows) (hw : ∀ r ∈ rows, r.lo ≤ r.hi) (hab : a < b)
    (hpos : 0 < sumL (rows.map (overlap a b)))
    (hb : ∀ r ∈ rows, 0 < overlap a b r → m ≤ val r ∧ val r ≤ M) :
    m ≤ fluxBinVal val rows a b ∧ fluxBinVal val rows a b ≤ M := by
  rw [flux_eq_spec val rows a b hord hw hpos]
  exact spec_between val rows a b m M hb hpos

/-- bins 2, 3, 4 overlap `[2, 4]`; the result is between 20 and 40 although the spectrum ranges over 10..50 -/
example : 20 ≤ fluxBinVal Row.s nvRows 2 4 ∧ fluxBinVal Row.s nvRows 2 4 ≤ 40 := by
  refine between_min_max Row.s nvRows 2 4 20 40 nvRows_ne nvRows_ordered nvRows_widths (by norm_num)
    nv_inside_pos ?_
  simp only [nvRows, List.mem_cons, List.not_mem_nil, or_false, forall_eq_or_imp, forall_eq, overlap_pos_iff, Row.lo,
    Row.hi]
  norm_num

/-- **linear**: binning is linear in the spectrum (for the code this needs no guard at all: the weights do not
    depend on the spectrum). -/
theorem linear (x y : Row ℝ → ℝ) (rows : List (Row ℝ)) (a b k₁ k₂ : ℝ) :
    fluxBinVal (fun r => k₁ * x r + k₂ * y r) rows a b =
      k₁ * fluxBinVal x rows a b + k₂ * fluxBinVal y rows a b :=
  flux_linear x y rows a b k₁ k₂

example : fluxBinVal (fun r => 2 * r.s + 3 * r.e) nvRows 2 4 =
    2 * fluxBinVal Row.s nvRows 2 4 + 3 * fluxBinVal Row.e nvRows 2 4 := linear _ _ _ _ _ _ _

/-- **error_quadrature**: binned uncertainties follow the same weights in quadrature,
    `sqrt(Σ overlap²·e²) / Σ overlap`. -/
theorem error_quadrature (err : Row ℝ → ℝ) (rows : List (Row ℝ)) (a b : ℝ) (hne : rows ≠ [])
    (hord : OrderedBins rows) (hw : ∀ r ∈ rows, r.lo ≤ r.hi) (hab : a < b)
    (hpos : 0 < sumL (rows.map (overlap a b))) :
    fluxBinErr err rows a b = quadErrSpec err rows a b :=
  fluxErr_eq_quad err rows a b hord hw hpos

example : fluxBinErr Row.e nvRows 2 4 = quadErrSpec Row.e nvRows 2 4 :=
  error_quadrature Row.e nvRows 2 4 nvRows_ne nvRows_ordered nvRows_widths (by norm_num) nv_inside_pos

/-- **outside_is_zero**: a target bin strictly outside every native bin (beyond either end of the native range, or
    inside a gap) comes out as 0 — and it does so without any division: the bin is skipped or its slice is
    empty.  Beyond either end it is always skipped, so the binned error is 0 as well. -/
theorem outside_is_zero (val : Row ℝ → ℝ) (rows : List (Row ℝ)) (a b : ℝ) (hne : rows ≠ [])
    (hord : OrderedBins rows) (hout : ∀ r ∈ rows, r.hi < a ∨ b < r.lo) :
    fluxBinVal val rows a b = 0 ∧ (∀ s t, window rows a b = some (s, t) → slice rows s t = []) :=
  flux_outside_zero val rows a b hne hord hout

theorem outside_range_is_skipped (rows : List (Row ℝ)) (a b : ℝ) (hne : rows ≠ [])
    (hout : (∀ r ∈ rows, r.hi < a) ∨ (∀ r ∈ rows, b < r.lo)) :
    window rows a b = none ∧ (∀ val, fluxBinVal val rows a b = 0) ∧ (∀ err, fluxBinErr err rows a b = 0) := by
  have h := window_none_of_outside rows a b hne hout
  refine ⟨h, fun val => ?_, fun err => ?_⟩
  · unfold fluxBinVal; rw [h]
  · unfold fluxBinErr fluxBinNoise; rw [h]

/-- the target `[6, 8]` lies above the native range `[0.5, 5.5]` -/
example : fluxBinVal Row.s nvRows 6 8 = 0 :=
  ((outside_range_is_skipped nvRows 6 8 nvRows_ne (Or.inl (by
    rw [nvRows_eq, List.forall_mem_map]
    simp only [Row.hi_toReal]
    exact fun r hr => by exact_mod_cast (by decide +kernel : ∀ r ∈ nvRowsQ, r.hi < 6) r hr))).2.1) Row.s

/-- **perm_native**: the result does not depend on the order of the native points (distinct wavenumbers); explicit
    widths, values and errors travel with their point. -/
theorem perm_native (explicit : Bool) (val : Row ℝ → ℝ) (rows₁ rows₂ : List (Row ℝ)) (targets : List (TBin ℝ))
    (hp : rows₁ ~ rows₂) (hd : (rows₁.map Row.c).Nodup) :
    fluxBindown explicit val rows₁ targets = fluxBindown explicit val rows₂ targets := by
  unfold fluxBindown
  rw [nativeBins_perm explicit hp hd]

example : fluxBindown true Row.s [(⟨2, 1, 20, 0⟩ : Row ℝ), ⟨1, 1, 10, 0⟩, ⟨3, 1, 30, 0⟩] [⟨2, 2⟩] =
    fluxBindown true Row.s [(⟨1, 1, 10, 0⟩ : Row ℝ), ⟨2, 1, 20, 0⟩, ⟨3, 1, 30, 0⟩] [⟨2, 2⟩] :=
  perm_native true Row.s _ _ _ (List.Perm.swap _ _ _) (by norm_num)

/-- **perm_target**: the binner built from a permuted target grid is the same binner (distinct wavenumbers), so the
    output — reported in ascending target order — is the same. -/
theorem perm_target (mode : WidthMode ℝ) (ts₁ ts₂ : List (TBin ℝ)) (hp : ts₁ ~ ts₂)
    (hd : (ts₁.map TBin.c).Nodup) (explicit : Bool) (val : Row ℝ → ℝ) (rows : List (Row ℝ)) :
    targetBins mode ts₁ = targetBins mode ts₂ ∧
    fluxBindown explicit val rows (targetBins mode ts₁) = fluxBindown explicit val rows (targetBins mode ts₂) := by
  rw [targetBins_perm mode hp hd]
  exact ⟨rfl, rfl⟩

example : targetBins WidthMode.array [(⟨5, 1⟩ : TBin ℝ), ⟨2, 3⟩] = targetBins WidthMode.array [⟨2, 3⟩, ⟨5, 1⟩] :=
  (perm_target WidthMode.array _ _ (List.Perm.swap _ _ _) (by norm_num) true Row.s []).1

/-- the sorted native bins and target bins are ascending in wavenumber and are a permutation of the input
    (nothing is dropped, no column is mixed) -/
theorem sorted_is_perm (rows : List (Row ℝ)) (ts : List (TBin ℝ)) :
    nativeBins true rows ~ rows ∧ (nativeBins true rows).Pairwise (fun r r' => r.c ≤ r'.c) ∧
    targetBins WidthMode.array ts ~ ts ∧ (targetBins WidthMode.array ts).Pairwise (fun t t' => t.c ≤ t'.c) :=
  ⟨sortBy_perm Row.c rows, sortBy_sorted Row.c rows, sortBy_perm TBin.c ts, sortBy_sorted TBin.c ts⟩

/-- the guard covers the property's "non-overlapping ordered bins": sorted bins of non-negative width that do not
    overlap (gaps allowed, touching allowed) are ordered bins.  (Mid-point widths of linear / logarithmic /
    constant-R grids overlap to second order: `midpoint_bins_ordered` and its corollaries below.) -/
theorem disjoint_bins_are_ordered (rows : List (Row ℝ)) (hw : ∀ r ∈ rows, r.lo ≤ r.hi)
    (hdis : rows.Pairwise (fun r r' => r.hi ≤ r'.lo)) : OrderedBins rows :=
  disjoint_bins_ordered rows hw hdis

example : OrderedBins nvRows := disjoint_bins_are_ordered nvRows nvRows_widths (by
  rw [nvRows_eq, List.pairwise_map]
  simp only [Row.lo_toReal, Row.hi_toReal, Rat.cast_le]
  decide +kernel)

/-- **midpoint_bins_ordered**: for rows given in strictly increasing wavenumber (at least two), the mid-point bins
    that `FluxBinner.bindown` forms when no widths are passed (`compute_bin_edges`: `w_0 = d_0`,
    `w_{n-1} = d_{n-2}`, `w_i = (d_{i-1}+d_i)/2`, symmetrised about the centre) are ordered bins as soon as the
    successive spacings `d_i = g[i+1]-g[i]` satisfy `d_{i+1} ≤ 4 d_i + d_{i-1}` and `d_{i-1} ≤ 4 d_i + d_{i+1}`
    (`MidpointSpacingOK`; at the ends the missing neighbour is the end spacing itself). -/
theorem midpoint_bins_ordered (rows : List (Row ℝ)) (hn : 2 ≤ rows.length)
    (hg : (rows.map Row.c).Pairwise (· < ·)) (hok : MidpointSpacingOK (rows.map Row.c)) :
    OrderedBins (nativeBins false rows) ∧ (∀ r ∈ nativeBins false rows, r.lo ≤ r.hi) :=
  ⟨midpoint_ordered rows hn hg hok, midpoint_lo_le_hi rows⟩

/-- (a) **linear grids** (constant spacing `d > 0`) are ordered — and the mid-point bins are exactly contiguous. -/
theorem linear_grid_ordered (rows : List (Row ℝ)) (hn : 2 ≤ rows.length) (d : ℝ) (hd : 0 < d)
    (hlin : ∀ i, i + 1 < (rows.map Row.c).length → spacing (rows.map Row.c) i = d) :
    OrderedBins (nativeBins false rows) ∧
    (∀ i, i + 1 < (rows.map Row.c).length →
      (rows.map Row.c).getD i 0 + (computeBinEdges (rows.map Row.c)).2.getD i 0 / 2 =
        (rows.map Row.c).getD (i + 1) 0 - (computeBinEdges (rows.map Row.c)).2.getD (i + 1) 0 / 2) :=
  ⟨midpoint_ordered rows hn (linear_increasing _ d hd hlin) (linear_spacing_ok _ d hd.le hlin),
   linear_contiguous _ (by rw [List.length_map]; exact hn) d hd hlin⟩

/-- (b) **geometric grids** `g[i+1] = r·g[i]`, `g[0] > 0`, `1 < r ≤ 4` (logarithmic spacing; constant resolving
    power `R`: `r = 1 + 1/R`) are ordered. -/
theorem geometric_grid_ordered (rows : List (Row ℝ)) (hn : 2 ≤ rows.length) (r : ℝ)
    (h0 : 0 < (rows.map Row.c).getD 0 0) (hr1 : 1 < r) (hr4 : r ≤ 4)
    (hgeo : ∀ i, i + 1 < (rows.map Row.c).length →
      (rows.map Row.c).getD (i + 1) 0 = r * (rows.map Row.c).getD i 0) :
    OrderedBins (nativeBins false rows) :=
  midpoint_ordered rows hn (geometric_increasing _ r h0 hr1 hgeo) (geometric_spacing_ok _ r h0 hr1 hr4 hgeo)

/-- four points 1, 2, 3, 4 (linear, d = 1) and 1, 2, 4, 8 (geometric, r = 2) -/
example : OrderedBins (nativeBins false [(⟨1, 0, 10, 0⟩ : Row ℝ), ⟨2, 0, 20, 0⟩, ⟨3, 0, 30, 0⟩, ⟨4, 0, 40, 0⟩]) :=
  (linear_grid_ordered _ (by decide) 1 (by norm_num) lin4_spacing).1

example : OrderedBins (nativeBins false [(⟨1, 0, 10, 0⟩ : Row ℝ), ⟨2, 0, 20, 0⟩, ⟨4, 0, 30, 0⟩, ⟨8, 0, 40, 0⟩]) :=
  geometric_grid_ordered _ (by simp) 2 zero_lt_one (by norm_num) (by norm_num) geo4_ratio

/-- **flux_is_overlap_mean_linear**: on a linear grid (constant spacing) the code equals the overlap-weighted mean for
    every target that overlaps the grid — no per-case guard. -/
theorem flux_is_overlap_mean_linear (val : Row ℝ → ℝ) (rows : List (Row ℝ)) (a b d : ℝ) (hn : 2 ≤ rows.length)
    (hd : 0 < d) (hlin : ∀ i, i + 1 < (rows.map Row.c).length → spacing (rows.map Row.c) i = d) (hab : a < b)
    (hpos : 0 < sumL ((nativeBins false rows).map (overlap a b))) :
    fluxBinVal val (nativeBins false rows) a b = overlapMeanSpec val (nativeBins false rows) a b :=
  flux_midpoint_eq_spec val rows a b hn (linear_increasing _ d hd hlin) (linear_spacing_ok _ d hd.le hlin) hpos

/-- **flux_is_overlap_mean_geometric**: the same on a geometric grid `g[i+1] = r·g[i]`, `1 < r ≤ 4`. -/
theorem flux_is_overlap_mean_geometric (val : Row ℝ → ℝ) (rows : List (Row ℝ)) (a b r : ℝ)
    (hn : 2 ≤ rows.length) (h0 : 0 < (rows.map Row.c).getD 0 0) (hr1 : 1 < r) (hr4 : r ≤ 4)
    (hgeo : ∀ i, i + 1 < (rows.map Row.c).length →
      (rows.map Row.c).getD (i + 1) 0 = r * (rows.map Row.c).getD i 0) (hab : a < b)
    (hpos : 0 < sumL ((nativeBins false rows).map (overlap a b))) :
    fluxBinVal val (nativeBins false rows) a b = overlapMeanSpec val (nativeBins false rows) a b :=
  flux_midpoint_eq_spec val rows a b hn (geometric_increasing _ r h0 hr1 hgeo)
    (geometric_spacing_ok _ r h0 hr1 hr4 hgeo) hpos

example : fluxBinVal Row.s (nativeBins false [(⟨1, 0, 10, 0⟩ : Row ℝ), ⟨2, 0, 20, 0⟩, ⟨3, 0, 30, 0⟩, ⟨4, 0, 40, 0⟩]) 2 4 =
    overlapMeanSpec Row.s (nativeBins false [(⟨1, 0, 10, 0⟩ : Row ℝ), ⟨2, 0, 20, 0⟩, ⟨3, 0, 30, 0⟩, ⟨4, 0, 40, 0⟩]) 2 4 :=
  flux_is_overlap_mean_linear Row.s _ 2 4 1 (by simp) (by norm_num) lin4_spacing (by norm_num) lin4_inside_pos

example : fluxBinVal Row.s (nativeBins false [(⟨1, 0, 10, 0⟩ : Row ℝ), ⟨2, 0, 20, 0⟩, ⟨4, 0, 30, 0⟩, ⟨8, 0, 40, 0⟩]) 2 4 =
    overlapMeanSpec Row.s (nativeBins false [(⟨1, 0, 10, 0⟩ : Row ℝ), ⟨2, 0, 20, 0⟩, ⟨4, 0, 30, 0⟩, ⟨8, 0, 40, 0⟩]) 2 4 :=
  flux_is_overlap_mean_geometric Row.s _ 2 4 2 (by simp) zero_lt_one (by norm_num) (by norm_num) geo4_ratio (by norm_num) geo4_inside_pos

/-- **perm_spec**: the overlap-weighted mean itself does not depend on the order of the native bins (no
    distinctness needed). -/
theorem perm_spec (val : Row ℝ → ℝ) (rows₁ rows₂ : List (Row ℝ)) (hp : rows₁ ~ rows₂) (a b : ℝ) :
    overlapMeanSpec val rows₁ a b = overlapMeanSpec val rows₂ a b :=
  spec_perm val hp a b

example : overlapMeanSpec Row.s [(⟨2, 1, 20, 0⟩ : Row ℝ), ⟨1, 1, 10, 0⟩] 0 3 =
    overlapMeanSpec Row.s [(⟨1, 1, 10, 0⟩ : Row ℝ), ⟨2, 1, 20, 0⟩] 0 3 :=
  perm_spec Row.s _ _ (List.Perm.swap _ _ _) 0 3

/-- **hist_perm_native**: the histogram binner does not depend on the order of the native points. -/
theorem hist_perm_native (val : Row ℝ → ℝ) (rows₁ rows₂ : List (Row ℝ)) (hp : rows₁ ~ rows₂) (nb : List ℝ) :
    histMean1 val rows₁ nb = histMean1 val rows₂ nb ∧ histMeanN val rows₁ nb = histMeanN val rows₂ nb :=
  hist_perm val hp nb

example : histMean1 Row.s [(⟨5, 0, 20, 0⟩ : Row ℝ), ⟨3, 0, 10, 0⟩] [4, 8] =
    histMean1 Row.s [(⟨3, 0, 10, 0⟩ : Row ℝ), ⟨5, 0, 20, 0⟩] [4, 8] :=
  (hist_perm_native Row.s _ _ (List.Perm.swap _ _ _) [4, 8]).1

/-- **hist_mean**: the histogram binner (`util.bindown`, both its 1-D `np.histogram` path and its N-D
    `np.digitize` path) returns, for every bin, the plain mean `Σ s / count` of the native points lying strictly
    between the two mid-point edges of the bin — provided no native point sits exactly on an edge (the two paths
    use different tie conventions there).  An empty bin is the code's 0/0; the harness reports it from the
    malformed stream. -/
theorem hist_mean (val : Row ℝ → ℝ) (rows : List (Row ℝ)) (nb : List ℝ)
    (hno : ∀ r ∈ rows, ∀ e ∈ histEdges nb, r.c ≠ e) :
    histMean1 val rows nb = (edgePairs (histEdges nb)).map (fun p =>
      ((rows.filter (fun r => decide (p.1 < r.c ∧ r.c < p.2.1))).map val).sum /
        ((rows.filter (fun r => decide (p.1 < r.c ∧ r.c < p.2.1))).length : ℝ)) ∧
    histMeanN val rows nb = histMean1 val rows nb := by
  have key : ∀ p ∈ edgePairs (histEdges nb),
      rows.filter (fun r => inHist p.1 p.2.1 p.2.2 r.c) = rows.filter (fun r => decide (p.1 < r.c ∧ r.c < p.2.1)) ∧
      rows.filter (fun r => inDigit p.1 p.2.1 r.c) = rows.filter (fun r => decide (p.1 < r.c ∧ r.c < p.2.1)) := by
    intro p hp
    have hm := mem_edgePairs (histEdges nb) p hp
    exact hist_filters_agree rows p.1 p.2.1 p.2.2 (fun r hr => ⟨hno r hr _ hm.1, hno r hr _ hm.2⟩)
  constructor
  · unfold histMean1
    apply List.map_congr_left
    intro p hp
    rw [(key p hp).1, meanOf_eq]
  · unfold histMean1 histMeanN
    apply List.map_congr_left
    intro p hp
    rw [(key p hp).1, (key p hp).2]

/-- target points 4, 8, 12 give the edges 2, 6, 10, 14; the native points 3, 5 / 7, 9 / 11 fall in the three bins
    and their plain means are 15, 35, 50 -/
example : histMean1 Row.s [(⟨3, 0, 10, 0⟩ : Row ℝ), ⟨5, 0, 20, 0⟩, ⟨7, 0, 30, 0⟩, ⟨9, 0, 40, 0⟩, ⟨11, 0, 50, 0⟩]
    [4, 8, 12] = [15, 35, 50] := by
  simp only [histMean1, nv_histEdges, edgePairs, List.map_cons, List.map_nil, meanOf, inHist, List.filter_cons, List.filter_nil]
  norm_num [sumL]

/-- **native_identity**: the native binner returns its input unchanged. -/
theorem native_identity {β : Type} (x : β) : nativeBindown x = x := rfl

example : nativeBindown ([1, 2, 3] : List ℝ) = [1, 2, 3] := native_identity _

/-! ### observation route: binners whose target grid comes from the rows of a file

  `BaseSpectrum.create_binner` (observation arrays / text files), `TaurexSpectrum` (instrument section of a TauREx output
  file) and `InstrumentFile` build the `FluxBinner` that the model is binned with.  "Binning onto an observation grid"
  is binning onto the bins the rows of that file declare: row `(wl, …, w)` declares the wavenumber bin
  `rowBin = (10000/wl, 10000·w/wl²)`.  `nvObs`: the rows (2, 20, 2, 1), (4, 40, 4, 2), (1, 10, 1, 1/2), not in
  descending-wavelength order, unequal widths. -/

open Taurex.Observation Taurex.ObsTargets

noncomputable def nvObs : List (ORow ℝ) := [⟨2, 20, 2, 1⟩, ⟨4, 40, 4, 2⟩, ⟨1, 10, 1, 1 / 2⟩]

/-- **obs_targets_rowwise**: whatever the order of the rows in the file, the binner created from a 4-column observation
    and the binner of an instrument file hold exactly the bins the rows declare — every centre with the width of ITS OWN
    row (a permutation of `rows.map rowBin`, nothing dropped, no column mixed) — in ascending wavenumber. -/
theorem obs_targets_rowwise (rows : List (ORow ℝ)) :
    routeTargets Route.array4 rows ~ rows.map rowBin ∧ routeTargets Route.instrument rows ~ rows.map rowBin ∧
    (routeTargets Route.array4 rows).Pairwise (fun t t' => t.c ≤ t'.c) ∧
    (routeTargets Route.instrument rows).Pairwise (fun t t' => t.c ≤ t'.c) := by
  rw [array4_targets, instrument_targets]
  exact ⟨sorted_rowBins_perm rows, sorted_rowBins_perm rows, sortBy_sorted TBin.c _, sortBy_sorted TBin.c _⟩

example : routeTargets Route.array4 nvObs ~ [⟨5000, 2500⟩, ⟨2500, 1250⟩, ⟨10000, 5000⟩] := by
  have h := (obs_targets_rowwise nvObs).1
  have e : nvObs.map rowBin = [⟨5000, 2500⟩, ⟨2500, 1250⟩, ⟨10000, 5000⟩] := by
    norm_num [nvObs, rowBin]
  rwa [e] at h

/-- **taurex_targets_stored**: the binner created from the instrument section of a TauREx output file holds exactly the
    stored bins `(instrument_wngrid, instrument_wnwidth)`: the conversion to wavelength rows and back returns the stored
    wavenumber widths (non-zero wavenumbers). -/
theorem taurex_targets_stored (rows : List (ORow ℝ)) (h : ∀ r ∈ rows, r.wl ≠ 0) :
    routeTargets Route.taurex rows ~ rows.map (fun r => ({ c := r.wl, w := r.bw } : TBin ℝ)) := by
  rw [taurex_targets]
  refine (sorted_rowBins_perm _).trans ?_
  rw [List.map_map]
  exact List.Perm.of_eq (List.map_congr_left (fun r hr => rowBin_fromTaurex r (h r hr)))

/-- stored bins centred at 2500 and 5000 cm⁻¹ with widths 50 and 2000 (a broad photometric channel, R = 2.5) -/
example : routeTargets Route.taurex [(⟨5000, 1, 1, 2000⟩ : ORow ℝ), ⟨2500, 2, 1, 50⟩] ~ [⟨5000, 2000⟩, ⟨2500, 50⟩] :=
  taurex_targets_stored _ (by
    intro r hr
    simp only [List.mem_cons, List.not_mem_nil, or_false] at hr
    rcases hr with rfl | rfl <;> norm_num)

/-- **obs_row_order_irrelevant**: two files holding the same rows in different orders (distinct positive wavelengths /
    wavenumbers) give the same binner, on every route. -/
theorem obs_row_order_irrelevant (rt : Route) (rows₁ rows₂ : List (ORow ℝ)) (hp : rows₁ ~ rows₂)
    (hd : (rows₁.map ORow.wl).Nodup) (hpos : ∀ r ∈ rows₁, 0 < r.wl) :
    routeTargets rt rows₁ = routeTargets rt rows₂ := by
  cases rt with
  | array3 => unfold routeTargets load; simp only; rw [sortRowsDesc_eq_of_perm hp hd]
  | array4 => rw [array4_targets, array4_targets, sortRowsDesc_eq_of_perm hp hd]
  | instrument => rw [instrument_targets, instrument_targets, sortRowsDesc_eq_of_perm hp hd]
  | taurex =>
    rw [taurex_targets, taurex_targets,
      sortRowsDesc_eq_of_perm (hp.map fromTaurex) (taurex_wl_nodup rows₁ hd hpos)]

example : routeTargets Route.array4 nvObs = routeTargets Route.array4 [⟨4, 40, 4, 2⟩, ⟨2, 20, 2, 1⟩, ⟨1, 10, 1, 1 / 2⟩] :=
  -- `nvObs` is the table `C17.nvA`
  obs_row_order_irrelevant Route.array4 _ _ (List.Perm.swap _ _ _) C17.nv_nodup C17.nv_pos

/-- **obs_bin_is_overlap_mean**: every bin of the binner created from an observation (or an instrument file) is the bin
    declared by one of the file's rows, and the value binned into it is the overlap-weighted mean of the native spectrum over
    THAT row's bin (ordered native bins, the row's bin overlapping the native grid). -/
theorem obs_bin_is_overlap_mean (val : Row ℝ → ℝ) (native : List (Row ℝ)) (rows : List (ORow ℝ)) (hne : native ≠ [])
    (hord : OrderedBins native) (hw : ∀ r ∈ native, r.lo ≤ r.hi) (rt : Route) (hrt : rt = Route.array4 ∨ rt = Route.instrument) :
    ∀ t ∈ routeTargets rt rows, ∃ r ∈ rows, t = rowBin r ∧
      ((rowBin r).lo < (rowBin r).hi → 0 < sumL (native.map (overlap (rowBin r).lo (rowBin r).hi)) →
        fluxBinVal val native t.lo t.hi = overlapMeanSpec val native (rowBin r).lo (rowBin r).hi) := by
  intro t ht
  have hperm : routeTargets rt rows ~ rows.map rowBin := by
    rcases hrt with rfl | rfl
    · exact (obs_targets_rowwise rows).1
    · exact (obs_targets_rowwise rows).2.1
  have hm := hperm.subset ht
  rw [List.mem_map] at hm
  obtain ⟨r, hr, rfl⟩ := hm
  exact ⟨r, hr, rfl, fun _ hpos => flux_eq_spec val native _ _ hord hw hpos⟩

/-- the row that meets the theorem's `∃ r` for the target `[3.5, 4.5]` (centre 4, width 1): that target is the bin declared by
    the observation row `(wl, w) = (2500, 625)` -/
example : ∃ r ∈ [(⟨2500, 0, 0, 625⟩ : ORow ℝ), ⟨5000, 0, 0, 2500⟩], (⟨4, 1⟩ : TBin ℝ) = rowBin r := by
  refine ⟨⟨2500, 0, 0, 625⟩, by simp, ?_⟩
  norm_num [rowBin]

end Taurex.C05
