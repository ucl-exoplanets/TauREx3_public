/-
  C02 — the property theorems restated about the REGENERATED source.  `Props/C02Src.lean` proves that the definitions
  translated on every run from `black_body` (with `_convert_lamb`, `_black_body_vec`), `EmissionModel.evaluate_emission`
  (cross-section branch, with the kernels `contribute_tau` / `contribute_cia` and the two `contribute` methods reached
  through `dispatch`), `EmissionModel.path_integral`, `EmissionModel.compute_final_flux`,
  `DirectImageModel.compute_final_flux`, `Star.initialize` / `spectralEmissionDensity`, `set_num_gauss` are the model's
  `planck`, `intensity`, `fluxOf`, `eclipse`, `direct`, `muOf` / `wOf` / `muInvOf`; `Props/C02.lean` proves the property about
  these.  The corollaries below compose the two: they are statements about the text of the code itself, at the real
  carrier.  `𝓚` abbreviates the constants as the code has them, `pcOf pi hp c kb lit` (`PI, PLANCK, SPDLIGT, KBOLTZ` of
  `taurex.constants`, `lit` = the literal `1e-6`).

  What is composed
    * `Gen.SrcC02.black_body` (no hypotheses in the tie).
    * `Gen.SrcC02.direct_final_flux` (no hypotheses in the tie).
    * `srcIntensity … mq … j` = `Gen.SrcC02.evaluate_emission … false j`: entry `[q, j]` of the `I` the code computes for the
      angle with `_mu_quads[q] = mq` and wavenumber column `j`.  Tie hypotheses kept visible: every column lists the same
      `nc` contributions (`hsig`), `j < cols.length`; the column is `cols.getD j ⟨0, []⟩`, the model's `muInv` is `1/mq`.
    * `srcSpectrum final …` = `Gen.SrcC02.path_integral` run on the `I` of `srcIntensity` for the `leggauss` nodes `xs` /
      weights `wts` mapped as `set_num_gauss` maps them (`_mu_quads = muOf x`), followed by `final`; with
      `final = Gen.SrcC02.emission_final_flux` it is the eclipse spectrum (`srcEclipse`), with `final = id` the `flux_total`
      handed to `compute_final_flux`.  Additional tie hypothesis: `xs.length = wts.length`.
    * `Gen.SrcC02.star_sed (Gen.SrcC02.star_initialize …)` as the stellar SED in `src_eclipse_isothermal_exact`.
    * `srcContrib … j` = column `j` of the contribution function `tau` the regenerated `evaluate_emission` returns as its
      fourth component (`Gen.SrcC02.evaluate_emission_tau`; `path_integral` hands it on untouched: `src_path_integral_tau`),
      = the model's `contribFn` (same tie hypotheses).  `contrib_sum` is restated (`src_contrib_sum`).
    * `Gen.SrcC02.set_num_gauss` / `Gen.SrcC02.evaluate_emission_mu` for the quadrature identity (`angleSum`, the sum inside
      `path_integral`, stays the model's).

  Not restated (no tie)
    * `coeffs_sum`, `isothermal_exact`, `isothermal_within`, `between_hot_cold`: statements about `intensityRows` on ARBITRARY
      rows (`Chain`, `RowsOk`); the source only builds the rows of `evaluate_emission`, for which the full-model forms
      (`intensity_*`, restated below) are the instances.
    * `surf_sound`: about the model's `keepFrom` / `surfTau`, intermediate values `evaluate_emission` does not return.
    * In `src_clamp_band` the documented (unclamped) integral stays the model's `intensityUncut` and the clamped layers are
      read off the model's `rowsOf`: the code contains no unclamped evaluation.
    * `contrib_eq_coeff`: about one arbitrary row (`contribOf` vs `coeff`); its instance on the rows of `evaluate_emission` is
      used inside `contrib_sum`, which `src_contrib_sum` restates.
    * `normalisedBy_blocks`, `breakdown_normalised_on_own_grid`, `starInits_blocks`, `breakdown_one_star_initialisation`: about
      the call sequence of `model_contrib` (`TaurexModel/EmissionBreakdown.lean`), of which there is no regenerated source.
    * `ktable_levels`, `ktable_isothermal`, `ktable_between`: about `KTau.emissionK`, tied in `Props/C20Src.lean`.
    * the correlated-k branch (`evaluate_emission_ktables`) is tied in `Props/C20Src.lean`, not here (its `tau` component is
      not tied: the clamp there is a minimum over the wavenumber axis, and that tie works one wavenumber at a time).
-/
import Props.C02
import Props.C02Src
set_option linter.unusedSectionVars false

namespace Taurex.C02SrcProps
open Taurex.Emission Taurex.C02 Taurex.C02Src Taurex.SrcLemmas

section
variable (pi hp c kb lit : ℝ)

local notation "𝓚" => pcOf pi hp c kb lit

/-- the regenerated `black_body` is positive -/
theorem src_planck_pos (hk : PCPos 𝓚) (nu t : ℝ) (hnu : 0 < nu) (ht : 0 < t) :
    0 < Gen.SrcC02.black_body nu t kb pi hp c lit := by
  rw [src_black_body]; exact planck_pos 𝓚 hk nu t hnu ht

/-- … and increasing in temperature -/
theorem src_planck_mono_T (hk : PCPos 𝓚) (nu t1 t2 : ℝ) (hnu : 0 < nu) (ht1 : 0 < t1) (h12 : t1 ≤ t2) :
    Gen.SrcC02.black_body nu t1 kb pi hp c lit ≤ Gen.SrcC02.black_body nu t2 kb pi hp c lit := by
  rw [src_black_body, src_black_body]; exact planck_mono_T 𝓚 hk nu t1 t2 hnu ht1 h12

/-- direct imaging, about the regenerated `DirectImageModel.compute_final_flux`: `f · Rp² / (2 d²)`, `d = distance · parsec` -/
theorem src_direct_scale (f rp dist pc : ℝ) (hpi : pi ≠ 0) (hd : dist * pc ≠ 0) :
    Gen.SrcC02.direct_final_flux f pi pc rp dist = f * (rp * rp) / (2 * ((dist * pc) * (dist * pc))) := by
  rw [src_direct_final_flux]; exact direct_scale pi f rp dist pc hpi hd

/-- Gauss–Legendre nodes/weights as the regenerated `set_num_gauss` maps them to [0,1] and the regenerated
    `evaluate_emission` inverts them (`_mu = 1/_mu_quads`): `Σ w μ = 1/2` -/
theorem src_quad_half (kt : ℝ) (xs wts : List ℝ) (hlen : xs.length = wts.length) (hx : ∀ x ∈ xs, -1 < x)
    (h0 : wts.sum = 2) (h1 : ((xs.zip wts).map (fun p => p.2 * p.1)).sum = 0) :
    angleSum ((xs.zip wts).map (fun p => (1, (Gen.SrcC02.set_num_gauss p.2 p.1).2,
      Gen.SrcC02.evaluate_emission_mu kt (Gen.SrcC02.set_num_gauss p.2 p.1).1 false))) = 1 / 2 := by
  simp only [src_set_num_gauss, src_evaluate_emission_mu]
  exact quad_half xs wts hlen hx h0 h1

/-! ### `evaluate_emission`: intensity per angle -/

/-- entry `[q, j]` of the `I` the regenerated `evaluate_emission` computes (cross-section branch), `_mu_quads[q] = mq` -/
noncomputable def srcIntensity (mq : ℝ) (cols : List (Col ℝ)) (dz dens temps : List ℝ) (nc : ℕ) (ktI : ℕ → ℝ)
    (j : ℕ) : ℝ :=
  Gen.SrcC02.evaluate_emission (fun j => (cols.getD j ⟨0, []⟩).nu) cols.length kb pi hp c lit (10 : ℝ)
    (dispatch cols) (fn dz) (fn dens) ktI mq temps.length nc (fn temps) false j

theorem srcIntensity_eq (mq : ℝ) (cols : List (Col ℝ)) (dz dens temps : List ℝ) (nc : ℕ)
    (hsig : ∀ j, j < cols.length → (cols.getD j ⟨0, []⟩).sig.length = nc) (ktI : ℕ → ℝ) (j : ℕ)
    (hj : j < cols.length) :
    srcIntensity pi hp c kb lit mq cols dz dens temps nc ktI j
      = intensity 𝓚 cols dz dens temps (1 / mq) (cols.getD j ⟨0, []⟩) := by
  unfold srcIntensity
  exact src_evaluate_emission pi hp c kb lit mq cols dz dens temps nc hsig ktI j hj

/-- the intensity the regenerated `evaluate_emission` returns lies between the Planck functions of the coldest and hottest
    temperature (`1 ≤ 1/μ`), the upper bound relaxed by the licensed `exp(-10)` -/
theorem src_intensity_between (mq : ℝ) (cols : List (Col ℝ)) (dz dens temps : List ℝ) (nc : ℕ)
    (hsig : ∀ j, j < cols.length → (cols.getD j ⟨0, []⟩).sig.length = nc) (ktI : ℕ → ℝ) (j : ℕ)
    (hj : j < cols.length) (tmin tmax : ℝ)
    (hv : Valid 𝓚 cols dz dens temps (cols.getD j ⟨0, []⟩) tmin tmax) (hm : 1 ≤ 1 / mq) :
    planck 𝓚 (cols.getD j ⟨0, []⟩).nu tmin / (𝓚).pi ≤ srcIntensity pi hp c kb lit mq cols dz dens temps nc ktI j ∧
    srcIntensity pi hp c kb lit mq cols dz dens temps nc ktI j
      ≤ (1 + Real.exp (-10)) * (planck 𝓚 (cols.getD j ⟨0, []⟩).nu tmax / (𝓚).pi) := by
  rw [srcIntensity_eq pi hp c kb lit mq cols dz dens temps nc hsig ktI j hj]
  exact intensity_between 𝓚 cols dz dens temps _ tmin tmax _ hv hm

/-- isothermal atmosphere, bottom not clamped: the regenerated `evaluate_emission` returns exactly `B(T)/π` at every
    angle, whatever the composition -/
theorem src_intensity_isothermal_exact (mq : ℝ) (cols : List (Col ℝ)) (dz dens temps : List ℝ) (nc : ℕ)
    (hsig : ∀ j, j < cols.length → (cols.getD j ⟨0, []⟩).sig.length = nc) (ktI : ℕ → ℝ) (j : ℕ)
    (hj : j < cols.length) (t : ℝ)
    (hT : ∀ l, l < temps.length → temps.getD l 0 = t) (hne : temps ≠ [])
    (hk : keepFrom cols dz dens temps.length 0 = true) :
    srcIntensity pi hp c kb lit mq cols dz dens temps nc ktI j = planck 𝓚 (cols.getD j ⟨0, []⟩).nu t / (𝓚).pi := by
  rw [srcIntensity_eq pi hp c kb lit mq cols dz dens temps nc hsig ktI j hj]
  exact intensity_isothermal_exact 𝓚 cols dz dens temps _ t _ hT hne hk

/-- … and in general (bottom clamped or not) within a relative `exp(-10)` above `B(T)/π` -/
theorem src_intensity_isothermal_within (mq : ℝ) (cols : List (Col ℝ)) (dz dens temps : List ℝ) (nc : ℕ)
    (hsig : ∀ j, j < cols.length → (cols.getD j ⟨0, []⟩).sig.length = nc) (ktI : ℕ → ℝ) (j : ℕ)
    (hj : j < cols.length) (t : ℝ)
    (hv : Valid 𝓚 cols dz dens temps (cols.getD j ⟨0, []⟩) t t) (hm : 1 ≤ 1 / mq) :
    planck 𝓚 (cols.getD j ⟨0, []⟩).nu t / (𝓚).pi ≤ srcIntensity pi hp c kb lit mq cols dz dens temps nc ktI j ∧
    srcIntensity pi hp c kb lit mq cols dz dens temps nc ktI j
      ≤ planck 𝓚 (cols.getD j ⟨0, []⟩).nu t / (𝓚).pi * (1 + Real.exp (-10)) := by
  rw [srcIntensity_eq pi hp c kb lit mq cols dz dens temps nc hsig ktI j hj]
  exact intensity_isothermal_within 𝓚 cols dz dens temps _ t _ hv hm

/-- the licensed deviation: what the regenerated `evaluate_emission` returns differs from the documented (unclamped)
    integral by at most `exp(-10)` times the source functions of the clamped layers -/
theorem src_clamp_band (mq : ℝ) (cols : List (Col ℝ)) (dz dens temps : List ℝ) (nc : ℕ)
    (hsig : ∀ j, j < cols.length → (cols.getD j ⟨0, []⟩).sig.length = nc) (ktI : ℕ → ℝ) (j : ℕ)
    (hj : j < cols.length) (tmin tmax : ℝ)
    (hv : Valid 𝓚 cols dz dens temps (cols.getD j ⟨0, []⟩) tmin tmax) (hm : 1 ≤ 1 / mq) :
    |srcIntensity pi hp c kb lit mq cols dz dens temps nc ktI j
        - intensityUncut 𝓚 dz dens temps (1 / mq) (cols.getD j ⟨0, []⟩)|
      ≤ Real.exp (-10) * ((rowsOf 𝓚 cols dz dens temps (cols.getD j ⟨0, []⟩)).map
          (fun r => if r.keepD then 0 else r.b)).sum := by
  rw [srcIntensity_eq pi hp c kb lit mq cols dz dens temps nc hsig ktI j hj]
  exact clamp_band 𝓚 cols dz dens temps _ tmin tmax _ hv hm

/-! ### `path_integral` + `compute_final_flux`: the spectrum -/

/-- what the regenerated `path_integral` returns for wavenumber column `j`: `I` from the regenerated `evaluate_emission` at
    the angles `_mu_quads = (x+1)/2`, `_mu = 1/_mu_quads`, `_w = weight/2` for the `leggauss` nodes `xs` / weights `wts`
    (`np.pi = npPi`), followed by whatever `self.compute_final_flux` is (`final`) -/
noncomputable def srcSpectrum (final : ℝ → ℝ) (npPi tauE : ℝ) (cols : List (Col ℝ)) (dz dens temps : List ℝ) (nc : ℕ)
    (ktI : ℕ → ℝ) (xs wts : List ℝ) (j : ℕ) : ℝ :=
  Gen.SrcC02.path_integral
    (fn (xs.map (fun x => srcIntensity pi hp c kb lit (muOf x) cols dz dens temps nc ktI j))) final
    (fun q => muInvOf (xs.getD q 0)) xs.length npPi tauE (fun q => wOf (wts.getD q 0))

theorem srcSpectrum_eq (final : ℝ → ℝ) (npPi tauE : ℝ) (cols : List (Col ℝ)) (dz dens temps : List ℝ) (nc : ℕ)
    (hsig : ∀ j, j < cols.length → (cols.getD j ⟨0, []⟩).sig.length = nc) (ktI : ℕ → ℝ) (xs wts : List ℝ)
    (hlen : xs.length = wts.length) (j : ℕ) (hj : j < cols.length) :
    srcSpectrum pi hp c kb lit final npPi tauE cols dz dens temps nc ktI xs wts j
      = final (fluxCol 𝓚 npPi cols dz dens temps xs wts (cols.getD j ⟨0, []⟩)) := by
  have h := src_path_integral npPi tauE
    (xs.map (fun x => intensity 𝓚 cols dz dens temps (muInvOf x) (cols.getD j ⟨0, []⟩))) xs wts final
    (by simp) (by simp [hlen])
  rw [List.length_map] at h
  unfold srcSpectrum fluxCol
  simp only [srcIntensity_eq pi hp c kb lit _ cols dz dens temps nc hsig ktI j hj]
  exact h

/-- the eclipse spectrum: `path_integral` with the regenerated `EmissionModel.compute_final_flux` -/
noncomputable def srcEclipse (npPi tauE sed rp rs : ℝ) (cols : List (Col ℝ)) (dz dens temps : List ℝ) (nc : ℕ)
    (ktI : ℕ → ℝ) (xs wts : List ℝ) (j : ℕ) : ℝ :=
  srcSpectrum pi hp c kb lit (fun f => Gen.SrcC02.emission_final_flux f rp rs sed) npPi tauE cols dz dens temps nc
    ktI xs wts j

theorem srcEclipse_eq (npPi tauE sed rp rs : ℝ) (cols : List (Col ℝ)) (dz dens temps : List ℝ) (nc : ℕ)
    (hsig : ∀ j, j < cols.length → (cols.getD j ⟨0, []⟩).sig.length = nc) (ktI : ℕ → ℝ) (xs wts : List ℝ)
    (hlen : xs.length = wts.length) (j : ℕ) (hj : j < cols.length) :
    srcEclipse pi hp c kb lit npPi tauE sed rp rs cols dz dens temps nc ktI xs wts j
      = eclipse (fluxCol 𝓚 npPi cols dz dens temps xs wts (cols.getD j ⟨0, []⟩)) sed rp rs := by
  unfold srcEclipse
  rw [srcSpectrum_eq pi hp c kb lit _ npPi tauE cols dz dens temps nc hsig ktI xs wts hlen j hj]
  rfl

/-- isothermal atmosphere: the eclipse spectrum the regenerated code returns (stellar SED from the regenerated
    `Star.initialize` / `spectralEmissionDensity`, `np.pi = PI`) is exactly the blackbody ratio `B(T)/B(T*) (Rp/Rs)²` -/
theorem src_eclipse_isothermal_exact (tauE : ℝ) (cols : List (Col ℝ)) (dz dens temps : List ℝ) (nc : ℕ)
    (hsig : ∀ j, j < cols.length → (cols.getD j ⟨0, []⟩).sig.length = nc) (ktI : ℕ → ℝ) (j : ℕ)
    (hj : j < cols.length) (t ts rp rs : ℝ) (xs wts : List ℝ)
    (hpi : (𝓚).pi ≠ 0)
    (hT : ∀ l, l < temps.length → temps.getD l 0 = t) (hne : temps ≠ [])
    (hk : keepFrom cols dz dens temps.length 0 = true)
    (hlen : xs.length = wts.length) (hx : ∀ x ∈ xs, -1 < x)
    (h0 : wts.sum = 2) (h1 : ((xs.zip wts).map (fun p => p.2 * p.1)).sum = 0) :
    srcEclipse pi hp c kb lit (𝓚).pi tauE
        (Gen.SrcC02.star_sed (Gen.SrcC02.star_initialize (cols.getD j ⟨0, []⟩).nu kb pi hp c lit ts)) rp rs
        cols dz dens temps nc ktI xs wts j
      = planck 𝓚 (cols.getD j ⟨0, []⟩).nu t / planck 𝓚 (cols.getD j ⟨0, []⟩).nu ts * ((rp / rs) * (rp / rs)) := by
  rw [srcEclipse_eq pi hp c kb lit _ tauE _ rp rs cols dz dens temps nc hsig ktI xs wts hlen j hj, src_star_sed]
  exact eclipse_isothermal_exact 𝓚 cols dz dens temps _ t ts rp rs xs wts hpi hT hne hk hlen hx h0 h1

/-- **flux level**: the `flux_total` the regenerated `path_integral` hands to `compute_final_flux` lies between the Planck
    functions of the coldest and hottest temperature, the upper bound relaxed by the licensed `exp(-10)` -/
theorem src_flux_between (npPi tauE : ℝ) (cols : List (Col ℝ)) (dz dens temps : List ℝ) (nc : ℕ)
    (hsig : ∀ j, j < cols.length → (cols.getD j ⟨0, []⟩).sig.length = nc) (ktI : ℕ → ℝ) (j : ℕ)
    (hj : j < cols.length) (tmin tmax : ℝ) (xs wts : List ℝ)
    (hv : Valid 𝓚 cols dz dens temps (cols.getD j ⟨0, []⟩) tmin tmax) (hnp : 0 ≤ npPi)
    (hlen : xs.length = wts.length) (hx : ∀ x ∈ xs, -1 < x ∧ x ≤ 1) (hw : ∀ w ∈ wts, 0 ≤ w)
    (h0 : wts.sum = 2) (h1 : ((xs.zip wts).map (fun p => p.2 * p.1)).sum = 0) :
    npPi / (𝓚).pi * planck 𝓚 (cols.getD j ⟨0, []⟩).nu tmin
      ≤ srcSpectrum pi hp c kb lit (fun f => f) npPi tauE cols dz dens temps nc ktI xs wts j ∧
    srcSpectrum pi hp c kb lit (fun f => f) npPi tauE cols dz dens temps nc ktI xs wts j
      ≤ (1 + Real.exp (-10)) * (npPi / (𝓚).pi * planck 𝓚 (cols.getD j ⟨0, []⟩).nu tmax) := by
  rw [srcSpectrum_eq pi hp c kb lit _ npPi tauE cols dz dens temps nc hsig ktI xs wts hlen j hj]
  exact flux_between 𝓚 npPi cols dz dens temps _ tmin tmax xs wts hv hnp hlen hx hw h0 h1

/-- **eclipse level**: with `np.pi = PI` and a positive stellar SED, the eclipse depth the regenerated code returns lies
    between the black-body ratios of the coldest and hottest layer, times `(Rp/Rs)²`, the upper bound relaxed by `exp(-10)` -/
theorem src_eclipse_between (tauE : ℝ) (cols : List (Col ℝ)) (dz dens temps : List ℝ) (nc : ℕ)
    (hsig : ∀ j, j < cols.length → (cols.getD j ⟨0, []⟩).sig.length = nc) (ktI : ℕ → ℝ) (j : ℕ)
    (hj : j < cols.length) (tmin tmax sed rp rs : ℝ) (xs wts : List ℝ)
    (hv : Valid 𝓚 cols dz dens temps (cols.getD j ⟨0, []⟩) tmin tmax) (hsed : 0 < sed)
    (hlen : xs.length = wts.length) (hx : ∀ x ∈ xs, -1 < x ∧ x ≤ 1) (hw : ∀ w ∈ wts, 0 ≤ w)
    (h0 : wts.sum = 2) (h1 : ((xs.zip wts).map (fun p => p.2 * p.1)).sum = 0) :
    planck 𝓚 (cols.getD j ⟨0, []⟩).nu tmin / sed * ((rp / rs) * (rp / rs))
      ≤ srcEclipse pi hp c kb lit (𝓚).pi tauE sed rp rs cols dz dens temps nc ktI xs wts j ∧
    srcEclipse pi hp c kb lit (𝓚).pi tauE sed rp rs cols dz dens temps nc ktI xs wts j
      ≤ (1 + Real.exp (-10)) * (planck 𝓚 (cols.getD j ⟨0, []⟩).nu tmax / sed * ((rp / rs) * (rp / rs))) := by
  rw [srcEclipse_eq pi hp c kb lit _ tauE sed rp rs cols dz dens temps nc hsig ktI xs wts hlen j hj]
  exact eclipse_between 𝓚 cols dz dens temps _ tmin tmax sed rp rs xs wts hv hsed hlen hx hw h0 h1

end

/-! ### `evaluate_emission`: the contribution function -/

/-- column `j` of the contribution function `tau` the regenerated `evaluate_emission` returns (cross-section branch; what
    `path_integral` and `model()` hand on: `src_path_integral_tau`), one entry per layer -/
noncomputable def srcContrib (cols : List (Col ℝ)) (dz dens temps : List ℝ) (nc : ℕ) (ktT : ℕ → ℕ → ℝ) (j : ℕ) : List ℝ :=
  (List.range temps.length).map (fun l =>
    Gen.SrcC02.evaluate_emission_tau cols.length (10 : ℝ) (dispatch cols) (fn dz) (fn dens) ktT temps.length nc false l j)

theorem srcContrib_eq (k : PC ℝ) (cols : List (Col ℝ)) (dz dens temps : List ℝ) (nc : ℕ)
    (hsig : ∀ j, j < cols.length → (cols.getD j ⟨0, []⟩).sig.length = nc) (ktT : ℕ → ℕ → ℝ) (j : ℕ)
    (hj : j < cols.length) :
    srcContrib cols dz dens temps nc ktT j = contribFn k cols dz dens temps (cols.getD j ⟨0, []⟩) := by
  unfold srcContrib
  apply List.ext_getElem
  · simp [contribFn, rowsOf, rowsWith]
  · intro l h1 h2
    have hl : l < temps.length := by simpa using h1
    rw [List.getElem_map, List.getElem_range,
      src_evaluate_emission_tau k cols dz dens temps nc hsig ktT l j hl hj]
    rw [List.getD_eq_getElem?_getD, List.getElem?_eq_getElem h2]
    rfl

/-- **`contrib_sum` about the regenerated source**: the contribution function the regenerated `evaluate_emission` returns
    is non-negative, and its entries at one wavenumber sum to the absorbed fraction of the vertical ray through the whole
    column, within the licensed `exp(-10)` above `1 - exp(-surface_tau)` -/
theorem src_contrib_sum (cols : List (Col ℝ)) (dz dens temps : List ℝ) (nc : ℕ)
    (hsig : ∀ j, j < cols.length → (cols.getD j ⟨0, []⟩).sig.length = nc) (ktT : ℕ → ℕ → ℝ) (j : ℕ)
    (hj : j < cols.length) (hn : ∀ c ∈ cols, InputsNonneg c.sig dz dens) :
    (∀ x ∈ srcContrib cols dz dens temps nc ktT j, 0 ≤ x) ∧
    1 - Real.exp (-(surfTau dz dens temps (cols.getD j ⟨0, []⟩))) ≤ (srcContrib cols dz dens temps nc ktT j).sum ∧
    (srcContrib cols dz dens temps nc ktT j).sum
      ≤ 1 - Real.exp (-(surfTau dz dens temps (cols.getD j ⟨0, []⟩))) + Real.exp (-10) := by
  have hmem : cols.getD j ⟨0, []⟩ ∈ cols := by
    rw [List.getD_eq_getElem?_getD, List.getElem?_eq_getElem hj]
    exact List.getElem_mem hj
  rw [srcContrib_eq ⟨0, 0, 0, 0, 0, 0⟩ cols dz dens temps nc hsig ktT j hj]
  obtain ⟨h1, -, h3, h4⟩ := contrib_sum ⟨0, 0, 0, 0, 0, 0⟩ cols dz dens temps _ hmem hn
  exact ⟨h1, h3, h4⟩

end Taurex.C02SrcProps
