/-
  C03 — source tie.  `TaurexModel/Gen/SrcC03.lean` is regenerated on every run by `harness/translate.py` (dialect
  `shaped`, harness/translate_shaped.py) from the source text of
      taurex/contributions/contribution.py   Contribution.prepare, contribute_tau
      taurex/contributions/cia.py            CIAContribution.prepare_each, contribute_cia, CIAContribution.contribute
      taurex/contributions/rayleigh.py       RayleighContribution.prepare_each
      taurex/contributions/absorption.py     AbsorptionContribution.prepare_each (cross-section mode), .prepare
      taurex/contributions/contribution.py   Contribution.contribute
      taurex/contributions/simpleclouds.py   SimpleCloudsContribution.contribute
      taurex/model/transmission.py           path_integral (the loop over the contribution LIST with its break),
                                             compute_path_length_old, compute_path_length, compute_absorption
      taurex/util/geometry.py                parallel_vector
      taurex/model/simplemodel.py            SimpleForwardModel.model_contrib (the per-contribution loop and its dict),
                                             .model_full_contrib (the per-component loop driven by the generator
                                             `prepare_each`; the three `prepare_each` once more as the list of what
                                             `self.sigma_xsec` holds at each yield: `*_published`)
  The theorems state, for EVERY carrier (induction over the loops, no algebra), that each regenerated definition is the
  model function of `TaurexModel/Sigma.lean` / `TaurexModel/Transmission.lean` that the C03 theorems are about and
  `driver_c03` executes.

  Generators.  `prepare_each` is a generator that re-uses ONE buffer for all its components; the translation returns the
  list of the yielded arrays, each as it is at the time of its `yield` (what `Contribution.prepare`, `model_full_contrib`
  and `store_contributions` read before they resume the generator).  Objects the code only looks things up in (the CIA
  cache, the chemistry, the Rayleigh tables) are parameters: `mixOne p`, `mixTwo p` the mixing-ratio profiles of the two
  partners of pair `p`, `ciaXsec p T` the pair's cross-section at temperature `T`, `law g` / `lawDefined g` the Rayleigh
  cross-section of molecule `g` and whether `rayleigh_sigma_from_name` knows it, `mix g` its mixing-ratio profile.
-/
import TaurexModel.Gen.SrcC03
import TaurexModel.Gen.SrcC19
import TaurexModel.Sigma
import TaurexModel.Transmission
import TaurexModel.Geometry
import Proofs.C01SrcLemmas
set_option linter.unusedSectionVars false

namespace Taurex.C03Src
open Taurex.Sigma Taurex.Transmission Taurex.C01Src

section
variable {α : Type} [Add α] [Sub α] [Mul α] [Div α] [Neg α] [LT α] [LE α]
  [DecidableLT α] [DecidableLE α] [OfNat α 0] [OfNat α 1] [OfNat α 2] [OfNat α 10] [Transc α]

/-! ### components summed into one `sigma_xsec` -/

theorem foldl_tables (comps : List (Nat → Nat → α)) (init : Nat → Nat → α) :
    comps.foldl (fun (S : Nat → Nat → α) c => fun i j => S i j + c i j) init
      = fun i j => comps.foldl (fun a c => a + c i j) (init i j) :=
  funext fun i => funext fun j => (List.foldl_hom (fun S : Nat → Nat → α => S i j) fun _ _ => rfl).symm

/-- `Contribution.prepare`: `sigma_xsec = zeros; for name, component in prepare_each(…): sigma_xsec += component` — the
    stored `self.sigma_xsec` is `sumComps` of the yielded components (as whole tables) -/
theorem src_contribution_prepare (nL nW : Nat) (comps : List (Nat → Nat → α)) :
    Gen.SrcC03.contribution_prepare nW comps nL = sumComps comps := by
  unfold Gen.SrcC03.contribution_prepare sumComps
  exact foldl_tables comps _

/-! ### collision-induced absorption: one component per pair -/

/-- `for i in range(n): S[i] += f i` on a table -/
theorem fold_rows_add (n : Nat) (f : Nat → Nat → α) (init : Nat → Nat → α) :
    (List.range' 0 n).foldl (fun (S : Nat → Nat → α) idx => fun i j => if i = idx then S idx j + f idx j else S i j) init
      = fun i j => if i < n then init i j + f i j else init i j := by
  funext i j
  -- row `i` is written by pass `i` only
  refine (congrFun (foldl_range'_slots (fun (S : Nat → Nat → α) i => S i) _ init (fun i j => init i j + f i j)
    (fun S idx i hi => funext fun j => if_neg hi) (fun S idx h => funext fun j => by rw [if_pos rfl, h])
    i n 0 init fun _ _ => rfl) j).trans ?_
  simp only [Nat.zero_le, true_and, Nat.zero_add]
  split <;> rfl

/-- a generator loop that re-initialises its buffer for every element: the yielded list -/
theorem foldl_yield {ι β : Type} (g : ι → β) (xs : List ι) (b0 : β) (ys : List β) :
    (xs.foldl (fun (st : β × List β) x => (g x, st.2 ++ [g x])) (b0, ys)).2 = ys ++ xs.map g :=
  foldl_yield_of g _ (fun _ _ => rfl) xs (b0, ys)

/-- `CIAContribution.prepare_each`: for each pair the (zeroed) buffer receives, layer by layer,
    `cia(T_l, wngrid) * (mix(pairOne) * mix(pairTwo))[l]` — the component `compCIA` on the `nL` layers -/
theorem src_cia_prepare_each {ι : Type} (nL nW : Nat) (T : Nat → α) (ciaXsec : ι → α → Nat → α)
    (mixOne mixTwo : ι → Nat → α) (pairs : List ι) :
    Gen.SrcC03.cia_prepare_each nW T ciaXsec mixOne mixTwo nL pairs
      = pairs.map (fun p => fun l wn =>
          if l < nL then compCIA (fun l wn => ciaXsec p (T l) wn) (mixOne p) (mixTwo p) l wn else 0) := by
  unfold Gen.SrcC03.cia_prepare_each compCIA
  simp only [fold_rows_add]
  exact (foldl_yield _ pairs _ []).trans (List.nil_append _)

/-! ### Rayleigh scattering: one component per molecule that has abundance and a law -/

theorem foldl_yield_filter {ι β : Type} (skip keep : ι → Bool) (h : ι → β) (xs : List ι) (ys : List β) :
    xs.foldl (fun (ys : List β) x => if skip x then ys else (if keep x then ys ++ [h x] else ys)) ys
      = ys ++ (xs.filter (fun x => !skip x && keep x)).map h := by
  induction xs generalizing ys with
  | nil => simp
  | cons x xs ih =>
    simp only [List.foldl_cons]
    rw [ih]
    cases hs : skip x <;> cases hk : keep x <;> simp [hs, hk]

/-- the code's `np.max(mix) == 0.0` (IEEE equality of the fold of `max`) -/
def zeroAbundance (nL : Nat) (mix : Nat → α) : Bool :=
  let m := (List.range (nL - 1)).foldl (fun acc s => if acc < mix (s + 1) then mix (s + 1) else acc) (mix 0)
  decide (m ≤ 0) && decide (0 ≤ m)

/-- `RayleighContribution.prepare_each`: the molecules whose largest mixing ratio is not `== 0.0` and for which
    `rayleigh_sigma_from_name` has a law each yield `sigma[None, :] * mix[:, None]` = `compScaled` -/
theorem src_rayleigh_prepare_each {ι : Type} (nL nW : Nat) (law : ι → Nat → α) (lawDefined : ι → Bool)
    (mix : ι → Nat → α) (molecules : List ι) :
    Gen.SrcC03.rayleigh_prepare_each nW law lawDefined mix molecules nL
      = (molecules.filter (fun g => !zeroAbundance nL (mix g) && lawDefined g)).map
          (fun g => compScaled (law g) (mix g)) := by
  unfold Gen.SrcC03.rayleigh_prepare_each
  exact (foldl_yield_filter (fun g => zeroAbundance nL (mix g)) lawDefined
    (fun g => compScaled (law g) (mix g)) molecules []).trans (List.nil_append _)

/-! ### molecular absorption (cross-section mode): one component per active gas -/

theorem foldl_yield_any {ι β σ : Type} (g : ι → β) (F : σ × List β → ι → σ × List β)
    (hF : ∀ st x, (F st x).2 = st.2 ++ [g x]) (xs : List ι) (st : σ × List β) :
    (xs.foldl F st).2 = st.2 ++ xs.map g :=
  foldl_yield_of g F hF xs st

/-- `AbsorptionContribution.prepare_each` with `opacity_method` ≠ 'ktables' (the spec's static assumption
    `self._use_ktables = False`): for each active gas the buffer — allocated for the first gas, zeroed in place for the
    later ones — receives, layer by layer, `opacity(T_l, P_l, wngrid) * gas_mix[l]`: the component `compAbs` on the
    `nlayers` layers -/
theorem src_absorption_prepare_each {ι : Type} (nlayers nW : Nat) (T P : Nat → α) (opacity : ι → α → α → Nat → α)
    (mix : ι → Nat → α) (gases : List ι) :
    Gen.SrcC03.absorption_prepare_each nW P T gases mix nlayers opacity
      = gases.map (fun g => fun l wn =>
          if l < nlayers then compAbs (fun l wn => opacity g (T l) (P l) wn) (mix g) l wn else 0) := by
  unfold Gen.SrcC03.absorption_prepare_each compAbs
  refine (foldl_yield_any _ _ ?_ gases _).trans (List.nil_append _)
  intro st g
  obtain ⟨o, ys⟩ := st
  cases o <;> simp only [fold_rows_add]

/-- the row stored per layer has the length of the buffer's wavenumber axis -/
theorem src_absorption_prepare_each_shapes {ι : Type} (nlayers nW : Nat) (T P : Nat → α)
    (opacity : ι → α → α → Nat → α) (mix : ι → Nat → α) (gases : List ι) :
    Gen.SrcC03.absorption_prepare_each_shapes nW P T gases mix nlayers opacity := by
  unfold Gen.SrcC03.absorption_prepare_each_shapes
  intros; rfl

/-- the part of `AbsorptionContribution.prepare` after the first component -/
theorem foldl_tables_some (comps : List (Nat → Nat → α)) (S : Nat → Nat → α) :
    comps.foldl (fun (o : Option (Nat → Nat → α)) c =>
        some (fun i j => (match o with | none => fun _ _ => (0 : α) | some S => S) i j + c i j)) (some S)
      = some (fun i j => comps.foldl (fun a c => a + c i j) (S i j)) := by
  induction comps generalizing S with
  | nil => rfl
  | cons c cs ih => simp only [List.foldl_cons]; rw [ih]

/-- `AbsorptionContribution.prepare`: `None` when `prepare_each` yields nothing, otherwise `zeros_like(first)` plus all
    components in order = `sumComps` -/
theorem src_absorption_prepare (nL nW : Nat) (comps : List (Nat → Nat → α)) :
    Gen.SrcC03.absorption_prepare nW comps nL = if comps = [] then none else some (sumComps comps) := by
  unfold Gen.SrcC03.absorption_prepare sumComps
  cases comps with
  | nil => rfl
  | cons c cs =>
    simp only [List.foldl_cons, reduceCtorEq, if_false]
    exact foldl_tables_some cs _

/-! ### from `sigma_xsec` to optical depth: the kernels -/

theorem src_contribute_tau (s e off : Nat) (sigma : Nat → Nat → α) (dens path : Nat → α) (ngrid l : Nat)
    (tau : Nat → Nat → α) :
    Gen.SrcC03.contribute_tau s e off sigma dens path ngrid l tau
      = fun i j => if i = l ∧ j < ngrid then
          (List.range' s (e - s)).foldl (fun acc k => acc + sigma (k + l) j * path k * dens (k + off)) (tau l j)
        else tau i j :=
  fold_kernel l ngrid s (e - s) (fun k wn => sigma (k + l) wn * path k * dens (k + off)) tau

/-- `contribute_cia`: density squared -/
theorem src_contribute_cia (s e off : Nat) (sigma : Nat → Nat → α) (dens path : Nat → α) (ngrid l : Nat)
    (tau : Nat → Nat → α) :
    Gen.SrcC03.contribute_cia s e off sigma dens path ngrid l tau
      = fun i j => if i = l ∧ j < ngrid then
          (List.range' s (e - s)).foldl
            (fun acc k => acc + sigma (k + l) j * path k * dens (k + off) * dens (k + off)) (tau l j)
        else tau i j :=
  fold_kernel l ngrid s (e - s) (fun k wn => sigma (k + l) wn * path k * dens (k + off) * dens (k + off)) tau

/-- as `path_integral` calls them: the new row of `tau` is `addContrib` of kind `lin` / `sq` (what `tauFull` sums) -/
theorem src_contribute_tau_call (n l ngrid : Nat) (sigma : Nat → Nat → α) (dens path : Nat → α) (tau : Nat → Nat → α) :
    Gen.SrcC03.contribute_tau 0 (n - l) l sigma dens path ngrid l tau
      = fun i j => if i = l ∧ j < ngrid then addContrib ⟨.lin, sigma⟩ n path dens l (tau l) j else tau i j :=
  fold_kernel_call ⟨.lin, sigma⟩ n l ngrid dens path tau

theorem src_contribute_cia_call (n l ngrid : Nat) (sigma : Nat → Nat → α) (dens path : Nat → α) (tau : Nat → Nat → α) :
    Gen.SrcC03.contribute_cia 0 (n - l) l sigma dens path ngrid l tau
      = fun i j => if i = l ∧ j < ngrid then addContrib ⟨.sq, sigma⟩ n path dens l (tau l) j else tau i j :=
  fold_kernel_call ⟨.sq, sigma⟩ n l ngrid dens path tau

/-- `CIAContribution.contribute`: the kernel runs iff there is at least one pair -/
theorem src_cia_contribute (s e off l : Nat) (dens path : Nat → α) (tau sigma : Nat → Nat → α) (ngrid total : Nat) :
    Gen.SrcC03.cia_contribute s e off l dens tau path ngrid sigma total
      = if 0 < total then Gen.SrcC03.contribute_cia s e off sigma dens path ngrid l tau else tau := by
  unfold Gen.SrcC03.cia_contribute
  by_cases h : 0 < total <;> simp [h]

/-! ### the loop over the LIST of contributions: `path_integral` and what it calls (C01's specs, re-translated here) -/

/-- `Contribution.contribute` hands `self.sigma_xsec`, `self._ngrid` to `contribute_tau` -/
theorem src_contribution_contribute (s e off l : Nat) (dens path : Nat → α) (tau sigma : Nat → Nat → α) (ngrid : Nat) :
    Gen.SrcC03.contribution_contribute s e off l dens tau path ngrid sigma
      = Gen.SrcC03.contribute_tau s e off sigma dens path ngrid l tau := rfl

/-- `SimpleCloudsContribution.contribute`: `tau[layer] += self.sigma_xsec[layer, :]` — kind `layerOnly` (the whole row) -/
theorem src_clouds_contribute (n l nL nW : Nat) (sigma : Nat → Nat → α) (dens path : Nat → α) (tau : Nat → Nat → α) :
    Gen.SrcC03.clouds_contribute l tau nL nW sigma
      = fun i j => if i = l then addContrib ⟨.layerOnly, sigma⟩ n path dens l (tau l) j else tau i j := rfl

/-! ### transit depth and chord lengths -/

/-- `compute_absorption(tau, dz)`: the pair (`depth` per wavenumber, `exp(-tau)`) -/
theorem src_compute_absorption (n nW : Nat) (rp rs : α) (z dz : Nat → α) (tau : Nat → Nat → α) :
    Gen.SrcC03.compute_absorption tau dz n nW rp rs z
      = (fun wn => depth rp rs n z dz (fun l => trans (tau l wn)), fun l wn => trans (tau l wn)) := rfl

/-- `compute_path_length_old(dz)`: the list, layer by layer, of the chord segments `chordOld` (as whole functions of the
    segment index: also the slice arithmetic `k[1:] = …[layer+1:]`, `k[1:] -= …[layer:nLayers-1]` is matched) -/
theorem src_compute_path_length_old (n : Nat) (rp : α) (z dz : Nat → α) :
    Gen.SrcC03.compute_path_length_old dz n rp z = (List.range n).map (fun l => chordOld rp z dz l) :=
  path_length_old_rows n rp z dz

/-- the slices combined element-wise in `compute_path_length_old` have equal lengths (what numpy requires; hence no
    length-1 slice is silently broadcast) -/
theorem src_compute_path_length_old_shapes (n : Nat) (rp : α) (z dz : Nat → α) :
    Gen.SrcC03.compute_path_length_old_shapes dz n rp z :=
  path_length_old_shapes n

/-! ### new path method: what is handed to the 3-D geometry -/

/-- a `(3, n)` numpy array whose columns are the vectors `f j` -/
def rows (f : Nat → Geometry.V3 α) : Nat → Nat → α :=
  fun r j => if r = 1 then (f j).y else if r = 0 then (f j).x else (f j).z

/-- `parallel_vector(R, alt, max_alt)` (for an array `alt`): column `j` of `viewer` / `tangent` is the model's
    `Geometry.parallelVector R alt[j] max_alt` — in particular the ray origin `-(R + 2·max_alt)` -/
theorem src_parallel_vector (R maxAlt : α) (alt : Nat → α) (nA : Nat) :
    Gen.SrcC03.parallel_vector R alt maxAlt nA
      = (rows (fun j => (Geometry.parallelVector R (alt j) maxAlt).1),
         rows (fun j => (Geometry.parallelVector R (alt j) maxAlt).2)) := by
  -- `viewer` is `rows` of the model's vectors as written; `tangent` has `0` in both of its other rows
  refine Prod.ext rfl (funext fun r => funext fun j => ?_)
  show (if r = 1 then R + alt j else 0) = if r = 1 then R + alt j else if r = 0 then 0 else 0
  rw [ite_self]

/-- `TransmissionModel.compute_path_length`: the rows come from `planet.compute_path_length` (→
    `compute_path_length_3d`, a parameter) called with the altitude boundaries and, for tangent layer `l`, the line of
    sight `parallelVector rp (z[l] + dz[l]/2) (max of the boundaries)` — the inputs of the model's
    `Geometry.layerDists` -/
theorem src_compute_path_length (n : Nat) (rp : α) (zb z dz : Nat → α)
    (planetPaths : (Nat → α) → (Nat → Nat → α) → (Nat → Nat → α) → List (Nat → α)) :
    Gen.SrcC03.compute_path_length dz n planetPaths rp zb z
      = planetPaths zb
          (rows (fun l => (Geometry.parallelVector rp (z l + dz l / 2) (Geometry.arrMax n zb)).1))
          (rows (fun l => (Geometry.parallelVector rp (z l + dz l / 2) (Geometry.arrMax n zb)).2)) := by
  unfold Gen.SrcC03.compute_path_length
  simp only [src_parallel_vector]
  rfl

/-! ### the whole `path_integral` -/

/-- what `contrib.contribute(self, s, e, off, layer, density, tau, path_length=dl)` executes (Python's dynamic
    dispatch) for a prepared contribution of each model kind: `Contribution.contribute` (absorption, Rayleigh, hazes:
    kernel `contribute_tau`), `CIAContribution.contribute`, `SimpleCloudsContribution.contribute`; `ngrid` is the
    contributions' `self._ngrid` (= `wngrid.shape[0]`, set by `prepare`), `total` is `CIAContribution._total_cia` -/
def dispatch (ngrid total nL : Nat) (c : Contrib α) (s e off layer : Nat) (dens : Nat → α) (tau : Nat → Nat → α)
    (path : Nat → α) : Nat → Nat → α :=
  match c.kind with
  | .lin => Gen.SrcC03.contribution_contribute s e off layer dens tau path ngrid c.sigma
  | .sq => Gen.SrcC03.cia_contribute s e off layer dens tau path ngrid c.sigma total
  | .layerOnly => Gen.SrcC03.clouds_contribute layer tau nL ngrid c.sigma

/-- one dispatched call, as `path_integral` makes it -/
theorem dispatch_row (n nwn total : Nat) (ht : 0 < total) (c : Contrib α) (l : Nat) (dens path : Nat → α)
    (tau : Nat → Nat → α) :
    (∀ i j, i ≠ l → dispatch nwn total n c 0 (n - l) l l dens tau path i j = tau i j) ∧
    (∀ j < nwn, dispatch nwn total n c 0 (n - l) l l dens tau path l j = addContrib c n path dens l (tau l) j) := by
  obtain ⟨kind, sigma⟩ := c
  cases kind
  · exact rowCall_of_kernel (src_contribute_tau_call n l nwn sigma dens path tau)
  · refine rowCall_of_kernel (v := addContrib ⟨.sq, sigma⟩ n path dens l (tau l)) ?_
    simp only [dispatch, src_cia_contribute, if_pos ht, src_contribute_cia_call]
  · exact rowCall_of_row (src_clouds_contribute n l n nwn sigma dens path tau)

/-- the loop over the contribution list (with its break) on row `l` of the table -/
theorem layer_loop (n nwn total : Nat) (ht : 0 < total) (l : Nat) (dens path : Nat → α) (cs : List (Contrib α))
    (tau : Nat → Nat → α) :
    (∀ i j, i ≠ l →
      cutLoop (fun t : Nat → Nat → α => saturated nwn (t l))
        (fun c t => dispatch nwn total n c 0 (n - l) l l dens t path) cs tau i j = tau i j) ∧
    (∀ j < nwn,
      cutLoop (fun t : Nat → Nat → α => saturated nwn (t l))
        (fun c t => dispatch nwn total n c 0 (n - l) l l dens t path) cs tau l j
        = tauCutFrom n nwn path dens l cs (tau l) j) :=
  layer_loop_of (fun c l dens path tau => dispatch_row n nwn total ht c l dens path tau) l dens path cs tau

/-- **`path_integral`, optical depth part**: for whatever list of chord rows `paths` the code computed, entry
    `(l, wn)` of the returned `exp(-tau)` is the transmittance of the model's loop with the early exit, `tauCut`, and the
    returned absorption is `depth` of these.  (`0 < total`: a CIA contribution, if present, has at least one pair.) -/
theorem src_path_integral (n nwn total : Nat) (ht : 0 < total) (rp rs : α) (z dz dens : Nat → α)
    (zb : Nat → α) (cs : List (Contrib α)) (newMethod : Bool)
    (planetPaths : (Nat → α) → (Nat → Nat → α) → (Nat → Nat → α) → List (Nat → α)) :
    let paths := if newMethod then Gen.SrcC03.compute_path_length dz n planetPaths rp zb z
      else Gen.SrcC03.compute_path_length_old dz n rp z
    let r := Gen.SrcC03.path_integral nwn cs (dispatch nwn total n) dz dens n newMethod planetPaths rp rs zb z
    (∀ l < n, ∀ wn < nwn,
        r.2 l wn = trans (tauCut n nwn (paths.getD l (fun _ => 0)) dens l cs wn)) ∧
    (∀ wn < nwn,
        r.1 wn = depth rp rs n z dz (fun l => trans (tauCut n nwn (paths.getD l (fun _ => 0)) dens l cs wn))) := by
  intro paths r
  -- the regenerated `path_integral` unfolds to the two nested folds of `path_integral_of`, with `paths` its `path_length`
  exact path_integral_of (fun c l dens path tau => dispatch_row n nwn total ht c l dens path tau) rp rs z dz dens
    (fun l => paths.getD l (fun _ => 0)) cs

end

/-! ### `model_contrib`: every contribution run alone, the results in a dict keyed by the contribution's name -/

/-- python `d[k] = v` on a dict kept in insertion order: an existing key keeps its position and gets the new value -/
def dictSet {β : Type} (d : List (String × β)) (k : String) (v : β) : List (String × β) :=
  if d.any (fun e => e.1 == k) then d.map (fun e => if e.1 == k then (k, v) else e) else d ++ [(k, v)]

/-- `for c in cs: d[key c] = val c` -/
def dictFill {ι β : Type} (key : ι → String) (val : ι → β) (cs : List ι) (d : List (String × β)) : List (String × β) :=
  cs.foldl (fun d c => dictSet d (key c) (val c)) d

theorem dictSet_keys_of_mem {β : Type} (d : List (String × β)) (k : String) (v : β) (h : k ∈ d.map (·.1)) :
    (dictSet d k v).map (·.1) = d.map (·.1) := by
  have hany : d.any (fun e => e.1 == k) = true := by
    obtain ⟨e, he, hk⟩ := List.mem_map.1 h
    exact List.any_eq_true.2 ⟨e, he, by simp [hk]⟩
  unfold dictSet
  rw [if_pos hany, List.map_map]
  apply List.map_congr_left
  intro e _
  by_cases hk : e.1 == k
  · simp only [Function.comp, hk, if_true]; exact (beq_iff_eq.1 hk).symm
  · simp [Function.comp, hk]

theorem dictSet_of_not_mem {β : Type} (d : List (String × β)) (k : String) (v : β) (h : k ∉ d.map (·.1)) :
    dictSet d k v = d ++ [(k, v)] := by
  have hany : ¬ d.any (fun e => e.1 == k) = true := by
    intro ht
    obtain ⟨e, he, hk⟩ := List.any_eq_true.1 ht
    exact h (List.mem_map.2 ⟨e, he, beq_iff_eq.1 hk⟩)
  unfold dictSet
  rw [if_neg hany]

/-- distinct names: the dict has one entry per contribution, in order -/
theorem dictFill_nodup {ι β : Type} (key : ι → String) (val : ι → β) (cs : List ι) (d : List (String × β))
    (hnd : (d.map (·.1) ++ cs.map key).Nodup) :
    dictFill key val cs d = d ++ cs.map (fun c => (key c, val c)) := by
  induction cs generalizing d with
  | nil => simp [dictFill]
  | cons c cs ih =>
    have hc : key c ∉ d.map (·.1) := by
      intro hmem
      have := (List.nodup_append.1 hnd).2.2 _ hmem (key c) (by simp)
      exact this rfl
    unfold dictFill
    rw [List.foldl_cons, dictSet_of_not_mem d (key c) (val c) hc]
    have := ih (d ++ [(key c, val c)]) (by simpa [List.append_assoc] using hnd)
    unfold dictFill at this
    rw [this]
    simp

/-- a name that occurs twice (or is already in the dict) costs an entry: the dict ends up with fewer entries than there
    were contributions (K4: `FlatMieContribution` and `LeeMieContribution` are both called 'Mie') -/
theorem dictFill_length_lt {ι β : Type} (key : ι → String) (val : ι → β) (cs : List ι) (d : List (String × β))
    (hbad : ¬ (d.map (·.1) ++ cs.map key).Nodup) (hd : (d.map (·.1)).Nodup) :
    (dictFill key val cs d).length < d.length + cs.length := by
  have hle : ∀ (cs : List ι) (d : List (String × β)), (dictFill key val cs d).length ≤ d.length + cs.length := by
    intro cs
    induction cs with
    | nil => intro d; simp [dictFill]
    | cons c cs ih =>
      intro d
      have h := ih (dictSet d (key c) (val c))
      have hl : (dictSet d (key c) (val c)).length ≤ d.length + 1 := by
        unfold dictSet; split <;> simp
      unfold dictFill at h ⊢
      rw [List.foldl_cons, List.length_cons]
      omega
  induction cs generalizing d with
  | nil => simp at hbad; exact absurd hd hbad
  | cons c cs ih =>
    unfold dictFill
    rw [List.foldl_cons, List.length_cons]
    by_cases hc : key c ∈ d.map (·.1)
    · have hl : (dictSet d (key c) (val c)).length = d.length := by
        have := congrArg List.length (dictSet_keys_of_mem d (key c) (val c) hc)
        simpa using this
      have := hle cs (dictSet d (key c) (val c))
      unfold dictFill at this
      omega
    · rw [dictSet_of_not_mem d (key c) (val c) hc]
      have hd' : ((d ++ [(key c, val c)]).map (·.1)).Nodup := by
        rw [List.map_append, List.nodup_append]
        refine ⟨hd, by simp, ?_⟩
        intro a ha b hb
        simp at hb
        subst hb
        intro hab; subst hab; exact hc ha
      have := ih (d ++ [(key c, val c)]) (by simpa [List.append_assoc] using hbad) hd'
      unfold dictFill at this
      simp at this ⊢
      omega

section
variable {α : Type} [Add α] [Sub α] [Mul α] [Div α] [Neg α] [LT α] [LE α]
  [DecidableLT α] [DecidableLE α] [OfNat α 0] [OfNat α 1] [OfNat α 2] [OfNat α 10] [Transc α]

/-- `SimpleForwardModel.model_contrib()` (no `wngrid`): the native grid, and the dict filled by running the regenerated
    `path_integral` on `[prepare c]` for every contribution `c` in turn, under the key `name (prepare c)` -/
theorem src_model_contrib {ι : Type} (cs : List ι)
    (contribute : ι → Nat → Nat → Nat → Nat → (Nat → α) → (Nat → Nat → α) → (Nat → α) → (Nat → Nat → α))
    (dz dens : Nat → α) (n nW : Nat) (name : ι → String) (grid : Nat → α) (newMethod : Bool)
    (planetPaths : (Nat → α) → (Nat → Nat → α) → (Nat → Nat → α) → List (Nat → α)) (prepare : ι → ι) (rp rs : α)
    (zb z : Nat → α) :
    Gen.SrcC03.model_contrib cs contribute dz dens n nW name grid newMethod planetPaths prepare rp rs zb z
      = (grid, dictFill (fun c => name (prepare c))
          (fun c => Gen.SrcC03.path_integral nW [prepare c] contribute dz dens n newMethod planetPaths rp rs zb z) cs []) :=
  rfl
end

/-! ### `model_full_contrib`: every COMPONENT of every contribution run alone, the generator protocol explicit -/

/-- `for g in gs: xs.append(f g)` -/
theorem foldl_append_map {β γ : Type} (f : β → γ) (l : List β) (init : List γ) :
    l.foldl (fun acc g => acc ++ [f g]) init = init ++ l.map f :=
  Taurex.foldl_append_map f l init

section
variable {α : Type} [Add α] [Sub α] [Mul α] [Div α] [Neg α] [LT α] [LE α]
  [DecidableLT α] [DecidableLE α] [OfNat α 0] [OfNat α 1] [OfNat α 2] [OfNat α 10] [Transc α]

/-- what the suspended `CIAContribution.prepare_each` has published in `self.sigma_xsec` at each yield IS the yielded
    component -/
theorem src_cia_published {ι : Type} (nL nW : Nat) (T : Nat → α) (ciaXsec : ι → α → Nat → α)
    (mixOne mixTwo : ι → Nat → α) (pairs : List ι) :
    Gen.SrcC03.cia_prepare_each_published nW T ciaXsec mixOne mixTwo nL pairs
      = Gen.SrcC03.cia_prepare_each nW T ciaXsec mixOne mixTwo nL pairs := rfl

theorem src_rayleigh_published {ι : Type} (nL nW : Nat) (law : ι → Nat → α) (lawDefined : ι → Bool)
    (mix : ι → Nat → α) (molecules : List ι) :
    Gen.SrcC03.rayleigh_prepare_each_published nW law lawDefined mix molecules nL
      = Gen.SrcC03.rayleigh_prepare_each nW law lawDefined mix molecules nL := rfl

theorem src_absorption_published {ι : Type} (nlayers nW : Nat) (T P : Nat → α) (opacity : ι → α → α → Nat → α)
    (mix : ι → Nat → α) (gases : List ι) :
    Gen.SrcC03.absorption_prepare_each_published nW P T gases mix nlayers opacity
      = Gen.SrcC03.absorption_prepare_each nW P T gases mix nlayers opacity := rfl

theorem src_absorption_published_shapes {ι : Type} (nlayers nW : Nat) (T P : Nat → α)
    (opacity : ι → α → α → Nat → α) (mix : ι → Nat → α) (gases : List ι) :
    Gen.SrcC03.absorption_prepare_each_published_shapes nW P T gases mix nlayers opacity :=
  src_absorption_prepare_each_shapes nlayers nW T P opacity mix gases

section
variable [OfNat α 4] [OfNat α 5] [OfNat α 10000]

/-- the cloud deck and the two hazes (one component each): what each suspended `prepare_each` has published in
    `self.sigma_xsec` at its yield IS the yielded component.  (Regression statement for the defect of DESIGN §6 in which
    `SimpleCloudsContribution.prepare_each` stores its deck in `self._contrib` only, so that the component route integrates the
    `sigma_xsec` of the last `prepare()`; for that code the published array is not a function of the generator's inputs.) -/
theorem src_clouds_published (nL nW : Nat) (P : Nat → α) (p0 inf : α) :
    Gen.SrcC03.clouds_prepare_each_published nW P inf nL p0 = Gen.SrcC03.clouds_prepare_each nW P inf nL p0 := rfl

theorem src_lee_published (n nW : Nat) (P wnv : Nat → α) (bottomRaw topRaw pi a q mix c1 c2 : α) (pw : α → α → α) :
    Gen.SrcC03.lee_prepare_each_published wnv nW P (a := a) (bottomRaw := bottomRaw) (c0p2 := c1) (c1em06 := c2)
        (mix := mix) (nL := n) (pi := pi) (powf := pw) (q := q) (topRaw := topRaw)
      = Gen.SrcC03.lee_prepare_each wnv nW P (a := a) (bottomRaw := bottomRaw) (c0p2 := c1) (c1em06 := c2)
        (mix := mix) (nL := n) (pi := pi) (powf := pw) (q := q) (topRaw := topRaw) := rfl

theorem src_flat_published (n nW : Nat) (plev : Nat → α) (bottomRaw topRaw mix : α) :
    Gen.SrcC03.flat_prepare_each_published nW bottomRaw mix n plev topRaw
      = Gen.SrcC03.flat_prepare_each nW bottomRaw mix n plev topRaw := rfl

/-- … and these are the definitions the C19 ties are about (the same source text, regenerated for both properties): the
    theorems of `Props/C19Src.lean` (`src_clouds_prepare_each`, `src_lee_prepare_each`, `src_flat_prepare_each`: equal to
    `Haze.cloudSigma` / `leeSigma` / `flatSigma`) therefore describe the published components too -/
theorem src_clouds_same_as_c19 (nL nW : Nat) (P : Nat → α) (p0 inf : α) :
    Gen.SrcC03.clouds_prepare_each nW P inf nL p0 = Gen.SrcC19.clouds_prepare_each nW P inf nL p0 := rfl

theorem src_lee_same_as_c19 (n nW : Nat) (P wnv : Nat → α) (bottomRaw topRaw pi a q mix c1 c2 : α) (pw : α → α → α) :
    Gen.SrcC03.lee_prepare_each wnv nW P (a := a) (bottomRaw := bottomRaw) (c0p2 := c1) (c1em06 := c2)
        (mix := mix) (nL := n) (pi := pi) (powf := pw) (q := q) (topRaw := topRaw)
      = Gen.SrcC19.lee_prepare_each wnv nW P (a := a) (bottomRaw := bottomRaw) (c0p2 := c1) (c1em06 := c2)
        (mix := mix) (nL := n) (pi := pi) (powf := pw) (q := q) (topRaw := topRaw) := rfl

theorem src_flat_same_as_c19 (n nW : Nat) (plev : Nat → α) (bottomRaw topRaw mix : α) :
    Gen.SrcC03.flat_prepare_each nW bottomRaw mix n plev topRaw
      = Gen.SrcC19.flat_prepare_each nW bottomRaw mix n plev topRaw := rfl

end

/-- `SimpleForwardModel.model_full_contrib()` (no `wngrid`): the native grid, and the dict that holds, under `contrib.name`
    (read before the generator is created), one record per element of `contrib.prepare_each(…)`: the yielded name and what
    the regenerated `path_integral` returns for the one-element list holding THE STATE THE CONTRIBUTION IS IN AT THAT YIELD
    (`prepareEach c` lists the (yielded name, state at the yield) pairs: the generator is suspended while `path_integral`
    runs, so `contrib.contribute` reads the `sigma_xsec` published before that yield) -/
theorem src_model_full_contrib {ι : Type} (cs : List ι)
    (contribute : ι → Nat → Nat → Nat → Nat → (Nat → α) → (Nat → Nat → α) → (Nat → α) → (Nat → Nat → α))
    (dz dens : Nat → α) (n nW : Nat) (cname : ι → String) (grid : Nat → α) (newMethod : Bool)
    (planetPaths : (Nat → α) → (Nat → Nat → α) → (Nat → Nat → α) → List (Nat → α))
    (prepareEach : ι → List (String × ι)) (rp rs : α) (zb z : Nat → α) :
    Gen.SrcC03.model_full_contrib cname cs contribute dz dens n nW grid newMethod planetPaths prepareEach rp rs zb z
      = (grid, dictFill cname (fun c => (prepareEach c).map (fun g =>
          (g.1, Gen.SrcC03.path_integral nW [g.2] contribute dz dens n newMethod planetPaths rp rs zb z))) cs []) := by
  have h : ∀ c, (prepareEach c).map (fun g =>
        (g.1, Gen.SrcC03.path_integral nW [g.2] contribute dz dens n newMethod planetPaths rp rs zb z))
      = (prepareEach c).foldl (fun acc g => acc ++ [(g.1,
          Gen.SrcC03.path_integral nW [g.2] contribute dz dens n newMethod planetPaths rp rs zb z)]) [] := fun c => by
    rw [foldl_append_map]; rfl
  unfold dictFill dictSet
  simp only [h]
  rfl
end

end Taurex.C03Src
