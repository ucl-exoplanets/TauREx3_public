/-
  C07 — retrieval set-up depends only on current settings; updates touch only fitted parameters.

  The theorems are about `Taurex.OptimizerSM.step` / `run` / `compile` / `updateModel` / `fitNames` / `fitValues`,
  the same definitions `driver_c07` executes against `taurex.optimizer.optimizer.Optimizer` (harness/c07.py).
  Names `ν` are any type with decidable equality; values `α` any carrier with the operations the code uses
  (the structural theorems need no real analysis); `writeback_id` is over ℝ.

  `WF s` : parameter names are unique across the model and observation tables (Python dict keys within a table;
  the harness keeps the two tables disjoint — with a shared name the observation parameter silently inherits the
  model parameter's default prior, which is outside what the property describes).

  The second part is about `FittingSection.setupOptimizer` (`ParameterParser.setup_optimizer` on the `[Fitting]` / `[Derive]`
  sections, names `String`): the set-up it reaches is the one the section implies, unknown names are errors, the order of
  the lines does not matter.  The third is about `FittableTable`: the table the optimizer reads is the one the object
  declares, and changing bounds touches one entry.
-/
import Proofs.C07Real
import Proofs.C07FittingOrder
import Proofs.FittableTable

namespace Taurex.C07
open Taurex.Priors Taurex.OptimizerSM Taurex.FittingSection

section
variable {ν α : Type} [DecidableEq ν] [LT α] [DecidableLT α] [OfNat α 0] [Mul α] [Transc α]

/-- **History freedom.**  After *any* operation sequence from *any* well-formed state, a final `compile_params`
    leaves exactly the view (`fitting_parameters` snapshots in order, `fitting_priors`, `derived_parameters`) and the
    outcome (ok / ValueError) that the specification `implied` computes from the current settings alone
    (tables, derived flags, user-set priors): nothing of an earlier compilation survives. -/
theorem compile_history_free (init : St ν α) (hwf : WF init) (ops : List (Op ν α)) :
    (view (run init (ops ++ [.compile])), (step (run init ops) .compile).2) = implied (settings (run init ops)) := by
  rw [run_append]
  simp only [run]
  exact compile_eq_implied (run init ops) (WF_run init ops hwf)

/-- what `implied` says about names and order: the fitted parameters, model table first, then the observation's,
    each in table order -/
theorem implied_names_order (σ : Settings ν α) (hok : (implied σ).2 = .ok) :
    (implied σ).1.entries.map (·.name) =
      (σ.model.filter (·.fit)).map (·.name) ++ (σ.obs.filter (·.fit)).map (·.name) := by
  have key : ∀ (o : Owner) (ps : List (Param ν α)) (rows : List (Entry ν α × Prior α)),
      impliedRows σ.userPriors o ps = some rows →
      (rows.map (·.1)).map (·.name) = (ps.filter (·.fit)).map (·.name) := by
    intro o ps rows h
    rw [List.map_map]
    exact rnames_impliedRows h
  unfold implied at hok ⊢
  cases hm : impliedRows σ.userPriors Owner.model σ.model with
  | none => simp [hm] at hok
  | some rm =>
    simp only [hm] at hok ⊢
    cases ho : impliedRows σ.userPriors Owner.obs σ.obs with
    | none => simp [ho] at hok
    | some ro =>
      simp only [List.map_append]
      rw [key _ _ rm hm, key _ _ ro ho]

/-- **Consistent spaces (names).**  Right after a successful compilation the reported name of every row carries the
    `log_` prefix exactly when the prior *of that row* is a log-space prior — the same prior whose space
    `fit_values` / `fit_boundaries` report in and whose `prior()` `update_model` applies. -/
theorem spaces_consistent_names (s : St ν α) (hwf : WF s) (hok : (step s .compile).2 = .ok) :
    fitNames (step s .compile).1 = some (impliedNames (view (step s .compile).1)) :=
  fitNames_compile s hwf

/-- **Frame condition of `update_model`.**  A successful update leaves every mode, fit flag and bound of both tables,
    the derived flags, both prior tables and the compiled view untouched, and every parameter that is not a compiled
    row keeps its value. -/
theorem update_frame (s : St ν α) (v : List α) (hok : (step s (.updateModel v)).2 = .ok) :
    frame (step s (.updateModel v)).1 = frame s ∧
    ∀ (o : Owner) (n : ν), (∀ e ∈ s.compiled, ¬ (e.owner = o ∧ e.name = n)) →
      getValue (step s (.updateModel v)).1 o n = getValue s o n :=
  updateModel_frame s v

/-- **`update_model` sets exactly the fitted parameters.**  In any state reached from a well-formed one that
    satisfies the compiled-view invariant (in particular from a fresh optimizer), a vector of the right length sets
    the parameter of row `i` to `prior_i(v_i)` (`v_i` or `10 ** v_i`). -/
theorem update_sets_fitted (init : St ν α) (hwf : WF init) (hinv : Inv init) (ops : List (Op ν α)) (v : List α)
    (hlen : v.length = (run init ops).compiled.length) :
    let s := run init ops
    (step s (.updateModel v)).2 = .ok ∧
    ∀ epx ∈ s.compiled.zip (s.compiledPriors.zip v),
      getValue (step s (.updateModel v)).1 epx.1.owner epx.1.name = some (epx.2.1.back epx.2.2) :=
  updateModel_sets _ (Inv_run ops init hwf hinv) v hlen

/-- a vector of the wrong length is a `ValueError` and changes nothing -/
theorem update_len_error (s : St ν α) (v : List α) (h : v.length ≠ s.compiled.length) :
    step s (.updateModel v) = (s, .valueError) := by
  simp [step, updateModel, h]

/-- **Unknown names are errors.**  Every operation that names a parameter found in neither table (for the derived
    operations: in neither derived table) returns an error and leaves the state as it was. -/
theorem unknown_is_error (s : St ν α) (n : ν) (hm : n ∉ names s.model) (ho : n ∉ names s.obs)
    (hdm : n ∉ s.dmodel.map (·.name)) (hdo : n ∉ s.dobs.map (·.name)) (m : String) (a b : α) (p : Prior α) :
    step s (.enableFit n) = (s, .keyError) ∧ step s (.disableFit n) = (s, .keyError) ∧
    step s (.setMode n m) = (s, .keyError) ∧ step s (.setBoundary n a b) = (s, .keyError) ∧
    step s (.setFactorBoundary n a b) = (s, .keyError) ∧ step s (.setPrior n p) = (s, .valueError) ∧
    step s (.enableDerived n) = (s, .keyError) ∧ step s (.disableDerived n) = (s, .keyError) := by
  have wp := fun f => withParam_not_mem s n f hm ho
  have wd := fun c => withDerived_not_mem s n c hdm hdo
  have hh := hasName_owner_not_mem s n hm ho
  exact ⟨wp _, wp _, by simp [step, hh], wp _, wp _, by simp [step, hh], wd true, wd false⟩

/-- the compiled-view invariant holds along every history of a fresh optimizer: rows and priors pair up, rows are
    distinct and refer to existing parameters (so `update_model`'s zip never truncates) -/
theorem compiled_invariant (model obs : List (Param ν α)) (dm dob : List (Derived ν))
    (hwf : WF (initSt model obs dm dob)) (ops : List (Op ν α)) : Inv (run (initSt model obs dm dob) ops) :=
  Inv_run ops _ hwf (by simp [Inv, initSt, keys])

/-- `fit_names` never raises along any history of a fresh optimizer: every compiled row finds a prior under its
    name in `_fit_priors` -/
theorem fit_names_total (model obs : List (Param ν α)) (dm dob : List (Derived ν))
    (hwf : WF (initSt model obs dm dob)) (ops : List (Op ν α)) :
    (fitNames (run (initSt model obs dm dob) ops)).isSome = true :=
  fitNamesAux_isSome _ _ (Covered_run ops _ hwf (by intro e he; simp [initSt] at he))

end

section
variable {ν : Type} [DecidableEq ν]

/-- **Write-back identity** (over ℝ).  If `fit_values` can be reported at all (every log-space row has a positive
    value), writing the reported vector back with `update_model` succeeds and changes nothing: values are reported in
    the space the update transforms from (`10 ^ log10 v = v`). -/
theorem writeback_id (init : St ν ℝ) (hwf : WF init) (hinv : Inv init) (ops : List (Op ν ℝ)) (v : List ℝ)
    (hv : fitValues (run init ops) = some v) :
    step (run init ops) (.updateModel v) = (run init ops, .ok) :=
  updateModel_writeback _ (WF_run init ops hwf) (Inv_run ops init hwf hinv).1 v hv

end

/-! ### `[Fitting]` / `[Derive]` sections of an input file (`ParameterParser.setup_optimizer`) -/

section
variable {α : Type} [LT α] [DecidableLT α] [OfNat α 0] [Mul α] [Transc α]

/-- **The set-up an input file asks for.**  If `setup_optimizer` runs through on a fresh optimizer (names unique across
    the tables, derived names of model and observation disjoint), then the following `compile_params` leaves exactly
    what `implied` computes from the settings the two sections *describe* (`sectionSettings`): every mentioned
    parameter with the fit flag as written (False when no `:fit` line exists), the bounds as written — else the
    written factors times the current value, else the declared bounds —, the mode as written, the written prior as its
    user prior; every derived parameter with the compute flag as written; everything not mentioned at its declared
    default.  `create_prior` is the arbitrary parameter `mkPrior`. -/
theorem fitting_section_implied (mkPrior : OptVal α → Option (Prior α)) (model obs : List (Param String α))
    (dm dob : List (Derived String)) (fitting derive : List (String × OptVal α))
    (hwf : WF (initSt model obs dm dob)) (hdd : DisjD (initSt model obs dm dob : St String α))
    (hok : (setupOptimizer mkPrior (initSt model obs dm dob) fitting derive).2.1 = .ok) :
    ∃ grp dl, parseFitting mkPrior fitting [] = .ok grp ∧ splitAll derive = some dl ∧
      (view (step (setupOptimizer mkPrior (initSt model obs dm dob) fitting derive).1 .compile).1,
       (step (setupOptimizer mkPrior (initSt model obs dm dob) fitting derive).1 .compile).2) =
        implied (sectionSettings (initSt model obs dm dob) grp (deriveRecs dl [])) := by
  obtain ⟨grp, dl, hp, hsd, hset, hw'⟩ :=
    setup_ok_settings mkPrior (initSt model obs dm dob) hwf hdd rfl fitting derive hok
  refine ⟨grp, dl, hp, hsd, ?_⟩
  rw [← hset]
  exact compile_eq_implied _ hw'

/-- **Unknown names and malformed keys in a section are errors.**  On any well-formed state:
    a `[Fitting]` key that is not `name:option` raises before a single optimizer call is made (state unchanged);
    a `[Fitting]` line naming a parameter found in neither table makes `setup_optimizer` raise;
    a `[Derive]` key that is not `name:option` makes it raise;
    a `[Derive]` line `name:compute` naming an unknown derived parameter makes it raise.
    (Not errors in the code, and therefore not here: an unknown *option* after the colon — e.g. `T:fitt`, `mu:computed` —
    is stored and ignored, and the line still counts as a mention of the parameter.) -/
theorem fitting_unknown_is_error (mkPrior : OptVal α → Option (Prior α)) (s : St String α) (hw : WF s) (hd : DisjD s)
    (fitting derive : List (String × OptVal α)) :
    ((∃ kv ∈ fitting, splitKey kv.1 = none) →
      (setupOptimizer mkPrior s fitting derive).2.1 ≠ .ok ∧ (setupOptimizer mkPrior s fitting derive).1 = s ∧
      (setupOptimizer mkPrior s fitting derive).2.2 = []) ∧
    ((∃ kv ∈ fitting, ∃ a b, splitKey kv.1 = some (a, b) ∧ ¬ Known s a) →
      (setupOptimizer mkPrior s fitting derive).2.1 ≠ .ok) ∧
    ((∃ kv ∈ derive, splitKey kv.1 = none) → (setupOptimizer mkPrior s fitting derive).2.1 ≠ .ok) ∧
    ((∃ kv ∈ derive, ∃ a, splitKey kv.1 = some (a, "compute") ∧ ¬ KnownD s a) →
      (setupOptimizer mkPrior s fitting derive).2.1 ≠ .ok) := by
  refine ⟨?_, ?_, ?_, ?_⟩
  · intro h
    obtain ⟨e, he⟩ := parseFitting_bad_key mkPrior fitting [] h
    unfold setupOptimizer
    simp only [he]
    exact ⟨by rcases parseFitting_error mkPrior fitting [] e he with rfl | rfl <;> decide, trivial, trivial⟩
  · rintro ⟨kv, hkv, a, b, hsp, hk⟩ hok
    obtain ⟨grp, dl, fops, hp, _, hf, hr, _, _⟩ := setup_ok_stages mkPrior s hw hd fitting derive hok
    obtain ⟨ar, hr', rfl⟩ := List.mem_map.1 ((parseFitting_names mkPrior fitting [] grp hp).2 kv hkv a b hsp)
    exact hk ((grp_run grp s fops hw hf hr).1 ar hr').1
  · intro h hok
    obtain ⟨_, dl, _, _, hsd, _, _, _, _⟩ := setup_ok_stages mkPrior s hw hd fitting derive hok
    rw [splitAll_none_of_bad derive h] at hsd
    cases hsd
  · rintro ⟨kv, hkv, a, hsp, hk⟩ hok
    obtain ⟨grp, dl, _, _, hsd, _, _, hdr, _⟩ := setup_ok_stages mkPrior s hw hd fitting derive hok
    have hmem := splitAll_mem derive dl hsd kv hkv a "compute" hsp
    obtain ⟨v, hv⟩ := Option.isSome_iff_exists.1 (deriveRecs_some dl [] a (Or.inl ⟨_, hmem, rfl, rfl⟩))
    have hd' : DisjD (applyGrp s grp) := DisjD_applyGrp hd grp
    have hkd := (derive_run (deriveRecs dl []) (applyGrp s grp) hd' hdr).1 (a, some v) (mem_of_getD hv) (by simp)
    obtain ⟨f3, f4⟩ := applyGrp_derived grp s
    apply hk
    unfold KnownD at hkd ⊢
    rw [f3, f4] at hkd
    exact hkd

/-- **The order of the `[Fitting]` lines is irrelevant.**  Two sections whose lines (split at the colon) are
    permutations of each other, with keys `name:option` unique as ConfigObj guarantees, are both refused by
    `generate_fitting_parameters` with the same error, or describe settings with the same `implied` set-up — which by
    `fitting_section_implied` is what `setup_optimizer` + `compile_params` produce.  (The `[Derive]` records `drecs` are
    held fixed here; their order-independence is checked on the real code by the harness only.) -/
theorem fitting_order_free (mkPrior : OptVal α → Option (Prior α)) (s0 : St String α)
    (ents ents' : List (String × OptVal α)) (ls ls' : List (Line α))
    (hs : splitAll ents = some ls) (hs' : splitAll ents' = some ls') (hperm : ls.Perm ls')
    (hnd : (ls.map lkey).Nodup) (drecs : List (String × Option (OptVal α))) :
    match parseFitting mkPrior ents [], parseFitting mkPrior ents' [] with
    | .ok grp, .ok grp' => implied (sectionSettings s0 grp drecs) = implied (sectionSettings s0 grp' drecs)
    | .error e, .error e' => e = e'
    | _, _ => False := by
  rw [parseFitting_eq_group mkPrior ents ls [] hs, parseFitting_eq_group mkPrior ents' ls' [] hs']
  have hg := group_perm mkPrior hperm hnd [] [] (GEq.refl _)
  cases h1 : group mkPrior ls [] with
  | none =>
    cases h2 : group mkPrior ls' [] with
    | none => rfl
    | some g' => rw [h1, h2] at hg; exact hg.elim
  | some g =>
    cases h2 : group mkPrior ls' [] with
    | none => rw [h1, h2] at hg; exact hg.elim
    | some g' =>
      rw [h1, h2] at hg
      simp only
      have n1 : (gkeys g).Nodup := nodup_group mkPrior ls [] g (by simp [gkeys]) h1
      have n2 : (gkeys g').Nodup := nodup_group mkPrior ls' [] g' (by simp [gkeys]) h2
      unfold sectionSettings
      rw [describeTable_congr g g' hg, describeTable_congr g g' hg]
      apply implied_congr
      intro n
      rw [tget_describePriors g n1, tget_describePriors g' n2, hg n]

end

/-! ### the table the optimizer reads is the one the object declares (`Fittable`, `ForwardModel.fittingParameters`) -/

section
variable {α : Type} [OfNat α 0] [OfNat α 1]

/-- **The optimizer's table is the declared one.**  For an object whose declarations (decorator or `add_fittable_param`,
    also those made in a subclass constructor after `ForwardModel.__init__` returned) and `modify_bounds` calls all
    succeed, the table holds exactly the declared names in declaration order, and each parameter is found under its name
    with its declared mode and fit flag and with the bounds of the LAST `modify_bounds` naming it (its declared bounds when
    there is none): these are the "current settings" every operation of the optimizer starts from. -/
theorem declared_table_live (decls : List (FittableTable.Decl α)) (hist : List (String × α × α))
    (t : List (FittableTable.Entry α)) (h : FittableTable.declaredTable decls hist = some t) :
    t.map (·.name) = decls.map (·.name) ∧
    ∀ d ∈ decls, FittableTable.lookup t d.name = some
      { name := d.name, mode := d.entry.mode, fit := d.entry.fit,
        b0 := (FittableTable.lastBounds d.name hist (d.entry.b0, d.entry.b1)).1,
        b1 := (FittableTable.lastBounds d.name hist (d.entry.b0, d.entry.b1)).2 } :=
  FittableTable.declaredTable_spec decls hist t h

omit [OfNat α 0] [OfNat α 1] in
/-- `modify_bounds` has an exact frame: every entry keeps its place, name, mode and fit flag; the named parameter gets
    the new bounds and every other parameter is found unchanged; naming an undeclared parameter is an error. -/
theorem modify_bounds_frame (t : List (FittableTable.Entry α)) (n : String) (b0 b1 : α) :
    (∀ t', FittableTable.modifyBounds t n b0 b1 = some t' →
      t'.map (fun e => (e.name, e.mode, e.fit)) = t.map (fun e => (e.name, e.mode, e.fit)) ∧
      (∀ e, FittableTable.lookup t n = some e → FittableTable.lookup t' n = some { e with b0 := b0, b1 := b1 }) ∧
      (∀ m, m ≠ n → FittableTable.lookup t' m = FittableTable.lookup t m)) ∧
    (FittableTable.lookup t n = none → FittableTable.modifyBounds t n b0 b1 = none) := by
  constructor
  · intro t' h
    refine ⟨FittableTable.modifyBounds_frame t t' n b0 b1 h, ?_, ?_⟩
    · intro e he
      rw [FittableTable.lookup_modifyBounds t t' n n b0 b1 h, he]
      simp
    · intro m hm
      rw [FittableTable.lookup_modifyBounds t t' n m b0 b1 h]
      have : (n == m) = false := by simpa using (fun h : n = m => hm h.symm)
      cases FittableTable.lookup t m <;> simp [this]
  · intro hn
    have := FittableTable.modifyBounds_isSome t n b0 b1
    rw [hn] at this
    cases hm : FittableTable.modifyBounds t n b0 b1 with
    | none => rfl
    | some x => rw [hm] at this; simp at this

end

/-- non-vacuity: three declarations (one through the decorator without optional keywords, one added in the constructor),
    a boundary change of the first and one of the last -/
example : FittableTable.declaredTable (α := Rat)
    [⟨"T", none, none, none⟩, ⟨"H2O", some .log, some true, some (1/1000, 1/10)⟩, ⟨"coeff_0", some .linear, some false, some (0, 5)⟩]
    [("T", 300, 2000), ("coeff_0", 4, 1)] =
    some [⟨"T", .linear, false, 300, 2000⟩, ⟨"H2O", .log, true, 1/1000, 1/10⟩, ⟨"coeff_0", .linear, false, 4, 1⟩] := by
  decide +kernel

example : FittableTable.modifyBounds (α := Rat) [⟨"T", .linear, false, 300, 2000⟩] "nope" 1 2 = none := by decide +kernel

/-! ### non-vacuity: a state with two model parameters (one log), one observation parameter, one derived parameter -/

noncomputable def exInit : St String ℝ :=
  initSt [⟨"T", .linear, true, 100, 2000, 1500⟩, ⟨"H2O", .log, true, 1, 100, 10⟩]
         [⟨"Offset_1", .linear, false, -1, 1, 0⟩] [⟨"mu", true⟩] []

example : WF exInit := by
  simp [WF, exInit, initSt, names]

example : Inv exInit := by simp [Inv, exInit, initSt, keys]

/-- the specification is not trivially `ValueError`: both rows get priors, the second one in log space -/
example : (implied (settings exInit)).2 = .ok ∧ (implied (settings exInit)).1.entries.length = 2 ∧
    (implied (settings exInit)).1.priors.map Prior.mode = [.linear, .log] ∧
    (implied (settings exInit)).1.derived = ["mu"] := by
  simp [implied, settings, exInit, initSt, impliedRows, impliedRow, tget, defaultPrior, mkUniform, mkLogUniformLin,
    mkLogUniform, log10?, entryOf, derivedOf, Prior.mode]

/-- a history that changes a setting after a first compilation and enables the observation parameter -/
example : (run exInit [.compile, .setBoundary "T" 500 1000, .enableFit "Offset_1"]).compiled.length = 2 ∧
    ((run exInit [.compile, .setBoundary "T" 500 1000, .enableFit "Offset_1"]).model.map (·.b0)) = [500, 1] ∧
    ((run exInit [.compile, .setBoundary "T" 500 1000, .enableFit "Offset_1"]).obs.map (·.fit)) = [true] := by
  simp [run, step, compile, compileTable, exInit, initSt, tget, tset, defaultPrior, mkUniform, mkLogUniformLin, mkLogUniform,
    log10?, entryOf, derivedOf, withParam, ownerOf, hasName, table, setTable, modifyParam]

/-- an unknown name exists for `unknown_is_error` -/
example : "nope" ∉ names exInit.model ∧ "nope" ∉ names exInit.obs := by
  simp [exInit, initSt, names]

/-- `writeback_id` is not vacuous: the reported vector exists after a compilation of `exInit` -/
example : ∃ v, fitValues (run exInit [.compile]) = some v ∧ v.length = 2 := by
  refine ⟨[1500, Real.log 10 / Real.log 10], ?_, rfl⟩
  simp [run, step, compile, compileTable, exInit, initSt, tget, tset, defaultPrior, mkUniform, mkLogUniformLin, mkLogUniform,
    log10?, entryOf, derivedOf, fitValues, fitValuesAux, reportValue, getValue, table, Prior.mode]

/-! ### non-vacuity of the section theorems -/

noncomputable def exFitting : List (String × OptVal ℝ) :=
  [("T:fit", .bool true), ("T:bounds", .nums [500, 1000]), ("H2O:mode", .str "LINEAR"), ("Offset_1:fit", .str "yes"),
   ("Offset_1:factor", .nums [0.5, 2])]

noncomputable def exDerive : List (String × OptVal ℝ) := [("mu:compute", .bool false)]

example : DisjD exInit := by
  intro n hn; simp [exInit, initSt, dnames] at hn ⊢

/-- `setup_optimizer` runs through on this section (hypothesis `hok` of `fitting_section_implied`) -/
example : (setupOptimizer (fun _ => none) exInit exFitting exDerive).2.1 = .ok := by
  -- the outcome depends on strings only (keys, names, the mode text): the kernel can evaluate it although the carrier is ℝ
  decide +kernel

/-- keys that do not split, and unknown names, exist (hypotheses of `fitting_unknown_is_error`) -/
example : splitKey "Tfit" = none ∧ splitKey "T:fit:x" = none ∧ ¬ Known exInit "no_such_param" ∧ ¬ KnownD exInit "nope" := by
  refine ⟨by decide +kernel, by decide +kernel, ?_, ?_⟩ <;> simp [Known, KnownD, exInit, initSt, names, dnames]

/-- two different orders of the same lines with unique keys (hypotheses of `fitting_order_free`) -/
example : ∃ ls ls' : List (Line ℝ), splitAll exFitting = some ls ∧ splitAll exFitting.reverse = some ls' ∧ ls.Perm ls' ∧
    (ls.map lkey).Nodup ∧ ls ≠ ls' := by
  have k1 : splitKey "T:fit" = some ("T", "fit") := by decide +kernel
  have k2 : splitKey "T:bounds" = some ("T", "bounds") := by decide +kernel
  have k3 : splitKey "H2O:mode" = some ("H2O", "mode") := by decide +kernel
  have k4 : splitKey "Offset_1:fit" = some ("Offset_1", "fit") := by decide +kernel
  have k5 : splitKey "Offset_1:factor" = some ("Offset_1", "factor") := by decide +kernel
  refine ⟨_, _, by simp [exFitting, splitAll, k1, k2, k3, k4, k5]; rfl,
    by simp [exFitting, splitAll, k1, k2, k3, k4, k5]; rfl, ?_, ?_, ?_⟩
  · exact (List.reverse_perm _).symm
  · simp [lkey]
  · simp

/-! ### regression witness: the pinned `compile_params` (F11) is history dependent -/

/-- With the pinned `compile_params` (defaults cached in `_fit_priors`), the 3-operation history
    compile / set_boundary / compile ends with a stale prior: the view differs from what the settings imply.
    The same trace is `corpus/C07/stale_default_prior_after_set_boundary.json`, replayed on the real code on every run. -/
theorem stale_prior_witness_pinned :
    let init : St String ℝ := initSt [⟨"x", .linear, true, 0, 1, 0.5⟩] [] [] []
    let ops : List (Op String ℝ) := [.compile, .setBoundary "x" 2 3]
    view (runPinned init (ops ++ [.compile])) ≠ (implied (settings (runPinned init ops))).1 ∧
    view (run init (ops ++ [.compile])) = (implied (settings (run init ops))).1 := by
  intro init ops
  constructor
  · intro h
    have hp := congrArg View.priors h
    simp [init, ops, runPinned, stepPinned, compilePinned, step, compileTable, initSt, tget, tset, defaultPrior, mkUniform,
      entryOf, derivedOf, withParam, ownerOf, hasName, table, setTable, modifyParam, view, implied, settings,
      impliedRows, impliedRow, pyMin, pyMax] at hp
    norm_num at hp
  · have := compile_history_free init (by simp [WF, init, initSt, names]) ops
    exact congrArg Prod.fst this

end Taurex.C07
