/-
  C18 — the property theorems restated about the REGENERATED source.  `Props/C18Src.lean` proves that the definitions
  translated on every run from `OnlineVariance.reset`, `.update`, `.variance`, `.combine_variance`, `.parallelVariance`
  (taurex/util/math.py), the generator `sample_iter` of `Optimizer.generate_profiles` and `Optimizer.compute_derived_trace`
  (taurex/optimizer/optimizer.py) are the model's `Acc.empty`, `update` (a stream of them: `accOf`), `variance`,
  `combine nanByValue`, `parallelVariance nanByValue`, `strided` and `derivedTraceGather`; `Props/C18.lean` proves the
  property about these.  The corollaries below compose the two: they are
  statements about the text of the code, over ℝ.

  What is composed
    * `srcStream l` = the attribute tuple `(count, wcount, wcount2, mean, M2)` after the regenerated `reset()` followed by
      the regenerated `update(x, w)` for every sample of `l` (`pyUpdate`: the `ZeroDivisionError` parameter `false`, as in
      the tie); `= enc (accOf l) …`.  The Python float `count` is shown to be `l.length`.
    * `srcCombine exch ranks` = the regenerated `combine_variance(averages, variances, counts)` called as
      `parallelVariance` calls it on the gathered objects — `averages = [exch (meanObj a)]`, `variances = [exch (variance
      a)]`, `counts = [a.wcount]` for the rank accumulators `a ∈ ranks`, `exch` = what one inter-rank exchange does to a
      float object (`ser`: pickling; `id`: no mpi4py) — at the carrier of Python float objects (`Obj ℝ`, `is_np_nan` = the
      identity tag), projected to values as in the tie.  The tie's hypotheses `hbeq` (numpy's `==` is `≤ ∧ ≥`) and
      `hrefl` are discharged for ℝ.  `.map (·.2)` is `finalvariance[-1]`, `.map (·.1)` the pooled mean.
      With `ranks = parts.map accOf` the accumulators are, by `srcStream_eq`, those the regenerated `reset`/`update` leave
      behind, and the gathered variance objects are those the regenerated `variance` property returns
      (`src_variance_stream`).
    * `srcRankVariance exch parts r` = what rank `r` reports: the regenerated `parallelVariance()` (tie
      `src_parallelVariance`) called on the attributes `srcStream parts[r]` left by the regenerated `reset`/`update`, the k-th
      `mpi.allgather` being the rank-ordered list of what every rank contributes to it (`gatherAt`; the calling rank's entry is
      the value the regenerated code computed), each through `exch`; `= pooledVariance exch parts` for EVERY rank.  This
      covers the gathers, `if mean is None: mean = np.nan`, the test `sum(all_counts) < 2 → np.nan`, the call of
      `combine_variance` and `finalvariance[-1]`.
    * the generator `sample_iter` of `generate_profiles` (`sample_list[rank::size]`, tie `src_sample_iter`) and
      `compute_derived_trace` for one derived parameter (`range(rank, n, size)`, the three `mpi.allreduce(…, 'SUM')`,
      `argsort`, `[restore]`; tie `src_compute_derived_trace`), instantiated as in the ties.

  Not restated (no source function)
    * `nan_identity_witness`, `derived_order_pinned`, and the `derivedTraceGatherPinned` half of `derived_order_tie_witness`:
      models of the defects F7 and K2 (`nanByIdentity`, `derivedTraceGatherPinned`), which the source does not contain.
      The `derivedTraceGather` half of `derived_order_tie_witness` is `src_derived_order_tie_witness`.
    * `drawn_samples_once`, `sigma_fraction_one_all_samples`: `sample_parameters` / `random_int_iter` (the random draw) and
      the constructors' `sigma_fraction` route are not translated.
-/
import Props.C18
import Props.C18Src
set_option linter.unusedSectionVars false

namespace Taurex.C18SrcProps
open Taurex Taurex.Variance Taurex.C18 Taurex.C18Src

/-! ### the streaming update -/

/-- the attributes `(count, wcount, wcount2, mean, M2)` after the regenerated `reset()` and one regenerated
    `update(x, w)` per sample -/
noncomputable def srcStream (l : List (ℝ × ℝ)) : ℝ × ℝ × ℝ × Option ℝ × Option ℝ :=
  l.foldl pyUpdate Gen.SrcC18.OnlineVariance_reset

theorem srcStream_eq (l : List (ℝ × ℝ)) :
    srcStream l = enc (accOf l) (l.foldl (fun c _ => c + 1) 0) (l.foldl (fun s p => s + p.2 * p.2) 0) :=
  src_update_stream l

/-- the Python float `count` after `n` updates is `n` -/
theorem count_fold (l : List (ℝ × ℝ)) (c : ℝ) : l.foldl (fun c _ => c + 1) c = c + l.length := by
  induction l generalizing c with
  | nil => simp
  | cons p l ih => rw [List.foldl_cons, ih]; simp only [List.length_cons]; push_cast; ring

/-- the model's natural `count` after `n` updates is `n` (no hypothesis on the weights) -/
theorem accOf_count (l : List (ℝ × ℝ)) : (accOf l).count = l.length := by
  induction l using List.reverseRecOn with
  | nil => rfl
  | append_singleton l a ih =>
    rw [accOf_snoc, List.length_append, ← ih]
    rfl

/-- **update_invariant**, about the regenerated `reset` / `update`: after any samples whose non-empty weight prefixes
    have positive sums the attributes hold the count, the total weight, the weighted mean `Σwx/Σw` and
    `M2 = Σ w (x - mean)²` (and `mean`, `M2` are no longer `None`) -/
theorem src_update_invariant (l : List (ℝ × ℝ)) (hne : l ≠ [])
    (hpos : ∀ k, 0 < k → k ≤ l.length → 0 < wsum (l.take k)) :
    (srcStream l).1 = l.length ∧ (srcStream l).2.1 = wsum l ∧ (srcStream l).2.2.2.1 = some (wmean l) ∧
      (srcStream l).2.2.2.2 = some (sumBy (fun p => p.2 * ((p.1 - wmean l) * (p.1 - wmean l))) l) := by
  obtain ⟨h1, h2, h3, h4⟩ := update_invariant l hne hpos
  have h0 : (accOf l).count ≠ 0 := by
    rw [h1]; exact fun h => hne (List.length_eq_zero_iff.1 h)
  rw [srcStream_eq]
  refine ⟨?_, h2, ?_, ?_⟩
  · show l.foldl (fun c _ => c + 1) 0 = _
    rw [count_fold, zero_add]
  · show pyOpt (accOf l) (accOf l).mean = _
    rw [pyOpt, if_neg h0, h3]
  · show pyOpt (accOf l) (accOf l).m2 = _
    rw [pyOpt, if_neg h0, h4]

/-- the object a rank sends as its variance is the one the regenerated `variance` property returns on the attributes the
    regenerated `reset`/`update` left behind (`np.nan` itself below two samples; `nanv` = the value of `np.nan`) -/
theorem src_variance_stream (l : List (ℝ × ℝ)) (nanv : ℝ) :
    variance (accOf l) = if (srcStream l).1 < 2 then npNan
      else Obj.ofNum (Gen.SrcC18.OnlineVariance_variance (M2 := (srcStream l).2.2.2.2) (count := (srcStream l).1)
                        (np_nan := nanv) (wcount := (srcStream l).2.1)) := by
  have hc : l.foldl (fun (c : ℝ) _ => c + 1) 0 < 2 ↔ (accOf l).count < 2 := by
    rw [count_fold, zero_add, accOf_count]
    exact_mod_cast Iff.rfl
  have h := src_variance (accOf l) _ (l.foldl (fun s p => s + p.2 * p.2) 0) nanv hc
  rw [srcStream_eq]
  exact h

/-! ### the pooled combination -/

theorem real_beq (a b : ℝ) : (a == b) = (decide (a ≤ b) && decide (b ≤ a)) := by
  by_cases h : a = b
  · subst h; simp
  · have h1 : (a == b) = false := by simp [h]
    have h2 : (decide (a ≤ b) && decide (b ≤ a)) = false := by
      rw [Bool.and_eq_false_iff, decide_eq_false_iff_not, decide_eq_false_iff_not]
      by_cases hab : a ≤ b
      · exact Or.inr (fun hba => h (le_antisymm hab hba))
      · exact Or.inl hab
    rw [h1, h2]

/-- the regenerated `combine_variance(averages, variances, counts)` on the objects gathered from the rank accumulators
    `ranks` through the exchange `exch`: `(average, squares/size)` as values; `none` = the Python raises -/
noncomputable def srcCombine (exch : Obj ℝ → Obj ℝ) (ranks : List (Acc ℝ)) : Option (Val ℝ × Val ℝ) :=
  (Gen.SrcC18.combine_variance (α := Obj ℝ) (ranks.map (fun a => exch (meanObj a)))
      (ranks.map (fun a => exch (variance a))) ((ranks.map (·.wcount)).map Obj.ofNum)
      (is_np_nan := fun o => o.isNpNan)).map (fun p => (p.1.val, p.2.val))

theorem srcCombine_eq (exch : Obj ℝ → Obj ℝ) (ranks : List (Acc ℝ)) :
    srcCombine exch ranks
      = combine nanByValue (ranks.map (fun a => exch (meanObj a))) (ranks.map (fun a => exch (variance a)))
          (ranks.map (·.wcount)) :=
  src_combine real_beq le_refl _ _ _

/-- with at least two samples in total, what every rank reports (`pooledVariance`) is the second component of the
    regenerated `combine_variance` call -/
theorem pooled_eq_srcCombine (exch : Obj ℝ → Obj ℝ) (parts : List (List (ℝ × ℝ)))
    (hpos : ∀ part ∈ parts, ∀ p ∈ part, 0 < p.2) (h2 : 2 ≤ parts.flatten.length) :
    pooledVariance exch parts = (srcCombine exch (parts.map accOf)).map (·.2) := by
  rw [srcCombine_eq]
  unfold pooledVariance parallelVariance
  simp only [counts_sum (summ_forall hpos)]
  rw [if_neg (by omega)]

/-- **combine_two_pass**, about the regenerated `combine_variance`: pooled = two-pass, for ANY assignment of the samples
    to ranks (blocks may be empty or hold one sample), through the serialisation of every gathered value -/
theorem src_combine_two_pass (parts : List (List (ℝ × ℝ))) (hpos : ∀ part ∈ parts, ∀ p ∈ part, 0 < p.2)
    (h2 : 2 ≤ parts.flatten.length) :
    (srcCombine ser (parts.map accOf)).map (·.2) = some (Val.fin (twoPassVar parts.flatten)) := by
  rw [← pooled_eq_srcCombine ser parts hpos h2]; exact combine_two_pass parts hpos h2

/-- **combine_mean**, about the regenerated `combine_variance`: the pooled mean it returns is the weighted mean of all
    samples -/
theorem src_combine_mean (parts : List (List (ℝ × ℝ))) (hpos : ∀ part ∈ parts, ∀ p ∈ part, 0 < p.2)
    (hne : parts.flatten ≠ []) :
    (srcCombine ser (parts.map accOf)).map (·.1) = some (Val.fin (wmean parts.flatten)) := by
  rw [srcCombine_eq]; exact combine_mean parts hpos hne

/-- **single_process_two_pass**, about the regenerated `combine_variance`: the single process without mpi4py (nothing is
    serialised, one block) computes the same two-pass variance -/
theorem src_single_process_two_pass (xs : List (ℝ × ℝ)) (hpos : ∀ p ∈ xs, 0 < p.2) (h2 : 2 ≤ xs.length) :
    (srcCombine id ([xs].map accOf)).map (·.2) = some (Val.fin (twoPassVar xs)) := by
  rw [← pooled_eq_srcCombine id [xs] (List.forall_mem_singleton.2 hpos)
    (by rw [(flatten_singleton_perm xs).length_eq]; exact h2)]
  exact single_process_two_pass xs hpos h2

/-- the blocks `samples[rank::size]` inherit positive weights and the total length -/
theorem partition_facts {size : ℕ} (hs : 0 < size) (xs : List (ℝ × ℝ)) (hpos : ∀ p ∈ xs, 0 < p.2) :
    (∀ part ∈ partition size xs, ∀ p ∈ part, 0 < p.2) ∧ (partition size xs).flatten.length = xs.length := by
  have hperm := (strided_partition hs xs).1
  refine ⟨?_, hperm.length_eq⟩
  intro part hpart p hp
  exact hpos p (hperm.subset (List.mem_flatten.2 ⟨part, hpart, hp⟩))

/-- **split_invariant** (at least two samples), about the regenerated `reset` / `update` / `combine_variance`: for every
    number of ranks the post-processing loop (strided blocks, streaming update on each rank, gather through pickling,
    pooled combination) returns what the single process returns, the two-pass weighted variance of all samples -/
theorem src_split_invariant {size : ℕ} (hs : 0 < size) (xs : List (ℝ × ℝ)) (hpos : ∀ p ∈ xs, 0 < p.2)
    (h2 : 2 ≤ xs.length) :
    (srcCombine ser ((partition size xs).map accOf)).map (·.2) = (srcCombine id ([xs].map accOf)).map (·.2) ∧
    (srcCombine ser ((partition size xs).map accOf)).map (·.2) = some (Val.fin (twoPassVar xs)) := by
  obtain ⟨hpp, hlen⟩ := partition_facts hs xs hpos
  have e : splitVariance size xs = some (Val.fin (twoPassVar xs)) :=
    (split_invariant hs xs hpos).2.trans (if_neg (by omega))
  rw [← pooled_eq_srcCombine ser (partition size xs) hpp (by omega), src_single_process_two_pass xs hpos h2]
  exact ⟨e, e⟩

/-- **split_invariant_sizes** (at least two samples), about the regenerated `combine_variance`: the same result for any
    two rank counts -/
theorem src_split_invariant_sizes {s₁ s₂ : ℕ} (h₁ : 0 < s₁) (h₂ : 0 < s₂) (xs : List (ℝ × ℝ))
    (hpos : ∀ p ∈ xs, 0 < p.2) (h2 : 2 ≤ xs.length) :
    (srcCombine ser ((partition s₁ xs).map accOf)).map (·.2) = (srcCombine ser ((partition s₂ xs).map accOf)).map (·.2) := by
  rw [(src_split_invariant h₁ xs hpos h2).2, (src_split_invariant h₂ xs hpos h2).2]

/-! ### `parallelVariance` on every rank -/

/-- the Python float `count` -/
theorem cnt_lt2 (n : ℕ) : ((n : ℝ) < 2) ↔ n < 2 := by exact_mod_cast Iff.rfl

theorem cnt_sum (l : List ℕ) : sumList (l.map (fun n : ℕ => (n : ℝ))) < 2 ↔ l.sum < 2 := by
  rw [sumList, ← List.sum_eq_foldl, ← Nat.cast_list_sum]
  exact_mod_cast Iff.rfl

/-- what rank `r` reports: the regenerated `parallelVariance()` called on the attributes that the regenerated `reset()` /
    `update(x, w)` stream over the rank's block `parts[r]` left behind (`srcStream`), the four `mpi.allgather`s returning the
    rank-ordered contributions of all ranks (`gatherAt`), each through the exchange `exch`; `none` = the Python raises -/
noncomputable def srcRankVariance (exch : Obj ℝ → Obj ℝ) (parts : List (List (ℝ × ℝ))) (r : ℕ) : Option (Val ℝ) :=
  (Gen.SrcC18.parallelVariance (α := Obj ℝ) (M2 := (srcStream (parts.getD r [])).2.2.2.2.map Obj.ofNum)
      (count := Obj.ofNum (srcStream (parts.getD r [])).1) (mean := (srcStream (parts.getD r [])).2.2.2.1.map Obj.ofNum)
      (np_nan := npNan) (wcount := Obj.ofNum (srcStream (parts.getD r [])).2.1)
      (allgather := gatherAt exch (fun n : ℕ => (n : ℝ)) (parts.map accOf) r) (is_np_nan := fun o => o.isNpNan)).map Obj.val

theorem srcRankVariance_eq (exch : Obj ℝ → Obj ℝ) (hex : ∀ x : ℝ, exch (Obj.ofNum x) = Obj.ofNum x)
    (parts : List (List (ℝ × ℝ))) (r : ℕ) (hr : r < parts.length) :
    srcRankVariance exch parts r = pooledVariance exch parts := by
  unfold srcRankVariance pooledVariance
  have hl : parts.getD r [] = parts[r] := by simp [List.getD_eq_getElem?_getD, hr]
  rw [hl, srcStream_eq]
  have hc : List.foldl (fun (c : ℝ) (_ : ℝ × ℝ) => c + 1) 0 parts[r] = ((accOf parts[r]).count : ℝ) := by
    rw [count_fold, zero_add, accOf_count]
  have hr' : (parts.map accOf)[r]? = some (accOf parts[r]) := by simp [hr]
  have := src_parallelVariance real_beq le_refl (fun n : ℕ => (n : ℝ)) cnt_lt2 cnt_sum exch hex (parts.map accOf) r
    (accOf parts[r]) hr'
  rw [← this]
  show Option.map Obj.val (Gen.SrcC18.parallelVariance (α := Obj ℝ) (M2 := (pyOpt _ _).map Obj.ofNum) (count := Obj.ofNum _)
    (mean := (pyOpt _ _).map Obj.ofNum) (np_nan := npNan) (wcount := Obj.ofNum _) (allgather := _) (is_np_nan := _)) = _
  rw [hc]
  rfl

theorem ser_ofNum (x : ℝ) : ser (Obj.ofNum x) = Obj.ofNum x := rfl

/-- **pooled_lt2**, about the regenerated `reset` / `update` / `variance` / `parallelVariance`: with fewer than two samples
    in total EVERY rank reports NaN (the test `sum(all_counts) < 2` of `parallelVariance`), whatever the exchange does to the
    identity of the gathered objects -/
theorem src_pooled_lt2 (exch : Obj ℝ → Obj ℝ) (hex : ∀ x : ℝ, exch (Obj.ofNum x) = Obj.ofNum x)
    (parts : List (List (ℝ × ℝ))) (hpos : ∀ part ∈ parts, ∀ p ∈ part, 0 < p.2) (h2 : parts.flatten.length < 2)
    (r : ℕ) (hr : r < parts.length) : srcRankVariance exch parts r = some Val.nan := by
  rw [srcRankVariance_eq exch hex parts r hr]; exact pooled_lt2 exch parts hpos h2

example : srcRankVariance ser [[], [((3 : ℝ), (1 : ℝ))], []] 1 = some Val.nan :=
  src_pooled_lt2 ser ser_ofNum _ nv_single_pos (by simp) 1 (by simp)

/-- **combine_two_pass**, about the whole regenerated `parallelVariance` on every rank (gathers, the `< 2` test, the NaN
    mean object of an empty rank, `combine_variance`): with positive weights and at least two samples in total every rank
    reports the two-pass weighted variance of all samples, for ANY assignment of the samples to ranks -/
theorem src_rank_two_pass (parts : List (List (ℝ × ℝ))) (hpos : ∀ part ∈ parts, ∀ p ∈ part, 0 < p.2)
    (h2 : 2 ≤ parts.flatten.length) (r : ℕ) (hr : r < parts.length) :
    srcRankVariance ser parts r = some (Val.fin (twoPassVar parts.flatten)) := by
  rw [srcRankVariance_eq ser ser_ofNum parts r hr]; exact combine_two_pass parts hpos h2

/-- **split_invariant** (in full: also below two samples), about the regenerated `reset` / `update` / `variance` /
    `parallelVariance` / `combine_variance`: for every number of ranks, EVERY rank of the post-processing loop (strided blocks,
    streaming update, gathers through pickling, the `< 2` test, pooled combination) reports what the single process without
    mpi4py reports: the two-pass weighted variance of all samples, or NaN when there are fewer than two -/
theorem src_split_invariant_full {size : ℕ} (hs : 0 < size) (xs : List (ℝ × ℝ)) (hpos : ∀ p ∈ xs, 0 < p.2)
    (r : ℕ) (hr : r < size) :
    srcRankVariance ser (partition size xs) r = srcRankVariance id [xs] 0 ∧
    srcRankVariance ser (partition size xs) r
      = if xs.length < 2 then some Val.nan else some (Val.fin (twoPassVar xs)) := by
  rw [srcRankVariance_eq ser ser_ofNum _ r (by rw [partition_length]; exact hr),
    srcRankVariance_eq id (fun _ => rfl) [xs] 0 (by simp)]
  exact split_invariant hs xs hpos

/-- **split_invariant_sizes** (in full), about the regenerated code: any two rank counts, any two ranks -/
theorem src_split_invariant_sizes_full {s₁ s₂ : ℕ} (xs : List (ℝ × ℝ)) (hpos : ∀ p ∈ xs, 0 < p.2)
    (r₁ r₂ : ℕ) (h₁ : r₁ < s₁) (h₂ : r₂ < s₂) :
    srcRankVariance ser (partition s₁ xs) r₁ = srcRankVariance ser (partition s₂ xs) r₂ := by
  rw [(src_split_invariant_full (by omega) xs hpos r₁ h₁).2, (src_split_invariant_full (by omega) xs hpos r₂ h₂).2]

example : srcRankVariance ser (partition 2 [((1 : ℝ), (0.2 : ℝ)), (4, 0.3), (2, 0.5)]) 1 =
    srcRankVariance ser (partition 7 [((1 : ℝ), (0.2 : ℝ)), (4, 0.3), (2, 0.5)]) 5 :=
  src_split_invariant_sizes_full _ nv_weights_pos 1 5 (by norm_num) (by norm_num)

/-! ### the rank partitions -/

/-- **strided_partition**, about the regenerated generator `sample_iter` of `generate_profiles`
    (`for parameters, weight in sample_list[rank::size]`): over the ranks `0 … size-1` the yielded weights are, concatenated, a
    permutation of the weights of all samples (each sample exactly once); and when the samples are the indices `0 … n-1`
    (the state of the forward model read as "the parameters last written"), rank `r` visits exactly the indices below `n`
    congruent to `r` -/
theorem src_strided_partition {P W : Type} {size : ℕ} (hs : 0 < size) (xs : List (P × ℝ)) (um : W → P → W) (w0 : W) :
    (((List.range size).map (fun r => (Gen.SrcC18.sample_iter xs r size um w0).map Prod.snd)).flatten.Perm
        (xs.map Prod.snd)) ∧
    ∀ (n r i : ℕ) (wt : ℕ → ℝ) (i0 : ℕ), r < size →
      (i ∈ (Gen.SrcC18.sample_iter ((List.range n).map (fun j => (j, wt j))) r size (fun _ p => p) i0).map Prod.fst
        ↔ i < n ∧ i % size = r) := by
  constructor
  · have h1 : (List.range size).map (fun r => (Gen.SrcC18.sample_iter xs r size um w0).map Prod.snd)
        = (partition size xs).map (List.map Prod.snd) := by
      unfold partition
      rw [List.map_map]
      apply List.map_congr_left
      intro r hr
      rw [src_sample_iter xs r size (List.mem_range.1 hr), walk_snd]
      rfl
    rw [h1, ← List.map_flatten]
    exact ((strided_partition hs xs).1).map _
  · intro n r i wt i0 hr
    rw [src_sample_iter _ r size hr, walk_fst, strided_map, List.map_map]
    have : (Prod.fst ∘ fun j : ℕ => (j, wt j)) = id := rfl
    rw [this, List.map_id]
    exact mem_strided_range hr

example : (Gen.SrcC18.sample_iter [((10 : ℕ), (0.2 : ℝ)), (11, 0.5), (12, 0.3)] 0 2 (fun _ p => p) 0)
    = [(10, 0.2), (12, 0.3)] := by
  rw [src_sample_iter _ 0 2 (by norm_num)]
  simp [strided, walk, List.zipIdx]

/-! ### `compute_derived_trace` -/

/-- **derived_order**, about the regenerated `compute_derived_trace` (one derived parameter): on every rank `r` of every
    number of ranks — evaluation of the samples `range(r, n, size)`, gather of the per-rank traces and sample indices in rank
    order, `argsort` of the gathered indices, `[restore]` — the stored trace is the trace in sample order -/
theorem src_derived_order {P W : Type} (n size r : ℕ) (hr : r < size) (samples : ℕ → P) (weights : ℕ → ℝ)
    (um : W → P → W) (ip : W → W) (dv : W → ℝ) (value : P → ℝ) (hdv : ∀ w p, dv (ip (um w p)) = value p) (w0 : W)
    (average : List ℝ → List ℝ → ℝ) (quantile_corner : List ℝ → List ℝ → List ℝ → List ℝ) (q16 q50 q84 : ℝ) :
    Gen.SrcC18.compute_derived_trace n
        (allreduce := fun k => concatAt size r (sentTrace size n (fun i => value (samples i)) weights k))
        (allreduce_nat := fun _ => concatAt size r (fun j => strided j size (List.range n)))
        (argsort_nat := argsort) (average := average) (c0p16 := q16) (c0p5 := q50) (c0p84 := q84) (derived_values := dv)
        (initialize_profiles := ip) (mpi_rank := r) (mpi_size := size) (quantile_corner := quantile_corner)
        (samples := samples) (update_model := um) (w__ := w0) (weights := weights)
      = (List.range n).map (fun i => value (samples i)) := by
  rw [src_compute_derived_trace n size r hr samples weights um ip dv value hdv w0 average quantile_corner q16 q50 q84]
  exact derived_order (by omega) _

/-- the `derivedTraceGather` half of **derived_order_tie_witness**, about the regenerated `compute_derived_trace`: three samples of
    EQUAL weight on two ranks (gathered as `[t0, t2, t1]`) are stored in sample order, on both ranks -/
theorem src_derived_order_tie_witness (r : ℕ) (hr : r < 2) :
    Gen.SrcC18.compute_derived_trace (P := ℕ) (W := ℕ) 3
        (allreduce := fun k => concatAt 2 r (sentTrace 2 3 (fun i => [(10 : ℝ), 11, 12].getD i 0) (fun _ => 1) k))
        (allreduce_nat := fun _ => concatAt 2 r (fun j => strided j 2 (List.range 3)))
        (argsort_nat := argsort) (average := fun _ _ => 0) (c0p16 := 0.16) (c0p5 := 0.5) (c0p84 := 0.84)
        (derived_values := fun i => [(10 : ℝ), 11, 12].getD i 0) (initialize_profiles := id) (mpi_rank := r) (mpi_size := 2)
        (quantile_corner := fun _ _ _ => []) (samples := fun i => i) (update_model := fun _ p => p) (w__ := 0)
        (weights := fun _ => 1)
      = [10, 11, 12] ∧ gatherLists (partition 2 [(10 : ℝ), 11, 12]) ≠ [10, 11, 12] := by
  refine ⟨?_, by show [(10 : ℝ), 12, 11] ≠ [10, 11, 12]; norm_num⟩
  rw [src_derived_order 3 2 r hr (fun i => i) (fun _ => 1) (fun _ p => p) id (fun i => [(10 : ℝ), 11, 12].getD i 0)
    (fun i => [(10 : ℝ), 11, 12].getD i 0) (fun _ _ => rfl)]
  rfl

end Taurex.C18SrcProps
