/-
  C01 — the property theorems restated about the REGENERATED source.  `Props/C01Src.lean` proves that the definitions
  translated on every run from `TransmissionModel.path_integral` (with `compute_path_length_old`, `compute_path_length`,
  `compute_absorption`, the kernels `contribute_tau` / `contribute_cia` and the three `contribute` methods reached through
  `dispatch`), from `compute_absorption`, `compute_path_length_old` and `parallel_vector` alone, compute the model's
  `modelDepth true` / `modelTrans true`, `depth`, `chordOld`, `Geometry.parallelVector`; `Props/C01.lean` proves the
  property about these.  The corollaries below compose the two: they are statements about the text of the code, at the
  real carrier.

  What is composed
    * `srcIntegral … = Gen.SrcC01.path_integral …` called as `TransmissionModel.model()` calls it; `.1 wn` is the returned
      depth, `.2 l wn` the returned `exp(-tau)`.  Tie hypotheses kept visible: `0 < total` (a CIA contribution has at least
      one pair), `wn < nwn`, `l < n` (the tie identifies the entries inside the arrays), and for `new_path_method=True`
      `planet.compute_path_length` (`planetPaths`) returning the chords `chordNew` (`NewPathsOK`: a hypothesis for an
      arbitrary `planetPaths`, a theorem — `newPathsOK_src` — for the regenerated 3-D geometry `srcPlanetPaths`).
    * `Gen.SrcC01.compute_absorption` for an arbitrary optical-depth table (no hypotheses in the tie).
    * `Gen.SrcC01.compute_path_length_old` (row `l` of the returned list).
    * `Gen.SrcC01.parallel_vector` (column `j` of the returned `viewer`).
    * the 3-D geometry of `new_path_method=True`: `srcPlanetPaths` / `srcRow3d` = what the regenerated
      `BasePlanet.compute_path_length` → `compute_path_length_3d` → `compute_line_3d`, `normalize`, `compute_intersection_3d`,
      `multi_dot` return when called as the regenerated `TransmissionModel.compute_path_length` calls them
      (`C01Src.src_planet_paths`: row by row the model's `Geometry.pathRow3d`).  `newPathsOK_src` follows from `GeomOK`
      (the well-formed shell grid of `C01.path3d_eq_chordNew`), `0 < n`, and the explicit instantiation `NanSel` of
      `np.isfinite` (NaN is not a real number: a sphere's distance counts as finite exactly when its discriminant is
      `≥ 0`; `nanSel_witness` shows the instantiation is consistent).  `nan` (the fill value `np.nan`, overwritten
      everywhere) and `crossing` (the body of the planet-crossing branch of `compute_intersection_3d`, whose test is
      translated and false on a well-formed grid) are arbitrary.

  Not restated (no tie)
    * `tau_nonneg`, `tau_mono_sigma`, `cutoff_licensed`: they speak of `tauFull`, the sum WITHOUT the early exit, which the
      code does not contain (the source only has the loop with the `break`, tied to `tauCut`); `tauCut` itself is tied only
      inside `path_integral` (through `exp(-tau)`), not as a separate source expression.
    * `depth_mono_scale` (both sides are the uncut `modelDepth false`).  Its returned-depth form
      `depth_cut_mono_scale_within` is restated; in `src_depth_cut_within` the documented integral stays the model's
      `modelDepth false`, the returned depth is the source.
    * `opaque_le_disc` (a statement about the altitude grid only, no function of the code in it).
    * `chordNew_radicand_nonneg`: about the radicand inside the closed form, an intermediate value no translated function
      returns (`chordNew_nonneg`, `chordNew_sum` are restated about the rows the regenerated geometry returns).
    * `sphere_chord`, `origin_inside_clips`: one sphere and one ray of the model's `intersect` with symbolic `X`, `b`; the
      regenerated `compute_intersection_3d` is tied to `intersect` as a whole table (`C01Src.src_compute_intersection_3d`),
      under the hypothesis that some sphere is hit (it returns `None` otherwise), so a single-sphere statement has no
      source counterpart of its own.
    * `chordOld_radicand_nonneg`: about the radicand inside the model's `oldHalf`, an intermediate value the translated
      `compute_path_length_old` does not return.
    * `wellFormed_of_shells`, `nvContribs_nonneg`: hypothesis builders, no function of the code in the conclusion.
    * `absSigma_own_grid`, `absSigma_nonneg`, `gasOnGrid_between`, `nv_selection`, `speciesSigma_eq_sum`,
      `scaledSigma_layer_local`, `speciesSigma_nonneg`: about `AbsorptionGrid` (how `sigma_xsec` is put together on the grid
      of the run); `Gen.SrcC01` holds no `prepare` or `opacity` function (the `prepare_each` generators are tied in
      `Props/C03Src.lean`, with the opacity look-up a parameter).
-/
import Props.C01
import Props.C01Src
set_option linter.unusedSectionVars false

open Finset

namespace Taurex.C01SrcProps
open Taurex.Transmission Taurex.C01 Taurex.C01Src

/-! ### `compute_absorption` -/

/-- the depth `compute_absorption(tau, dz)` returns at wavenumber `wn` -/
noncomputable def srcAbsorption (rp rs : ℝ) (n nW : ℕ) (z dz : ℕ → ℝ) (tau : ℕ → ℕ → ℝ) (wn : ℕ) : ℝ :=
  (Gen.SrcC01.compute_absorption tau dz n nW rp rs z).1 wn

theorem srcAbsorption_eq (rp rs : ℝ) (n nW : ℕ) (z dz : ℕ → ℝ) (tau : ℕ → ℕ → ℝ) (wn : ℕ) :
    srcAbsorption rp rs n nW z dz tau wn = depth rp rs n z dz (fun l => Transmission.trans (tau l wn)) := by
  unfold srcAbsorption
  rw [src_compute_absorption]

/-- never below the bare-planet value `(Rp/Rs)^2`, about the regenerated `compute_absorption` -/
theorem src_depth_ge_bare (rp rs : ℝ) (hrs : 0 < rs) (n nW : ℕ) (z dz : ℕ → ℝ) (tau : ℕ → ℕ → ℝ) (wn : ℕ)
    (hz : ∀ l < n, 0 ≤ rp + z l) (hdz : ∀ l < n, 0 ≤ dz l) (ht : ∀ l < n, 0 ≤ tau l wn) :
    rp ^ 2 / rs ^ 2 ≤ srcAbsorption rp rs n nW z dz tau wn := by
  rw [srcAbsorption_eq]; exact depth_ge_bare rp rs hrs n z dz (fun l => tau l wn) hz hdz ht

/-- never above the value for an atmosphere opaque to its top, about the regenerated `compute_absorption` -/
theorem src_depth_le_opaque (rp rs : ℝ) (hrs : 0 < rs) (n nW : ℕ) (z dz : ℕ → ℝ) (tau : ℕ → ℕ → ℝ) (wn : ℕ)
    (hz : ∀ l < n, 0 ≤ rp + z l) (hdz : ∀ l < n, 0 ≤ dz l) :
    srcAbsorption rp rs n nW z dz tau wn ≤ (rp ^ 2 + ∑ l ∈ range n, 2 * (rp + z l) * dz l) / rs ^ 2 := by
  rw [srcAbsorption_eq]; exact depth_le_opaque rp rs hrs n z dz (fun l => tau l wn) hz hdz

/-- the depth never decreases when optical depths grow, about the regenerated `compute_absorption` -/
theorem src_depth_mono_tau (rp rs : ℝ) (hrs : 0 < rs) (n nW : ℕ) (z dz : ℕ → ℝ) (tau tau' : ℕ → ℕ → ℝ) (wn : ℕ)
    (hz : ∀ l < n, 0 ≤ rp + z l) (hdz : ∀ l < n, 0 ≤ dz l) (h : ∀ l < n, tau l wn ≤ tau' l wn) :
    srcAbsorption rp rs n nW z dz tau wn ≤ srcAbsorption rp rs n nW z dz tau' wn := by
  rw [srcAbsorption_eq, srcAbsorption_eq]
  exact depth_mono_tau rp rs hrs n z dz (fun l => tau l wn) (fun l => tau' l wn) hz hdz h

/-! ### the whole `path_integral` -/

/-- what the tie assumes of the external `planet.compute_path_length` when `new_path_method=True`: called with the
    altitude boundaries and the lines of sight `compute_path_length` builds, row `l` holds the chords `chordNew` on its
    `n - l` segments (for the modelled 3-D geometry this is `C01.path3d_eq_chordNew`); nothing is assumed for the old method -/
def NewPathsOK (newMethod : Bool) (rp : ℝ) (n : ℕ) (zb z dz : ℕ → ℝ)
    (planetPaths : (ℕ → ℝ) → (ℕ → ℕ → ℝ) → (ℕ → ℕ → ℝ) → List (ℕ → ℝ)) : Prop :=
  newMethod = true → ∀ l < n, ∀ k < n - l,
    (planetPaths zb
        (rows (fun l => (Geometry.parallelVector rp (z l + dz l / 2) (Geometry.arrMax n zb)).1))
        (rows (fun l => (Geometry.parallelVector rp (z l + dz l / 2) (Geometry.arrMax n zb)).2))).getD l (fun _ => 0) k
      = chordNew rp zb z dz l k

/-- what the regenerated `path_integral` returns (`(absorption, exp(-tau))`), with Python's dynamic dispatch
    `contrib.contribute(…)` resolved to the three regenerated `contribute` methods -/
noncomputable def srcIntegral (newMethod : Bool) (rp rs : ℝ) (n nwn total : ℕ) (zb z dz dens : ℕ → ℝ)
    (cs : List (Contrib ℝ)) (planetPaths : (ℕ → ℝ) → (ℕ → ℕ → ℝ) → (ℕ → ℕ → ℝ) → List (ℕ → ℝ)) :
    (ℕ → ℝ) × (ℕ → ℕ → ℝ) :=
  Gen.SrcC01.path_integral nwn cs (dispatch nwn total n) dz dens n newMethod planetPaths rp rs zb z

section model
variable {newMethod : Bool} {rp rs : ℝ} {n nwn total : ℕ} {zb z dz dens : ℕ → ℝ}
  {planetPaths : (ℕ → ℝ) → (ℕ → ℕ → ℝ) → (ℕ → ℕ → ℝ) → List (ℕ → ℝ)}

theorem srcIntegral_eq (ht : 0 < total) (cs : List (Contrib ℝ))
    (hP : NewPathsOK newMethod rp n zb z dz planetPaths) :
    (∀ l < n, ∀ wn < nwn, (srcIntegral newMethod rp rs n nwn total zb z dz dens cs planetPaths).2 l wn
        = modelTrans true newMethod rp n nwn zb z dz dens cs l wn) ∧
    (∀ wn < nwn, (srcIntegral newMethod rp rs n nwn total zb z dz dens cs planetPaths).1 wn
        = modelDepth true newMethod rp rs n nwn zb z dz dens cs wn) := by
  unfold srcIntegral
  cases newMethod
  · exact src_path_integral_old n nwn total ht rp rs zb z dz dens cs planetPaths
  · exact src_path_integral_new n nwn total ht rp rs zb z dz dens cs planetPaths (hP rfl)

/-- the returned depth lies between the bare planet and the opaque atmosphere, about the regenerated `path_integral` -/
theorem src_model_depth_bounds {cs : List (Contrib ℝ)} (W : WellFormed newMethod rp rs n zb z dz dens cs)
    (ht : 0 < total) (hP : NewPathsOK newMethod rp n zb z dz planetPaths) (wn : ℕ) (hwn : wn < nwn) :
    rp ^ 2 / rs ^ 2 ≤ (srcIntegral newMethod rp rs n nwn total zb z dz dens cs planetPaths).1 wn ∧
    (srcIntegral newMethod rp rs n nwn total zb z dz dens cs planetPaths).1 wn
      ≤ (rp ^ 2 + ∑ l ∈ range n, 2 * (rp + z l) * dz l) / rs ^ 2 := by
  rw [(srcIntegral_eq ht cs hP).2 wn hwn]; exact model_depth_bounds W true wn

/-- nothing absorbs ⇒ every returned transmittance is 1 and the returned depth is exactly the bare-planet value,
    about the regenerated `path_integral` -/
theorem src_depth_transparent (cs : List (Contrib ℝ)) (h0 : ∀ c ∈ cs, ∀ l wn, c.sigma l wn = 0)
    (ht : 0 < total) (hP : NewPathsOK newMethod rp n zb z dz planetPaths) (wn : ℕ) (hwn : wn < nwn) :
    (∀ l < n, (srcIntegral newMethod rp rs n nwn total zb z dz dens cs planetPaths).2 l wn = 1) ∧
    (srcIntegral newMethod rp rs n nwn total zb z dz dens cs planetPaths).1 wn = rp ^ 2 / rs ^ 2 := by
  have h := depth_transparent (newMethod := newMethod) (rp := rp) (rs := rs) (n := n) (nwn := nwn) (zb := zb) (z := z)
    (dz := dz) (dens := dens) cs h0 true wn
  refine ⟨fun l hl => ?_, ?_⟩
  · rw [(srcIntegral_eq ht cs hP).1 l hl wn hwn]; exact h.1 l
  · rw [(srcIntegral_eq ht cs hP).2 wn hwn]; exact h.2

/-- "to within that cut-off": the returned depth (the source, with its early exit) is never above the documented integral
    (`modelDepth false`: the model without the exit; the code has no such function) and falls short of it by at most
    `exp(-10)` times the opaque annulus -/
theorem src_depth_cut_within {cs : List (Contrib ℝ)} (W : WellFormed newMethod rp rs n zb z dz dens cs)
    (ht : 0 < total) (hP : NewPathsOK newMethod rp n zb z dz planetPaths) (wn : ℕ) (hwn : wn < nwn) :
    0 ≤ modelDepth false newMethod rp rs n nwn zb z dz dens cs wn
          - (srcIntegral newMethod rp rs n nwn total zb z dz dens cs planetPaths).1 wn ∧
    modelDepth false newMethod rp rs n nwn zb z dz dens cs wn
          - (srcIntegral newMethod rp rs n nwn total zb z dz dens cs planetPaths).1 wn
      ≤ Transmission.trans 10 * (∑ l ∈ range n, 2 * (rp + z l) * dz l) / rs ^ 2 := by
  rw [(srcIntegral_eq ht cs hP).2 wn hwn]; exact depth_cut_within W wn hwn

/-- scaling every opacity by `s ≥ 1` never decreases the RETURNED depth, to within the cut-off, about the regenerated
    `path_integral` (run on the contribution list and on the scaled list) -/
theorem src_depth_cut_mono_scale_within {cs : List (Contrib ℝ)} (W : WellFormed newMethod rp rs n zb z dz dens cs)
    (ht : 0 < total) (hP : NewPathsOK newMethod rp n zb z dz planetPaths) (s : ℝ) (hs : 1 ≤ s) (wn : ℕ)
    (hwn : wn < nwn) :
    (srcIntegral newMethod rp rs n nwn total zb z dz dens cs planetPaths).1 wn
      ≤ (srcIntegral newMethod rp rs n nwn total zb z dz dens (cs.map (Contrib.scale s)) planetPaths).1 wn
        + Transmission.trans 10 * (∑ l ∈ range n, 2 * (rp + z l) * dz l) / rs ^ 2 := by
  rw [(srcIntegral_eq ht cs hP).2 wn hwn, (srcIntegral_eq ht (cs.map (Contrib.scale s)) hP).2 wn hwn]
  exact depth_cut_mono_scale_within W s hs wn hwn

end model

/-! ### `compute_path_length_old` -/

/-- row `l` of the list `compute_path_length_old(dz)` returns (`k ↦ 0` past the end, as `path_integral` reads it) -/
noncomputable def srcChordOld (rp : ℝ) (n : ℕ) (z dz : ℕ → ℝ) (l : ℕ) : ℕ → ℝ :=
  (Gen.SrcC01.compute_path_length_old dz n rp z).getD l (fun _ => 0)

theorem srcChordOld_eq (rp : ℝ) (n : ℕ) (z dz : ℕ → ℝ) (l : ℕ) (hl : l < n) :
    srcChordOld rp n z dz l = chordOld rp z dz l := by
  unfold srcChordOld
  rw [src_compute_path_length_old]
  exact getD_map_range _ hl

/-- old method: every segment of the regenerated `compute_path_length_old` is non-negative -/
theorem src_chordOld_nonneg (rp : ℝ) (n : ℕ) (zb z dz : ℕ → ℝ) (S : Shells rp n zb z dz) (l k : ℕ) (hl : l < n)
    (hk : k < n - l) : 0 ≤ srcChordOld rp n z dz l k := by
  rw [srcChordOld_eq rp n z dz l hl]; exact chordOld_nonneg rp n zb z dz S l k hl hk

/-- old method: the segments of the regenerated `compute_path_length_old` sum to the half-chord × 2 -/
theorem src_chordOld_sum (rp : ℝ) (n : ℕ) (z dz : ℕ → ℝ) (l : ℕ) (hl : l < n) :
    ∑ k ∈ range (n - l), srcChordOld rp n z dz l k = 2 * oldHalf rp z dz l (n - 1) := by
  rw [srcChordOld_eq rp n z dz l hl]; exact chordOld_sum rp n z dz l hl

/-! ### `parallel_vector` -/

/-- column `j` of the `viewer` array `parallel_vector(R, alt, max_alt)` returns (the ray origins) -/
noncomputable def srcViewer (R maxAlt : ℝ) (alt : ℕ → ℝ) (nA j : ℕ) : Geometry.V3 ℝ :=
  ⟨(Gen.SrcC01.parallel_vector R alt maxAlt nA).1 0 j, (Gen.SrcC01.parallel_vector R alt maxAlt nA).1 1 j,
   (Gen.SrcC01.parallel_vector R alt maxAlt nA).1 2 j⟩

theorem srcViewer_eq (R maxAlt : ℝ) (alt : ℕ → ℝ) (nA j : ℕ) :
    srcViewer R maxAlt alt nA j = (Geometry.parallelVector R (alt j) maxAlt).1 := by
  unfold srcViewer
  rw [src_parallel_vector]
  simp [rows]

open Taurex.Geometry in
/-- the ray origin the regenerated `parallel_vector` builds (called with `max_alt = max(altitude_boundaries)`, as
    `compute_path_length` calls it) lies outside (or on) every boundary sphere -/
theorem src_origin_outside (rp : ℝ) (n : ℕ) (zb z dz : ℕ → ℝ) (G : GeomOK rp n zb z dz) (alt : ℕ → ℝ) (nA k : ℕ)
    (j : ℕ) (hj : j ≤ n) :
    (rp + zb j) * (rp + zb j) ≤ normSq (srcViewer rp (arrMax n zb) alt nA k) := by
  rw [srcViewer_eq]; exact origin_outside rp n zb z dz G (alt k) j hj

open Taurex.Geometry

/-! ### the 3-D geometry: `planet.compute_path_length` regenerated -/

/-- the type of the abstract "planet crossing" branch of `compute_intersection_3d` -/
abbrev Crossing := (ℕ → ℝ) → (ℕ → Bool) → (ℕ → ℝ) → (ℕ → ℕ → ℝ) → (ℕ → ℕ → ℝ) → (ℕ → ℕ → ℕ → ℕ → ℝ) → (ℕ → ℕ → ℕ → ℕ → ℝ)

/-- origin of the line of sight of tangent layer `l` (what `compute_line_3d(parallel_vector(…))` gives; direction `(1,0,0)`) -/
noncomputable def rayOrigin (rp : ℝ) (n : ℕ) (zb z dz : ℕ → ℝ) (l : ℕ) : V3 ℝ := ⟨-(rp + arrMax n zb * 2), rp + (z l + dz l / 2), 0⟩

/-- the instantiation of `np.isfinite` (NaN is not a real number): for every line of sight and every boundary sphere, the
    distance the code computes is finite exactly when the sphere's discriminant is non-negative — in IEEE arithmetic
    `np.sqrt(delta)` is NaN exactly for `delta < 0` and the NaN propagates to the distance -/
def NanSel (isfinite : ℝ → Bool) (rp : ℝ) (n : ℕ) (zb z dz : ℕ → ℝ) : Prop :=
  ∀ l < n, ∀ j < n + 1,
    isfinite (hitDistance (intersect rp (zb j) ⟨1, 0, 0⟩ (rayOrigin rp n zb z dz l)))
      = decide (0 ≤ (intersect rp (zb j) ⟨1, 0, 0⟩ (rayOrigin rp n zb z dz l)).delta)

/-- what `TransmissionModel.compute_path_length` reads from `self.planet.compute_path_length(…)`
    (`[l for idx, l in path_lengths]`): the arrays of the regenerated `BasePlanet.compute_path_length` → `compute_path_length_3d`
    (`None`, which the list comprehension cannot iterate, is totalised to the empty list) -/
noncomputable def srcPlanetPaths (crossing : Crossing) (isfinite : ℝ → Bool) (nan rp : ℝ) (n : ℕ) :
    (ℕ → ℝ) → (ℕ → ℕ → ℝ) → (ℕ → ℕ → ℝ) → List (ℕ → ℝ) :=
  fun zb viewer tangent =>
    ((Gen.SrcC01.planet_compute_path_length zb viewer tangent crossing isfinite (n + 1) n nan rp).getD []).map (fun r => r.2)

theorem map_range_eq {β : Type} {f g : ℕ → β} {a b : ℕ} (h : (List.range a).map f = (List.range b).map g) :
    a = b ∧ ∀ k < a, f k = g k := by
  have hab : a = b := by simpa using congrArg List.length h
  subst hab
  refine ⟨rfl, fun k hk => ?_⟩
  have := congrArg (fun l => l[k]?) h
  simpa [hk] using this

section geom
variable {rp : ℝ} {n : ℕ} {zb z dz : ℕ → ℝ}

/-- **the regenerated 3-D geometry returns the model's rows** (`Geometry.pathRow3d`), for a well-formed shell grid -/
theorem src_planet_rows (G : GeomOK rp n zb z dz) (hn : 0 < n) (crossing : Crossing) (isfinite : ℝ → Bool) (nan : ℝ)
    (hF : NanSel isfinite rp n zb z dz) :
    ∃ L, Gen.SrcC01.planet_compute_path_length zb
        (rows (fun l => (parallelVector rp (z l + dz l / 2) (arrMax n zb)).1))
        (rows (fun l => (parallelVector rp (z l + dz l / 2) (arrMax n zb)).2)) crossing isfinite (n + 1) n nan rp = some L ∧
      rowLists L = (List.range n).map (fun l => pathRow3d rp n zb z dz l) := by
  have hline : ∀ l, line3d (parallelVector rp (z l + dz l / 2) (arrMax n zb)).1 (parallelVector rp (z l + dz l / 2) (arrMax n zb)).2
      = (rayOrigin rp n zb z dz l, ⟨1, 0, 0⟩) := fun l => line_of_parallel rp _ _ G.X_pos
  refine src_planet_paths (fun x => zero_add x) rp n zb z dz crossing isfinite nan ?_ ?_ ?_
  · intro l hl j hj
    rw [hline l]
    exact hF l hl j hj
  · refine ⟨n, by omega, 0, hn, ?_⟩
    rw [hline 0]
    simp only [rayOrigin]
    rw [intersect_delta]
    exact G.delta_pos 0 hn n (by omega) (le_refl _)
  · intro l hl
    rw [hline l]
    simp only [rayOrigin, deltaP, dot_axis, normSq_axis]
    linarith only [G.no_crossing l hl]

/-- row `l` of the regenerated geometry, as a list (`model.path_length[l]` for `new_path_method=True`) -/
noncomputable def srcRow3d (crossing : Crossing) (isfinite : ℝ → Bool) (nan rp : ℝ) (n : ℕ) (zb z dz : ℕ → ℝ) (l : ℕ) : List ℝ :=
  (rowLists ((Gen.SrcC01.planet_compute_path_length zb
        (rows (fun l => (parallelVector rp (z l + dz l / 2) (arrMax n zb)).1))
        (rows (fun l => (parallelVector rp (z l + dz l / 2) (arrMax n zb)).2)) crossing isfinite (n + 1) n nan rp).getD [])).getD l []

theorem srcRow3d_eq (G : GeomOK rp n zb z dz) (hn : 0 < n) (crossing : Crossing) (isfinite : ℝ → Bool) (nan : ℝ)
    (hF : NanSel isfinite rp n zb z dz) (l : ℕ) (hl : l < n) :
    srcRow3d crossing isfinite nan rp n zb z dz l = pathRow3d rp n zb z dz l := by
  obtain ⟨L, hL, hrows⟩ := src_planet_rows G hn crossing isfinite nan hF
  unfold srcRow3d
  rw [hL, Option.getD_some, hrows]
  exact getD_map_range _ hl

/-- `pathRow3d_length` about the source: row `l` of what the regenerated 3-D geometry returns has exactly `n - l` segments -/
theorem src_pathRow3d_length (G : GeomOK rp n zb z dz) (hn : 0 < n) (crossing : Crossing) (isfinite : ℝ → Bool) (nan : ℝ)
    (hF : NanSel isfinite rp n zb z dz) (l : ℕ) (hl : l < n) :
    (srcRow3d crossing isfinite nan rp n zb z dz l).length = n - l := by
  rw [srcRow3d_eq G hn crossing isfinite nan hF l hl]
  exact pathRow3d_length rp n zb z dz G l hl

/-- `path3d_eq_chordNew` about the source: the rows `TransmissionModel.compute_path_length` reads from the regenerated
    `planet.compute_path_length` are the closed-form chords (`NewPathsOK` for the regenerated geometry) -/
theorem src_path3d_eq_chordNew (G : GeomOK rp n zb z dz) (hn : 0 < n) (crossing : Crossing) (isfinite : ℝ → Bool) (nan : ℝ)
    (hF : NanSel isfinite rp n zb z dz) (l k : ℕ) (hl : l < n) (hk : k < n - l) :
    (srcPlanetPaths crossing isfinite nan rp n zb
        (rows (fun l => (parallelVector rp (z l + dz l / 2) (arrMax n zb)).1))
        (rows (fun l => (parallelVector rp (z l + dz l / 2) (arrMax n zb)).2))).getD l (fun _ => 0) k
      = chordNew rp zb z dz l k := by
  obtain ⟨L, hL, hrows⟩ := src_planet_rows G hn crossing isfinite nan hF
  unfold srcPlanetPaths
  rw [hL, Option.getD_some]
  have hlen : L.length = n := by simpa [rowLists] using congrArg List.length hrows
  have hlL : l < L.length := by omega
  have hrow : (List.range (L[l]).1).map (L[l]).2 = pathRow3d rp n zb z dz l := by
    rw [← srcRow3d_eq G hn crossing isfinite nan hF l hl, srcRow3d, hL, Option.getD_some, rowLists, getD_map_getElem _ hlL]
  unfold pathRow3d at hrow
  obtain ⟨hlen', hval⟩ := map_range_eq hrow
  have hk' : k < (L[l]).1 := by
    rw [hlen']
    have := pathRow3d_length rp n zb z dz G l hl
    simp only [pathRow3d, List.length_map, List.length_range] at this
    omega
  have e : (L.map (fun r => r.2)).getD l (fun _ => 0) = (L[l]).2 := getD_map_getElem _ hlL
  rw [e, hval k hk']
  exact path3d_eq_chordNew rp n zb z dz G l k hl hk

theorem newPathsOK_src (newMethod : Bool) (crossing : Crossing) (isfinite : ℝ → Bool) (nan : ℝ)
    (hG : newMethod = true → GeomOK rp n zb z dz ∧ 0 < n ∧ NanSel isfinite rp n zb z dz) :
    NewPathsOK newMethod rp n zb z dz (srcPlanetPaths crossing isfinite nan rp n) := by
  intro hm l hl k hk
  obtain ⟨G, hn, hF⟩ := hG hm
  exact src_path3d_eq_chordNew G hn crossing isfinite nan hF l k hl hk

/-- **`path_integral` with the new path method, the 3-D geometry regenerated too** (`src_path_integral_new` without the
    external hypothesis): the whole of `TransmissionModel.path_integral`, `compute_path_length`, `parallel_vector`,
    `BasePlanet.compute_path_length`, `compute_path_length_3d`, `compute_line_3d`, `normalize`, `compute_intersection_3d`
    (but the body of its planet-crossing branch, not entered here), the kernels and `compute_absorption` compute the model -/
theorem src_path_integral_new_geom {rs : ℝ} {nwn total : ℕ} {dens : ℕ → ℝ} (G : GeomOK rp n zb z dz) (hn : 0 < n)
    (crossing : Crossing) (isfinite : ℝ → Bool) (nan : ℝ) (hF : NanSel isfinite rp n zb z dz) (ht : 0 < total)
    (cs : List (Contrib ℝ)) :
    (∀ l < n, ∀ wn < nwn,
      (srcIntegral true rp rs n nwn total zb z dz dens cs (srcPlanetPaths crossing isfinite nan rp n)).2 l wn
        = modelTrans true true rp n nwn zb z dz dens cs l wn) ∧
    (∀ wn < nwn,
      (srcIntegral true rp rs n nwn total zb z dz dens cs (srcPlanetPaths crossing isfinite nan rp n)).1 wn
        = modelDepth true true rp rs n nwn zb z dz dens cs wn) :=
  srcIntegral_eq ht cs (newPathsOK_src true crossing isfinite nan (fun _ => ⟨G, hn, hF⟩))

/-- `chordNew_nonneg` about the source: every segment of the rows the regenerated 3-D geometry returns is non-negative -/
theorem src_chordNew_nonneg (G : GeomOK rp n zb z dz) (hn : 0 < n) (crossing : Crossing) (isfinite : ℝ → Bool) (nan : ℝ)
    (hF : NanSel isfinite rp n zb z dz) (l k : ℕ) (hl : l < n) (hk : k < n - l) :
    0 ≤ (srcPlanetPaths crossing isfinite nan rp n zb
        (rows (fun l => (parallelVector rp (z l + dz l / 2) (arrMax n zb)).1))
        (rows (fun l => (parallelVector rp (z l + dz l / 2) (arrMax n zb)).2))).getD l (fun _ => 0) k := by
  rw [src_path3d_eq_chordNew G hn crossing isfinite nan hF l k hl hk]
  exact chordNew_nonneg rp n zb z dz G.shells l k hl hk

/-- `chordNew_sum` about the source: the segments of row `l` sum to the chord of the outermost sphere -/
theorem src_chordNew_sum (G : GeomOK rp n zb z dz) (hn : 0 < n) (crossing : Crossing) (isfinite : ℝ → Bool) (nan : ℝ)
    (hF : NanSel isfinite rp n zb z dz) (l : ℕ) (hl : l < n) :
    ∑ k ∈ range (n - l), (srcPlanetPaths crossing isfinite nan rp n zb
        (rows (fun l => (parallelVector rp (z l + dz l / 2) (arrMax n zb)).1))
        (rows (fun l => (parallelVector rp (z l + dz l / 2) (arrMax n zb)).2))).getD l (fun _ => 0) k
      = 2 * Transc.sqrt (Transmission.sq (rp + zb n) - Transmission.sq (newB rp z dz l)) := by
  rw [← chordNew_sum rp n zb z dz l hl]
  exact Finset.sum_congr rfl fun k hk =>
    src_path3d_eq_chordNew G hn crossing isfinite nan hF l k hl (Finset.mem_range.1 hk)

/-- `Geometry.hitDistance_of_delta_neg` with the binders of `sphere_chord`: a sphere the ray misses (negative discriminant)
    has distance 0, wherever the origin lies -/
theorem hitDistance_miss (R h X b : ℝ) (hX : 0 ≤ X) (hd : (R + h) * (R + h) - b * b < 0) (hc : R * R - b * b ≤ 0) :
    hitDistance (intersect R h ⟨1, 0, 0⟩ ⟨-X, b, 0⟩) = 0 :=
  hitDistance_of_delta_neg R h hd hc

/-- the instantiation `NanSel` is consistent: on a well-formed grid "distance is positive" is such an `isfinite` (hit spheres
    have a positive chord, missed spheres distance 0 in real arithmetic) -/
theorem nanSel_witness (G : GeomOK rp n zb z dz) : NanSel (fun x => decide (0 < x)) rp n zb z dz := by
  intro l hl j hj
  have hc := G.no_crossing l hl
  apply decide_eq_decide.2
  simp only [rayOrigin, intersect_delta]
  by_cases hg : 0 ≤ (rp + zb j) * (rp + zb j) - (rp + (z l + dz l / 2)) * (rp + (z l + dz l / 2))
  · have hpos := G.delta_pos l hl j ((G.good_iff l hl j hj).1 hg) (by omega)
    rw [hitDistance_eq rp (zb j) G.X_pos.le (G.origin_outside _ j (by omega)) hc]
    exact ⟨fun _ => hg, fun _ => mul_pos two_pos (Real.sqrt_pos.2 hpos)⟩
  · rw [hitDistance_of_delta_neg rp (zb j) (not_le.1 hg) hc]
    exact ⟨fun h => absurd h (lt_irrefl 0), fun h => absurd h hg⟩

end geom
end Taurex.C01SrcProps
