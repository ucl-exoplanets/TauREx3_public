/-
  C16 — the property theorems restated about the REGENERATED source.  `Props/C16Src.lean` proves that the definitions
  translated on every run (dialect `dyn`: dynamically typed Python values `Dyn.Val`, one oracle `ext` for what the code
  asks of numpy / h5py / the other objects, instantiated by the worlds `SWorld`, `HWorld`, `GWorld`, `LWorld`, `WWorld` of the
  tie) from `recursively_save_dict_contents_to_output` / `store_thing` (taurex/util/util.py), `HDF5OutputGroup.write_array`
  / `write_string_array`, the `generate_spectrum_output` of `FluxBinner` / `SimpleBinner` / `NativeBinner`, and
  `load_generic_profile_from_hdf5` (with `get_klass_args`, `decode_string_array`) compute the model's `storeEntries` /
  `storeThing`, `writeArray`, `stringNode`, `spectrumOutput`, `loadKwargs`; `Props/C16.lean` proves the property about
  these.  The corollaries below compose the two: they are statements about the text of the code as it is now.  Like
  `Props/C16.lean` they are generic in the float payload `α`.

  What is composed
    * `srcSave w fuel q d s` = the regenerated `recursively_save_dict_contents_to_output(output, dic)` — its callee the
      regenerated `store_thing` — run on the group at path `q` with `dic` = the Python dict of the model dictionary `d`
      (`embD`), from the file state `s` (the log of created entries); it returns `(outcome, file state afterwards)`.  This
      is what `Output.store_dictionary` runs after creating the group (the model's `store (Value.dict d)`).  Tie hypotheses
      kept visible: `SWorldOK w` (strings are represented faithfully; what numpy raises for a ragged list is one of the
      two classes the code catches) and `depthD d < fuel` (the recursion of `store_thing` is translated with fuel).
      `flat q ch` = the log entries that creating the entries `ch` in the group at `q` leaves.  Reading back stays the
      model's `load` (h5py's `ds[()]`; the decoding the loader adds is tied in `load_generic_profile`).
    * `SrcC16.store_thing`, `SrcC16.write_array`, `SrcC16.write_string_array` applied as in their ties.
    * `srcGso kind w grid width wn flux tau n` = the regenerated `generate_spectrum_output(model_output, output_size)` of
      the binner class `kind`; it returns a Python `dict`, read with the dialect's own `Dyn.dictHas` (`key in d`) and
      `Dyn.dictGet?` (`d[key]`).  `bd`, `bdTau` of `Props/C16.lean` are `w.bd`, `w.bdTau` (what `self.bindown(…)[1]`
      returns).
    * the regenerated `load_generic_profile_from_hdf5` applied to the group `ch` the writer created; `wl.call` is the
      constructor call it ends in.  Tie hypotheses kept visible: the stored type string names a class with the keywords
      `ctorKw` (`hkl`), distinct keywords (`hn`), no constructor keyword is stored as a sub-group (`hds`).
    * write → load ROUND TRIPS OF COMPONENTS, both sides regenerated (`src_*_roundtrip`): the component's own regenerated
      `write` (`Isothermal.write`, `Guillot2010.write`, `NPoint.write` over `TemperatureProfile.write`;
      `TaurexChemistry.write` over `Chemistry.write`; `TransmissionModel.write` over `SimpleForwardModel.write` over
      `ForwardModel.write`; `Star.write`, `BasePlanet.write`, `PressureProfile.write`, `SimplePressureProfile.write`,
      `Gas.write` + subclasses, `Contribution.write` + subclasses) run in the writer world `WWorld`
      (`Proofs/C16SrcWrite.lean`: a component instance with its data attributes and the components it holds) DERIVES the
      written group content, and the regenerated loader (`load_temperature_from_hdf5`, `load_chemistry_from_hdf5`,
      `load_model_from_hdf5`, `load_star_from_hdf5`, `load_planet_from_hdf5`, `load_pressure_from_hdf5`,
      `load_gas_from_hdf5`, `load_contrib_from_hdf5`, all over `load_generic_profile_from_hdf5`) applied to exactly that
      group calls the class of the written name with the written entries that are constructor keywords.
      `src_reload_same_kwargs` is the generic form for a record written with `store_dictionary` (there the written group
      is the model's `store` of the record).  Tie hypotheses kept visible: the class table of the loader's world (`hkl`:
      the written name is a class with keywords `ctorKw`), distinct keywords, the type key is not a constructor keyword.
      Scalars are any Python scalar (`Scalar`), `x/CONST` is the writer world's `div` on the attribute and the module
      constant (`consts`, non-zero).

  Not restated (no tie)
    * `canon_wf`: about the specification `canon` alone.  `load_store_eq`: the equation form of `load_store` (restated).
    * `store_error_iff` for a non-dictionary argument (`Err.notDict`): the test is `Output.store_dictionary`'s, not in the
      translated functions; the dictionary case is restated.
    * `wlOfWn_involutive`, `wlwidth_is_centre_conversion`, `wlwidth_vs_exact`: about `wlOfWn` / `wlwidthAt`, which in this
      tie are the ORACLE's reading of numpy's `10000/array` and of the module function `wnwidth_to_wlwidth`, not regenerated
      definitions (the C17 tie of `wnwidth_to_wlwidth` is to `Observation.widthConv`, another model function).
-/
import Props.C16
import Props.C16Src
set_option linter.unusedSectionVars false

namespace Taurex.C16SrcProps
open Taurex.Gen Taurex.Gen.Dyn Taurex.Output Taurex.C16 Taurex.C16Src

/-! ## storage -/

section storage
variable {α : Type} [OfInt α] [FloatLike α]

/-- the regenerated `recursively_save_dict_contents_to_output` (callee: the regenerated `store_thing`) on the group at
    `q` and the Python dict of `d`, from the file state `s` -/
def srcSave (w : SWorld α) (fuel : Nat) (q : List String) (d : List (String × Value α)) (s : Log α) :
    Except Exc (SV α) × Log α :=
  SrcC16.recursively_save w.ext (fun a b c => SrcC16.store_thing w.ext fuel a b c) (.obj (.group q))
    (.dict (embD w.enc d)) s

theorem srcSave_ok (w : SWorld α) (hw : SWorldOK w) (fuel : Nat) (q : List String) (d : List (String × Value α))
    (hf : depthD d < fuel) (s : Log α) (ch : List (String × Node α)) (h : storeEntries d = .ok ch) :
    srcSave w fuel q d s = (.ok .none, s ++ flat q ch) :=
  outcome_ok h (src_recursively_save w hw fuel d hf q s)

theorem srcSave_err (w : SWorld α) (hw : SWorldOK w) (fuel : Nat) (q : List String) (d : List (String × Value α))
    (hf : depthD d < fuel) (s : Log α) (e : Err) (h : storeEntries d = .error e) :
    ∃ e' s', srcSave w fuel q d s = (.error e', s') ∧ errOK' e e' :=
  outcome_err h (src_recursively_save w hw fuel d hf q s)

theorem store_dict_ok {d : List (String × Value α)} {ch : List (String × Node α)}
    (h : store (Value.dict d) = .ok (.group ch)) : storeEntries d = .ok ch := by
  cases hs : storeEntries d with
  | ok c => simp [store, hs] at h; rw [h]
  | error e => simp [store, hs] at h

theorem store_dict_err {d : List (String × Value α)} {e : Err}
    (h : store (Value.dict d) = .error e) : storeEntries d = .error e := by
  cases hs : storeEntries d with
  | ok c => simp [store, hs] at h
  | error e' => simp [store, hs] at h; rw [h]

theorem store_map_load {d : List (String × Value α)} {v : Value α}
    (h : (store (Value.dict d)).map load = .ok v) : ∃ ch, storeEntries d = .ok ch ∧ load (.group ch) = v := by
  cases hs : storeEntries d with
  | ok c =>
    simp [store, hs, Except.map] at h
    exact ⟨c, rfl, h⟩
  | error e => simp [store, hs, Except.map] at h

section
variable (w : SWorld α) (hw : SWorldOK w) (fuel : Nat) (q : List String) (s : Log α)
include hw

/-- **load_store**, about the regenerated writer: on a well-formed dictionary it returns `None` having created entries
    `ch` with exactly the names of `d` (one per key, in order) that read back as `d` -/
theorem src_load_store (d : List (String × Value α)) (h : WF (Value.dict d) = true) (hf : depthD d < fuel) :
    ∃ ch, srcSave w fuel q d s = (.ok .none, s ++ flat q ch) ∧ ch.map Prod.fst = d.map Prod.fst ∧
      load (.group ch) = Value.dict d := by
  obtain ⟨ch, hc, hk, hl⟩ := load_store d h
  exact ⟨ch, srcSave_ok w hw fuel q d hf s ch (store_dict_ok hc), hk, hl⟩

/-- **load_store_canon**, about the regenerated writer: homogeneous lists / tuples and clean string sequences are stored
    one entry per key under the same names and read back as the canonical form -/
theorem src_load_store_canon (d : List (String × Value α)) (h : regEntries d = true) (hf : depthD d < fuel) :
    ∃ ch, srcSave w fuel q d s = (.ok .none, s ++ flat q ch) ∧ ch.map Prod.fst = d.map Prod.fst ∧
      load (.group ch) = canon (Value.dict d) := by
  obtain ⟨ch, hc, hk, hl⟩ := load_store_canon d h
  exact ⟨ch, srcSave_ok w hw fuel q d hf s ch (store_dict_ok hc), hk, hl⟩

/-- **numeric_list_same_numbers**, about the regenerated writer: a flat numeric list / tuple is read back as the 1-D
    array of the same numbers -/
theorem src_numeric_list_same_numbers (k k' : String) (l : List Int) (h : l ≠ []) (x : List α) (hx : x ≠ [])
    (hf : depthD [(k, Value.list (l.map .int)), (k', Value.tuple (x.map .float))] < fuel) :
    ∃ ch, srcSave w fuel q [(k, .list (l.map .int)), (k', .tuple (x.map .float))] s = (.ok .none, s ++ flat q ch) ∧
      load (.group ch)
        = Value.dict [(k, .array ⟨[l.length], .ints l⟩), (k', .array ⟨[x.length], .floats x⟩)] := by
  obtain ⟨ch, hc, hl⟩ := store_map_load (numeric_list_same_numbers k k' l h x hx)
  exact ⟨ch, srcSave_ok w hw fuel q _ hf s ch hc, hl⟩

/-- **store_error_iff** (dictionary argument), about the regenerated writer: it raises iff the traversal reaches an
    unsupported type or a string list with a non-string element -/
theorem src_store_error_iff (d : List (String × Value α)) (hf : depthD d < fuel) :
    (∃ e' s', srcSave w fuel q d s = (.error e', s')) ↔ ¬ supported (Value.dict d) = true := by
  have hiff := store_error_iff (Value.dict d)
  simp only [isDict, true_and] at hiff
  constructor
  · rintro ⟨e', s', he⟩
    apply hiff.1
    cases hse : storeEntries d with
    | ok ch =>
      rw [srcSave_ok w hw fuel q d hf s ch hse] at he
      cases he
    | error e => exact ⟨e, store_dict_of_error hse⟩
  · intro hns
    obtain ⟨e, he⟩ := hiff.2 hns
    obtain ⟨e', s', h1, _⟩ := srcSave_err w hw fuel q d hf s e (store_dict_err he)
    exact ⟨e', s', h1⟩

/-- **store_ragged_arrays**, about the regenerated `store_thing`: a list of differently shaped arrays is stored element by
    element, `key ↦ [a₀, a₁, …]` creates exactly `key0 ↦ a₀, key1 ↦ a₁, …` -/
theorem src_store_ragged_arrays (k : String) (as : List (Arr α)) (h : stack as = none)
    (hf : depth (Value.list (as.map Value.array)) < fuel) :
    SrcC16.store_thing w.ext fuel (.obj (.group q)) (.str k) (embV w.enc (Value.list (as.map Value.array))) s
      = (.ok .none, s ++ flat q (expandArrays k 0 as)) :=
  src_store_thing_ok w hw fuel _ hf q k s _ (store_ragged_arrays k as h)

/-- **string_array_faithful**, about the regenerated writer: string arrays of any length and alphabet are read back
    unchanged (elements not ending in U+0000) -/
theorem src_string_array_faithful (k : String) (strs : List (List Nat)) (hne : strs ≠ [])
    (hc : ∀ t ∈ strs, cleanStr t = true) (hf : depthD [(k, (Value.list (strs.map .str) : Value α))] < fuel) :
    ∃ ch, srcSave w fuel q [(k, .list (strs.map .str))] s = (.ok .none, s ++ flat q ch) ∧
      load (.group ch) = Value.dict [(k, .list (strs.map .str))] := by
  obtain ⟨ch, hch, hl⟩ := store_map_load (string_array_faithful (α := α) k strs hne hc)
  exact ⟨ch, srcSave_ok w hw fuel q _ hf s ch hch, hl⟩

/-- **string_array_trailing_nul_dropped**, about the regenerated writer: the restriction is necessary — a trailing NUL
    does not come back -/
theorem src_string_array_trailing_nul_dropped
    (hf : depthD [("k", (Value.list [.str [65, 0]] : Value α))] < fuel) :
    ∃ ch, srcSave w fuel q [("k", (Value.list [.str [65, 0]] : Value α))] s = (.ok .none, s ++ flat q ch) ∧
      load (.group ch) = Value.dict [("k", .list [.str [65]])] := by
  obtain ⟨ch, hch, hl⟩ := store_map_load (string_array_trailing_nul_dropped (α := α))
  exact ⟨ch, srcSave_ok w hw fuel q _ hf s ch hch, hl⟩

end

/-! ### the HDF5 group methods -/

omit [OfInt α] in
/-- **writeArray_list**, about the regenerated `HDF5OutputGroup.write_array`: `write_array(name, [a₀, a₁, …])` writes
    `name0 ↦ a₀, name1 ↦ a₁, …` -/
theorem src_writeArray_list (w : HWorld α) (fuel : Nat) (p : List String) (k : String) (as : List (Arr α))
    (s : Log α) :
    SrcC16.write_array w.ext (fuel + 2) (.obj (.grp p)) (.str k) (embA (Value.list (as.map Value.array))) .none s
      = (.ok .none, s ++ (expandArrays k 0 as).map (fun e => (p, e.1, e.2))) :=
  src_write_array w fuel p k _ _ (writeArray_list k as) s

omit [OfInt α] in
/-- **string_array_faithful** at the level of the regenerated `HDF5OutputGroup.write_string_array`: the dataset it creates
    reads back as the list of the strings (elements not ending in U+0000), whatever their length and alphabet -/
theorem src_write_string_array_faithful (w : HWorld α) (hw : HWorldOK w) (p : List String) (name : String)
    (strs : List (List Nat)) (hc : ∀ t ∈ strs, cleanStr t = true) (s : Log α) :
    ∃ n : Node α,
      SrcC16.write_string_array w.ext (.obj (.grp p)) (.str name) (.list (strs.map (fun c => .str (w.enc c)))) .none s
        = (.ok .none, s ++ [(p, name, n)]) ∧ load n = Value.list (strs.map .str) := by
  exact ⟨stringNode strs, src_write_string_array w hw p name strs s, load_stringNode_clean strs hc⟩

/-! ### reload of a component -/

theorem load_eq_str {n : Node α} {t : List Nat} (h : load n = Value.str t) : n = .vstr t :=
  node_of_load_str h

section reload
variable (ws : SWorld α) (hws : SWorldOK ws) (wl : LWorld α) (fuel : Nat) (q : List String) (s : Log α)
  (typeKey : String) (klass : List Nat) (entries : List (String × Value α)) (ctorKw : List String)
  (hwf : wfEntries entries = true) (hk : ∀ kw ∈ ctorKw, kw ≠ typeKey)
  (hf : depthD ((typeKey, Value.str klass) :: entries) < fuel)
  (ch : List (String × Node α)) (hch : store (writeComponent typeKey klass entries) = .ok (.group ch))
  (hkl : wl.klassOf klass = some ctorKw) (hn : ctorKw.Nodup)
  (hds : ∀ kw ∈ ctorKw, ∀ n, ch.lookup kw = some n → isGroup n = false) (module : LV α)
include hws hwf hk hf hch hkl hn hds

/-- **reload_same_kwargs**, about the regenerated writer and loader: a component written with its type string and
    entries (`ch`: the group the model says is written — the regenerated writer creates exactly it) is reloaded by the
    regenerated `load_generic_profile_from_hdf5` by calling the class of the written name with, for every constructor
    keyword that was written, its written value, in constructor order -/
theorem src_reload_same_kwargs :
    srcSave ws fuel q ((typeKey, Value.str klass) :: entries) s = (.ok .none, s ++ flat q ch) ∧
    SrcC16.load_generic_profile wl.ext (.obj (.h5 ch)) module (.str typeKey) .none .none .none
      = wl.call (.klass klass ctorKw) []
          (embKwL wl.enc (ctorKw.filterMap (fun kw => (entries.lookup kw).map (fun v => (kw, v))))) := by
  have hse : storeEntries ((typeKey, Value.str klass) :: entries) = .ok ch := store_dict_ok hch
  refine ⟨srcSave_ok ws hws fuel q _ hf s ch hse, ?_⟩
  obtain ⟨h1, h2⟩ := reload_of_store hch (reload_same_kwargs typeKey klass entries ctorKw hwf hk)
  rw [src_load_generic_profile wl ch typeKey klass ctorKw module (lookup_vstr_of_load h1) hkl hn hds, h2]

/-- **reload_omitted_kwarg**, about the regenerated loader: a constructor keyword that `write()` omits is not passed on
    reload (the constructor default is used) -/
theorem src_reload_omitted_kwarg (kw : String) (hom : entries.lookup kw = none) :
    ∃ kws : List (String × Value α),
      SrcC16.load_generic_profile wl.ext (.obj (.h5 ch)) module (.str typeKey) .none .none .none
        = wl.call (.klass klass ctorKw) [] (embKwL wl.enc kws) ∧ kw ∉ kws.map Prod.fst := by
  refine ⟨_, (src_reload_same_kwargs ws hws wl fuel [] [] typeKey klass entries ctorKw hwf hk hf ch hch hkl hn hds
    module).2, ?_⟩
  exact reload_omitted_kwarg typeKey klass entries ctorKw hwf hk kw hom _ _
    (reload_same_kwargs typeKey klass entries ctorKw hwf hk)

end reload

end storage

/-! ## write → load round trips of components -/

section roundtrip
variable {α : Type} [OfInt α] [FloatLike α]

theorem lookup_mem {β : Type} {l : List (String × β)} {k : String} {v : β} (h : l.lookup k = some v) :
    (k, v) ∈ l :=
  mem_of_lookup h

/-- the stored form of a component record (`Output.writeComponent`: the class name under `typeKey`, then `entries` — none
    of them a dictionary) is a group the loader accepts: the type string is there, no constructor keyword is a
    sub-group, and the keyword arguments it collects are the written entries that are constructor keywords, in constructor
    order -/
theorem written_reloadable (wl : LWorld α) (typeKey : String) (c : List Nat) (entries : List (String × Value α))
    (ctorKw : List String) (hwf : wfEntries entries = true) (hnd : ∀ e ∈ entries, isDict e.2 = false)
    (hk : ∀ kw ∈ ctorKw, kw ≠ typeKey) (name : String) (es : List (String × Node α))
    (hm : storeThing name (writeComponent typeKey c entries) = .ok es)
    (hkl : wl.klassOf c = some ctorKw) (hn : ctorKw.Nodup) :
    ∃ ch, es = [(name, .group ch)] ∧ ch.lookup typeKey = some (.vstr c) ∧ Reloadable wl ch c ctorKw ∧
      loadKwargs ch ctorKw = ctorKw.filterMap (fun kw => (entries.lookup kw).map (fun v => (kw, v))) := by
  obtain ⟨ch, hch, rfl⟩ := storeThing_dict_ok hm
  have hwf' : wfEntries ((typeKey, Value.str c) :: entries) = true := by simp [wfEntries, wfVal, hwf]
  obtain ⟨ch', hc', hl, -⟩ := storeEntries_wf _ hwf'
  have e : ch' = ch := by
    have := hc'.symm.trans hch
    simpa using this
  subst e
  obtain ⟨h1, h2⟩ := reload_of_store (store_dict_of_ok hch) (reload_same_kwargs typeKey c entries ctorKw hwf hk)
  refine ⟨ch', rfl, lookup_vstr_of_load h1, ⟨hkl, hn, fun kw _ => no_group_of_loadEntries hl ?_ kw⟩, h2⟩
  intro e he
  rcases List.mem_cons.1 he with rfl | he
  · rfl
  · exact hnd e he

/-- a temperature-profile record: what its `write` stores (the model's `storeThing` of its `writeComponent`) is one group
    `Temperature`, and the regenerated `load_temperature_from_hdf5` applied to any file holding that group calls the class
    of the written name with the written entries that are constructor keywords, in constructor order -/
theorem temperature_reload (wl : LWorld α) (c : List Nat) (entries : List (String × Value α)) (ctorKw : List String)
    (hwf : wfEntries entries = true) (hnd : ∀ e ∈ entries, isDict e.2 = false)
    (hk : ∀ kw ∈ ctorKw, kw ≠ "temperature_type") (hkl : wl.klassOf c = some ctorKw) (hn : ctorKw.Nodup) :
    ∃ ch, storeThing "Temperature" (writeComponent "temperature_type" c entries) = .ok [("Temperature", .group ch)] ∧
      ∀ top : List (String × Node α), top.lookup "Temperature" = some (.group ch) →
        SrcC16.load_temperature wl.ext (.obj (.h5 top)) .none
          = wl.call (.klass c ctorKw) []
              (embKwL wl.enc (ctorKw.filterMap (fun kw => (entries.lookup kw).map (fun v => (kw, v))))) := by
  have hwf' : wfVal (writeComponent "temperature_type" c entries) = true := by
    simp [writeComponent, wfVal, wfEntries, hwf]
  obtain ⟨n, hst, -⟩ := storeThing_wf "Temperature" _ hwf'
  obtain ⟨ch, he, htype, hr, hkw⟩ := written_reloadable wl "temperature_type" c entries ctorKw hwf hnd hk
    "Temperature" _ hst hkl hn
  exact ⟨ch, by rw [hst, he], fun top htop => hkw ▸ src_load_temperature wl top ch c ctorKw htop htype hr⟩

section
variable (ww : WWorld α) (hww : WWorldOK ww) (wl : LWorld α) (c : List Nat) (attr : String → Option (Value α))
  (part : String → Option (SubComp α)) (ctorKw : List String) (hk : ∀ kw ∈ ctorKw, kw ≠ "temperature_type")
  (hkl : wl.klassOf c = some ctorKw) (hn : ctorKw.Nodup) (q : List String) (s : Log α)
include hww hk hkl hn

/-- **write → load round trip of `Isothermal`**, both sides regenerated: `Isothermal.write` creates one group
    `Temperature` (`ch`), and `load_temperature_from_hdf5` on any file holding that group calls the class of the written
    name with `T = self._iso_temp` if `T` is a constructor keyword (and with nothing else) -/
theorem src_isothermal_roundtrip (T : α) (hT : attr "_iso_temp" = some (.float T)) :
    ∃ ch, SrcC16.isothermal_write ww.ext (.obj (.comp c attr part)) (.obj (.group q)) s
        = (.ok (.obj (.group (q ++ ["Temperature"]))), s ++ flat q [("Temperature", .group ch)]) ∧
      ∀ top : List (String × Node α), top.lookup "Temperature" = some (.group ch) →
        SrcC16.load_temperature wl.ext (.obj (.h5 top)) .none
          = wl.call (.klass c ctorKw) []
              (embKwL wl.enc (ctorKw.filterMap (fun kw => ([("T", Value.float T)].lookup kw).map (fun v => (kw, v))))) := by
  refine (temperature_reload wl c _ ctorKw (by simp [wfEntries, wfVal]) (List.forall_mem_singleton.2 rfl) hk hkl hn).elim
    fun ch ⟨hst, hload⟩ => ⟨ch, src_isothermal_write ww hww c attr part T hT q s _ hst, hload⟩

/-- **write → load round trip of `Guillot2010`**: the six written parameters come back as the constructor keywords of the
    same names.  (The attribute `kappa_ir` is written as `kappa_irr`, the constructor's name for it.) -/
theorem src_guillot_roundtrip (Tirr kir kv1 kv2 al Tint : α)
    (h1 : attr "T_irr" = some (.float Tirr)) (h2 : attr "kappa_ir" = some (.float kir))
    (h3 : attr "kappa_v1" = some (.float kv1)) (h4 : attr "kappa_v2" = some (.float kv2))
    (h5 : attr "alpha" = some (.float al)) (h6 : attr "T_int" = some (.float Tint)) :
    ∃ ch, SrcC16.guillot_write ww.ext (.obj (.comp c attr part)) (.obj (.group q)) s
        = (.ok (.obj (.group (q ++ ["Temperature"]))), s ++ flat q [("Temperature", .group ch)]) ∧
      ∀ top : List (String × Node α), top.lookup "Temperature" = some (.group ch) →
        SrcC16.load_temperature wl.ext (.obj (.h5 top)) .none
          = wl.call (.klass c ctorKw) []
              (embKwL wl.enc (ctorKw.filterMap (fun kw =>
                ([("T_irr", Value.float Tirr), ("kappa_irr", .float kir), ("kappa_v1", .float kv1),
                  ("kappa_v2", .float kv2), ("alpha", .float al), ("T_int", .float Tint)].lookup kw).map
                  (fun v => (kw, v))))) := by
  refine (temperature_reload wl c _ ctorKw (by simp [wfEntries, wfVal])
    (by simp only [List.forall_mem_cons, List.not_mem_nil, false_imp_iff, implies_true, isDict, and_self]) hk hkl hn).elim
    fun ch ⟨hst, hload⟩ =>
      ⟨ch, src_guillot_write ww hww c attr part Tirr kir kv1 kv2 al Tint h1 h2 h3 h4 h5 h6 q s _ hst, hload⟩

/-- **write → load round trip of `NPoint`**: temperatures, the point lists (as the arrays `np.array` makes of them),
    pressures (`-1` for an unset one), smoothing window and slope limit come back under the constructor's names -/
theorem src_npoint_roundtrip (Ts Tt ls : α) (tp pp : List α) (ps pt : Value α) (sw : Int)
    (hps : ps = .unsupported ∨ ∃ x, ps = .float x) (hpt : pt = .unsupported ∨ ∃ x, pt = .float x)
    (h1 : attr "_T_surface" = some (.float Ts)) (h2 : attr "_T_top" = some (.float Tt))
    (h3 : attr "_t_points" = some (.list (tp.map .float))) (h4 : attr "_P_surface" = some ps)
    (h5 : attr "_P_top" = some pt) (h6 : attr "_p_points" = some (.list (pp.map .float)))
    (h7 : attr "_smooth_window" = some (.int sw)) (h8 : attr "_limit_slope" = some (.float ls)) :
    ∃ ch, SrcC16.npoint_write ww.ext (.obj (.comp c attr part)) (.obj (.group q)) s
        = (.ok (.obj (.group (q ++ ["Temperature"]))), s ++ flat q [("Temperature", .group ch)]) ∧
      ∀ top : List (String × Node α), top.lookup "Temperature" = some (.group ch) →
        SrcC16.load_temperature wl.ext (.obj (.h5 top)) .none
          = wl.call (.klass c ctorKw) []
              (embKwL wl.enc (ctorKw.filterMap (fun kw =>
                ([("T_surface", Value.float Ts), ("T_top", .float Tt), ("temperature_points", .array (arrOf tp)),
                  ("P_surface", orMinus1 ps), ("P_top", orMinus1 pt), ("pressure_points", .array (arrOf pp)),
                  ("smoothing_window", .int sw), ("limit_slope", .float ls)].lookup kw).map (fun v => (kw, v))))) := by
  have hw1 := wfLeaf_wf (wfLeaf_scalar (scalar_orMinus1 ps))
  have hw2 := wfLeaf_wf (wfLeaf_scalar (scalar_orMinus1 pt))
  refine (temperature_reload wl c _ ctorKw (by simp [wfEntries, wfVal, arrOf, hw1.1, hw2.1])
    (by
      simp only [List.forall_mem_cons, List.not_mem_nil, false_imp_iff, implies_true, and_true]
      exact ⟨rfl, rfl, rfl, hw1.2, hw2.2, rfl, rfl, rfl⟩)
    hk hkl hn).elim fun ch ⟨hst, hload⟩ =>
      ⟨ch, src_npoint_write ww hww c attr part Ts Tt ls tp pp ps pt sw hps hpt h1 h2 h3 h4 h5 h6 h7 h8 q s _ hst, hload⟩

end

/-- **write → load round trip of a `TaurexChemistry`**, both sides regenerated: `TaurexChemistry.write` creates the group
    `Chemistry` with exactly the entries `chemG` (class name, active / inactive gas names, condensates, fill ratios, fill
    gases, then what every gas profile's `write` stores), and `load_chemistry_from_hdf5` on any file holding that group
    reloads the class of the written name and re-adds the gases named in the WRITTEN active / inactive lists (as the
    fixed-width cells return them: `sCell`, the identity on names not ending in NUL) that are not fill gases -/
theorem src_taurexchemistry_roundtrip (ww : WWorld α) (hww : WWorldOK ww) (wl : LWorld α) (c : List Nat)
    (attr : String → Option (Value α)) (part : String → Option (SubComp α)) (act inact : List (List Nat))
    (cond : Option (List (List Nat))) (hc : ChemAttrs attr act inact cond) (fg : List (List Nat)) (fr : List α)
    (gs : List (String × Value α)) (hfg : attr "_fill_gases" = some (.list (fg.map .str)))
    (hfr : attr "_fill_ratio" = some (.list (fr.map .float))) (hga : attr "_gases" = none)
    (hgs : part "_gases" = some (.many gs)) (ges : List (String × Node α)) (hges : storeEntries gs = .ok ges)
    (q : List String) (s : Log α) :
    let chemG := chemEntries c act inact cond ++ [("ratio", .num (arrOf fr)), ("fill_gases", stringNode fg)] ++ ges
    SrcC16.taurexchemistry_write ww.ext (.obj (.comp c attr part)) (.obj (.group q)) s
        = (.ok (.obj (.group (q ++ ["Chemistry"]))), s ++ flat q [("Chemistry", .group chemG)]) ∧
      ∀ (top : List (String × Node α)) (kws : List String), top.lookup "Chemistry" = some (.group chemG) →
        Reloadable wl chemG c kws →
        (∀ r ∈ act.map sCell ++ inact.map sCell, GasGood wl chemG (wl.enc r)) →
        SrcC16.load_chemistry wl.ext (.obj (.h5 top)) .none
          = chemistrySpec wl chemG c kws (act.map sCell) (inact.map sCell) := by
  intro chemG
  refine ⟨src_taurexchemistry_write ww hww c attr part act inact cond hc fg fr gs hfg hfr hga hgs ges hges q s, ?_⟩
  intro top kws htop hr hgas
  have ht : chemG.lookup "chemistry_type" = some (.vstr c) := by
    simp [chemG, chemEntries]
  have ha' : chemG.lookup "active_gases" = some (.sfix (cellWidth act) (act.map sCell)) := by
    simp [chemG, chemEntries, List.lookup, stringNode]
  have hi' : chemG.lookup "inactive_gases" = some (.sfix (cellWidth inact) (inact.map sCell)) := by
    simp [chemG, chemEntries, List.lookup, stringNode]
  exact src_load_chemistry wl top chemG c kws _ _ _ _ htop ht hr ha' hi' hgas

/-! ### the whole model -/

/-- the group `ModelParameters` that `TransmissionModel.write` creates, given the groups its parts create -/
def modelGroup (c : List Nat) (ces g1 g2 g3 g4 g5 : List (String × Node α)) (b : Bool) : List (String × Node α) :=
  [("model_type", .vstr c), ("Contributions", .group ces), ("Chemistry", .group g1), ("Temperature", .group g2),
   ("Pressure", .group g3), ("Planet", .group g4), ("Star", .group g5), ("new_path_method", .num ⟨[], .bools [b]⟩)]

/-- **write → load round trip of a `TransmissionModel`**, both sides regenerated.  The model holds a chemistry, a
    temperature profile, a pressure profile, a planet and a star whose own `write` create the groups `Chemistry`,
    `Temperature`, `Pressure`, `Planet`, `Star` with the entries `g1 … g5` (`storeEntries dᵢ`), and contributions whose
    `write` create the entries `ces`.  Then `TransmissionModel.write` (through `SimpleForwardModel.write` and
    `ForwardModel.write`) creates exactly the group `modelGroup …`, and `load_model_from_hdf5` applied to that group reads
    THOSE groups: whatever description `f` of the file the loader's world admits, its component groups are the written ones
    and the loader does `modelSpec` on them (each component reloaded by the class of its stored type string with
    `Output.loadKwargs` of its written group, the model class called with them and its own stored keywords, every
    contribution group reloaded and added in written order). -/
theorem src_transmission_model_roundtrip (ww : WWorld α) (hww : WWorldOK ww) (wl : LWorld α) (c : List Nat)
    (attr : String → Option (Value α)) (part : String → Option (SubComp α)) (cs : List (String × Value α))
    (ha : attr "contribution_list" = none) (hp : part "contribution_list" = some (.many cs))
    (d1 d2 d3 d4 d5 : List (String × Value α))
    (hh : Held attr part ("Chemistry", .dict d1) ("Temperature", .dict d2) ("Pressure", .dict d3) ("Planet", .dict d4)
      ("Star", .dict d5))
    (b : Bool) (hb : attr "new_method" = some (.bool b))
    (ces g1 g2 g3 g4 g5 : List (String × Node α)) (hces : storeEntries cs = .ok ces)
    (h1 : storeEntries d1 = .ok g1) (h2 : storeEntries d2 = .ok g2) (h3 : storeEntries d3 = .ok g3)
    (h4 : storeEntries d4 = .ok g4) (h5 : storeEntries d5 = .ok g5) (q : List String) (s : Log α) :
    SrcC16.transmission_write ww.ext (.obj (.comp c attr part)) (.obj (.group q)) s
        = (.ok (.obj (.group (q ++ ["ModelParameters"]))),
           s ++ flat q [("ModelParameters", .group (modelGroup c ces g1 g2 g3 g4 g5 b))]) ∧
      ∀ f : ModelFile wl (modelGroup c ces g1 g2 g3 g4 g5 b),
        f.chem = g1 ∧ f.temp = g2 ∧ f.press = g3 ∧ f.planet = g4 ∧ f.star = g5 ∧ f.contribs = ces ∧ f.mnm = c ∧
        SrcC16.load_model wl.ext (.obj (.h5 (modelGroup c ces g1 g2 g3 g4 g5 b))) .none
          = modelSpec wl (modelGroup c ces g1 g2 g3 g4 g5 b) f := by
  constructor
  · apply src_transmission_write ww hww c attr part cs ha hp _ _ _ _ _ hh b hb q s
    simp [modelValue, writeComponent, storeThing, storeEntries, hces, h1, h2, h3, h4, h5, modelGroup]
  · intro f
    have e1 := f.hchem
    have e2 := f.htemp
    have e3 := f.hpress
    have e4 := f.hplanet
    have e5 := f.hstar
    have e6 := f.hcontribs
    have e7 := f.hmtype
    simp [modelGroup, List.lookup] at e1 e2 e3 e4 e5 e6 e7
    exact ⟨e1.symm, e2.symm, e3.symm, e4.symm, e5.symm, e6.symm, e7.symm, src_load_model wl _ f⟩

/-! ### star, planet, pressure profile, gas profiles, contributions -/

/-- a component record written under the group `name` with its class name under `typeKey` and entries that are scalars,
    arrays of dimension ≥ 1 and strings (`WfLeaf`): it is stored as one group whose content the loader accepts -/
theorem typed_written (wl : LWorld α) (name typeKey : String) (c : List Nat) (entries : List (String × Value α))
    (ctorKw : List String) (hl : ∀ e ∈ entries, WfLeaf e.2) (hk : ∀ kw ∈ ctorKw, kw ≠ typeKey)
    (hkl : wl.klassOf c = some ctorKw) (hn : ctorKw.Nodup) :
    ∃ ch, storeThing name (writeComponent typeKey c entries) = .ok [(name, .group ch)] ∧
      ch.lookup typeKey = some (.vstr c) ∧ Reloadable wl ch c ctorKw ∧
      loadKwargs ch ctorKw = ctorKw.filterMap (fun kw => (entries.lookup kw).map (fun v => (kw, v))) := by
  have hwf := wfEntries_wfl entries hl
  have hwf' : wfVal (writeComponent typeKey c entries) = true := by
    simp [writeComponent, wfVal, wfEntries, hwf]
  obtain ⟨n, hst, -⟩ := storeThing_wf name _ hwf'
  obtain ⟨ch, he, htype, hr, hkw⟩ := written_reloadable wl typeKey c entries ctorKw hwf (notDict_wfl entries hl) hk
    name _ hst hkl hn
  exact ⟨ch, by rw [hst, he], htype, hr, hkw⟩

/-- a dictionary (no type string: a contribution's group) written under the group `name` with `WfLeaf` entries -/
theorem untyped_written (wl : LWorld α) (name : String) (c : List Nat) (entries : List (String × Value α))
    (ctorKw : List String) (hl : ∀ e ∈ entries, WfLeaf e.2) (hkl : wl.klassOf c = some ctorKw) (hn : ctorKw.Nodup) :
    ∃ ch, storeThing name (.dict entries) = .ok [(name, .group ch)] ∧ Reloadable wl ch c ctorKw ∧
      loadKwargs ch ctorKw = ctorKw.filterMap (fun kw => (entries.lookup kw).map (fun v => (kw, v))) := by
  obtain ⟨ch, hc, hld, -⟩ := storeEntries_wf entries (wfEntries_wfl entries hl)
  exact ⟨ch, by rw [storeThing_dict, hc],
    ⟨hkl, hn, fun kw _ => no_group_of_loadEntries hld (notDict_wfl entries hl) kw⟩, by rw [loadKwargs_eq, hld]⟩

section
variable (ww : WWorld α) (hww : WWorldOK ww) (wl : LWorld α) (c : List Nat) (attr : String → Option (Value α))
  (part : String → Option (SubComp α)) (ctorKw : List String) (hkl : wl.klassOf c = some ctorKw) (hn : ctorKw.Nodup)
  (q : List String) (s : Log α)
include hww hkl hn

/-- **write → load round trip of `Star` / `BlackbodyStar`**, both sides regenerated: `Star.write` creates one group `Star`
    (`ch`), and `load_star_from_hdf5` on any file holding that group calls the class of the written name with those of the
    written entries (temperature, radius and mass in solar units, distance, K magnitude, metallicity, …) that are
    constructor keywords, in constructor order -/
theorem src_star_roundtrip (hk : ∀ kw ∈ ctorKw, kw ≠ "star_type") (T D mK met R : Value α) (r m rsol msol : α)
    (sed : Arr α) (hT : Scalar T) (hD : Scalar D) (hmK : Scalar mK) (hmet : Scalar met) (hR : Scalar R)
    (hsed : (sed.shape != []) = true)
    (h1 : attr "temperature" = some T) (h2 : attr "_radius" = some (.float r)) (h3 : attr "distance" = some D)
    (h4 : attr "_mass" = some (.float m)) (h5 : attr "magnitudeK" = some mK) (h6 : attr "_metallicity" = some met)
    (h7 : attr "radius" = some R) (h8 : attr "spectralEmissionDensity" = some (.array sed))
    (hc1 : ww.consts "RSOL" = some rsol) (hc2 : ww.consts "MSOL" = some msol)
    (hz1 : FloatLike.isZero rsol = false) (hz2 : FloatLike.isZero msol = false) :
    ∃ ch, SrcC16.star_write ww.ext (.obj (.comp c attr part)) (.obj (.group q)) s
        = (.ok (.obj (.group (q ++ ["Star"]))), s ++ flat q [("Star", .group ch)]) ∧
      ∀ top : List (String × Node α), top.lookup "Star" = some (.group ch) →
        SrcC16.load_star wl.ext (.obj (.h5 top)) .none
          = wl.call (.klass c ctorKw) []
              (embKwL wl.enc (ctorKw.filterMap (fun kw =>
                ([("temperature", T), ("radius", .float (ww.div r rsol)), ("distance", D),
                  ("mass", .float (ww.div m msol)), ("magnitudeK", mK), ("metallicity", met), ("radius_m", R),
                  ("SED", .array sed), ("mass_kg", .float m)].lookup kw).map (fun v => (kw, v))))) := by
  refine (typed_written wl "Star" "star_type" c _ ctorKw
    (wfl_cons (wfLeaf_scalar hT) (wfl_cons (wfLeaf_scalar (scalar_float _)) (wfl_cons (wfLeaf_scalar hD)
      (wfl_cons (wfLeaf_scalar (scalar_float _)) (wfl_cons (wfLeaf_scalar hmK) (wfl_cons (wfLeaf_scalar hmet)
      (wfl_cons (wfLeaf_scalar hR) (wfl_cons (wfLeaf_array _ hsed) (wfl_cons (wfLeaf_scalar (scalar_float _))
      wfl_nil))))))))) hk hkl hn).elim fun ch ⟨hst, htype, hr, hkw⟩ =>
    ⟨ch, src_star_write ww hww c attr part T D mK met R r m rsol msol sed hT hD hmK hmet hR h1 h2 h3 h4 h5 h6 h7 h8
    hc1 hc2 hz1 hz2 q s _ hst, fun top htop => hkw ▸ src_load_star wl top ch c ctorKw htop htype hr⟩

/-- **write → load round trip of `Planet`**: `BasePlanet.write` creates one group `Planet`; `load_planet_from_hdf5` does
    not read the stored `planet_type` but always calls the class the loader's world knows as `Planet` — so the round trip
    holds for an instance of THAT class (`hnm`; an `Earth` / `Mars` instance is reloaded as a `Planet`), with mass, radius
    and distance in Jupiter / AU units, the impact parameter, orbital period, albedo and transit time as keywords -/
theorem src_planet_roundtrip (hnm : wl.dec "Planet" = c) (hk : ∀ kw ∈ ctorKw, kw ≠ "planet_type")
    (imp per alb tt M R g : Value α) (pm pr pd mjup rjup au : α)
    (himp : Scalar imp) (hper : Scalar per) (halb : Scalar alb) (htt : Scalar tt) (hM : Scalar M) (hR : Scalar R)
    (hg : Scalar g)
    (h1 : attr "_mass" = some (.float pm)) (h2 : attr "_radius" = some (.float pr))
    (h3 : attr "_distance" = some (.float pd)) (h4 : attr "_impact" = some imp) (h5 : attr "orbitalPeriod" = some per)
    (h6 : attr "albedo" = some alb) (h7 : attr "transitTime" = some tt) (h8 : attr "mass" = some M)
    (h9 : attr "radius" = some R) (h10 : attr "gravity" = some g)
    (hc1 : ww.consts "MJUP" = some mjup) (hc2 : ww.consts "RJUP" = some rjup) (hc3 : ww.consts "AU" = some au)
    (hz1 : FloatLike.isZero mjup = false) (hz2 : FloatLike.isZero rjup = false) (hz3 : FloatLike.isZero au = false) :
    ∃ ch, SrcC16.planet_write ww.ext (.obj (.comp c attr part)) (.obj (.group q)) s
        = (.ok (.obj (.group (q ++ ["Planet"]))), s ++ flat q [("Planet", .group ch)]) ∧
      ∀ top : List (String × Node α), top.lookup "Planet" = some (.group ch) →
        SrcC16.load_planet wl.ext (.obj (.h5 top)) .none
          = wl.call (.klass c ctorKw) []
              (embKwL wl.enc (ctorKw.filterMap (fun kw =>
                ([("planet_mass", Value.float (ww.div pm mjup)), ("planet_radius", .float (ww.div pr rjup)),
                  ("planet_distance", .float (ww.div pd au)), ("impact_param", imp), ("orbital_period", per),
                  ("albedo", alb), ("transit_time", tt), ("mass_kg", M), ("radius_m", R),
                  ("surface_gravity", g)].lookup kw).map (fun v => (kw, v))))) := by
  refine (typed_written wl "Planet" "planet_type" c _ ctorKw
    (wfl_cons (wfLeaf_scalar (scalar_float _)) (wfl_cons (wfLeaf_scalar (scalar_float _))
      (wfl_cons (wfLeaf_scalar (scalar_float _)) (wfl_cons (wfLeaf_scalar himp) (wfl_cons (wfLeaf_scalar hper)
      (wfl_cons (wfLeaf_scalar halb) (wfl_cons (wfLeaf_scalar htt) (wfl_cons (wfLeaf_scalar hM)
      (wfl_cons (wfLeaf_scalar hR) (wfl_cons (wfLeaf_scalar hg) wfl_nil)))))))))) hk hkl hn).elim fun ch ⟨hst, htype, hr, hkw⟩ =>
    ⟨ch, src_planet_write ww hww c attr part imp per alb tt M R g pm pr pd mjup rjup au himp hper halb htt hM hR hg
    h1 h2 h3 h4 h5 h6 h7 h8 h9 h10 hc1 hc2 hc3 hz1 hz2 hz3 q s _ hst, fun top htop => hkw ▸ src_load_planet wl top ch c ctorKw htop hnm hr⟩

/-- **write → load round trip of `SimplePressureProfile`**: number of layers, maximum and minimum pressure come back as
    the constructor keywords `nlayers`, `atm_max_pressure`, `atm_min_pressure` (the stored `profile` array only if the
    class takes a keyword of that name) -/
theorem src_simplepressure_roundtrip (hk : ∀ kw ∈ ctorKw, kw ≠ "pressure_type") (nl pmax pmin : Value α)
    (prof : Arr α) (hnl : Scalar nl) (hmax : Scalar pmax) (hmin : Scalar pmin) (hprof : (prof.shape != []) = true)
    (h1 : attr "_nlayers" = some nl) (h2 : attr "profile" = some (.array prof))
    (h3 : attr "_atm_max_pressure" = some pmax) (h4 : attr "_atm_min_pressure" = some pmin) :
    ∃ ch, SrcC16.simplepressure_write ww.ext (.obj (.comp c attr part)) (.obj (.group q)) s
        = (.ok (.obj (.group (q ++ ["Pressure"]))), s ++ flat q [("Pressure", .group ch)]) ∧
      ∀ top : List (String × Node α), top.lookup "Pressure" = some (.group ch) →
        SrcC16.load_pressure wl.ext (.obj (.h5 top)) .none
          = wl.call (.klass c ctorKw) []
              (embKwL wl.enc (ctorKw.filterMap (fun kw =>
                ([("nlayers", nl), ("profile", .array prof), ("atm_max_pressure", pmax),
                  ("atm_min_pressure", pmin)].lookup kw).map (fun v => (kw, v))))) := by
  refine (typed_written wl "Pressure" "pressure_type" c _ ctorKw
    (wfl_cons (wfLeaf_scalar hnl) (wfl_cons (wfLeaf_array _ hprof) (wfl_cons (wfLeaf_scalar hmax)
      (wfl_cons (wfLeaf_scalar hmin) wfl_nil)))) hk hkl hn).elim fun ch ⟨hst, htype, hr, hkw⟩ =>
    ⟨ch, src_simplepressure_write ww hww c attr part nl pmax pmin prof hnl hmax hmin h1 h2 h3 h4 q s _ hst, fun top htop => hkw ▸ src_load_pressure wl top ch c ctorKw htop htype hr⟩

/-- **write → load round trip of a `PressureProfile`** that does not override `write` -/
theorem src_pressure_roundtrip (hk : ∀ kw ∈ ctorKw, kw ≠ "pressure_type") (nl : Value α) (prof : Arr α)
    (hnl : Scalar nl) (hprof : (prof.shape != []) = true)
    (h1 : attr "_nlayers" = some nl) (h2 : attr "profile" = some (.array prof)) :
    ∃ ch, SrcC16.pressure_write ww.ext (.obj (.comp c attr part)) (.obj (.group q)) s
        = (.ok (.obj (.group (q ++ ["Pressure"]))), s ++ flat q [("Pressure", .group ch)]) ∧
      ∀ top : List (String × Node α), top.lookup "Pressure" = some (.group ch) →
        SrcC16.load_pressure wl.ext (.obj (.h5 top)) .none
          = wl.call (.klass c ctorKw) []
              (embKwL wl.enc (ctorKw.filterMap (fun kw =>
                ([("nlayers", nl), ("profile", Value.array prof)].lookup kw).map (fun v => (kw, v))))) := by
  refine (typed_written wl "Pressure" "pressure_type" c _ ctorKw
    (wfl_cons (wfLeaf_scalar hnl) (wfl_cons (wfLeaf_array _ hprof) wfl_nil)) hk hkl hn).elim fun ch ⟨hst, htype, hr, hkw⟩ =>
    ⟨ch, src_pressure_write ww hww c attr part nl prof hnl h1 h2 q s _ hst, fun top htop => hkw ▸ src_load_pressure wl top ch c ctorKw htop htype hr⟩

/-- **write → load round trip of `ConstantGas`**: the group is named like the molecule (`ww.enc mol`);
    `load_gas_from_hdf5(loc, molecule)` with that name calls the class of the written name with `molecule_name` and
    `mix_ratio` -/
theorem src_constantgas_roundtrip (hk : ∀ kw ∈ ctorKw, kw ≠ "gas_type") (mol : List Nat) (mr : Value α)
    (hmr : Scalar mr) (h1 : attr "molecule" = some (.str mol)) (h2 : attr "_molecule_name" = some (.str mol))
    (h3 : attr "_mix_ratio" = some mr) :
    ∃ ch, SrcC16.constantgas_write ww.ext (.obj (.comp c attr part)) (.obj (.group q)) s
        = (.ok (.obj (.group (q ++ [ww.enc mol]))), s ++ flat q [(ww.enc mol, .group ch)]) ∧
      ∀ top : List (String × Node α), top.lookup (ww.enc mol) = some (.group ch) →
        SrcC16.load_gas wl.ext (.obj (.h5 top)) (.str (ww.enc mol)) .none
          = wl.call (.klass c ctorKw) []
              (embKwL wl.enc (ctorKw.filterMap (fun kw =>
                ([("molecule_name", Value.str mol), ("mix_ratio", mr)].lookup kw).map (fun v => (kw, v))))) := by
  refine (typed_written wl (ww.enc mol) "gas_type" c _ ctorKw
    (wfl_cons (wfLeaf_str _) (wfl_cons (wfLeaf_scalar hmr) wfl_nil)) hk hkl hn).elim fun ch ⟨hst, htype, hr, hkw⟩ =>
    ⟨ch, src_constantgas_write ww hww c attr part mol mr hmr h1 h2 h3 q s _ hst, fun top htop => hkw ▸ src_load_gas wl top ch c ctorKw (ww.enc mol) htop htype hr⟩

/-- **write → load round trip of `TwoLayerGas`** -/
theorem src_twolayergas_roundtrip (hk : ∀ kw ∈ ctorKw, kw ≠ "gas_type") (mol : List Nat) (top' surf P sm : Value α)
    (htop' : Scalar top') (hsurf : Scalar surf) (hP : Scalar P) (hsm : Scalar sm)
    (h1 : attr "molecule" = some (.str mol)) (h2 : attr "_molecule_name" = some (.str mol))
    (h3 : attr "mixRatioTop" = some top') (h4 : attr "mixRatioSurface" = some surf)
    (h5 : attr "mixRatioPressure" = some P) (h6 : attr "mixRatioSmoothing" = some sm) :
    ∃ ch, SrcC16.twolayergas_write ww.ext (.obj (.comp c attr part)) (.obj (.group q)) s
        = (.ok (.obj (.group (q ++ [ww.enc mol]))), s ++ flat q [(ww.enc mol, .group ch)]) ∧
      ∀ top : List (String × Node α), top.lookup (ww.enc mol) = some (.group ch) →
        SrcC16.load_gas wl.ext (.obj (.h5 top)) (.str (ww.enc mol)) .none
          = wl.call (.klass c ctorKw) []
              (embKwL wl.enc (ctorKw.filterMap (fun kw =>
                ([("molecule_name", Value.str mol), ("mix_ratio_top", top'), ("mix_ratio_surface", surf),
                  ("mix_ratio_P", P), ("mix_ratio_smoothing", sm)].lookup kw).map (fun v => (kw, v))))) := by
  refine (typed_written wl (ww.enc mol) "gas_type" c _ ctorKw
    (wfl_cons (wfLeaf_str _) (wfl_cons (wfLeaf_scalar htop') (wfl_cons (wfLeaf_scalar hsurf) (wfl_cons (wfLeaf_scalar hP)
      (wfl_cons (wfLeaf_scalar hsm) wfl_nil))))) hk hkl hn).elim fun ch ⟨hst, htype, hr, hkw⟩ =>
    ⟨ch, src_twolayergas_write ww hww c attr part mol top' surf P sm htop' hsurf hP hsm h1 h2 h3 h4 h5 h6 q s _ hst, fun top htop => hkw ▸ src_load_gas wl top ch c ctorKw (ww.enc mol) htop htype hr⟩

/-- **write → load round trip of `TwoPointGas`** -/
theorem src_twopointgas_roundtrip (hk : ∀ kw ∈ ctorKw, kw ≠ "gas_type") (mol : List Nat) (top' surf : Value α)
    (htop' : Scalar top') (hsurf : Scalar surf)
    (h1 : attr "molecule" = some (.str mol)) (h2 : attr "_molecule_name" = some (.str mol))
    (h3 : attr "mixRatioTop" = some top') (h4 : attr "mixRatioSurface" = some surf) :
    ∃ ch, SrcC16.twopointgas_write ww.ext (.obj (.comp c attr part)) (.obj (.group q)) s
        = (.ok (.obj (.group (q ++ [ww.enc mol]))), s ++ flat q [(ww.enc mol, .group ch)]) ∧
      ∀ top : List (String × Node α), top.lookup (ww.enc mol) = some (.group ch) →
        SrcC16.load_gas wl.ext (.obj (.h5 top)) (.str (ww.enc mol)) .none
          = wl.call (.klass c ctorKw) []
              (embKwL wl.enc (ctorKw.filterMap (fun kw =>
                ([("molecule_name", Value.str mol), ("mix_ratio_top", top'),
                  ("mix_ratio_surface", surf)].lookup kw).map (fun v => (kw, v))))) := by
  refine (typed_written wl (ww.enc mol) "gas_type" c _ ctorKw
    (wfl_cons (wfLeaf_str _) (wfl_cons (wfLeaf_scalar htop') (wfl_cons (wfLeaf_scalar hsurf) wfl_nil))) hk hkl hn).elim fun ch ⟨hst, htype, hr, hkw⟩ =>
    ⟨ch, src_twopointgas_write ww hww c attr part mol top' surf htop' hsurf h1 h2 h3 h4 q s _ hst, fun top htop => hkw ▸ src_load_gas wl top ch c ctorKw (ww.enc mol) htop htype hr⟩

/-- **write → load round trip of `PowerGas`**: the profile type and exactly those coefficients that were not `None` come
    back as keywords (a coefficient left to the automatic profile stays unset, so the reloaded profile recomputes it) -/
theorem src_powergas_roundtrip (hk : ∀ kw ∈ ctorKw, kw ≠ "gas_type") (mol pt : List Nat) (al surf be ga : Value α)
    (hal : al = .unsupported ∨ Scalar al) (hsurf : surf = .unsupported ∨ Scalar surf)
    (hbe : be = .unsupported ∨ Scalar be) (hga : ga = .unsupported ∨ Scalar ga)
    (h1 : attr "molecule" = some (.str mol)) (h2 : attr "_molecule_name" = some (.str mol))
    (h3 : attr "_profile_type" = some (.str pt)) (h4 : attr "alpha" = some al) (h5 : attr "mixRatioSurface" = some surf)
    (h6 : attr "beta" = some be) (h7 : attr "gamma" = some ga) :
    ∃ ch, SrcC16.powergas_write ww.ext (.obj (.comp c attr part)) (.obj (.group q)) s
        = (.ok (.obj (.group (q ++ [ww.enc mol]))), s ++ flat q [(ww.enc mol, .group ch)]) ∧
      ∀ top : List (String × Node α), top.lookup (ww.enc mol) = some (.group ch) →
        SrcC16.load_gas wl.ext (.obj (.h5 top)) (.str (ww.enc mol)) .none
          = wl.call (.klass c ctorKw) []
              (embKwL wl.enc (ctorKw.filterMap (fun kw =>
                (([("molecule_name", Value.str mol), ("profile_type", .str pt)] ++
                  present [("alpha", al), ("mix_ratio_surface", surf), ("beta", be), ("gamma", ga)]).lookup kw).map
                  (fun v => (kw, v))))) := by
  have hopt : ∀ e ∈ [("alpha", al), ("mix_ratio_surface", surf), ("beta", be), ("gamma", ga)],
      e.2 = Value.unsupported ∨ Scalar e.2 := by
    intro e he
    simp only [List.mem_cons, List.not_mem_nil, or_false] at he
    rcases he with rfl | rfl | rfl | rfl <;> assumption
  refine (typed_written wl (ww.enc mol) "gas_type" c _ ctorKw
    (wfl_append (wfl_cons (wfLeaf_str _) (wfl_cons (wfLeaf_str _) wfl_nil))
      (fun e he => wfLeaf_scalar (present_leaves _ hopt e he))) hk hkl hn).elim fun ch ⟨hst, htype, hr, hkw⟩ =>
    ⟨ch, src_powergas_write ww hww c attr part mol pt al surf be ga hal hsurf hbe hga h1 h2 h3 h4 h5 h6 h7 q s _ hst, fun top htop => hkw ▸ src_load_gas wl top ch c ctorKw (ww.enc mol) htop htype hr⟩

/-- **write → load round trip of a contribution that stores nothing** (`Contribution.write`: `AbsorptionContribution`,
    `RayleighContribution`): the group is named like the class and `load_contrib_from_hdf5(loc, name)` calls the class
    the loader's world knows under that name (`hnm`: the same class) with no keyword -/
theorem src_contribution_roundtrip (hnm : wl.dec (ww.enc c) = c) :
    ∃ ch, SrcC16.contribution_write ww.ext (.obj (.comp c attr part)) (.obj (.group q)) s
        = (.ok (.obj (.group (q ++ [ww.enc c]))), s ++ flat q [(ww.enc c, .group ch)]) ∧
      ∀ top : List (String × Node α), top.lookup (ww.enc c) = some (.group ch) →
        SrcC16.load_contrib wl.ext (.obj (.h5 top)) (.str (ww.enc c)) .none
          = wl.call (.klass c ctorKw) []
              (embKwL wl.enc (ctorKw.filterMap (fun kw =>
                (([] : List (String × Value α)).lookup kw).map (fun v => (kw, v))))) := by
  refine (untyped_written wl (ww.enc c) c _ ctorKw
    wfl_nil hkl hn).elim fun ch ⟨hst, hr, hkw⟩ =>
    ⟨ch, src_contribution_write ww hww c attr part q s _ hst, fun top htop => hkw ▸ src_load_contrib wl top ch c ctorKw (ww.enc c) htop hnm hr⟩

/-- **write → load round trip of `SimpleCloudsContribution`**: the cloud-top pressure comes back as `clouds_pressure` -/
theorem src_simpleclouds_roundtrip (hnm : wl.dec (ww.enc c) = c) (P : Value α) (hP : Scalar P)
    (h1 : attr "_cloud_pressure" = some P) :
    ∃ ch, SrcC16.simpleclouds_write ww.ext (.obj (.comp c attr part)) (.obj (.group q)) s
        = (.ok (.obj (.group (q ++ [ww.enc c]))), s ++ flat q [(ww.enc c, .group ch)]) ∧
      ∀ top : List (String × Node α), top.lookup (ww.enc c) = some (.group ch) →
        SrcC16.load_contrib wl.ext (.obj (.h5 top)) (.str (ww.enc c)) .none
          = wl.call (.klass c ctorKw) []
              (embKwL wl.enc (ctorKw.filterMap (fun kw =>
                ([("clouds_pressure", P)].lookup kw).map (fun v => (kw, v))))) := by
  refine (untyped_written wl (ww.enc c) c _ ctorKw
    (wfl_cons (wfLeaf_scalar hP) wfl_nil) hkl hn).elim fun ch ⟨hst, hr, hkw⟩ =>
    ⟨ch, src_simpleclouds_write ww hww c attr part P hP h1 q s _ hst, fun top htop => hkw ▸ src_load_contrib wl top ch c ctorKw (ww.enc c) htop hnm hr⟩

/-- **write → load round trip of `FlatMieContribution`** -/
theorem src_flatmie_roundtrip (hnm : wl.dec (ww.enc c) = c) (mix bot top' : Value α) (hmix : Scalar mix)
    (hbot : Scalar bot) (htop' : Scalar top') (h1 : attr "_mie_mix" = some mix)
    (h2 : attr "_mie_bottom_pressure" = some bot) (h3 : attr "_mie_top_pressure" = some top') :
    ∃ ch, SrcC16.flatmie_write ww.ext (.obj (.comp c attr part)) (.obj (.group q)) s
        = (.ok (.obj (.group (q ++ [ww.enc c]))), s ++ flat q [(ww.enc c, .group ch)]) ∧
      ∀ top : List (String × Node α), top.lookup (ww.enc c) = some (.group ch) →
        SrcC16.load_contrib wl.ext (.obj (.h5 top)) (.str (ww.enc c)) .none
          = wl.call (.klass c ctorKw) []
              (embKwL wl.enc (ctorKw.filterMap (fun kw =>
                ([("flat_mix_ratio", mix), ("flat_bottomP", bot), ("flat_topP", top')].lookup kw).map
                  (fun v => (kw, v))))) := by
  refine (untyped_written wl (ww.enc c) c _ ctorKw
    (wfl_cons (wfLeaf_scalar hmix) (wfl_cons (wfLeaf_scalar hbot) (wfl_cons (wfLeaf_scalar htop') wfl_nil))) hkl hn).elim fun ch ⟨hst, hr, hkw⟩ =>
    ⟨ch, src_flatmie_write ww hww c attr part mix bot top' hmix hbot htop' h1 h2 h3 q s _ hst, fun top htop => hkw ▸ src_load_contrib wl top ch c ctorKw (ww.enc c) htop hnm hr⟩

/-- **write → load of `CIAContribution`**: `CIAContribution.write` creates the group named like the class holding the
    pair names as ONE fixed-width string array `cia_pairs`; `load_contrib_from_hdf5` on it calls the class with what
    `Output.loadKwargs` collects from that group.  (The stored array reads back as the list of the cells, `sCell` of the
    names: the identity on names not ending in NUL.) -/
theorem src_cia_roundtrip (hnm : wl.dec (ww.enc c) = c) (pairs : List (List Nat))
    (h1 : attr "ciaPairs" = some (.list (pairs.map .str))) :
    let g : List (String × Node α) := if pairs = [] then [] else [("cia_pairs", stringNode pairs)]
    SrcC16.cia_write ww.ext (.obj (.comp c attr part)) (.obj (.group q)) s
        = (.ok (.obj (.group (q ++ [ww.enc c]))), s ++ flat q [(ww.enc c, .group g)]) ∧
      ∀ top : List (String × Node α), top.lookup (ww.enc c) = some (.group g) →
        SrcC16.load_contrib wl.ext (.obj (.h5 top)) (.str (ww.enc c)) .none
          = wl.call (.klass c ctorKw) [] (embKwL wl.enc (loadKwargs g ctorKw)) := by
  intro g
  refine ⟨src_cia_write ww hww c attr part pairs h1 q s _ (store_cia _ pairs), fun top htop =>
    src_load_contrib wl top g c ctorKw (ww.enc c) htop hnm ⟨hkl, hn, fun kw _ n hlk => ?_⟩⟩
  have hmem := mem_of_lookup hlk
  simp only [g] at hmem
  split at hmem
  · cases hmem
  · obtain rfl := (Prod.mk.inj (List.mem_singleton.1 hmem)).2
    rfl

end

end roundtrip

/-! ## spectrum dictionaries -/

section spectrum
variable {α : Type} [Add α] [Sub α] [Mul α] [Div α] [Neg α] [LT α] [DecidableLT α]
  [OfNat α 0] [OfNat α 2] [OfNat α 10000] [BEq α] [FloatLike α]

/-- the regenerated `generate_spectrum_output(model_output, output_size)` of the binner class `kind` -/
def srcGso (kind : BinnerKind) (w : GWorld α) (grid width wn flux : List α) (tau : List (List α)) (n : Nat) :
    GM (GV α) :=
  match kind with
  | .flux => SrcC16.fluxbinner_gso w.ext (.obj (.binner grid width)) (modelOutput wn flux tau) (.obj (.size n))
  | .simple => SrcC16.simplebinner_gso w.ext (.obj (.binner grid width)) (modelOutput wn flux tau) (.obj (.size n))
  | .native => SrcC16.nativebinner_gso w.ext (modelOutput wn flux tau) (.obj (.size n))

theorem srcGso_eq (kind : BinnerKind) (w : GWorld α) (grid width wn flux : List α) (tau : List (List α)) (n : Nat) :
    srcGso kind w grid width wn flux tau n
      = .ok (embOut (spectrumOutput kind grid width w.bd w.bdTau n wn flux tau)) := by
  cases kind
  · exact src_fluxbinner_gso w grid width wn flux tau n
  · exact src_simplebinner_gso w grid width wn flux tau n
  · exact src_nativebinner_gso w grid width wn flux tau n

/-- `d[key]` on the Python dict of a spectrum dictionary -/
theorem dictGet_embOut (out : List (String × Entry α)) (k : String) :
    Dyn.dictGet? (out.map (fun kv => ((.str kv.1 : GV α), embEntry kv.2))) (.str k) = (out.lookup k).map embEntry :=
  dictGet_map_str embEntry k out

/-- `key in d` on the Python dict of a spectrum dictionary -/
theorem dictHas_embOut (out : List (String × Entry α)) (k : String) :
    Dyn.dictHas (out.map (fun kv => ((.str kv.1 : GV α), embEntry kv.2))) (.str k) = true ↔ k ∈ keysOf out := by
  induction out with
  | nil => simp [Dyn.dictHas, keysOf]
  | cons kv t ih =>
    obtain ⟨a, e⟩ := kv
    simp only [Dyn.dictHas, keysOf, List.map_cons, List.any_cons, List.mem_cons, Bool.or_eq_true] at ih ⊢
    rw [ih]
    rw [beq_str, beq_iff_eq]
    exact or_congr eq_comm Iff.rfl

variable (w : GWorld α) (grid width wn flux : List α) (tau : List (List α)) (size : Nat)

/-- **tau_keys**, about the regenerated `generate_spectrum_output` of FluxBinner / SimpleBinner: optical depths are
    present according to the requested output size -/
theorem src_tau_keys (kind : BinnerKind) (hk : kind ≠ .native) :
    ∃ d, srcGso kind w grid width wn flux tau size = .ok (.dict d) ∧
      (Dyn.dictHas d (.str "binned_tau") = true ↔ size > sizeLighter) ∧
      (Dyn.dictHas d (.str "native_tau") = true ↔ size > sizeLight) := by
  refine ⟨_, srcGso_eq kind w grid width wn flux tau size, ?_⟩
  rw [dictHas_embOut, dictHas_embOut]
  exact tau_keys grid width w.bd w.bdTau size wn flux tau kind hk

/-- **tau_keys_native**, about the regenerated `NativeBinner.generate_spectrum_output` -/
theorem src_tau_keys_native :
    ∃ d, srcGso .native w grid width wn flux tau size = .ok (.dict d) ∧
      ¬ Dyn.dictHas d (.str "binned_tau") = true ∧
      (Dyn.dictHas d (.str "native_tau") = true ↔ size > sizeLight) := by
  refine ⟨_, srcGso_eq .native w grid width wn flux tau size, ?_⟩
  rw [dictHas_embOut, dictHas_embOut]
  exact tau_keys_native grid width w.bd w.bdTau size wn flux tau

/-- **wl_of_wn**, about the regenerated `generate_spectrum_output`: the stored wavelength grids are 10000/wavenumber -/
theorem src_wl_of_wn (kind : BinnerKind) :
    ∃ d, srcGso kind w grid width wn flux tau size = .ok (.dict d) ∧
      Dyn.dictGet? d (.str "native_wngrid") = some (.obj (.vec wn)) ∧
      Dyn.dictGet? d (.str "native_wlgrid") = some (.obj (.vec (wn.map (fun x => 10000 / x)))) ∧
      (kind ≠ .native → Dyn.dictGet? d (.str "binned_wngrid") = some (.obj (.vec grid)) ∧
        Dyn.dictGet? d (.str "binned_wlgrid") = some (.obj (.vec (grid.map (fun x => 10000 / x))))) := by
  refine ⟨_, srcGso_eq kind w grid width wn flux tau size, ?_⟩
  obtain ⟨h1, h2, h3⟩ := wl_of_wn grid width w.bd w.bdTau size wn flux tau kind
  refine ⟨?_, ?_, fun hk => ⟨?_, ?_⟩⟩
  · rw [dictGet_embOut, h1]; rfl
  · rw [dictGet_embOut, h2]; rfl
  · rw [dictGet_embOut, (h3 hk).1]; rfl
  · rw [dictGet_embOut, (h3 hk).2]; rfl

/-- **wlwidth_formula**, about the regenerated `generate_spectrum_output`: `binned_wlwidth[i] =
    10000·binned_wnwidth[i] / binned_wngrid[i]²` on the binner's own centres and widths -/
theorem src_wlwidth_formula (kind : BinnerKind) (hk : kind ≠ .native) :
    ∃ d, srcGso kind w grid width wn flux tau size = .ok (.dict d) ∧
      Dyn.dictGet? d (.str "binned_wngrid") = some (.obj (.vec grid)) ∧
      Dyn.dictGet? d (.str "binned_wnwidth") = some (.obj (.vec width)) ∧
      Dyn.dictGet? d (.str "binned_wlwidth")
        = some (.obj (.vec (List.zipWith (fun g w => 10000 * w / (g * g)) grid width))) := by
  refine ⟨_, srcGso_eq kind w grid width wn flux tau size, ?_⟩
  obtain ⟨h1, h2, h3⟩ := wlwidth_formula grid width w.bd w.bdTau size wn flux tau kind hk
  refine ⟨?_, ?_, ?_⟩
  · rw [dictGet_embOut, h1]; rfl
  · rw [dictGet_embOut, h2]; rfl
  · rw [dictGet_embOut, h3]; rfl

/-- **binned_is_bindown**, about the regenerated `generate_spectrum_output`: the stored binned spectrum is the binner
    applied to the stored native spectrum (and, when present, the binned optical depth the binner applied to the optical
    depth) -/
theorem src_binned_is_bindown (kind : BinnerKind) (hk : kind ≠ .native) :
    ∃ d, srcGso kind w grid width wn flux tau size = .ok (.dict d) ∧
      Dyn.dictGet? d (.str "native_wngrid") = some (.obj (.vec wn)) ∧
      Dyn.dictGet? d (.str "native_spectrum") = some (.obj (.vec flux)) ∧
      Dyn.dictGet? d (.str "binned_spectrum") = some (.obj (.vec (w.bd wn flux))) ∧
      (size > sizeLighter → Dyn.dictGet? d (.str "binned_tau") = some (.obj (.mat (w.bdTau wn tau)))) ∧
      (size > sizeLight → Dyn.dictGet? d (.str "native_tau") = some (.obj (.mat tau))) := by
  refine ⟨_, srcGso_eq kind w grid width wn flux tau size, ?_⟩
  obtain ⟨h1, h2, h3, h4, h5⟩ := binned_is_bindown grid width w.bd w.bdTau size wn flux tau kind hk
  refine ⟨?_, ?_, ?_, fun hs => ?_, fun hs => ?_⟩
  · rw [dictGet_embOut, h1]; rfl
  · rw [dictGet_embOut, h2]; rfl
  · rw [dictGet_embOut, h3]; rfl
  · rw [dictGet_embOut, h4 hs]; rfl
  · rw [dictGet_embOut, h5 hs]; rfl

end spectrum

end Taurex.C16SrcProps
