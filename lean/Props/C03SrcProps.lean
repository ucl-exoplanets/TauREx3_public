/-
  C03 — the property theorems restated about the REGENERATED source.  `Props/C03Src.lean` proves that the definitions
  translated on every run from `Contribution.prepare`, `AbsorptionContribution.prepare` / `prepare_each`,
  `CIAContribution.prepare_each`, the kernels `contribute_tau` / `contribute_cia`, the three `contribute` methods and
  `TransmissionModel.path_integral` are the model's `sumComps`, `compAbs`, `compCIA`, (called as `path_integral` calls them)
  `addContrib` of kind `lin` / `sq` / `layerOnly`, and `tauCut` over the contribution list; `Props/C03.lean` proves the property
  about these.  The corollaries below compose the two: they are statements about the text of the code, at the real carrier.

  Tie hypotheses are kept visible: `wn < ngrid` for the kernels; that position `i` exists in the list (`gases[i]? = some g`)
  for the yielded components; the `some S` of `absorption_prepare`; `0 < total`, `l < n`, `wn < nwn` for `path_integral`.

  How the theorems about the loop over the contribution LIST are restated.  `tauCut_single`, `product_within_cutoff`,
  `order_within_cutoff` with every transmittance the source's; `transmittance_mul` with the per-contribution factors the
  source's and the total the documented integral `tauFull` (the code has no loop without the break); `tauFull_append`,
  `tauFull_perm` (and `transmittance_mul` with both sides the source's) for rows that come back unsaturated
  (`Unsaturated`: a condition on the RETURNED row), where the break provably did not fire.  `product_within_cutoff` and
  `component_product` are also restated with the factors READ FROM THE DICTS the regenerated `model_contrib()` /
  `model_full_contrib()` return, for pairwise distinct names; for colliding names the dict provably loses an entry (the
  known finding K4 as a theorem about the source).  In `model_full_contrib` the generator `contrib.prepare_each(…)` is
  SUSPENDED while `path_integral` re-runs; the protocol is explicit: `prepareEach c` is the list of (yielded name, state of
  the contribution at that yield), and iteration `i` runs the regenerated `path_integral` on that state.

  The `compScaled` conjunct of `sigma_prop` is restated for a POSITIVE factor: `RayleighContribution.prepare_each` skips
  molecules by a test on the mixing ratio (`np.max(mix) == 0.0`), which a positive factor provably leaves alone, so the
  yielded lists of a profile and of its multiple are index-aligned; for a factor ≤ 0 they need not be (a zero factor
  removes the component).

  Not restated (no tie): `nv_nonneg`, hypothesis builder for the examples; `ktable_adds_to_earlier`, `ktable_order`,
  `ktable_product` (about `KTau`, whose kernel is tied in `Props/C20Src.lean`); `gasMix_rule`, `freed_weight`,
  `freed_component`, `zero_species_weighs_nothing`, `mu_of_renormalised` (about `MixLookup`: `Gen.SrcC03` holds no function
  of the chemistry).
-/
import Props.C03
import Props.C03Src
set_option linter.unusedSectionVars false

namespace Taurex.C03SrcProps
open Taurex.Transmission Taurex.Sigma Taurex.C03 Taurex.C03Src

/-! ### one contribution run alone: the kernels on a zeroed table -/

/-- the model's name for the kernel: `contribute_tau` is kind `lin`, `contribute_cia` kind `sq` -/
def kindOf (cia : Bool) : Kind := if cia then .sq else .lin

/-- entry `[l, wn]` of `tau` after the regenerated kernel ran on a zeroed table, called as `path_integral` calls it -/
noncomputable def srcTau (cia : Bool) (n ngrid : ℕ) (path dens : ℕ → ℝ) (l : ℕ) (sigma : ℕ → ℕ → ℝ) (wn : ℕ) : ℝ :=
  if cia then Gen.SrcC03.contribute_cia 0 (n - l) l sigma dens path ngrid l (fun _ _ => 0) l wn
  else Gen.SrcC03.contribute_tau 0 (n - l) l sigma dens path ngrid l (fun _ _ => 0) l wn

theorem srcTau_eq (cia : Bool) (n ngrid : ℕ) (path dens : ℕ → ℝ) (l : ℕ) (sigma : ℕ → ℕ → ℝ) (wn : ℕ)
    (hwn : wn < ngrid) :
    srcTau cia n ngrid path dens l sigma wn = tauFull n path dens l [{ kind := kindOf cia, sigma := sigma }] wn := by
  -- either kernel leaves `addContrib` of the zero row in row `l`, which is `tauFull` of the one contribution by definition
  cases cia <;>
    simp only [srcTau, kindOf, Bool.false_eq_true, if_false, if_true, src_contribute_tau_call, src_contribute_cia_call,
      hwn, and_self] <;>
    rfl

/-- each contribution's optical depth (regenerated kernel on the `sigma_xsec` the regenerated `Contribution.prepare`
    stores) is the sum over its components, each run through the same kernel alone -/
theorem src_component_sum (cia : Bool) (n ngrid nW nL : ℕ) (path dens : ℕ → ℝ) (l : ℕ) (comps : List (ℕ → ℕ → ℝ))
    (wn : ℕ) (hwn : wn < ngrid) :
    srcTau cia n ngrid path dens l (Gen.SrcC03.contribution_prepare nW comps nL) wn
      = (comps.map (fun s => srcTau cia n ngrid path dens l s wn)).sum := by
  simp only [srcTau_eq cia n ngrid path dens l _ wn hwn, src_contribution_prepare nL nW comps]
  exact component_sum n path dens l (kindOf cia) comps wn

/-- the same for the `sigma_xsec` the regenerated `AbsorptionContribution.prepare` stores (when it stores one) -/
theorem src_component_sum_absorption (n ngrid nW nL : ℕ) (path dens : ℕ → ℝ) (l : ℕ) (comps : List (ℕ → ℕ → ℝ))
    (S : ℕ → ℕ → ℝ) (hS : Gen.SrcC03.absorption_prepare nW comps nL = some S) (wn : ℕ) (hwn : wn < ngrid) :
    srcTau false n ngrid path dens l S wn = (comps.map (fun s => srcTau false n ngrid path dens l s wn)).sum := by
  rw [src_absorption_prepare nL nW comps] at hS
  have hS' : S = sumComps comps := by
    by_cases hc : comps = []
    · simp [hc] at hS
    · simp only [hc, if_false, Option.some.injEq] at hS
      exact hS.symm
  rw [hS', ← src_contribution_prepare nL nW comps]
  exact src_component_sum false n ngrid nW nL path dens l comps wn hwn

/-- … so its transmittance is the product over the components (what `model_full_contrib` returns) -/
theorem src_component_product (cia : Bool) (n ngrid nW nL : ℕ) (path dens : ℕ → ℝ) (l : ℕ)
    (comps : List (ℕ → ℕ → ℝ)) (wn : ℕ) (hwn : wn < ngrid) :
    Transmission.trans (srcTau cia n ngrid path dens l (Gen.SrcC03.contribution_prepare nW comps nL) wn)
      = (comps.map (fun s => Transmission.trans (srcTau cia n ngrid path dens l s wn))).prod := by
  simp only [srcTau_eq cia n ngrid path dens l _ wn hwn, src_contribution_prepare nL nW comps]
  exact component_product n path dens l (kindOf cia) comps wn

/-- a contribution's optical depth (regenerated kernel) is proportional to its weighted opacity -/
theorem src_tau_prop (cia : Bool) (n ngrid : ℕ) (path dens : ℕ → ℝ) (l : ℕ) (sig : ℕ → ℕ → ℝ) (s : ℝ) (wn : ℕ)
    (hwn : wn < ngrid) :
    srcTau cia n ngrid path dens l (fun a b => s * sig a b) wn = s * srcTau cia n ngrid path dens l sig wn := by
  rw [srcTau_eq cia n ngrid path dens l _ wn hwn, srcTau_eq cia n ngrid path dens l _ wn hwn]
  exact tau_prop n path dens l (kindOf cia) sig s wn

/-! ### the components the generators yield -/

section comps
variable {ι : Type}

/-- the `i`-th array the regenerated `AbsorptionContribution.prepare_each` yields (cross-section mode) -/
noncomputable def srcAbsComp (nW nlayers : ℕ) (T P : ℕ → ℝ) (opacity : ι → ℝ → ℝ → ℕ → ℝ) (mix : ι → ℕ → ℝ)
    (gases : List ι) (i : ℕ) : ℕ → ℕ → ℝ :=
  (Gen.SrcC03.absorption_prepare_each nW P T gases mix nlayers opacity).getD i (fun _ _ => 0)

theorem srcAbsComp_eq (nW nlayers : ℕ) (T P : ℕ → ℝ) (opacity : ι → ℝ → ℝ → ℕ → ℝ) (mix : ι → ℕ → ℝ)
    (gases : List ι) (i : ℕ) (g : ι) (hg : gases[i]? = some g) :
    srcAbsComp nW nlayers T P opacity mix gases i
      = fun l wn => if l < nlayers then compAbs (fun l wn => opacity g (T l) (P l) wn) (mix g) l wn else 0 := by
  unfold srcAbsComp
  rw [src_absorption_prepare_each]
  simp [List.getD_eq_getElem?_getD, List.getElem?_map, hg]

/-- the `i`-th array the regenerated `CIAContribution.prepare_each` yields -/
noncomputable def srcCIAComp (nW nL : ℕ) (T : ℕ → ℝ) (ciaXsec : ι → ℝ → ℕ → ℝ) (mixOne mixTwo : ι → ℕ → ℝ)
    (pairs : List ι) (i : ℕ) : ℕ → ℕ → ℝ :=
  (Gen.SrcC03.cia_prepare_each nW T ciaXsec mixOne mixTwo nL pairs).getD i (fun _ _ => 0)

theorem srcCIAComp_eq (nW nL : ℕ) (T : ℕ → ℝ) (ciaXsec : ι → ℝ → ℕ → ℝ) (mixOne mixTwo : ι → ℕ → ℝ)
    (pairs : List ι) (i : ℕ) (p : ι) (hp : pairs[i]? = some p) :
    srcCIAComp nW nL T ciaXsec mixOne mixTwo pairs i
      = fun l wn => if l < nL then compCIA (fun l wn => ciaXsec p (T l) wn) (mixOne p) (mixTwo p) l wn else 0 := by
  unfold srcCIAComp
  rw [src_cia_prepare_each]
  simp [List.getD_eq_getElem?_getD, List.getElem?_map, hp]

/-- a gas at zero abundance: the array the regenerated `AbsorptionContribution.prepare_each` yields for it is zero -/
theorem src_zero_abundance_abs (nW nlayers : ℕ) (T P : ℕ → ℝ) (opacity : ι → ℝ → ℝ → ℕ → ℝ) (mix : ι → ℕ → ℝ)
    (gases : List ι) (i : ℕ) (g : ι) (hg : gases[i]? = some g) (h0 : mix g = fun _ => 0) :
    srcAbsComp nW nlayers T P opacity mix gases i = (fun _ _ => 0) := by
  rw [srcAbsComp_eq nW nlayers T P opacity mix gases i g hg, h0,
    (zero_abundance (fun l wn => opacity g (T l) (P l) wn) (fun _ => 0) []).1]
  funext l wn; simp

/-- a pair one of whose partners is at zero abundance: the array the regenerated `CIAContribution.prepare_each` yields for
    it is zero -/
theorem src_zero_abundance_cia (nW nL : ℕ) (T : ℕ → ℝ) (ciaXsec : ι → ℝ → ℕ → ℝ) (mixOne mixTwo : ι → ℕ → ℝ)
    (pairs : List ι) (i : ℕ) (p : ι) (hp : pairs[i]? = some p) :
    (mixOne p = (fun _ => 0) → srcCIAComp nW nL T ciaXsec mixOne mixTwo pairs i = (fun _ _ => 0)) ∧
    (mixTwo p = (fun _ => 0) → srcCIAComp nW nL T ciaXsec mixOne mixTwo pairs i = (fun _ _ => 0)) := by
  rw [srcCIAComp_eq nW nL T ciaXsec mixOne mixTwo pairs i p hp]
  constructor
  · intro h0
    rw [h0, (zero_abundance (fun l wn => ciaXsec p (T l) wn) (mixTwo p) []).2.1]
    funext l wn; simp
  · intro h0
    rw [h0, (zero_abundance (fun l wn => ciaXsec p (T l) wn) (mixOne p) []).2.2.1]
    funext l wn; simp

/-- … and a zero component changes nothing in the `sigma_xsec` the regenerated `Contribution.prepare` stores -/
theorem src_zero_component (nW nL : ℕ) (comps : List (ℕ → ℕ → ℝ)) :
    Gen.SrcC03.contribution_prepare nW ((fun _ _ => (0 : ℝ)) :: comps) nL
      = Gen.SrcC03.contribution_prepare nW comps nL := by
  rw [src_contribution_prepare, src_contribution_prepare]
  exact (zero_abundance (fun _ _ => 0) (fun _ => 0) comps).2.2.2

/-- the array yielded for a gas is proportional to that gas's abundance (regenerated
    `AbsorptionContribution.prepare_each`, run on a mixing-ratio table and on one in which gas `g` is scaled by `s`) -/
theorem src_sigma_prop_abs (nW nlayers : ℕ) (T P : ℕ → ℝ) (opacity : ι → ℝ → ℝ → ℕ → ℝ) (mix mix' : ι → ℕ → ℝ)
    (gases : List ι) (i : ℕ) (g : ι) (hg : gases[i]? = some g) (s : ℝ) (hs : mix' g = fun j => s * mix g j)
    (l wn : ℕ) :
    srcAbsComp nW nlayers T P opacity mix' gases i l wn = s * srcAbsComp nW nlayers T P opacity mix gases i l wn := by
  rw [srcAbsComp_eq nW nlayers T P opacity mix' gases i g hg, srcAbsComp_eq nW nlayers T P opacity mix gases i g hg, hs]
  simp only
  split
  · exact (sigma_prop (fun l wn => opacity g (T l) (P l) wn) (mix g) (fun _ => 0) s l wn).1
  · simp

/-- the array yielded for a pair is proportional to the abundance of either partner (regenerated
    `CIAContribution.prepare_each`) -/
theorem src_sigma_prop_cia (nW nL : ℕ) (T : ℕ → ℝ) (ciaXsec : ι → ℝ → ℕ → ℝ) (mixOne mixTwo mixOne' mixTwo' : ι → ℕ → ℝ)
    (pairs : List ι) (i : ℕ) (p : ι) (hp : pairs[i]? = some p) (s : ℝ)
    (h1 : mixOne' p = fun j => s * mixOne p j) (h2 : mixTwo' p = fun j => s * mixTwo p j) (l wn : ℕ) :
    srcCIAComp nW nL T ciaXsec mixOne' mixTwo pairs i l wn = s * srcCIAComp nW nL T ciaXsec mixOne mixTwo pairs i l wn ∧
    srcCIAComp nW nL T ciaXsec mixOne mixTwo' pairs i l wn = s * srcCIAComp nW nL T ciaXsec mixOne mixTwo pairs i l wn := by
  rw [srcCIAComp_eq nW nL T ciaXsec mixOne' mixTwo pairs i p hp, srcCIAComp_eq nW nL T ciaXsec mixOne mixTwo' pairs i p hp,
    srcCIAComp_eq nW nL T ciaXsec mixOne mixTwo pairs i p hp, h1, h2]
  simp only
  have h := sigma_prop (fun l wn => ciaXsec p (T l) wn) (mixOne p) (mixTwo p) s l wn
  split
  · exact ⟨h.2.1, h.2.2.1⟩
  · simp

end comps

/-! ### the loop over a LIST of contributions: the regenerated `path_integral` -/

section loop
variable {newMethod : Bool} {rp rs : ℝ} {n nwn total : ℕ} {zb z dz dens : ℕ → ℝ}
  {planetPaths : (ℕ → ℝ) → (ℕ → ℕ → ℝ) → (ℕ → ℕ → ℝ) → List (ℕ → ℝ)}

/-- row `l` of the chord table the regenerated `path_integral` computes first (`self.path_length[l]`): the regenerated
    `compute_path_length_old(dz)`, or for `new_path_method=True` the regenerated `compute_path_length()` (whose 3-D
    geometry is the parameter `planetPaths`); `k ↦ 0` past the end of the list, as the loop reads it -/
noncomputable def srcPath (newMethod : Bool) (rp : ℝ) (n : ℕ) (zb z dz : ℕ → ℝ)
    (planetPaths : (ℕ → ℝ) → (ℕ → ℕ → ℝ) → (ℕ → ℕ → ℝ) → List (ℕ → ℝ)) (l : ℕ) : ℕ → ℝ :=
  (if newMethod then Gen.SrcC03.compute_path_length dz n planetPaths rp zb z
   else Gen.SrcC03.compute_path_length_old dz n rp z).getD l (fun _ => 0)

/-- entry `[l, wn]` of the `exp(-tau)` table the regenerated `path_integral` returns for the contribution list `cs`
    (`model()[2]`; with `cs = [c]` what `model_contrib` stores for `c`, with `cs = [⟨κ, component⟩]` what
    `model_full_contrib` stores), Python's dynamic dispatch `contrib.contribute(…)` resolved to the three regenerated
    `contribute` methods (`C03Src.dispatch`) -/
noncomputable def srcTrans (newMethod : Bool) (rp rs : ℝ) (n nwn total : ℕ) (zb z dz dens : ℕ → ℝ)
    (planetPaths : (ℕ → ℝ) → (ℕ → ℕ → ℝ) → (ℕ → ℕ → ℝ) → List (ℕ → ℝ)) (cs : List (Contrib ℝ)) (l wn : ℕ) : ℝ :=
  (Gen.SrcC03.path_integral nwn cs (dispatch nwn total n) dz dens n newMethod planetPaths rp rs zb z).2 l wn

/-- the tie: the returned transmittance is the model's loop WITH the early exit, `tauCut`, on the regenerated chords -/
theorem srcTrans_eq (ht : 0 < total) (cs : List (Contrib ℝ)) (l wn : ℕ) (hl : l < n) (hwn : wn < nwn) :
    srcTrans newMethod rp rs n nwn total zb z dz dens planetPaths cs l wn
      = Transmission.trans (tauCut n nwn (srcPath newMethod rp n zb z dz planetPaths l) dens l cs wn) :=
  (src_path_integral n nwn total ht rp rs z dz dens zb cs newMethod planetPaths).1 l hl wn hwn

/-- `tauCut_single` about the source: the regenerated `path_integral` run on ONE contribution (`model_contrib`) is never
    cut — it returns the documented integral of that contribution -/
theorem src_tauCut_single (ht : 0 < total) (c : Contrib ℝ) (l wn : ℕ) (hl : l < n) (hwn : wn < nwn) :
    srcTrans newMethod rp rs n nwn total zb z dz dens planetPaths [c] l wn
      = Transmission.trans (tauFull n (srcPath newMethod rp n zb z dz planetPaths l) dens l [c] wn) := by
  rw [srcTrans_eq ht [c] l wn hl hwn, tauCut_single n nwn (by omega)]

/-- `transmittance_mul` about the source: the transmittance of the documented integral over the whole list (`tauFull`, the
    sum without the early exit — the code has no such loop) is the product of what the regenerated `path_integral` returns
    for each contribution alone -/
theorem src_transmittance_mul (ht : 0 < total) (cs : List (Contrib ℝ)) (l wn : ℕ) (hl : l < n) (hwn : wn < nwn) :
    Transmission.trans (tauFull n (srcPath newMethod rp n zb z dz planetPaths l) dens l cs wn)
      = (cs.map (fun c => srcTrans newMethod rp rs n nwn total zb z dz dens planetPaths [c] l wn)).prod := by
  rw [transmittance_mul]
  simp only [src_tauCut_single ht _ l wn hl hwn]

/-- `product_within_cutoff` about the source: what the regenerated `path_integral` returns for the whole list is never
    below the product of what it returns for each contribution alone (`model_contrib`), and exceeds it by at most
    `exp(-10)` -/
theorem src_product_within_cutoff (ht : 0 < total) (l : ℕ) (hl : l < n)
    (hp : ∀ k < n - l, 0 ≤ srcPath newMethod rp n zb z dz planetPaths l k) (hd : ∀ j < n, 0 ≤ dens j)
    (cs : List (Contrib ℝ)) (hcs : ∀ c ∈ cs, c.Nonneg) (wn : ℕ) (hwn : wn < nwn) :
    (cs.map (fun c => srcTrans newMethod rp rs n nwn total zb z dz dens planetPaths [c] l wn)).prod
        ≤ srcTrans newMethod rp rs n nwn total zb z dz dens planetPaths cs l wn ∧
    srcTrans newMethod rp rs n nwn total zb z dz dens planetPaths cs l wn
        - (cs.map (fun c => srcTrans newMethod rp rs n nwn total zb z dz dens planetPaths [c] l wn)).prod
      ≤ Transmission.trans 10 := by
  simp only [srcTrans_eq ht _ l wn hl hwn]
  exact product_within_cutoff n nwn _ dens l hp hd cs hcs wn hwn

/-- `order_within_cutoff` about the source: the regenerated `path_integral` run on two insertion orders of the same
    contributions returns transmittances within `exp(-10)` of each other -/
theorem src_order_within_cutoff (ht : 0 < total) (l : ℕ) (hl : l < n)
    (hp : ∀ k < n - l, 0 ≤ srcPath newMethod rp n zb z dz planetPaths l k) (hd : ∀ j < n, 0 ≤ dens j)
    (cs cs' : List (Contrib ℝ)) (hcs : ∀ c ∈ cs, c.Nonneg) (h : cs.Perm cs') (wn : ℕ) (hwn : wn < nwn) :
    |srcTrans newMethod rp rs n nwn total zb z dz dens planetPaths cs l wn
        - srcTrans newMethod rp rs n nwn total zb z dz dens planetPaths cs' l wn| ≤ Transmission.trans 10 := by
  rw [srcTrans_eq ht cs l wn hl hwn, srcTrans_eq ht cs' l wn hl hwn]
  exact order_within_cutoff n nwn _ dens l hp hd cs cs' hcs h wn hwn

/-- what "the early exit did not fire in row `l`" looks like on the RETURNED table: some column of the row is not below
    `exp(-10)` -/
def Unsaturated (newMethod : Bool) (rp rs : ℝ) (n nwn total : ℕ) (zb z dz dens : ℕ → ℝ)
    (planetPaths : (ℕ → ℝ) → (ℕ → ℕ → ℝ) → (ℕ → ℕ → ℝ) → List (ℕ → ℝ)) (cs : List (Contrib ℝ)) (l : ℕ) : Prop :=
  ∃ w < nwn, Transmission.trans 10 ≤ srcTrans newMethod rp rs n nwn total zb z dz dens planetPaths cs l w

/-- a row the regenerated `path_integral` returns unsaturated is exactly the documented integral over the whole list -/
theorem srcTrans_eq_full (ht : 0 < total) (l : ℕ) (hl : l < n)
    (hp : ∀ k < n - l, 0 ≤ srcPath newMethod rp n zb z dz planetPaths l k) (hd : ∀ j < n, 0 ≤ dens j)
    (cs : List (Contrib ℝ)) (hcs : ∀ c ∈ cs, c.Nonneg)
    (hU : Unsaturated newMethod rp rs n nwn total zb z dz dens planetPaths cs l) (wn : ℕ) (hwn : wn < nwn) :
    srcTrans newMethod rp rs n nwn total zb z dz dens planetPaths cs l wn
      = Transmission.trans (tauFull n (srcPath newMethod rp n zb z dz planetPaths l) dens l cs wn) := by
  obtain ⟨w, hw, h10⟩ := hU
  rw [srcTrans_eq ht cs l w hl hw] at h10
  rw [srcTrans_eq ht cs l wn hl hwn, tauCut_eq_full_of_trans n nwn _ dens l cs w hw h10 wn]

/-- a sub-list of contributions of an unsaturated row is unsaturated too (its full sum is not larger) -/
theorem unsaturated_of_le (ht : 0 < total) (l : ℕ) (hl : l < n)
    (hp : ∀ k < n - l, 0 ≤ srcPath newMethod rp n zb z dz planetPaths l k) (hd : ∀ j < n, 0 ≤ dens j)
    (cs ds : List (Contrib ℝ)) (hcs : ∀ c ∈ cs, c.Nonneg) (hds : ∀ c ∈ ds, c.Nonneg)
    (hle : ∀ wn, tauFull n (srcPath newMethod rp n zb z dz planetPaths l) dens l ds wn
      ≤ tauFull n (srcPath newMethod rp n zb z dz planetPaths l) dens l cs wn)
    (hU : Unsaturated newMethod rp rs n nwn total zb z dz dens planetPaths cs l) :
    Unsaturated newMethod rp rs n nwn total zb z dz dens planetPaths ds l := by
  obtain ⟨w, hw, h10⟩ := hU
  rw [srcTrans_eq ht cs l w hl hw] at h10
  exact ⟨w, hw, by rw [srcTrans_eq ht ds l w hl hw]; exact unsaturated_col_of_le n nwn _ dens l hp hd cs ds hds w hw (hle w) h10⟩

/-- `tauFull_append` about the source: when the row of the concatenated list comes back unsaturated, the regenerated
    `path_integral` is multiplicative over concatenation (the optical depths add) -/
theorem src_tauFull_append (ht : 0 < total) (l : ℕ) (hl : l < n)
    (hp : ∀ k < n - l, 0 ≤ srcPath newMethod rp n zb z dz planetPaths l k) (hd : ∀ j < n, 0 ≤ dens j)
    (cs ds : List (Contrib ℝ)) (hcs : ∀ c ∈ cs, c.Nonneg) (hds : ∀ c ∈ ds, c.Nonneg)
    (hU : Unsaturated newMethod rp rs n nwn total zb z dz dens planetPaths (cs ++ ds) l) (wn : ℕ) (hwn : wn < nwn) :
    srcTrans newMethod rp rs n nwn total zb z dz dens planetPaths (cs ++ ds) l wn
      = srcTrans newMethod rp rs n nwn total zb z dz dens planetPaths cs l wn
        * srcTrans newMethod rp rs n nwn total zb z dz dens planetPaths ds l wn := by
  have hall : ∀ c ∈ cs ++ ds, c.Nonneg := fun c hc => (List.mem_append.1 hc).elim (hcs c) (hds c)
  have h1 := tauFull_nonneg n _ dens l hp hd cs hcs
  have h2 := tauFull_nonneg n _ dens l hp hd ds hds
  have hUc := unsaturated_of_le ht l hl hp hd (cs ++ ds) cs hall hcs
    (fun w => by rw [tauFull_append]; exact le_add_of_nonneg_right (h2 w)) hU
  have hUd := unsaturated_of_le ht l hl hp hd (cs ++ ds) ds hall hds
    (fun w => by rw [tauFull_append]; exact le_add_of_nonneg_left (h1 w)) hU
  rw [srcTrans_eq_full ht l hl hp hd (cs ++ ds) hall hU wn hwn, srcTrans_eq_full ht l hl hp hd cs hcs hUc wn hwn,
    srcTrans_eq_full ht l hl hp hd ds hds hUd wn hwn, tauFull_append, trans_add]

/-- `tauFull_perm` about the source: when the row comes back unsaturated, the regenerated `path_integral` returns the
    same row for every insertion order of the contributions -/
theorem src_tauFull_perm (ht : 0 < total) (l : ℕ) (hl : l < n)
    (hp : ∀ k < n - l, 0 ≤ srcPath newMethod rp n zb z dz planetPaths l k) (hd : ∀ j < n, 0 ≤ dens j)
    (cs cs' : List (Contrib ℝ)) (hcs : ∀ c ∈ cs, c.Nonneg) (h : cs.Perm cs')
    (hU : Unsaturated newMethod rp rs n nwn total zb z dz dens planetPaths cs l) (wn : ℕ) (hwn : wn < nwn) :
    srcTrans newMethod rp rs n nwn total zb z dz dens planetPaths cs l wn
      = srcTrans newMethod rp rs n nwn total zb z dz dens planetPaths cs' l wn := by
  have hcs' : ∀ c ∈ cs', c.Nonneg := fun c hc => hcs c (h.mem_iff.2 hc)
  have hU' := unsaturated_of_le ht l hl hp hd cs cs' hcs hcs'
    (fun w => le_of_eq (tauFull_perm n _ dens l cs cs' h w).symm) hU
  rw [srcTrans_eq_full ht l hl hp hd cs hcs hU wn hwn, srcTrans_eq_full ht l hl hp hd cs' hcs' hU' wn hwn,
    tauFull_perm n _ dens l cs cs' h wn]

/-- `transmittance_mul`, both sides the source: an unsaturated row of the regenerated `path_integral` is exactly the
    product of the rows it returns for each contribution alone -/
theorem src_transmittance_mul_unsaturated (ht : 0 < total) (l : ℕ) (hl : l < n)
    (hp : ∀ k < n - l, 0 ≤ srcPath newMethod rp n zb z dz planetPaths l k) (hd : ∀ j < n, 0 ≤ dens j)
    (cs : List (Contrib ℝ)) (hcs : ∀ c ∈ cs, c.Nonneg)
    (hU : Unsaturated newMethod rp rs n nwn total zb z dz dens planetPaths cs l) (wn : ℕ) (hwn : wn < nwn) :
    srcTrans newMethod rp rs n nwn total zb z dz dens planetPaths cs l wn
      = (cs.map (fun c => srcTrans newMethod rp rs n nwn total zb z dz dens planetPaths [c] l wn)).prod := by
  rw [srcTrans_eq_full ht l hl hp hd cs hcs hU wn hwn, src_transmittance_mul ht cs l wn hl hwn]

/-- `component_product` for EVERY kind (also the cloud's `layerOnly`), as `model_full_contrib` computes it: the regenerated
    `path_integral` run on a contribution whose `sigma_xsec` the regenerated `Contribution.prepare` summed from `comps`
    returns the product of the rows it returns for each component alone -/
theorem src_component_product_kinds (ht : 0 < total) (κ : Kind) (nW nL : ℕ) (comps : List (ℕ → ℕ → ℝ)) (l wn : ℕ)
    (hl : l < n) (hwn : wn < nwn) :
    srcTrans newMethod rp rs n nwn total zb z dz dens planetPaths
        [{ kind := κ, sigma := Gen.SrcC03.contribution_prepare nW comps nL }] l wn
      = (comps.map (fun s => srcTrans newMethod rp rs n nwn total zb z dz dens planetPaths
          [{ kind := κ, sigma := s }] l wn)).prod := by
  simp only [src_tauCut_single ht _ l wn hl hwn, src_contribution_prepare nL nW comps]
  exact component_product n _ dens l κ comps wn

end loop

/-! ### the cloud deck: `SimpleCloudsContribution.contribute` (kind `layerOnly`) -/

/-- entry `[l, wn]` of `tau` after the regenerated `SimpleCloudsContribution.contribute` ran on a zeroed table -/
noncomputable def srcTauCloud (nL nW : ℕ) (l : ℕ) (sigma : ℕ → ℕ → ℝ) (wn : ℕ) : ℝ :=
  Gen.SrcC03.clouds_contribute l (fun _ _ => 0) nL nW sigma l wn

theorem srcTauCloud_eq (n nL nW : ℕ) (path dens : ℕ → ℝ) (l : ℕ) (sigma : ℕ → ℕ → ℝ) (wn : ℕ) :
    srcTauCloud nL nW l sigma wn = tauFull n path dens l [{ kind := .layerOnly, sigma := sigma }] wn := by
  unfold srcTauCloud
  rw [src_clouds_contribute n l nL nW sigma dens path]
  simp only [if_true]
  rfl

/-- `component_sum` for kind `layerOnly` about the regenerated cloud method -/
theorem src_component_sum_cloud (nL nW : ℕ) (l : ℕ) (comps : List (ℕ → ℕ → ℝ)) (wn : ℕ) :
    srcTauCloud nL nW l (Gen.SrcC03.contribution_prepare nW comps nL) wn
      = (comps.map (fun s => srcTauCloud nL nW l s wn)).sum := by
  simp only [srcTauCloud_eq 0 nL nW (fun _ => 0) (fun _ => 0), src_contribution_prepare nL nW comps]
  exact component_sum 0 _ _ l .layerOnly comps wn

/-- `tau_prop` for kind `layerOnly` about the regenerated cloud method -/
theorem src_tau_prop_cloud (nL nW : ℕ) (l : ℕ) (sig : ℕ → ℕ → ℝ) (s : ℝ) (wn : ℕ) :
    srcTauCloud nL nW l (fun a b => s * sig a b) wn = s * srcTauCloud nL nW l sig wn := by
  rw [srcTauCloud_eq 0 nL nW (fun _ => 0) (fun _ => 0), srcTauCloud_eq 0 nL nW (fun _ => 0) (fun _ => 0)]
  exact tau_prop 0 _ _ l .layerOnly sig s wn

/-! ### `model_contrib`: the per-contribution loop and the dict it returns -/

section contrib
variable {newMethod : Bool} {rp rs : ℝ} {n nwn total : ℕ} {zb z dz dens grid : ℕ → ℝ}
  {planetPaths : (ℕ → ℝ) → (ℕ → ℕ → ℝ) → (ℕ → ℕ → ℝ) → List (ℕ → ℝ)}

/-- the dict the regenerated `SimpleForwardModel.model_contrib()` returns: `name` reads `contrib.name`, `prepare` is the
    effect of `contrib.prepare(…)` on the contribution (what `model()` applies to every contribution as well) -/
noncomputable def srcContribDict (newMethod : Bool) (rp rs : ℝ) (n nwn total : ℕ) (zb z dz dens grid : ℕ → ℝ)
    (planetPaths : (ℕ → ℝ) → (ℕ → ℕ → ℝ) → (ℕ → ℕ → ℝ) → List (ℕ → ℝ)) (name : Contrib ℝ → String)
    (prepare : Contrib ℝ → Contrib ℝ) (cs : List (Contrib ℝ)) : List (String × ((ℕ → ℝ) × (ℕ → ℕ → ℝ))) :=
  (Gen.SrcC03.model_contrib cs (dispatch nwn total n) dz dens n nwn name grid newMethod planetPaths prepare rp rs zb z).2

/-- contributions with pairwise distinct names: the dict has one entry per contribution, in order, holding what the
    regenerated `path_integral` returns for that contribution ALONE -/
theorem src_model_contrib_entries (name : Contrib ℝ → String) (prepare : Contrib ℝ → Contrib ℝ) (cs : List (Contrib ℝ))
    (hnd : (cs.map (fun c => name (prepare c))).Nodup) :
    srcContribDict newMethod rp rs n nwn total zb z dz dens grid planetPaths name prepare cs
      = cs.map (fun c => (name (prepare c),
          Gen.SrcC03.path_integral nwn [prepare c] (dispatch nwn total n) dz dens n newMethod planetPaths rp rs zb z)) := by
  unfold srcContribDict
  rw [src_model_contrib]
  simpa using dictFill_nodup (fun c => name (prepare c)) _ cs [] (by simpa using hnd)

/-- `product_within_cutoff` with `model_contrib` itself regenerated: for distinct names, the product of the transmittances
    stored in the dict `model_contrib()` returns is never above what `path_integral` returns for the whole (prepared) list,
    and falls short of it by at most `exp(-10)` -/
theorem src_model_contrib_product (ht : 0 < total) (name : Contrib ℝ → String) (prepare : Contrib ℝ → Contrib ℝ)
    (l : ℕ) (hl : l < n) (hp : ∀ k < n - l, 0 ≤ srcPath newMethod rp n zb z dz planetPaths l k) (hd : ∀ j < n, 0 ≤ dens j)
    (cs : List (Contrib ℝ)) (hcs : ∀ c ∈ cs, (prepare c).Nonneg)
    (hnd : (cs.map (fun c => name (prepare c))).Nodup) (wn : ℕ) (hwn : wn < nwn) :
    ((srcContribDict newMethod rp rs n nwn total zb z dz dens grid planetPaths name prepare cs).map
        (fun e => e.2.2 l wn)).prod
        ≤ srcTrans newMethod rp rs n nwn total zb z dz dens planetPaths (cs.map prepare) l wn ∧
    srcTrans newMethod rp rs n nwn total zb z dz dens planetPaths (cs.map prepare) l wn
        - ((srcContribDict newMethod rp rs n nwn total zb z dz dens grid planetPaths name prepare cs).map
            (fun e => e.2.2 l wn)).prod ≤ Transmission.trans 10 := by
  rw [src_model_contrib_entries name prepare cs hnd, List.map_map]
  have e : (cs.map ((fun e : String × ((ℕ → ℝ) × (ℕ → ℕ → ℝ)) => e.2.2 l wn) ∘ fun c => (name (prepare c),
        Gen.SrcC03.path_integral nwn [prepare c] (dispatch nwn total n) dz dens n newMethod planetPaths rp rs zb z)))
      = (cs.map prepare).map (fun c => srcTrans newMethod rp rs n nwn total zb z dz dens planetPaths [c] l wn) := by
    rw [List.map_map]; rfl
  rw [e]
  exact src_product_within_cutoff ht l hl hp hd (cs.map prepare)
    (fun c hc => by obtain ⟨c', hc', rfl⟩ := List.mem_map.1 hc; exact hcs c' hc') wn hwn

/-- K4 about the source: when two contributions carry the same name, the dict `model_contrib()` returns has FEWER entries
    than there are contributions (the later one replaced the earlier), so no product over its entries can be the model's -/
theorem src_model_contrib_collision (name : Contrib ℝ → String) (prepare : Contrib ℝ → Contrib ℝ) (cs : List (Contrib ℝ))
    (hdup : ¬ (cs.map (fun c => name (prepare c))).Nodup) :
    (srcContribDict newMethod rp rs n nwn total zb z dz dens grid planetPaths name prepare cs).length < cs.length := by
  unfold srcContribDict
  rw [src_model_contrib]
  simpa using dictFill_length_lt (fun c => name (prepare c)) _ cs [] (by simpa using hdup) (by simp)

end contrib

/-! ### `model_full_contrib`: the per-component loop driven by the suspended generator -/

section full
variable {newMethod : Bool} {rp rs : ℝ} {n nwn total : ℕ} {zb z dz dens grid : ℕ → ℝ}
  {planetPaths : (ℕ → ℝ) → (ℕ → ℕ → ℝ) → (ℕ → ℕ → ℝ) → List (ℕ → ℝ)}

/-- the dict the regenerated `SimpleForwardModel.model_full_contrib()` returns: `cname` reads `contrib.name`,
    `prepareEach c` lists the (yielded name, state of `c` at that yield) pairs of the generator `c.prepare_each(…)` -/
noncomputable def srcFullDict (newMethod : Bool) (rp rs : ℝ) (n nwn total : ℕ) (zb z dz dens grid : ℕ → ℝ)
    (planetPaths : (ℕ → ℝ) → (ℕ → ℕ → ℝ) → (ℕ → ℕ → ℝ) → List (ℕ → ℝ)) (cname : Contrib ℝ → String)
    (prepareEach : Contrib ℝ → List (String × Contrib ℝ)) (cs : List (Contrib ℝ)) :
    List (String × List (String × ((ℕ → ℝ) × (ℕ → ℕ → ℝ)))) :=
  (Gen.SrcC03.model_full_contrib cname cs (dispatch nwn total n) dz dens n nwn grid newMethod planetPaths prepareEach
    rp rs zb z).2

/-- the states a generator leaves its contribution in: the kind (the class) stays, `sigma_xsec` is what the generator has
    published at that yield — one state per element of `published`, under the yielded names `names` -/
def statesOf (κ : Kind) (names : List String) (published : List (ℕ → ℕ → ℝ)) : List (String × Contrib ℝ) :=
  List.zipWith (fun nm s => (nm, ({ kind := κ, sigma := s } : Contrib ℝ))) names published

/-- contributions with pairwise distinct names: the dict has one entry per contribution, in order, holding one record per
    yield of its generator: the yielded name and what the regenerated `path_integral` returns for the contribution ALONE in
    the state it is in at that yield -/
theorem src_model_full_contrib_entries (cname : Contrib ℝ → String)
    (prepareEach : Contrib ℝ → List (String × Contrib ℝ)) (cs : List (Contrib ℝ)) (hnd : (cs.map cname).Nodup) :
    srcFullDict newMethod rp rs n nwn total zb z dz dens grid planetPaths cname prepareEach cs
      = cs.map (fun c => (cname c, (prepareEach c).map (fun g => (g.1,
          Gen.SrcC03.path_integral nwn [g.2] (dispatch nwn total n) dz dens n newMethod planetPaths rp rs zb z)))) := by
  unfold srcFullDict
  rw [src_model_full_contrib]
  simpa using dictFill_nodup cname _ cs [] (by simpa using hnd)

/-- **`component_product` with `model_full_contrib` itself regenerated** (every kind): a contribution whose generator
    publishes the arrays `published` (for CIA / Rayleigh / absorption the regenerated `*_prepare_each_published`, provably
    the yielded components: `src_cia_published`, …) — the product over the records `model_full_contrib()` stores for it of
    their transmittance at `[l, wn]` is the transmittance the regenerated `path_integral` returns for the contribution
    with the `sigma_xsec` that the regenerated `Contribution.prepare` sums from the same arrays: what `model_contrib()`
    stores for it.  No cut-off term: a single contribution is never cut. -/
theorem src_full_contrib_component_product (ht : 0 < total) (cname : Contrib ℝ → String)
    (prepareEach : Contrib ℝ → List (String × Contrib ℝ)) (cs : List (Contrib ℝ)) (hnd : (cs.map cname).Nodup)
    (c : Contrib ℝ) (hc : c ∈ cs) (κ : Kind) (names : List String) (published : List (ℕ → ℕ → ℝ))
    (hlen : names.length = published.length) (hpe : prepareEach c = statesOf κ names published) (nW nL : ℕ)
    (l wn : ℕ) (hl : l < n) (hwn : wn < nwn) :
    ∃ recs, (srcFullDict newMethod rp rs n nwn total zb z dz dens grid planetPaths cname prepareEach cs).lookup (cname c)
        = some recs ∧ recs.map (·.1) = names ∧
      (recs.map (fun r => r.2.2 l wn)).prod
        = srcTrans newMethod rp rs n nwn total zb z dz dens planetPaths
            [{ kind := κ, sigma := Gen.SrcC03.contribution_prepare nW published nL }] l wn := by
  rw [src_model_full_contrib_entries cname prepareEach cs hnd]
  refine ⟨_, lookup_of_mem_nodup (by rw [List.map_map]; exact hnd) (List.mem_map_of_mem hc), ?_, ?_⟩
  · rw [hpe, List.map_map]
    unfold statesOf
    rw [List.map_zipWith]
    exact (zipWith_left id names published hlen.le).trans (List.map_id _)
  · rw [src_component_product_kinds ht κ nW nL published l wn hl hwn, hpe, List.map_map]
    unfold statesOf
    rw [List.map_zipWith]
    exact congrArg List.prod (zipWith_right
      (fun s => srcTrans newMethod rp rs n nwn total zb z dz dens planetPaths [{ kind := κ, sigma := s }] l wn)
      names published hlen.ge)

/-- K4 about the regenerated `model_full_contrib`: when two contributions carry the same name the dict has FEWER entries
    than there are contributions (the later list of records replaced the earlier) -/
theorem src_model_full_contrib_collision (cname : Contrib ℝ → String)
    (prepareEach : Contrib ℝ → List (String × Contrib ℝ)) (cs : List (Contrib ℝ)) (hdup : ¬ (cs.map cname).Nodup) :
    (srcFullDict newMethod rp rs n nwn total zb z dz dens grid planetPaths cname prepareEach cs).length < cs.length := by
  unfold srcFullDict
  rw [src_model_full_contrib]
  simpa using dictFill_length_lt cname _ cs [] (by simpa using hdup) (by simp)

end full

/-! ### the Rayleigh conjunct of `sigma_prop` -/

section rayleigh
variable {ι : Type}

theorem foldl_max_scale (s : ℝ) (hs : 0 < s) (f : ℕ → ℝ) (ks : List ℕ) (a : ℝ) :
    ks.foldl (fun acc k => if acc < s * f (k + 1) then s * f (k + 1) else acc) (s * a)
      = s * ks.foldl (fun acc k => if acc < f (k + 1) then f (k + 1) else acc) a := by
  induction ks generalizing a with
  | nil => rfl
  | cons k ks ih =>
    simp only [List.foldl_cons]
    by_cases h : a < f (k + 1)
    · rw [if_pos ((mul_lt_mul_iff_right₀ hs).2 h), if_pos h, ih]
    · rw [if_neg (fun h' => h ((mul_lt_mul_iff_right₀ hs).1 h')), if_neg h, ih]

/-- the code's test `np.max(mix) == 0.0` does not see a positive factor: the molecules `RayleighContribution.prepare_each`
    skips are the same for a profile and for its positive multiple -/
theorem zeroAbundance_scale (nL : ℕ) (mix : ℕ → ℝ) (s : ℝ) (hs : 0 < s) :
    zeroAbundance nL (fun j => s * mix j) = zeroAbundance nL mix := by
  unfold zeroAbundance
  simp only
  rw [foldl_max_scale s hs mix]
  generalize (List.range (nL - 1)).foldl (fun acc k => if acc < mix (k + 1) then mix (k + 1) else acc) (mix 0) = m
  have h1 : s * m ≤ 0 ↔ m ≤ 0 := by
    have h := mul_le_mul_iff_right₀ hs (b := m) (c := 0)
    rwa [mul_zero] at h
  have h2 : 0 ≤ s * m ↔ 0 ≤ m := mul_nonneg_iff_of_pos_left hs
  simp only [h1, h2]

/-- the molecules for which the regenerated `RayleighContribution.prepare_each` yields a component, in order -/
noncomputable def rayleighKept (nL : ℕ) (lawDefined : ι → Bool) (mix : ι → ℕ → ℝ) (molecules : List ι) : List ι :=
  molecules.filter (fun g => !zeroAbundance nL (mix g) && lawDefined g)

/-- the `i`-th array the regenerated `RayleighContribution.prepare_each` yields -/
noncomputable def srcRayComp (nW nL : ℕ) (law : ι → ℕ → ℝ) (lawDefined : ι → Bool) (mix : ι → ℕ → ℝ)
    (molecules : List ι) (i : ℕ) : ℕ → ℕ → ℝ :=
  (Gen.SrcC03.rayleigh_prepare_each nW law lawDefined mix molecules nL).getD i (fun _ _ => 0)

theorem srcRayComp_eq (nW nL : ℕ) (law : ι → ℕ → ℝ) (lawDefined : ι → Bool) (mix : ι → ℕ → ℝ) (molecules : List ι)
    (i : ℕ) (g : ι) (hg : (rayleighKept nL lawDefined mix molecules)[i]? = some g) :
    srcRayComp nW nL law lawDefined mix molecules i = compScaled (law g) (mix g) := by
  unfold srcRayComp
  rw [src_rayleigh_prepare_each]
  unfold rayleighKept at hg
  simp [List.getD_eq_getElem?_getD, List.getElem?_map, hg]

/-- **the `compScaled` (Rayleigh) conjunct of `sigma_prop` about the regenerated `RayleighContribution.prepare_each`**,
    run on a mixing-ratio table `mix` and on one (`mix'`) in which some molecules are scaled by a POSITIVE factor `s` and
    the others are unchanged.  The generator skips a molecule by a test on the mixing ratio itself (`np.max(mix) == 0.0`);
    a positive factor does not change that test (`zeroAbundance_scale`), so both runs yield for the same molecules, in the
    same order (`rayleighKept` agree), and the array yielded at position `i` for a scaled molecule is `s` times the
    original one. -/
theorem src_sigma_prop_rayleigh (nW nL : ℕ) (law : ι → ℕ → ℝ) (lawDefined : ι → Bool) (mix mix' : ι → ℕ → ℝ)
    (molecules : List ι) (s : ℝ) (hs : 0 < s)
    (hscale : ∀ h ∈ molecules, mix' h = mix h ∨ mix' h = fun j => s * mix h j) :
    rayleighKept nL lawDefined mix' molecules = rayleighKept nL lawDefined mix molecules ∧
    ∀ (i : ℕ) (g : ι), (rayleighKept nL lawDefined mix molecules)[i]? = some g → (mix' g = fun j => s * mix g j) →
      ∀ l wn, srcRayComp nW nL law lawDefined mix' molecules i l wn
        = s * srcRayComp nW nL law lawDefined mix molecules i l wn := by
  have hk : rayleighKept nL lawDefined mix' molecules = rayleighKept nL lawDefined mix molecules := by
    unfold rayleighKept
    apply List.filter_congr
    intro h hh
    rcases hscale h hh with e | e
    · rw [e]
    · rw [e, zeroAbundance_scale nL (mix h) s hs]
  refine ⟨hk, fun i g hg hgs l wn => ?_⟩
  rw [srcRayComp_eq nW nL law lawDefined mix' molecules i g (by rw [hk]; exact hg),
    srcRayComp_eq nW nL law lawDefined mix molecules i g hg, hgs]
  have h := (sigma_prop (fun _ w => law g w) (mix g) (fun _ => 0) s l wn).2.2.2
  simpa using h

end rayleigh

end Taurex.C03SrcProps
