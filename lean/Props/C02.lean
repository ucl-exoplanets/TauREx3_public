/-
  C02 — emission / direct-image spectra equal the layered thermal integral.
  Theorems about `TaurexModel/Emission.lean` (the definitions `driver_c02` executes), over the real carrier.
  `Row`-level statements quantify over arbitrary layer rows that satisfy `Chain` (consecutive layers share an
  interface) and `RowsOk` (optical depth grows downwards, the clamp only drops transmittances of depth ≥ 10);
  the rows `evaluate_emission` builds satisfy both (`rowsOf_chain`, `rowsOf_ok` in `Proofs/C02.lean`), and the `full model`
  section restates the results for `intensity` / `fluxCol` / `eclipse`.
-/
import Proofs.C20
import TaurexModel.EmissionBreakdown

namespace Taurex.C02
open Taurex.Emission

/-- Gauss–Legendre nodes/weights mapped to [0,1]: `Σ w μ = 1/2` (what `path_integral` multiplies `I` with),
    for any node count, from the two moment conditions of `leggauss`. -/
theorem quad_half (xs wts : List ℝ) (hlen : xs.length = wts.length) (hx : ∀ x ∈ xs, -1 < x)
    (h0 : wts.sum = 2) (h1 : ((xs.zip wts).map (fun p => p.2 * p.1)).sum = 0) :
    angleSum ((xs.zip wts).map (fun p => (1, wOf p.2, muInvOf p.1))) = 1 / 2 := by
  rw [angleSum_eq, List.map_map, ← quad_weight_sum hlen h0 h1]
  exact congrArg List.sum (List.map_congr_left fun p _ => one_mul _)

example : angleSum (([(-1/2 : ℝ), 1/2].zip [1, 1]).map (fun p => (1, wOf p.2, muInvOf p.1))) = 1 / 2 :=
  quad_half _ _ rfl
    (by simp only [List.forall_mem_cons, List.not_mem_nil, false_imp_iff, implies_true, and_true]; norm_num)
    (by norm_num) (by norm_num)

/-- the Planck function of the kernel is positive -/
theorem planck_pos (k : PC ℝ) (hk : PCPos k) (nu t : ℝ) (hnu : 0 < nu) (ht : 0 < t) : 0 < planck k nu t := by
  obtain ⟨A, B, hA, hB, h⟩ := planck_shape hk hnu
  rw [h]
  exact mul_pos hA (bose_pos (div_pos hB ht))

/-- … and increasing in temperature -/
theorem planck_mono_T (k : PC ℝ) (hk : PCPos k) (nu t1 t2 : ℝ) (hnu : 0 < nu) (ht1 : 0 < t1) (h12 : t1 ≤ t2) :
    planck k nu t1 ≤ planck k nu t2 := by
  obtain ⟨A, B, hA, hB, h⟩ := planck_shape hk hnu
  rw [h, h]
  exact mul_le_mul_of_nonneg_left
    (bose_anti (div_pos hB (ht1.trans_le h12)) (div_le_div_of_nonneg_left hB.le ht1 h12)) hA.le

example : PCPos ⟨3, 1, 1, 1, 1, 1⟩ := nv_pc_pos

/-- direct imaging: `direct = f · Rp² / (2 d²)` with `d = distance · parsec` -/
theorem direct_scale (pi f rp dist pc : ℝ) (hpi : pi ≠ 0) (hd : dist * pc ≠ 0) :
    direct pi f rp dist pc = f * (rp * rp) / (2 * ((dist * pc) * (dist * pc))) := by
  simp only [direct, mul_one]
  rw [div_eq_div_iff (mul_ne_zero (mul_ne_zero four_ne_zero hpi) (mul_self_ne_zero.2 hd))
    (mul_ne_zero two_ne_zero (mul_self_ne_zero.2 hd))]
  ring

example : direct (3 : ℝ) 5 2 1 4 = 5 * (2 * 2) / (2 * ((1 * 4) * (1 * 4))) := direct_scale 3 5 2 1 4 (by norm_num) (by norm_num)

/-- `I = Σ_l c_l · B(T_l)/π + e₀ · B(T₀)/π` with every `c_l ≥ 0`, and the weights sum to
    `1 + (exp(-τ₀/μ) - f(τ₀))`, which lies in `[1, 1 + exp(-10)]` (the clamp modelled exactly). -/
theorem coeffs_sum (m : ℝ) (hm : 1 ≤ m) (rows : List (Row ℝ)) (t : ℝ) (k : Bool)
    (hc : Chain t k rows) (hok : RowsOk rows) (hk : k = false → 10 ≤ t) :
    (∀ r ∈ rows, 0 ≤ coeff m r) ∧
    intensityRows 1 t m (rows.map (fun r => { r with b := 1 })) = 1 + (Real.exp ((-t) * m) - trans k t m) ∧
    0 ≤ Real.exp ((-t) * m) - trans k t m ∧ Real.exp ((-t) * m) - trans k t m ≤ Real.exp (-10) := by
  refine ⟨rowsOk_coeff_nonneg (by linarith) hok, ?_, clamp_loss_bounds hm hk⟩
  have : (List.map ((fun r : Row ℝ => r.b * coeff m r) ∘ fun r => { r with b := 1 }) rows) = rows.map (coeff m) :=
    List.map_congr_left fun r _ => one_mul _
  rw [intensityRows_eq, List.map_map, this, one_mul, weight_total m hc]

/-- isothermal rows (every `B(T_l)/π = b`): the intensity is `b` times the total weight; exactly `b` when the
    bottom of the atmosphere is not clamped. -/
theorem isothermal_exact (m b : ℝ) (rows : List (Row ℝ)) (t : ℝ) (hc : Chain t true rows)
    (hb : ∀ r ∈ rows, r.b = b) : intensityRows b t m rows = b := by
  rw [intensityRows_eq, Convex.wsum_const rows (coeff m) (fun r => r.b) b hb, ← mul_add,
    weight_total m hc, trans_true, sub_self, add_zero, mul_one]

/-- … and within a relative `exp(-10)` above `b` in general -/
theorem isothermal_within (m b : ℝ) (hm : 1 ≤ m) (hb0 : 0 ≤ b) (rows : List (Row ℝ)) (t : ℝ) (k : Bool)
    (hc : Chain t k rows) (hk : k = false → 10 ≤ t) (hb : ∀ r ∈ rows, r.b = b) :
    b ≤ intensityRows b t m rows ∧ intensityRows b t m rows ≤ b * (1 + Real.exp (-10)) := by
  rw [intensityRows_eq, Convex.wsum_const rows (coeff m) (fun r => r.b) b hb, ← mul_add,
    weight_total m hc]
  obtain ⟨h0, h1⟩ := clamp_loss_bounds hm hk
  exact ⟨le_mul_of_one_le_right hb0 (le_add_of_nonneg_right h0), mul_le_mul_of_nonneg_left ((add_le_add_iff_left 1).2 h1) hb0⟩

/-- any profile: the intensity lies between the coldest source function and `(1+exp(-10))` times the hottest -/
theorem between_hot_cold (m b0 bmin bmax : ℝ) (hm : 1 ≤ m) (hmin : 0 ≤ bmin) (rows : List (Row ℝ)) (t : ℝ) (k : Bool)
    (hc : Chain t k rows) (hok : RowsOk rows) (hk : k = false → 10 ≤ t)
    (hb0 : bmin ≤ b0 ∧ b0 ≤ bmax) (hb : ∀ r ∈ rows, bmin ≤ r.b ∧ r.b ≤ bmax) :
    bmin ≤ intensityRows b0 t m rows ∧ intensityRows b0 t m rows ≤ (1 + Real.exp (-10)) * bmax := by
  obtain ⟨hlo, hhi⟩ := source_sum_between rows (fun r => r.b) (coeff m) b0 (Real.exp ((-t) * m)) bmin bmax
    (Real.exp_nonneg _) (rowsOk_coeff_nonneg (by linarith) hok) hb0 hb
  obtain ⟨h0, h1⟩ := clamp_loss_bounds hm hk
  have hmax : 0 ≤ bmax := hmin.trans (hb0.1.trans hb0.2)
  rw [weight_total m hc] at hlo hhi
  rw [intensityRows_eq]
  exact ⟨(le_mul_of_one_le_right hmin (le_add_of_nonneg_right h0)).trans hlo,
    hhi.trans (by rw [mul_comm]; exact mul_le_mul_of_nonneg_right ((add_le_add_iff_left 1).2 h1) hmax)⟩

/-- NV: three layers, one wavenumber; the transmittances of optical depth ≥ 10 are clamped (`dtau` = 12 and 11,
    `layer_tau` = 11), the others are not -/
def nvRows : List (Row ℝ) :=
  [⟨3, 11, false, 12, false⟩, ⟨2, 1, true, 11, false⟩, ⟨1, 0, true, 1, true⟩]

example : Chain 12 false nvRows ∧ RowsOk nvRows ∧ (∀ r ∈ nvRows, (1 : ℝ) ≤ r.b ∧ r.b ≤ 3) := by
  refine ⟨⟨rfl, rfl, rfl, rfl, rfl, rfl, rfl, rfl⟩, ?_, ?_⟩
  · intro r hr
    simp [nvRows] at hr
    rcases hr with h | h | h <;> subst h <;> norm_num
  · intro r hr
    simp [nvRows] at hr
    rcases hr with h | h | h <;> subst h <;> norm_num

/-! ### the full model: the rows `evaluate_emission` builds -/

/-- valid atmosphere for one column: it is one of the columns the clamp looks at, all inputs are non-negative,
    its wavenumber is positive, temperatures lie in `[tmin, tmax]` with `0 < tmin`, at least one layer -/
structure Valid (k : PC ℝ) (cols : List (Col ℝ)) (dz dens temps : List ℝ) (col : Col ℝ) (tmin tmax : ℝ) : Prop where
  pc : PCPos k
  mem : col ∈ cols
  nonneg : ∀ c ∈ cols, InputsNonneg c.sig dz dens
  nu : 0 < col.nu
  tpos : 0 < tmin
  trange : ∀ l, l < temps.length → tmin ≤ temps.getD l 0 ∧ temps.getD l 0 ≤ tmax
  layers : temps ≠ []

theorem surf_sound (cols : List (Col ℝ)) (dz dens temps : List ℝ) (col : Col ℝ) (hc : col ∈ cols)
    (h : keepFrom cols dz dens temps.length 0 = false) : (10 : ℝ) ≤ surfTau dz dens temps col :=
  clamp_false h hc

/-- the spectrum of any atmosphere lies between the Planck functions of its coldest and hottest temperature
    (intensity per angle, `1 ≤ 1/μ`), the upper bound relaxed by the licensed `exp(-10)` -/
theorem intensity_between (k : PC ℝ) (cols : List (Col ℝ)) (dz dens temps : List ℝ) (col : Col ℝ) (tmin tmax m : ℝ)
    (hv : Valid k cols dz dens temps col tmin tmax) (hm : 1 ≤ m) :
    planck k col.nu tmin / k.pi ≤ intensity k cols dz dens temps m col ∧
    intensity k cols dz dens temps m col ≤ (1 + Real.exp (-10)) * (planck k col.nu tmax / k.pi) := by
  have hpi : 0 < k.pi := hv.pc.1
  have hlen : 0 < temps.length := List.length_pos_of_ne_nil hv.layers
  have hB : ∀ l, l < temps.length → planck k col.nu tmin / k.pi ≤ planck k col.nu (temps.getD l 0) / k.pi ∧
      planck k col.nu (temps.getD l 0) / k.pi ≤ planck k col.nu tmax / k.pi := by
    intro l hl
    obtain ⟨h1, h2⟩ := hv.trange l hl
    exact ⟨div_le_div_of_nonneg_right (planck_mono_T k hv.pc _ _ _ hv.nu hv.tpos h1) hpi.le,
      div_le_div_of_nonneg_right (planck_mono_T k hv.pc _ _ _ hv.nu (lt_of_lt_of_le hv.tpos h1) h2) hpi.le⟩
  unfold intensity
  apply between_hot_cold m _ _ _ hm (div_nonneg (planck_pos k hv.pc _ _ hv.nu hv.tpos).le hpi.le) _ _ _
    (rowsOf_chain k cols dz dens temps col) (rowsOf_ok k temps hv.mem hv.nonneg)
    (surf_sound cols dz dens temps col hv.mem) (hB 0 hlen)
  intro r hr
  obtain ⟨l, hl, rfl⟩ := mem_rowsOf hr
  exact hB l hl

/-- isothermal atmosphere, bottom not clamped: the intensity at every angle is exactly `B(T)/π`,
    whatever the composition -/
theorem intensity_isothermal_exact (k : PC ℝ) (cols : List (Col ℝ)) (dz dens temps : List ℝ) (col : Col ℝ) (t m : ℝ)
    (hT : ∀ l, l < temps.length → temps.getD l 0 = t) (hne : temps ≠ [])
    (hk : keepFrom cols dz dens temps.length 0 = true) :
    intensity k cols dz dens temps m col = planck k col.nu t / k.pi := by
  have hlen : 0 < temps.length := List.length_pos_of_ne_nil hne
  unfold intensity b0Of
  rw [hT 0 hlen]
  apply isothermal_exact
  · have := rowsOf_chain k cols dz dens temps col
    rw [hk] at this
    exact this
  · intro r hr
    obtain ⟨l, hl, rfl⟩ := mem_rowsOf hr
    exact congrArg (fun t => planck k col.nu t / k.pi) (hT l hl)

/-- … and in general (bottom clamped or not) within a relative `exp(-10)` above `B(T)/π` -/
theorem intensity_isothermal_within (k : PC ℝ) (cols : List (Col ℝ)) (dz dens temps : List ℝ) (col : Col ℝ) (t m : ℝ)
    (hv : Valid k cols dz dens temps col t t) (hm : 1 ≤ m) :
    planck k col.nu t / k.pi ≤ intensity k cols dz dens temps m col ∧
    intensity k cols dz dens temps m col ≤ planck k col.nu t / k.pi * (1 + Real.exp (-10)) := by
  have h := intensity_between k cols dz dens temps col t t m hv hm
  constructor
  · exact h.1
  · rw [mul_comm]; exact h.2

/-- isothermal atmosphere: the eclipse spectrum is exactly the blackbody ratio `B(T)/B(T*) (Rp/Rs)²` -/
theorem eclipse_isothermal_exact (k : PC ℝ) (cols : List (Col ℝ)) (dz dens temps : List ℝ) (col : Col ℝ)
    (t ts rp rs : ℝ) (xs wts : List ℝ)
    (hpi : k.pi ≠ 0)
    (hT : ∀ l, l < temps.length → temps.getD l 0 = t) (hne : temps ≠ [])
    (hk : keepFrom cols dz dens temps.length 0 = true)
    (hlen : xs.length = wts.length) (hx : ∀ x ∈ xs, -1 < x)
    (h0 : wts.sum = 2) (h1 : ((xs.zip wts).map (fun p => p.2 * p.1)).sum = 0) :
    eclipse (fluxCol k k.pi cols dz dens temps xs wts col) (planck k col.nu ts) rp rs
      = planck k col.nu t / planck k col.nu ts * ((rp / rs) * (rp / rs)) := by
  unfold fluxCol
  simp only [intensity_isothermal_exact k cols dz dens temps col t _ hT hne hk]
  rw [fluxOf_const _ _ hlen h0 h1, mul_div_cancel₀ _ hpi]
  rfl

/-- the licensed deviation: the clamped intensity differs from the documented (unclamped) integral by at most
    `exp(-10)` times the source functions of the clamped layers -/
theorem clamp_band (k : PC ℝ) (cols : List (Col ℝ)) (dz dens temps : List ℝ) (col : Col ℝ) (tmin tmax m : ℝ)
    (hv : Valid k cols dz dens temps col tmin tmax) (hm : 1 ≤ m) :
    |intensity k cols dz dens temps m col - intensityUncut k dz dens temps m col|
      ≤ Real.exp (-10) * ((rowsOf k cols dz dens temps col).map (fun r => if r.keepD then 0 else r.b)).sum := by
  unfold intensity intensityUncut
  rw [rowsUncut_eq k cols]
  apply clamp_band_rows _ _ _ hm _ (rowsOf_ok k temps hv.mem hv.nonneg)
  intro r hr
  obtain ⟨l, hl, rfl⟩ := mem_rowsOf hr
  exact div_nonneg (planck_pos k hv.pc _ _ hv.nu (lt_of_lt_of_le hv.tpos (hv.trange l hl).1)).le hv.pc.1.le

/-- NV: two layers, two wavenumbers, one contribution of each kind; every hypothesis of `Valid` holds -/
example : Valid ⟨3, 1, 1, 1, 1, 1⟩
    [⟨1, [(Kind.lin, [1, 2]), (Kind.sq, [0, 1])]⟩, ⟨2, [(Kind.lin, [20, 3]), (Kind.sq, [1, 1])]⟩]
    [1, 1] [1, 2] [5, 4] ⟨2, [(Kind.lin, [20, 3]), (Kind.sq, [1, 1])]⟩ 4 5 := by
  refine ⟨nv_pc_pos, by simp, ?_, by norm_num, by norm_num, ?_, by simp⟩
  · simp only [InputsNonneg, List.forall_mem_cons, List.not_mem_nil, false_imp_iff, implies_true, and_true]
    norm_num
  · intro l hl
    match l, hl with
    | 0, _ => norm_num
    | 1, _ => norm_num

/-- **flux level**: the emergent flux of any valid atmosphere (Gauss–Legendre quadrature with non-negative weights, any
    number of angles) lies between the Planck functions of its coldest and hottest temperature, the upper bound relaxed by
    the licensed `exp(-10)`; `npPi` is `np.pi` of `path_integral`, `k.pi` the `PI` of the black-body kernel. -/
theorem flux_between (k : PC ℝ) (npPi : ℝ) (cols : List (Col ℝ)) (dz dens temps : List ℝ) (col : Col ℝ)
    (tmin tmax : ℝ) (xs wts : List ℝ)
    (hv : Valid k cols dz dens temps col tmin tmax) (hnp : 0 ≤ npPi)
    (hlen : xs.length = wts.length) (hx : ∀ x ∈ xs, -1 < x ∧ x ≤ 1) (hw : ∀ w ∈ wts, 0 ≤ w)
    (h0 : wts.sum = 2) (h1 : ((xs.zip wts).map (fun p => p.2 * p.1)).sum = 0) :
    npPi / k.pi * planck k col.nu tmin ≤ fluxCol k npPi cols dz dens temps xs wts col ∧
    fluxCol k npPi cols dz dens temps xs wts col ≤ (1 + Real.exp (-10)) * (npPi / k.pi * planck k col.nu tmax) := by
  have e : ∀ P : ℝ, npPi / k.pi * P = npPi * (P / k.pi) := fun P => by ring
  rw [e, e, mul_left_comm]
  exact fluxOf_between npPi hnp (fun x => intensity k cols dz dens temps (muInvOf x) col) _ _ xs wts hlen
    (fun x hx' => (hx x hx').1) hw h0 h1
    (fun x hx' => intensity_between k cols dz dens temps col tmin tmax _ hv (one_le_muInvOf (hx x hx').1 (hx x hx').2))

/-- **eclipse level**: with `np.pi = PI` and a positive stellar SED, the eclipse depth lies between the black-body ratios
    of the coldest and hottest layer, times `(Rp/Rs)²`, the upper bound relaxed by `exp(-10)` -/
theorem eclipse_between (k : PC ℝ) (cols : List (Col ℝ)) (dz dens temps : List ℝ) (col : Col ℝ)
    (tmin tmax sed rp rs : ℝ) (xs wts : List ℝ)
    (hv : Valid k cols dz dens temps col tmin tmax) (hsed : 0 < sed)
    (hlen : xs.length = wts.length) (hx : ∀ x ∈ xs, -1 < x ∧ x ≤ 1) (hw : ∀ w ∈ wts, 0 ≤ w)
    (h0 : wts.sum = 2) (h1 : ((xs.zip wts).map (fun p => p.2 * p.1)).sum = 0) :
    planck k col.nu tmin / sed * ((rp / rs) * (rp / rs))
      ≤ eclipse (fluxCol k k.pi cols dz dens temps xs wts col) sed rp rs ∧
    eclipse (fluxCol k k.pi cols dz dens temps xs wts col) sed rp rs
      ≤ (1 + Real.exp (-10)) * (planck k col.nu tmax / sed * ((rp / rs) * (rp / rs))) := by
  have hpi : 0 < k.pi := hv.pc.1
  obtain ⟨hlo, hhi⟩ := flux_between k k.pi cols dz dens temps col tmin tmax xs wts hv hpi.le hlen hx hw h0 h1
  rw [div_self hpi.ne', one_mul] at hlo hhi
  have hr : 0 ≤ (rp / rs) * (rp / rs) := mul_self_nonneg _
  unfold eclipse
  refine ⟨mul_le_mul_of_nonneg_right (div_le_div_of_nonneg_right hlo hsed.le) hr, ?_⟩
  rw [← mul_assoc (1 + Real.exp (-10)), ← mul_div_assoc (1 + Real.exp (-10))]
  exact mul_le_mul_of_nonneg_right (div_le_div_of_nonneg_right hhi hsed.le) hr

/-- NV for the quadrature hypotheses: the two-point Gauss–Legendre rule -/
example : ∀ w ∈ [(1:ℝ), 1], 0 ≤ w := by intro w hw; simp at hw; subst hw; norm_num

/-! ### the contribution function (`tau`, the third value `model()` returns) -/

/-- the contribution function of a layer is the weight with which that layer's source function enters the intensity
    along the vertical (`_mu = 1`): `exp(-layer_tau) - exp(-dtau)`, each term dropped by its clamp -/
theorem contrib_eq_coeff (r : Row ℝ) : contribOf r = coeff 1 r := by
  cases hL : r.keepL <;> cases hD : r.keepD <;> simp [contribOf, cut, coeff, Emission.trans, hL, hD]

/-- every entry of the contribution function is non-negative, and the entries of one wavenumber sum to the fraction of
    the vertical ray absorbed by the whole column, `1 - f(surface_tau)` (`f` = `exp(-·)` with the clamp modelled exactly):
    within `exp(-10)` above `1 - exp(-surface_tau)` -/
theorem contrib_sum (k : PC ℝ) (cols : List (Col ℝ)) (dz dens temps : List ℝ) (col : Col ℝ) (hc : col ∈ cols)
    (hn : ∀ c ∈ cols, InputsNonneg c.sig dz dens) :
    (∀ x ∈ contribFn k cols dz dens temps col, 0 ≤ x) ∧
    (contribFn k cols dz dens temps col).sum
      = 1 - trans (keepFrom cols dz dens temps.length 0) (surfTau dz dens temps col) 1 ∧
    1 - Real.exp (-(surfTau dz dens temps col)) ≤ (contribFn k cols dz dens temps col).sum ∧
    (contribFn k cols dz dens temps col).sum ≤ 1 - Real.exp (-(surfTau dz dens temps col)) + Real.exp (-10) := by
  have hfn : contribFn k cols dz dens temps col = (rowsOf k cols dz dens temps col).map (coeff 1) :=
    List.map_congr_left fun r _ => contrib_eq_coeff r
  obtain ⟨b0, b1⟩ := clamp_loss_bounds (m := 1) le_rfl (surf_sound cols dz dens temps col hc)
  rw [mul_one] at b0 b1
  rw [hfn, coeff_sum_chain 1 (rowsOf_chain k cols dz dens temps col)]
  refine ⟨fun x hx => ?_, rfl, by linarith, by linarith⟩
  obtain ⟨r, hr, rfl⟩ := List.mem_map.1 hx
  exact rowsOk_coeff_nonneg zero_le_one (rowsOf_ok k temps hc hn) r hr

example : contribOf (⟨3, 1, true, 11, false⟩ : Row ℝ) = Real.exp (-1) := by
  simp [contribOf, cut]

/-! ### correlated-k opacity mode (`opacity_method = ktables`): `KTau.emissionK`, the model of
    `evaluate_emission_ktables` that `driver_c20` executes.  Weights `≥ 0`, `Σ w = 1`. -/

open Taurex.KTau in
/-- in correlated-k mode the intensity at one emission angle IS the documented integral: the surface blackbody attenuated by
    the full column plus, per layer, `B(T_l)/π` times the difference of the transmittances above and below it, where the
    transmittance from a level to space is `exp(-τ_other/μ) · Σ_g w_g exp(-τ_g/μ)` (`levelTrans`).  Over the reals the
    g-weighted transmittance of the column is never zero, so writing the surface term as `exp(-(-log Σ_g …))` loses nothing. -/
theorem ktable_levels (k : PC ℝ) (nonmol : List (Kind × List ℝ)) (sigma3 : List (List ℝ))
    (ws dz dens temps : List ℝ) (nu m : ℝ) (hw0 : ∀ w ∈ ws, 0 ≤ w) (hw : ws.sum = 1) :
    emissionK k nonmol sigma3 ws dz dens temps nu m
      = planck k nu (temps.getD 0 0) / k.pi * levelTrans nonmol sigma3 ws dz dens temps.length m 0
        + ((List.range temps.length).map (fun l => planck k nu (temps.getD l 0) / k.pi
            * (levelTrans nonmol sigma3 ws dz dens temps.length m (l + 1)
               - levelTrans nonmol sigma3 ws dz dens temps.length m l))).sum ∧
    levelTrans nonmol sigma3 ws dz dens temps.length m temps.length = 1 :=
  ⟨emissionK_layered k nonmol sigma3 ws dz dens temps nu m (transKmu_pos m (by simp) hw0 hw),
   levelTrans_top hw⟩

open Taurex.KTau in
/-- hence an isothermal atmosphere returns exactly the blackbody intensity `B(T)/π` at every angle, whatever the
    k-coefficients, the weights and the other opacity sources are — however opaque the column -/
theorem ktable_isothermal (k : PC ℝ) (nonmol : List (Kind × List ℝ)) (sigma3 : List (List ℝ))
    (ws dz dens temps : List ℝ) (nu m T : ℝ) (hn : 0 < temps.length) (hT : ∀ l < temps.length, temps.getD l 0 = T)
    (hw0 : ∀ w ∈ ws, 0 ≤ w) (hw : ws.sum = 1) :
    emissionK k nonmol sigma3 ws dz dens temps nu m = planck k nu T / k.pi := by
  rw [emissionK_layered k nonmol sigma3 ws dz dens temps nu m (transKmu_pos m (by simp) hw0 hw)]
  exact layered_const hn (fun l hl => by rw [hT l hl]) (levelTrans_top hw)

-- non-vacuity: two layers at 7 K (in the units of the constants), two g-points three decades apart, a CIA-like second source
open Taurex.KTau in
example : emissionK ⟨3, 1, 1, 1, 1, 1⟩ [(Kind.sq, [1, 1])] [[2, 2000], [3, 3000]] [(1/4 : ℝ), 3/4] [1, 1] [1, 2] [7, 7] 2 5
    = planck ⟨3, 1, 1, 1, 1, 1⟩ 2 7 / 3 :=
  ktable_isothermal _ _ _ _ _ _ _ _ _ 7 (by norm_num)
    (fun l hl => match l, hl with
      | 0, _ => rfl
      | 1, _ => rfl)
    nv_w2.1 nv_w2.2

open Taurex.KTau in
/-- and any intensity lies between the blackbody intensities of bounds `lo ≤ B(T_l)/π ≤ hi` on the layers (the coldest and
    the hottest layer, by `planck_mono_T`): non-negative opacities, thicknesses, densities, `0 ≤ 1/μ` -/
theorem ktable_between (k : PC ℝ) (nonmol : List (Kind × List ℝ)) (sigma3 : List (List ℝ))
    (ws dz dens temps : List ℝ) (nu m lo hi : ℝ) (hn : 0 < temps.length) (hm : 0 ≤ m)
    (hB : ∀ l < temps.length, lo ≤ planck k nu (temps.getD l 0) / k.pi ∧ planck k nu (temps.getD l 0) / k.pi ≤ hi)
    (hnn : InputsNonneg nonmol dz dens) (hs : ∀ j g, 0 ≤ at3 sigma3 j g)
    (hw0 : ∀ w ∈ ws, 0 ≤ w) (hw : ws.sum = 1) :
    lo ≤ emissionK k nonmol sigma3 ws dz dens temps nu m ∧ emissionK k nonmol sigma3 ws dz dens temps nu m ≤ hi := by
  rw [emissionK_layered k nonmol sigma3 ws dz dens temps nu m (transKmu_pos m (by simp) hw0 hw)]
  exact layered_between hn hB (levelTrans_nonneg hw0 0) (fun l hl => levelTrans_mono hm hnn hs hw0 hl)
    (levelTrans_top hw)

-- non-vacuity: two layers at 7 and 9, two g-points three decades apart
open Taurex.KTau in
example : min (planck ⟨3, 1, 1, 1, 1, 1⟩ 2 7 / 3) (planck ⟨3, 1, 1, 1, 1, 1⟩ 2 9 / 3)
      ≤ emissionK ⟨3, 1, 1, 1, 1, 1⟩ [] [[2, 2000], [3, 3000]] [(1/4 : ℝ), 3/4] [1, 1] [1, 2] [7, 9] 2 5 ∧
    emissionK ⟨3, 1, 1, 1, 1, 1⟩ [] [[2, 2000], [3, 3000]] [(1/4 : ℝ), 3/4] [1, 1] [1, 2] [7, 9] 2 5
      ≤ max (planck ⟨3, 1, 1, 1, 1, 1⟩ 2 7 / 3) (planck ⟨3, 1, 1, 1, 1, 1⟩ 2 9 / 3) :=
  ktable_between _ _ _ _ _ _ _ _ _ _ _ (by norm_num) (by norm_num)
    (fun l hl => match l, hl with
      | 0, _ => ⟨min_le_left _ _, le_max_left _ _⟩
      | 1, _ => ⟨min_le_right _ _, le_max_right _ _⟩)
    (by simp only [InputsNonneg, List.forall_mem_cons, List.not_mem_nil, false_imp_iff, implies_true, and_true]
        norm_num)
    (at3_nonneg _ (by
      simp only [List.forall_mem_cons, List.not_mem_nil, false_imp_iff, implies_true, and_true]; norm_num))
    nv_w2.1 nv_w2.2

/-! ### the per-contribution break-down (`model_contrib`): one star initialisation, one normalisation per contribution -/

theorem normalisedBy_blocks (s : Option Nat) (g : Nat) (l : List Nat) :
    normalisedBy s (l.flatMap (contribBlock g)) = l.map (fun i => (i, g, s)) := by
  induction l with
  | nil => rfl
  | cons i r ih => simp [List.flatMap_cons, contribBlock, normalisedBy, ih]

/-- In `model_contrib` every contribution, in list order and exactly once, is integrated on the grid in use and its flux divided
    by the stellar SED that `Star.initialize` stored on THAT grid: each per-contribution eclipse spectrum is scaled by the
    stellar blackbody of the wavenumbers it is reported on. -/
theorem breakdown_normalised_on_own_grid (n : Nat) (clip : Bool) :
    normalisedBy none (contribModelSteps n clip)
      = (List.range n).map (fun i => (i, (if clip then 1 else 0), some (if clip then 1 else 0))) := by
  unfold contribModelSteps
  simp only [List.cons_append, List.nil_append, normalisedBy]
  exact normalisedBy_blocks _ _ _

theorem starInits_blocks (g : Nat) (l : List Nat) : starInits (l.flatMap (contribBlock g)) = 0 := by
  induction l with
  | nil => rfl
  | cons i r ih =>
    unfold starInits at ih ⊢
    simp [List.flatMap_cons, contribBlock, ih]

/-- … and the star is initialised exactly once however many contributions are normalised: the stored SED has to serve all of
    them unchanged (the situation in which a `compute_final_flux` that rescales the stored SED shows). -/
theorem breakdown_one_star_initialisation (n : Nat) (clip : Bool) : starInits (contribModelSteps n clip) = 1 := by
  unfold contribModelSteps
  have h := starInits_blocks (if clip then 1 else 0) (List.range n)
  unfold starInits at h ⊢
  simp [h]

-- non-vacuity: three contributions on a clipped grid
example : normalisedBy none (contribModelSteps 3 true) = [(0, 1, some 1), (1, 1, some 1), (2, 1, some 1)]
    ∧ starInits (contribModelSteps 3 true) = 1 := by decide

end Taurex.C02
