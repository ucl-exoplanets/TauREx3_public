/-
  C17 — the property theorems restated about the REGENERATED source.  `Props/C17Src.lean` proves that the definitions
  translated on every run from `ArraySpectrum.__init__` (with `_sort_spectrum`, `_process_spectrum`, `manual_binning`,
  `wnwidth_to_wlwidth`, `compute_bin_edges`), the public properties `wavenumberGrid`, `spectrum`, `errorBar`, `binWidths`,
  `binEdges`, `BaseSpectrum.create_binner` (→ `FluxBinner.__init__`) and `Binner.bin_model` (→ `FluxBinner.bindown`) compute
  the fields and accessors of the model's `load fourCol rows`; `Props/C17.lean` proves the property about `load`.  The
  corollaries below compose the two: they are statements about the text of the code, at the real carrier.

  What is composed.  The observation array handed to the constructor is `rows.map (encode fc)` (one inner list
  `[wl, value, error(, width)]` per row) and `rawData.shape[1]` is `ncols fc`, exactly as in the tie theorems.
    * `srcInit fc rows` = the attributes `(_obs_spectrum, _bin_widths, _bin_edges, _wnwidths)` the regenerated
      `ArraySpectrum.__init__` leaves behind; `srcObs`, `srcBw`, `srcEdgesWl` its components.
    * `srcWn`, `srcSpectrum`, `srcErrorBar`, `srcBinWidths`, `srcBinEdges` = the regenerated public properties read on that
      object.
    * `srcBinner fc rows` = the `(_wngrid, _wngrid_width)` of the binner the regenerated `create_binner()` builds from that
      object; `srcBinModel fc rows native` = `obs.create_binner().bin_model((native_wn, native_spectrum))[1]`.
  The stored rows are named, as in `Props/C17.lean`, `(load fc rows).rows`; `src_rows_integrity` adds the conjunct that the
  array the source stores (`_obs_spectrum`) is exactly the encoding of those rows, so every statement "of row `i` itself" is
  a statement about row `i` of the source's array.

  The file loaders (tied in `Props/C17Src.lean`: `src_load_from_hdf5`, `src_taurexspectrum_init`,
  `src_observedspectrum_init`).  A TauREx HDF5 file is described by the rows `file` = `(wn, spectrum, noise, wn width)` of
  its four `Output/Spectra/instrument_*` datasets; a text file by the rows of the array `np.loadtxt` returns for its name.
    * `srcHdf5 fn file` = the array the regenerated `TaurexSpectrum._load_from_hdf5(fn)` returns; `src_taurex_roundtrip`
      is `taurex_roundtrip` about it, read back through the regenerated properties.
    * `srcTaurexInit fn file` / `srcObservedInit fc fn loadtxt` = the attributes after the regenerated
      `TaurexSpectrum.__init__` / `ObservedSpectrum.__init__`; they ARE `srcInit` of the file's rows
      (`srcTaurexInit_eq`, `srcObservedInit_eq`), so every statement below about `srcInit …` is a statement about the two
      loaders; order independence is restated for each (`src_taurex_perm_invariant`, `src_observed_perm_invariant`).

  Not restated (no tie)
    * `midEdges_is_midpoint`: about the model's `midEdges`, a helper inside `computeBinEdges`; the tie is for the whole of
      `compute_bin_edges` (the conjunct of `edges_consistent3` that names `computeBinEdges` is restated).
    * `holder_invariant`, `holder_aligned`, `program_binner_of_observation`, `program_aligned`: about the observation
      holder and the program model of `TaurexModel/ObsHolder.lean`, of which `Props/C17Src.lean` regenerates nothing.
-/
import Props.C17
import Props.C17Src
set_option linter.unusedSectionVars false

namespace Taurex.C17SrcProps
open Taurex.Observation Taurex.Binning Taurex.Gen Taurex.C17 Taurex.C17Src List

/-- the attributes `(_obs_spectrum, _bin_widths, _bin_edges, _wnwidths)` after the regenerated
    `ArraySpectrum.__init__(spectrum)` -/
noncomputable def srcInit (fc : Bool) (rows : List (ORow ℝ)) : List (List ℝ) × List ℝ × List ℝ × List ℝ :=
  SrcC17.arrayspectrum_init (rows.map (encode fc)) (ncols fc)

theorem srcInit_eq (fc : Bool) (rows : List (ORow ℝ)) :
    srcInit fc rows
      = ((load fc rows).rows.map (encode fc), (load fc rows).bw, (load fc rows).edgesWl, (load fc rows).wnWidths) :=
  src_init fc rows

/-- `_obs_spectrum` (the sorted array) -/
noncomputable def srcObs (fc : Bool) (rows : List (ORow ℝ)) : List (List ℝ) := (srcInit fc rows).1
/-- `_bin_widths` (µm) -/
noncomputable def srcBw (fc : Bool) (rows : List (ORow ℝ)) : List ℝ := (srcInit fc rows).2.1
/-- `_bin_edges` (µm) -/
noncomputable def srcEdgesWl (fc : Bool) (rows : List (ORow ℝ)) : List ℝ := (srcInit fc rows).2.2.1
/-- the property `wavenumberGrid` of the loaded object -/
noncomputable def srcWn (fc : Bool) (rows : List (ORow ℝ)) : List ℝ := SrcC17.wavenumberGrid (srcInit fc rows).1
/-- the property `spectrum` -/
noncomputable def srcSpectrum (fc : Bool) (rows : List (ORow ℝ)) : List ℝ := SrcC17.spectrum (srcInit fc rows).1
/-- the property `errorBar` -/
noncomputable def srcErrorBar (fc : Bool) (rows : List (ORow ℝ)) : List ℝ := SrcC17.errorBar (srcInit fc rows).1
/-- the property `binWidths` -/
noncomputable def srcBinWidths (fc : Bool) (rows : List (ORow ℝ)) : List ℝ := SrcC17.binWidths (srcInit fc rows).2.2.2
/-- the property `binEdges` -/
noncomputable def srcBinEdges (fc : Bool) (rows : List (ORow ℝ)) : List ℝ := SrcC17.binEdges (srcInit fc rows).2.2.1
/-- `(_wngrid, _wngrid_width)` of `create_binner()` -/
noncomputable def srcBinner (fc : Bool) (rows : List (ORow ℝ)) : List ℝ × List ℝ :=
  SrcC17.create_binner (srcInit fc rows).1 (srcInit fc rows).2.2.2
/-- `create_binner().bin_model((native_wn, native_spectrum))[1]` -/
noncomputable def srcBinModel (fc : Bool) (rows : List (ORow ℝ)) (native : List (Row ℝ)) : List ℝ :=
  (SrcC17.bin_model (native.map Row.c, native.map Row.s) (srcBinner fc rows).1 (srcBinner fc rows).2).2.1

theorem srcObs_eq (fc : Bool) (rows : List (ORow ℝ)) : srcObs fc rows = (load fc rows).rows.map (encode fc) := by
  unfold srcObs; rw [srcInit_eq]

theorem srcBw_eq (fc : Bool) (rows : List (ORow ℝ)) : srcBw fc rows = (load fc rows).bw := by
  unfold srcBw; rw [srcInit_eq]

theorem srcEdgesWl_eq (fc : Bool) (rows : List (ORow ℝ)) : srcEdgesWl fc rows = (load fc rows).edgesWl := by
  unfold srcEdgesWl; rw [srcInit_eq]

theorem srcWn_eq (fc : Bool) (rows : List (ORow ℝ)) : srcWn fc rows = (load fc rows).wavenumberGrid := by
  unfold srcWn; rw [srcInit_eq]; exact src_wavenumberGrid fc (load fc rows)

theorem srcSpectrum_eq (fc : Bool) (rows : List (ORow ℝ)) : srcSpectrum fc rows = (load fc rows).spectrum := by
  unfold srcSpectrum; rw [srcInit_eq]; exact src_spectrum fc (load fc rows)

theorem srcErrorBar_eq (fc : Bool) (rows : List (ORow ℝ)) : srcErrorBar fc rows = (load fc rows).errorBar := by
  unfold srcErrorBar; rw [srcInit_eq]; exact src_errorBar fc (load fc rows)

theorem srcBinWidths_eq (fc : Bool) (rows : List (ORow ℝ)) : srcBinWidths fc rows = (load fc rows).binWidths := by
  unfold srcBinWidths; rw [srcInit_eq]; exact src_binWidths (load fc rows)

theorem srcBinEdges_eq (fc : Bool) (rows : List (ORow ℝ)) : srcBinEdges fc rows = (load fc rows).binEdges := by
  unfold srcBinEdges; rw [srcInit_eq]; exact src_binEdges (load fc rows)

theorem srcBinner_eq (fc : Bool) (rows : List (ORow ℝ)) :
    srcBinner fc rows = ((load fc rows).createBinner.map TBin.c, (load fc rows).createBinner.map TBin.w) := by
  unfold srcBinner; rw [srcInit_eq]
  exact src_create_binner fc (load fc rows) (length_wnWidths fc rows)

theorem srcBinModel_eq (fc : Bool) (rows : List (ORow ℝ)) (native : List (Row ℝ)) :
    srcBinModel fc rows native = (load fc rows).binModel native := by
  unfold srcBinModel srcBinner; rw [srcInit_eq]
  exact src_bin_model_obs fc (load fc rows) (length_wnWidths fc rows) native

/-- **rows_integrity**, about the regenerated `ArraySpectrum.__init__` and properties: the array the source stores is the
    encoding of a permutation of the input rows — sorting moves whole rows — and `wavenumberGrid`, `spectrum`, `errorBar`
    are `10000/wl`, value, error of the *same* stored row. -/
theorem src_rows_integrity (fc : Bool) (rows : List (ORow ℝ)) :
    (load fc rows).rows ~ rows ∧
    srcObs fc rows = (load fc rows).rows.map (encode fc) ∧
    srcWn fc rows = (load fc rows).rows.map (fun r => 10000 / r.wl) ∧
    srcSpectrum fc rows = (load fc rows).rows.map ORow.v ∧
    srcErrorBar fc rows = (load fc rows).rows.map ORow.e := by
  rw [srcObs_eq, srcWn_eq, srcSpectrum_eq, srcErrorBar_eq]
  obtain ⟨h1, h2, h3, h4⟩ := rows_integrity fc rows
  exact ⟨h1, rfl, h2, h3, h4⟩

/-- the array the regenerated `__init__` stores is a permutation of the input array (whole rows) -/
theorem src_rows_perm (fc : Bool) (rows : List (ORow ℝ)) : srcObs fc rows ~ rows.map (encode fc) := by
  rw [srcObs_eq]
  exact (rows_integrity fc rows).1.map _

/-- **widths_attached** (4 columns), about the regenerated `binWidths`: entry `i` is `10000·bw/wl²` of stored row `i`
    itself -/
theorem src_widths_attached (rows : List (ORow ℝ)) :
    srcBinWidths true rows = (load true rows).rows.map (fun r => 10000 * r.bw / (r.wl * r.wl)) := by
  rw [srcBinWidths_eq]; exact widths_attached rows

/-- **perm_invariant**, about the regenerated `ArraySpectrum.__init__`: any two orders of the same rows (distinct
    wavelengths) leave the same four attributes behind -/
theorem src_perm_invariant (fc : Bool) (rows₁ rows₂ : List (ORow ℝ)) (hp : rows₁ ~ rows₂)
    (hd : (rows₁.map ORow.wl).Nodup) : srcInit fc rows₁ = srcInit fc rows₂ := by
  rw [srcInit_eq, srcInit_eq, perm_invariant fc rows₁ rows₂ hp hd]

/-- … hence the same public properties and the same binner -/
theorem src_perm_invariant_public (fc : Bool) (rows₁ rows₂ : List (ORow ℝ)) (hp : rows₁ ~ rows₂)
    (hd : (rows₁.map ORow.wl).Nodup) :
    srcWn fc rows₁ = srcWn fc rows₂ ∧ srcSpectrum fc rows₁ = srcSpectrum fc rows₂ ∧
    srcErrorBar fc rows₁ = srcErrorBar fc rows₂ ∧ srcBinWidths fc rows₁ = srcBinWidths fc rows₂ ∧
    srcBinEdges fc rows₁ = srcBinEdges fc rows₂ ∧ srcBinner fc rows₁ = srcBinner fc rows₂ := by
  simp only [srcWn, srcSpectrum, srcErrorBar, srcBinWidths, srcBinEdges, srcBinner,
    src_perm_invariant fc rows₁ rows₂ hp hd, and_self]

/-- **wn_ascending**, about the regenerated `wavenumberGrid`: strictly ascending (distinct positive wavelengths) -/
theorem src_wn_ascending (fc : Bool) (rows : List (ORow ℝ)) (hd : (rows.map ORow.wl).Nodup)
    (hpos : ∀ r ∈ rows, 0 < r.wl) : (srcWn fc rows).Pairwise (· < ·) := by
  rw [srcWn_eq]; exact wn_ascending fc rows hd hpos

/-- **edges_consistent** (4 columns), about the regenerated `_bin_edges` / `binEdges`: row by row in the stored order
    `wl + bw/2`, `wl - bw/2`; `binEdges` is `10000/` that -/
theorem src_edges_consistent (rows : List (ORow ℝ)) :
    srcEdgesWl true rows = (load true rows).rows.flatMap (fun r => [r.wl + r.bw / 2, r.wl - r.bw / 2]) ∧
    srcBinEdges true rows =
      (load true rows).rows.flatMap (fun r => [10000 / (r.wl + r.bw / 2), 10000 / (r.wl - r.bw / 2)]) := by
  rw [srcEdgesWl_eq, srcBinEdges_eq]; exact edges_consistent rows

/-- **edges_consistent** (3 columns), about the regenerated `_bin_widths` / `_bin_edges`: widths are the absolute
    differences of consecutive edges, the edges the mid-point edges of the stored wavelengths, one more edge than rows -/
theorem src_edges_consistent3 (rows : List (ORow ℝ)) (h : 1 ≤ rows.length) :
    srcBw false rows = (diffs (srcEdgesWl false rows)).map absv ∧
    srcEdgesWl false rows = (computeBinEdges ((load false rows).rows.map ORow.wl)).1 ∧
    (srcEdgesWl false rows).length = rows.length + 1 ∧ (srcBw false rows).length = rows.length := by
  rw [srcBw_eq, srcEdgesWl_eq]; exact edges_consistent3 rows h

/-- **binner_aligned**, about the regenerated `create_binner` / `bin_model`: the binner holds exactly the observation's
    centres and widths in the observation's order, so output index `i` of `bin_model` is the bin of observation `i` -/
theorem src_binner_aligned (fc : Bool) (rows : List (ORow ℝ)) (hd : (rows.map ORow.wl).Nodup)
    (hpos : ∀ r ∈ rows, 0 < r.wl) (hlen : 1 ≤ rows.length) (native : List (Row ℝ)) :
    (srcBinner fc rows).1 = srcWn fc rows ∧
    (srcBinner fc rows).2 = srcBinWidths fc rows ∧
    srcBinModel fc rows native =
      (List.zipWith (fun c w => ({ c := c, w := w } : TBin ℝ)) (srcWn fc rows)
        (srcBinWidths fc rows)).map (fun t => fluxBinVal Row.s (nativeBins false native) t.lo t.hi) := by
  rw [srcBinner_eq, srcWn_eq, srcBinWidths_eq, srcBinModel_eq]
  exact binner_aligned fc rows hd hpos hlen native

/-- the array the regenerated `TaurexSpectrum._load_from_hdf5(fn)` returns for a file whose datasets
    `Output/Spectra/instrument_wngrid / _spectrum / _noise / _wnwidth` are the columns of `file` -/
noncomputable def srcHdf5 (fn : String) (file : List (ORow ℝ)) : List (List ℝ) :=
  SrcC17.load_from_hdf5 fn (h5_Output_Spectra_instrument_wngrid := some (file.map ORow.wl))
    (h5_Output_Spectra_instrument_spectrum := some (file.map ORow.v))
    (h5_Output_Spectra_instrument_noise := some (file.map ORow.e))
    (h5_Output_Spectra_instrument_wnwidth := some (file.map ORow.bw))

theorem srcHdf5_eq (fn : String) (file : List (ORow ℝ)) :
    srcHdf5 fn file = (file.map fromTaurex).map (encode true) := src_load_from_hdf5 fn file

/-- **taurex_roundtrip**, about the regenerated `_load_from_hdf5` and the regenerated properties: the array rows built
    from a TauREx file, read back (`wavenumberGrid`; `wnwidth_to_wlwidth` of the wavelength column and the width column —
    what `__init__` stores as `_wnwidths`; `spectrum`; `errorBar`), give the stored wavenumbers, the stored wavenumber
    widths, spectrum and noise, element by element in file order (positive wavenumbers) -/
theorem src_taurex_roundtrip (fn : String) (file : List (ORow ℝ)) (hpos : ∀ r ∈ file, 0 < r.wl) :
    SrcC17.wavenumberGrid (srcHdf5 fn file) = file.map ORow.wl ∧
    SrcC17.wnwidth_to_wlwidth (SrcC17.wavelengthGrid (srcHdf5 fn file))
        ((srcHdf5 fn file).map (fun r => r.getD 3 0)) = file.map ORow.bw ∧
    SrcC17.spectrum (srcHdf5 fn file) = file.map ORow.v ∧
    SrcC17.errorBar (srcHdf5 fn file) = file.map ORow.e := by
  rw [srcHdf5_eq]
  let o : Obs ℝ := ⟨file.map fromTaurex, [], [], []⟩
  have hw := src_wavenumberGrid true o
  have hs := src_spectrum true o
  have he := src_errorBar true o
  have c3 : ((file.map fromTaurex).map (encode true)).map (fun r : List ℝ => r.getD 3 0)
      = (file.map fromTaurex).map ORow.bw := by
    simp [encode, List.map_map, Function.comp_def]
  refine ⟨?_, ?_, ?_, ?_⟩
  · rw [show (file.map fromTaurex) = o.rows from rfl, hw]
    simp only [Obs.wavenumberGrid, o, List.map_map]
    exact List.map_congr_left (fun r hr => (taurex_roundtrip r (hpos r hr)).1)
  · rw [src_wavelengthGrid, c3, src_wnwidth_to_wlwidth _ _ (Or.inl (by simp)), Np.zipWith_map_map, List.map_map]
    exact List.map_congr_left (fun r hr => (taurex_roundtrip r (hpos r hr)).2.1)
  · rw [show (file.map fromTaurex) = o.rows from rfl, hs]
    simp [Obs.spectrum, o, List.map_map, Function.comp_def, fromTaurex]
  · rw [show (file.map fromTaurex) = o.rows from rfl, he]
    simp [Obs.errorBar, o, List.map_map, Function.comp_def, fromTaurex]

/-- the attributes `(_obs_spectrum, _bin_widths, _bin_edges, _wnwidths)` after the regenerated
    `TaurexSpectrum.__init__(fn)` -/
noncomputable def srcTaurexInit (fn : String) (file : List (ORow ℝ)) : List (List ℝ) × List ℝ × List ℝ × List ℝ :=
  SrcC17.taurexspectrum_init fn (h5_Output_Spectra_instrument_wngrid := some (file.map ORow.wl))
    (h5_Output_Spectra_instrument_spectrum := some (file.map ORow.v))
    (h5_Output_Spectra_instrument_noise := some (file.map ORow.e))
    (h5_Output_Spectra_instrument_wnwidth := some (file.map ORow.bw)) (ncols := ncols true)

/-- … are those of the regenerated `ArraySpectrum.__init__` on the converted rows -/
theorem srcTaurexInit_eq (fn : String) (file : List (ORow ℝ)) :
    srcTaurexInit fn file = srcInit true (file.map fromTaurex) := by
  unfold srcTaurexInit; rw [src_taurexspectrum_init, srcInit_eq]

/-- the loaded object's `wavenumberGrid` is a re-ordering of the stored `instrument_wngrid` (positive wavenumbers) -/
theorem src_taurex_wn_perm (fn : String) (file : List (ORow ℝ)) (hpos : ∀ r ∈ file, 0 < r.wl) :
    SrcC17.wavenumberGrid (srcTaurexInit fn file).1 ~ file.map ORow.wl := by
  rw [srcTaurexInit_eq]
  have h := srcWn_eq true (file.map fromTaurex)
  unfold srcWn at h
  rw [h, (rows_integrity true (file.map fromTaurex)).2.1]
  have hp := ((rows_integrity true (file.map fromTaurex)).1).map (fun r : ORow ℝ => 10000 / r.wl)
  refine hp.trans ?_
  rw [List.map_map]
  exact List.Perm.of_eq (List.map_congr_left (fun r hr => (taurex_roundtrip r (hpos r hr)).1))

/-- **perm_invariant** for the HDF5 loader: two files holding the same rows in any two orders (distinct positive
    wavenumbers) load to the same attributes -/
theorem src_taurex_perm_invariant (fn₁ fn₂ : String) (file₁ file₂ : List (ORow ℝ)) (hp : file₁ ~ file₂)
    (hd : (file₁.map ORow.wl).Nodup) (hpos : ∀ r ∈ file₁, 0 < r.wl) :
    srcTaurexInit fn₁ file₁ = srcTaurexInit fn₂ file₂ := by
  rw [srcTaurexInit_eq, srcTaurexInit_eq]
  exact src_perm_invariant true _ _ (hp.map _) (taurex_wl_nodup file₁ hd hpos)

/-- the attributes after the regenerated `ObservedSpectrum.__init__(fn)`; `loadtxt` stands for `np.loadtxt` -/
noncomputable def srcObservedInit (fc : Bool) (fn : String) (loadtxt : String → List (List ℝ)) :
    List (List ℝ) × List ℝ × List ℝ × List ℝ :=
  SrcC17.observedspectrum_init fn loadtxt (ncols fc)

/-- … are those of the regenerated `ArraySpectrum.__init__` on the array `np.loadtxt` returned -/
theorem srcObservedInit_eq (fc : Bool) (fn : String) (loadtxt : String → List (List ℝ)) (rows : List (ORow ℝ))
    (h : loadtxt fn = rows.map (encode fc)) : srcObservedInit fc fn loadtxt = srcInit fc rows := by
  unfold srcObservedInit; rw [src_observedspectrum_init fc fn loadtxt rows h, srcInit_eq]

/-- **perm_invariant** for the text loader: two files whose arrays hold the same rows in any two orders (distinct
    wavelengths) load to the same attributes -/
theorem src_observed_perm_invariant (fc : Bool) (fn₁ fn₂ : String) (loadtxt : String → List (List ℝ))
    (rows₁ rows₂ : List (ORow ℝ)) (h₁ : loadtxt fn₁ = rows₁.map (encode fc)) (h₂ : loadtxt fn₂ = rows₂.map (encode fc))
    (hp : rows₁ ~ rows₂) (hd : (rows₁.map ORow.wl).Nodup) :
    srcObservedInit fc fn₁ loadtxt = srcObservedInit fc fn₂ loadtxt := by
  rw [srcObservedInit_eq fc fn₁ loadtxt rows₁ h₁, srcObservedInit_eq fc fn₂ loadtxt rows₂ h₂]
  exact src_perm_invariant fc rows₁ rows₂ hp hd

end Taurex.C17SrcProps
