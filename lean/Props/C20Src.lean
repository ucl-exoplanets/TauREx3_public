/-
  C20 — source tie.  `TaurexModel/Gen/SrcC20.lean` is regenerated on every run by `harness/translate.py` from the source
  text of taurex/contributions/absorption.py, contribution.py, cia.py, taurex/model/emission.py and
  taurex/util/emission.py.  The theorems below state, for EVERY carrier, that each regenerated definition is the
  hand-written model function of `TaurexModel/KTau.lean` that the C20 theorems are about and that `driver_c20` executes
  (generic induction over the loops; the one place where the model is structured differently — it adds the surface
  k-term directly where the code adds it to a zeroed buffer first — needs `0 + x = x`, an explicit hypothesis).
  A source change that alters one of these functions makes the corresponding theorem fail to check.
-/
import TaurexModel.Gen.SrcC20
import TaurexModel.KTau
import Proofs.C02SrcLemmas
set_option linter.unusedSectionVars false

namespace Taurex.C20Src
open Taurex.Emission Taurex.KTau Taurex.SrcLemmas

section
variable {α : Type} [Add α] [Sub α] [Mul α] [Div α] [Neg α] [LT α] [LE α]
  [DecidableLT α] [DecidableLE α] [Taurex.Transc α] [OfNat α 0] [OfNat α 1] [OfNat α 2] [OfNat α 4] [OfNat α 10]
  [OfNat α 10000]

/-! ### the kernels (one wavenumber) -/

/-- `contribute_ktau(lo, hi, off, sigma, density, path, weights, tau, ngrid, layer, ngauss)` with `ngauss = len(weights)`:
    `tau[layer] += -log(Σ_g exp(-tau_temp[g])·w[g])`, `tau_temp[g] = Σ_k sigma[k+layer, g]·path[k]·density[k+off]`
    (the k-loop around the g-loop of the code is, for each g, the model's sum over k) -/
theorem contribute_ktau_eq (sigma : Nat → Nat → α) (density path : Nat → α) (ws : List α) (lo hi off layer : Nat)
    (tau : Nat → α) :
    Gen.SrcC20.contribute_ktau lo hi off sigma density path (fn ws) tau layer ws.length layer
      = tau layer + ktau ((List.range ws.length).map (fun g =>
          (List.range' lo (hi - lo)).foldl (fun a k => a + sigma (k + layer) g * path k * density (k + off)) 0)) ws := by
  unfold Gen.SrcC20.contribute_ktau ktau transK
  simp only [if_true]
  congr 3
  exact foldl_zip_range (fun t w => Transc.exp (-t) * w) _ _ ws
    (fun g hg => foldl_nested (fun k g => sigma (k + layer) g * path k * density (k + off)) ws.length _ _ g hg) 0

/-- transmission: `contribute_ktau(0, n-l, l, sigma, density, path, weights, tau, …, layer=l, ngauss)` is `ktauRow` -/
theorem src_contribute_ktau (sigma3 : List (List α)) (path dens ws : List α) (n l : Nat) (tau : Nat → α) :
    Gen.SrcC20.contribute_ktau 0 (n - l) l (at3 sigma3) (fn dens) (fn path) (fn ws) tau l ws.length l
      = ktauRow sigma3 path dens ws n l (tau l) := by
  rw [contribute_ktau_eq]
  unfold ktauRow tauG
  simp only [List.range_eq_range']
  rfl

/-- `contribute_ktau_emission(lo, hi, 0, sigma, density, dz, weights, ngrid, 0, ngauss)[g]` is `kRange … g` (`g < ngauss`) -/
theorem src_contribute_ktau_emission (sigma3 : List (List α)) (dz dens : List α) (w : Nat → α) (lo hi ng g : Nat)
    (hg : g < ng) :
    Gen.SrcC20.contribute_ktau_emission lo hi 0 (at3 sigma3) (fn dens) (fn dz) w 0 ng g
      = kRange sigma3 dz dens lo hi g :=
  foldl_nested (fun k g => at3 sigma3 (k + 0) g * fn dz k * fn dens (k + 0)) ng _ _ g hg

/-- cross-sections: `contribute_tau(0, n-l, l, sigma, density, path, …, layer=l, tau)` is `tauRowX` -/
theorem src_contribute_tau (sigma path dens : List α) (n l : Nat) (tau : Nat → α) :
    Gen.SrcC20.contribute_tau 0 (n - l) l (fn sigma) (fn dens) (fn path) l tau l
      = tauRowX sigma path dens n l (tau l) := by
  unfold tauRowX
  rw [List.range_eq_range']
  exact foldl_update_at (fun k => fn sigma (k + l) * fn path k * fn dens (k + l)) l _ tau

/-- `AbsorptionContribution.contribute` in k-table mode (`self._use_ktables`) calls `contribute_ktau` with
    `self.weights.shape[0]` quadrature points: `ktauRow` -/
theorem src_absorption_contribute_k (sigma3 : List (List α)) (path dens ws : List α) (sx : Nat → α) (n l : Nat)
    (tau : Nat → α) :
    Gen.SrcC20.absorption_contribute 0 (n - l) l l (fn dens) tau (fn path) ws.length (at3 sigma3) sx true (fn ws) l
      = ktauRow sigma3 path dens ws n l (tau l) :=
  src_contribute_ktau sigma3 path dens ws n l tau

/-- … and in cross-section mode `Contribution.contribute`, i.e. `contribute_tau`: `tauRowX` -/
theorem src_absorption_contribute_x (sk : Nat → Nat → α) (sigma path dens : List α) (w : Nat → α) (ng n l : Nat)
    (tau : Nat → α) :
    Gen.SrcC20.absorption_contribute 0 (n - l) l l (fn dens) tau (fn path) ng sk (fn sigma) false w l
      = tauRowX sigma path dens n l (tau l) :=
  src_contribute_tau sigma path dens n l tau

/-- `TransmissionModel.compute_absorption`, component 0 (one wavenumber), is `depth` on the rows
    `(altitude_l, dz_l, exp(-tau_l))` — the rows the driver builds, with the transmittance `np.exp(-tau)` the code forms
    first (`np.sum(…, axis=0)` read as the left-to-right sum from 0) -/
theorem src_compute_absorption (rp rs : α) (ap dz taus : List α) :
    Gen.SrcC20.compute_absorption (fn taus) (fn dz) (fn ap) ap.length rp rs
      = depth rp rs ((List.range ap.length).map (fun l => (ap.getD l 0, dz.getD l 0, Transc.exp (-(taus.getD l 0))))) := by
  unfold Gen.SrcC20.compute_absorption depth
  simp only [List.foldl_map, List.range_eq_range']
  rfl

/-! ### the emission integral in k-table mode -/

/-- the Planck function the emission integral calls (`black_body`, regenerated in this file too) is `planck` -/
theorem src_black_body (pi h c kb lit nu t : α) :
    Gen.SrcC20.black_body nu t kb pi h c lit = planck (pcOf pi h c kb lit) nu t := rfl

/-- what `contrib.contribute(self, lo, hi, off, layer, density, tau, path_length=path)` runs for the contribution at
    position `ci` of `non_molecule_absorption` on the one column of the `(1, nw)` buffer: `Contribution.contribute`
    (kind `lin`) or `CIAContribution.contribute` (kind `sq`, at least one pair), as regenerated from the source -/
def dispatchK (nonmol : List (Kind × List α)) (ci lo hi off layer : Nat) (density : Nat → α) (buf : α)
    (path : Nat → α) : α :=
  let c := nonmol.getD ci (Kind.lin, [])
  match c.1 with
  | .lin => Gen.SrcC20.contribution_contribute lo hi off layer density (fun _ => buf) path (fn c.2) layer
  | .sq => Gen.SrcC20.cia_contribute lo hi off layer density (fun _ => buf) path (fn c.2) 1 layer

theorem dispatchK_eq (nonmol : List (Kind × List α)) (dz dens : List α) (ci lo hi : Nat) (buf : α) :
    dispatchK nonmol ci lo hi 0 0 (fn dens) buf (fn dz) = tauAcc (nonmol.getD ci (Kind.lin, [])) dz dens lo hi buf := by
  unfold dispatchK
  generalize nonmol.getD ci (Kind.lin, []) = c
  obtain ⟨kd, sg⟩ := c
  cases kd
  · exact foldl_update_at (fun k => fn sg (k + 0) * fn dz k * fn dens (k + 0)) 0 _ (fun _ => buf)
  · unfold Gen.SrcC20.cia_contribute
    simp only [Nat.zero_lt_one, decide_true, if_true]
    exact foldl_update_at (fun k => fn sg (k + 0) * fn dz k * fn dens (k + 0) * fn dens (k + 0)) 0 _ (fun _ => buf)

/-- what `molecule_absorption.contribute(…)` runs: `AbsorptionContribution.contribute` in k-table mode with the
    k-coefficients `sigma3` and weights `ws` (the `sigma_xsec` of the cross-section branch is not read) -/
def molK (sigma3 : List (List α)) (ws : List α) (lo hi off layer : Nat) (density : Nat → α) (buf : α)
    (path : Nat → α) : α :=
  Gen.SrcC20.absorption_contribute lo hi off layer density (fun _ => buf) path ws.length (at3 sigma3) (fun _ => 0) true
    (fn ws) layer

/-- **`EmissionModel.evaluate_emission_ktables`**, component `I` of the returned tuple, for one wavenumber `nu` and one
    emission angle (`self._mu_quads[q] = mq`), with the molecular absorption present (`molecule_absorption is not None`),
    is the model's `emissionK`.  Instantiation of what the code reads: `non_molecule_absorption` = the contributions
    `nonmol` dispatched as in `dispatchK`, `molecule_absorption.contribute` = `molK` (k-table mode),
    `molecule_absorption.sigma_xsec[:, wn, :]` = `sigma3`, `.weights` = `ws`, `deltaz / densityProfile /
    temperatureProfile` = the model's lists, `nLayers` their length.  The statements that only feed the `tau` component
    (the only place where this function uses `self._clamp`) are dead with respect to `I` and dropped by the translator.
    Generic in the carrier up to `h0 : 0 + x = x` (the code accumulates the surface k-term into a zeroed buffer, the model
    adds it directly). -/
theorem src_evaluate_emission_ktables (h0 : ∀ x : α, (0 : α) + x = x) (pi h c kb lit mq nu : α)
    (nonmol : List (Kind × List α)) (sigma3 : List (List α)) (ws dz dens temps : List α) :
    Gen.SrcC20.evaluate_emission_ktables nu ws.length kb pi h c lit (dispatchK nonmol) (fn dz) (fn dens) true
        (molK sigma3 ws) mq temps.length nonmol.length (at3 sigma3) (fn temps) (fn ws)
      = emissionK (pcOf pi h c kb lit) nonmol sigma3 ws dz dens temps nu ((1 : α) / mq) := by
  have hnon := contribLoopK_eq (dispatchK_eq nonmol dz dens)
  have hpair := contribLoopK_pair (dispatchK_eq nonmol dz dens)
  have hsurf : molK sigma3 ws 0 temps.length 0 0 (fn dens) (0 : α) (fun j => fn dz j * ((1 : α) / mq))
      = ktau ((List.range ws.length).map (kRangeScaled sigma3 dz dens ((1 : α) / mq) 0 temps.length)) ws := by
    unfold molK Gen.SrcC20.absorption_contribute
    simp only [if_true]
    rw [contribute_ktau_eq, h0]
    rfl
  have hsumL : ∀ l, (List.range' 0 ws.length).foldl (fun (a : α) r => a + Transc.exp
        ((-(Gen.SrcC20.contribute_ktau_emission (l + 1) temps.length 0 (at3 sigma3) (fn dens) (fn dz) (fn ws) 0 ws.length r))
          * ((1 : α) / mq)) * fn ws r) 0
      = transKmu ((List.range ws.length).map (kRange sigma3 dz dens (l + 1) temps.length)) ws ((1 : α) / mq) :=
    fun l => foldl_zip_range (fun t w => Transc.exp ((-t) * ((1 : α) / mq)) * w) _ _ ws
      (fun g hg => src_contribute_ktau_emission sigma3 dz dens (fn ws) (l + 1) temps.length ws.length g hg) 0
  have hsumD : ∀ l, (List.range' 0 ws.length).foldl (fun (a : α) r => a + Transc.exp
        ((-(Gen.SrcC20.contribute_ktau_emission l (l + 1) 0 (at3 sigma3) (fn dens) (fn dz) (fn ws) 0 ws.length r
            + Gen.SrcC20.contribute_ktau_emission (l + 1) temps.length 0 (at3 sigma3) (fn dens) (fn dz) (fn ws) 0 ws.length r))
          * ((1 : α) / mq)) * fn ws r) 0
      = transKmu ((List.range ws.length).map (fun g => kRange sigma3 dz dens l (l + 1) g
          + kRange sigma3 dz dens (l + 1) temps.length g)) ws ((1 : α) / mq) :=
    fun l => foldl_zip_range (fun t w => Transc.exp ((-t) * ((1 : α) / mq)) * w) _ _ ws
      (fun g hg => by rw [src_contribute_ktau_emission sigma3 dz dens (fn ws) l (l + 1) ws.length g hg,
        src_contribute_ktau_emission sigma3 dz dens (fn ws) (l + 1) temps.length ws.length g hg]) 0
  unfold Gen.SrcC20.evaluate_emission_ktables emissionK
  simp only [if_true, hpair, hnon, hsurf, hsumL, hsumD, List.range_eq_range']
  exact (List.foldl_hom (fun st : α × α × α × α => st.2.2.2) fun _ _ => rfl).symm

/-- **`EmissionModel.evaluate_emission_ktables`** with NO molecular absorption in the contribution list
    (`molecule_absorption is None`: a model built without an AbsorptionContribution, and every non-molecular entry of
    `model_contrib()`): component `I` is the model's `emissionKNoMol`, whatever stands for the unread
    `molecule_absorption.contribute / .sigma_xsec / .weights` and `ngauss`. -/
theorem src_evaluate_emission_ktables_nomol (pi h c kb lit mq nu : α) (nonmol : List (Kind × List α))
    (dz dens temps : List α) (ng : Nat)
    (molc : Nat → Nat → Nat → Nat → (Nat → α) → α → (Nat → α) → α) (sk : Nat → Nat → α) (w : Nat → α) :
    Gen.SrcC20.evaluate_emission_ktables nu ng kb pi h c lit (dispatchK nonmol) (fn dz) (fn dens) false
        molc mq temps.length nonmol.length sk (fn temps) w
      = emissionKNoMol (pcOf pi h c kb lit) nonmol dz dens temps nu ((1 : α) / mq) := by
  have hnon := contribLoopK_eq (dispatchK_eq nonmol dz dens)
  have hpair := contribLoopK_pair (dispatchK_eq nonmol dz dens)
  unfold Gen.SrcC20.evaluate_emission_ktables emissionKNoMol
  simp only [Bool.false_eq_true, if_false, hpair, hnon, List.range_eq_range']
  exact (List.foldl_hom (fun st : α × α × α × α => st.2.2.2) fun _ _ => rfl).symm

/-- components `_mu`, `_w` of the tuple `evaluate_emission_ktables` returns, for the `leggauss` node `x` / weight `wt`
    (`_mu_quads = muOf x`, `_wi_quads = wOf wt` by `set_num_gauss`, tied in `Props/C02Src.lean`): what `fluxOf` uses -/
theorem src_evaluate_emission_ktables_mu (nu x : α) (ng : Nat) :
    Gen.SrcC20.evaluate_emission_ktables_mu nu ng (muOf x) = muInvOf x := rfl

theorem src_evaluate_emission_ktables_w (nu wt : α) (ng : Nat) :
    Gen.SrcC20.evaluate_emission_ktables_w nu ng (wOf wt) = wOf wt := rfl

end

end Taurex.C20Src
