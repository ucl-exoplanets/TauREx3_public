/-
  C03 — optical depth composes additively over contributions and species.
  Statements about `Taurex.Transmission` (tau loop, with and without the C01 early exit) and `Taurex.Sigma`
  (how `sigma_xsec` is assembled from per-species components) at the carrier ℝ.
-/
import Proofs.C03
import Proofs.C03Mix
import Proofs.C20

open Finset

namespace Taurex.C03
open Taurex.Transmission Taurex.Sigma

/-- the optical depth of a concatenated contribution list is the sum of the parts -/
theorem tauFull_append (n : ℕ) (path dens : ℕ → ℝ) (l : ℕ) (cs ds : List (Contrib ℝ)) (wn : ℕ) :
    tauFull n path dens l (cs ++ ds) wn = tauFull n path dens l cs wn + tauFull n path dens l ds wn := by
  simp [tauFull_eq_sum]

/-- … and does not depend on the order in which contributions were added -/
theorem tauFull_perm (n : ℕ) (path dens : ℕ → ℝ) (l : ℕ) (cs cs' : List (Contrib ℝ)) (h : cs.Perm cs') (wn : ℕ) :
    tauFull n path dens l cs wn = tauFull n path dens l cs' wn := by
  rw [tauFull_eq_sum, tauFull_eq_sum]
  exact (h.map _).sum_eq

/-- transmittance of the whole = product of the transmittances of each contribution alone -/
theorem transmittance_mul (n : ℕ) (path dens : ℕ → ℝ) (l : ℕ) (cs : List (Contrib ℝ)) (wn : ℕ) :
    Transmission.trans (tauFull n path dens l cs wn)
      = (cs.map (fun c => Transmission.trans (tauFull n path dens l [c] wn))).prod := by
  rw [tauFull_eq_sum, trans_sum, List.map_map]
  simp only [tauFull_single]
  rfl

/-- the two-contribution instance of the examples: an absorber and a CIA-like term -/
def nv : List (Contrib ℝ) :=
  [{ kind := .lin, sigma := fun _ wn => if wn = 0 then 20 else 0 }, { kind := .sq, sigma := fun _ _ => 1 }]

theorem nv_nonneg : ∀ c ∈ nv, c.Nonneg := by
  intro c hc
  simp only [nv, List.mem_cons, List.not_mem_nil, or_false] at hc
  rcases hc with rfl | rfl <;> intro l wn <;> simp only <;> [split <;> norm_num; norm_num]

example := tauFull_perm 2 (fun _ => (1 : ℝ)) (fun _ => (1 : ℝ)) 0 nv nv.reverse (List.reverse_perm nv).symm 0
example := transmittance_mul 2 (fun _ => (1 : ℝ)) (fun _ => (1 : ℝ)) 0 nv 1

/-- each contribution's optical depth is the sum over its components (one per molecule / pair), so its
    transmittance is the product over the components (what `model_full_contrib` returns) -/
theorem component_sum (n : ℕ) (path dens : ℕ → ℝ) (l : ℕ) (κ : Kind) (comps : List (ℕ → ℕ → ℝ)) (wn : ℕ) :
    tauFull n path dens l [{ kind := κ, sigma := sumComps comps }] wn
      = (comps.map (fun s => tauFull n path dens l [{ kind := κ, sigma := s }] wn)).sum := by
  simp only [tauFull_single]
  induction comps with
  | nil => rw [sumComps_nil]; exact inc_zero n path dens l _ (fun _ _ => rfl) wn
  | cons s comps ih =>
    rw [sumComps_cons, inc_add n path dens l κ s (sumComps comps) wn, ih]
    simp

theorem component_product (n : ℕ) (path dens : ℕ → ℝ) (l : ℕ) (κ : Kind) (comps : List (ℕ → ℕ → ℝ)) (wn : ℕ) :
    Transmission.trans (tauFull n path dens l [{ kind := κ, sigma := sumComps comps }] wn)
      = (comps.map (fun s => Transmission.trans (tauFull n path dens l [{ kind := κ, sigma := s }] wn))).prod := by
  rw [component_sum, trans_sum, List.map_map]; rfl

example := component_product 2 (fun _ => (1 : ℝ)) (fun _ => (1 : ℝ)) 0 .lin
  [compAbs (fun _ _ => 3) (fun _ => 1 / 2), compAbs (fun _ wn => wn) (fun _ => 1 / 4)] 1

/-- a species at zero abundance contributes a zero component, and a zero component changes nothing -/
theorem zero_abundance (xsec : ℕ → ℕ → ℝ) (mix1 : ℕ → ℝ) (comps : List (ℕ → ℕ → ℝ)) :
    compAbs xsec (fun _ => 0) = (fun _ _ => 0) ∧ compCIA xsec (fun _ => 0) mix1 = (fun _ _ => 0) ∧
    compCIA xsec mix1 (fun _ => 0) = (fun _ _ => 0) ∧
    sumComps ((fun _ _ => (0 : ℝ)) :: comps) = sumComps comps := by
  refine ⟨?_, ?_, ?_, ?_⟩
  · funext l wn; simp [compAbs]
  · funext l wn; simp [compCIA]
  · funext l wn; simp [compCIA]
  · rw [sumComps_cons]; funext l wn; simp

example := zero_abundance (fun _ wn => (wn : ℝ) + 1) (fun _ => 1 / 2) [compAbs (fun _ _ => 3) (fun _ => 1 / 2)]

/-- a component's weighted opacity is proportional to its abundance (bilinear in the two partners for CIA),
    and so is its optical depth -/
theorem sigma_prop (xsec : ℕ → ℕ → ℝ) (mix mix2 : ℕ → ℝ) (s : ℝ) (l wn : ℕ) :
    compAbs xsec (fun j => s * mix j) l wn = s * compAbs xsec mix l wn ∧
    compCIA xsec (fun j => s * mix j) mix2 l wn = s * compCIA xsec mix mix2 l wn ∧
    compCIA xsec mix (fun j => s * mix2 j) l wn = s * compCIA xsec mix mix2 l wn ∧
    compScaled (fun w => xsec 0 w) (fun j => s * mix j) l wn = s * compScaled (fun w => xsec 0 w) mix l wn := by
  refine ⟨?_, ?_, ?_, ?_⟩ <;> simp only [compAbs, compCIA, compScaled] <;> ring

theorem tau_prop (n : ℕ) (path dens : ℕ → ℝ) (l : ℕ) (κ : Kind) (sig : ℕ → ℕ → ℝ) (s : ℝ) (wn : ℕ) :
    tauFull n path dens l [{ kind := κ, sigma := fun a b => s * sig a b }] wn
      = s * tauFull n path dens l [{ kind := κ, sigma := sig }] wn := by
  rw [tauFull_single, tauFull_single]
  exact inc_smul n path dens l κ s sig wn

example := sigma_prop (fun _ wn => (wn : ℝ) + 1) (fun _ => 1 / 2) (fun _ => 1 / 3) 2 0 1

/-! ### with the early exit of `path_integral` (C01): "to within the saturation cut-off" -/

/-- a single contribution is never cut (the row starts at 0 ≤ 10) -/
theorem tauCut_single (n nwn : ℕ) (hn : 0 < nwn) (path dens : ℕ → ℝ) (l : ℕ) (c : Contrib ℝ) :
    tauCut n nwn path dens l [c] = tauFull n path dens l [c] := by
  simp [tauCut, tauFull, tauCutFrom, tauFullFrom, not_saturated_zero nwn hn]

/-- the returned transmittance of a multi-contribution model differs from the product of the transmittances of
    its contributions run alone (`model_contrib`) by less than `exp(-10)`, and is never below it -/
theorem product_within_cutoff (n nwn : ℕ) (path dens : ℕ → ℝ) (l : ℕ) (hp : ∀ k < n - l, 0 ≤ path k)
    (hd : ∀ j < n, 0 ≤ dens j) (cs : List (Contrib ℝ)) (hcs : ∀ c ∈ cs, c.Nonneg) (wn : ℕ) (hwn : wn < nwn) :
    (cs.map (fun c => Transmission.trans (tauCut n nwn path dens l [c] wn))).prod
        ≤ Transmission.trans (tauCut n nwn path dens l cs wn) ∧
    Transmission.trans (tauCut n nwn path dens l cs wn)
        - (cs.map (fun c => Transmission.trans (tauCut n nwn path dens l [c] wn))).prod ≤ Transmission.trans 10 := by
  simp only [tauCut_single n nwn (Nat.zero_lt_of_lt hwn), ← transmittance_mul]
  exact trans_cut_band n nwn path dens l hp hd cs hcs wn hwn

example := product_within_cutoff 2 2 (fun _ => (1 : ℝ)) (fun _ => (1 : ℝ)) 0 (fun _ _ => by norm_num)
  (fun _ _ => by norm_num) nv nv_nonneg 1 (by norm_num)

/-- with the early exit, two insertion orders give transmittances within `exp(-10)` of each other -/
theorem order_within_cutoff (n nwn : ℕ) (path dens : ℕ → ℝ) (l : ℕ) (hp : ∀ k < n - l, 0 ≤ path k)
    (hd : ∀ j < n, 0 ≤ dens j) (cs cs' : List (Contrib ℝ)) (hcs : ∀ c ∈ cs, c.Nonneg) (h : cs.Perm cs')
    (wn : ℕ) (hwn : wn < nwn) :
    |Transmission.trans (tauCut n nwn path dens l cs wn) - Transmission.trans (tauCut n nwn path dens l cs' wn)|
      ≤ Transmission.trans 10 := by
  have hcs' : ∀ c ∈ cs', c.Nonneg := fun c hc => hcs c (h.mem_iff.2 hc)
  have a := trans_cut_band n nwn path dens l hp hd cs hcs wn hwn
  have b := trans_cut_band n nwn path dens l hp hd cs' hcs' wn hwn
  rw [tauFull_perm n path dens l cs cs' h wn] at a
  -- both returned transmittances lie in the band above the transmittance of the (common) full sum
  exact abs_sub_le_of_band a.1 a.2 b.1 b.2

example := order_within_cutoff 2 2 (fun _ => (1 : ℝ)) (fun _ => (1 : ℝ)) 0 (fun _ _ => by norm_num)
  (fun _ _ => by norm_num) nv nv.reverse nv_nonneg (List.reverse_perm nv).symm 0 (by norm_num)

/-! ### correlated-k opacities (`opacity_method = ktables`): the molecular absorption among other sources -/

open Taurex.KTau in
/-- the correlated-k kernel (`contribute_ktau`: `tau[layer,wn] += -log Σ_g w_g exp(-tau_g)`) ADDS the molecular optical depth to
    whatever the sources added earlier have put into the layer (`acc`) -/
theorem ktable_adds_to_earlier (sigma3 : List (List ℝ)) (path dens ws : List ℝ) (n l : ℕ) (acc : ℝ) :
    ktauRow sigma3 path dens ws n l acc = acc + ktauRow sigma3 path dens ws n l 0 := by
  unfold ktauRow; ring

example : KTau.ktauRow [[2, 5], [3, 7]] [1, 1] [1, 1] [(1/4 : ℝ), 3/4] 2 0 6
    = 6 + KTau.ktauRow [[2, 5], [3, 7]] [1, 1] [1, 1] [(1/4 : ℝ), 3/4] 2 0 0 := ktable_adds_to_earlier _ _ _ _ _ _ _

open Taurex.KTau in
/-- hence the layer's optical depth does not depend on whether a cross-section source (`contribute_tau`, `tauRowX`) was added
    before or after the k-table absorption -/
theorem ktable_order (sigma3 : List (List ℝ)) (sigma path dens ws : List ℝ) (n l : ℕ) (acc : ℝ) :
    ktauRow sigma3 path dens ws n l (tauRowX sigma path dens n l acc)
      = tauRowX sigma path dens n l (ktauRow sigma3 path dens ws n l acc) := by
  rw [tauRowX_acc, tauRowX_acc sigma path dens n l (ktauRow sigma3 path dens ws n l acc)]
  unfold ktauRow; ring

example : KTau.ktauRow [[2, 5], [3, 7]] [1, 1] [1, 1] [(1/4 : ℝ), 3/4] 2 0 (KTau.tauRowX [4, 9] [1, 1] [1, 1] 2 0 0)
    = KTau.tauRowX [4, 9] [1, 1] [1, 1] 2 0 (KTau.ktauRow [[2, 5], [3, 7]] [1, 1] [1, 1] [(1/4 : ℝ), 3/4] 2 0 0) :=
  ktable_order _ _ _ _ _ _ _ _

open Taurex.KTau in
/-- and the transmittance of the two sources together is the product of the transmittances of each alone -/
theorem ktable_product (sigma3 : List (List ℝ)) (sigma path dens ws : List ℝ) (n l : ℕ) :
    Transmission.trans (ktauRow sigma3 path dens ws n l (tauRowX sigma path dens n l 0))
      = Transmission.trans (tauRowX sigma path dens n l 0) * Transmission.trans (ktauRow sigma3 path dens ws n l 0) := by
  rw [ktable_adds_to_earlier]
  exact trans_add _ _

example := ktable_product [[2, 5], [3, 7]] [4, 9] [1, 1] [1, 1] [(1/4 : ℝ), 3/4] 2 0

/-! ### which abundance a component is weighted with: the look-up rule, and chemistries with freed molecules -/

open Taurex.MixLookup in
/-- `get_gas_mix_profile(name)` hands out the row of the ACTIVE table when the name is among the active gases, otherwise the
    row of the INACTIVE table (the row at `names.index(name)`: the first pair with that name) -/
theorem gasMix_rule (active inactive : List (String × (ℕ → ℝ))) (name : String) :
    (∀ pre post r, active = pre ++ (name, r) :: post → hasName pre name = false →
      gasMix active inactive name = some r) ∧
    (hasName active name = false → gasMix active inactive name = rowOf inactive name) := by
  constructor
  · intro pre post r h hpre
    simp [gasMix, rowOf, h, List.find?_append, find?_of_not_hasName pre name hpre]
  · intro hA
    simp [gasMix, rowOf, find?_of_not_hasName active name hA]

open Taurex.MixLookup in
example : gasMix [("H2O", fun _ => (1 / 100 : ℝ)), ("CH4", fun _ => 2 / 100)] [("H2", fun _ => 97 / 100)] "CH4"
    = some (fun _ => 2 / 100) :=
  (gasMix_rule _ _ "CH4").1 [("H2O", fun _ => 1 / 100)] [] _ rfl (by decide)

open Taurex.MixLookup in
/-- in a chemistry wrapped with `MakeFreeMixin`, a molecule of the wrapped chemistry that has been replaced by a free gas is
    looked up with the FREE gas's profile, renormalised by the column sum of the freed atmosphere — not with the row of the
    wrapped chemistry's own table; so its absorption component is `cross-section x (free abundance / column sum)`.
    Stated for a freed absorbing molecule (first part) and a freed non-absorbing one (second part). -/
theorem freed_weight (active inactive : List (String × (ℕ → ℝ))) (free : List (Free ℝ)) (f : Free ℝ)
    (hf : free.find? (fun g => g.mol == f.mol) = some f) :
    (hasName active f.mol = true →
      gasMix (freedActive active inactive free) (freedInactive active inactive free) f.mol
        = some (fun l => f.prof l / normFactor active inactive free l)) ∧
    (hasName active f.mol = false → hasName inactive f.mol = true →
      gasMix (freedActive active inactive free) (freedInactive active inactive free) f.mol
        = some (fun l => f.prof l / normFactor active inactive free l)) := by
  constructor
  · intro hA
    unfold gasMix freedActive rawActive
    rw [rowOf_normalised, replaceRows_freed active _ free f hf hA]
    rfl
  · intro hA hI
    unfold gasMix freedActive freedInactive
    rw [rowOf_normalised, rawActive_none active inactive free f.mol hA hI, rowOf_normalised]
    unfold rawInactive
    rw [replaceRows_freed inactive _ free f hf hI]
    rfl

open Taurex.MixLookup Taurex.Sigma in
/-- … and the absorption component of the freed molecule is its cross-section weighted with that renormalised free abundance,
    hence proportional to it -/
theorem freed_component (active inactive : List (String × (ℕ → ℝ))) (free : List (Free ℝ)) (f : Free ℝ)
    (hf : free.find? (fun g => g.mol == f.mol) = some f) (hA : hasName active f.mol = true) (xsec : ℕ → ℕ → ℝ) :
    ∃ mix, gasMix (freedActive active inactive free) (freedInactive active inactive free) f.mol = some mix ∧
      ∀ l wn, compAbs xsec mix l wn = xsec l wn * (f.prof l / normFactor active inactive free l) :=
  ⟨_, (freed_weight active inactive free f hf).1 hA, fun l wn => by simp [compAbs]⟩

-- non-vacuity: a file chemistry H2O (absorbing, 1e-5) / H2 / He in which H2O is replaced by a free gas at 1e-2: the
-- component weight is 1e-2 / (1e-2 + 0.85 + 0.15), not the file's 1e-5
open Taurex.MixLookup in
example : gasMix (freedActive [("H2O", fun _ => (1 / 100000 : ℝ))] [("H2", fun _ => 85 / 100), ("He", fun _ => 15 / 100)]
      [⟨"H2O", fun _ => 1 / 100, true⟩])
    (freedInactive [("H2O", fun _ => (1 / 100000 : ℝ))] [("H2", fun _ => 85 / 100), ("He", fun _ => 15 / 100)]
      [⟨"H2O", fun _ => 1 / 100, true⟩]) "H2O"
    = some (fun l => (1 / 100 : ℝ) / normFactor [("H2O", fun _ => (1 / 100000 : ℝ))]
        [("H2", fun _ => 85 / 100), ("He", fun _ => 15 / 100)] [⟨"H2O", fun _ => 1 / 100, true⟩] l) :=
  (freed_weight _ _ _ ⟨"H2O", fun _ => 1 / 100, true⟩ (by simp [List.find?])).1 (by decide)

open Taurex.MixLookup in
example : normFactor [("H2O", fun _ => (1 / 100000 : ℝ))] [("H2", fun _ => 85 / 100), ("He", fun _ => 15 / 100)]
    [⟨"H2O", fun _ => 1 / 100, true⟩] 0 = 1 / 100 + 85 / 100 + 15 / 100 := by
  simp [normFactor, colSum, rawActive, rawInactive, replaceRows, newGases, hasName, List.find?]
  norm_num

/-! ### a species at zero abundance changes nothing — also not the mean molecular weight (hence the scale height)

  `MixLookup.muOf` is the mean molecular weight of the mixture a makefree chemistry publishes (`MakeFreeMixin.compute_mu_profile`:
  the weight of the published tables).  The theorems below are the regression statements for the `compute_mu_profile` defect of
  `MakeFreeMixin` that DESIGN §6 records under C03: a `compute_mu_profile` that weighs the WRAPPED chemistry's own table keeps, for a molecule of a chemistry file freed to zero
  abundance, the file's abundance in `mu`. -/

open Taurex.MixLookup in
/-- a species whose (freed) abundance is zero in a layer does not enter the mean molecular weight of that layer, whichever
    table it is listed in and wherever it stands: the atmosphere weighs what it weighs without the species -/
theorem zero_species_weighs_nothing (mass : String → ℝ) (pre post other : List (String × (ℕ → ℝ))) (n : String)
    (r : ℕ → ℝ) (l : ℕ) (h : r l = 0) :
    muOf mass (pre ++ (n, r) :: post) other l = muOf mass (pre ++ post) other l ∧
    muOf mass other (pre ++ (n, r) :: post) l = muOf mass other (pre ++ post) l := by
  unfold muOf
  rw [tableWeight_zero_row mass pre post n r l h]
  exact ⟨rfl, rfl⟩

open Taurex.MixLookup in
/-- the weight is linear in the tables: multiplying every row of both by one constant `c` (a renormalisation `1 / column sum`
    whose column sum is the same in every layer) multiplies `mu` by `c`, so such a renormalisation is not lost on the way to
    `mu`.  This is the instance at a constant of `MixLookup.muOf_scale`, which carries a factor that differs from layer to
    layer (as `1 / normFactor … l` of `MixLookup.freedActive` does). -/
theorem mu_of_renormalised (mass : String → ℝ) (active inactive : List (String × (ℕ → ℝ))) (c : ℝ) (l : ℕ) :
    muOf mass (active.map fun p => (p.1, fun k => p.2 k * c)) (inactive.map fun p => (p.1, fun k => p.2 k * c)) l
      = muOf mass active inactive l * c :=
  muOf_scale mass active inactive (fun _ => c) l

-- non-vacuity (the reproducer `findings/c03_makefree_zero_abundance.py`): H2 6/7, He 1/7 published, CO2 freed to zero:
-- the weight is that of the H2/He mixture (masses 2, 4, 44 for the example)
open Taurex.MixLookup in
example : muOf (fun n => if n == "H2" then (2 : ℝ) else if n == "He" then 4 else 44)
    [("CO2", fun _ => 0)] [("H2", fun _ => 6 / 7), ("He", fun _ => 1 / 7)] 0 = 2 * (6 / 7) + 4 * (1 / 7) := by
  simp [muOf, tableWeight]; ring

end Taurex.C03
