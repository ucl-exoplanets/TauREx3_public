/-
  C18 — parallel post-processing is invariant to how samples are split across ranks.
  Theorems about `TaurexModel/Variance.lean` (the definitions `driver_c18` executes on Float), over ℝ
  (and one kernel-decided witness over ℚ).  A sample is a pair `(value, weight)`.
    accOf            = OnlineVariance.update over a rank's samples
    pooledVariance   = OnlineVariance.parallelVariance on every rank (NaN recognised by value),
                       `ser` = the pickle round trip of every gathered object, `id` = no mpi4py
    partition size   = the blocks `samples[rank::size]`, `splitVariance` = the whole post-processing loop
-/
import Proofs.C18
import Proofs.C18Derived

namespace Taurex.C18
open Taurex Taurex.Variance

/-- West's streaming update: after any samples whose non-empty weight prefixes have positive sums, the
    accumulators hold the count, the total weight, the weighted mean `Σwx/Σw` and `m2 = Σ w (x - mean)²`. -/
theorem update_invariant (l : List (ℝ × ℝ)) (hne : l ≠ [])
    (hpos : ∀ k, 0 < k → k ≤ l.length → 0 < wsum (l.take k)) :
    (accOf l).count = l.length ∧ (accOf l).wcount = wsum l ∧ (accOf l).mean = wmean l ∧
      (accOf l).m2 = sumBy (fun p => p.2 * ((p.1 - wmean l) * (p.1 - wmean l))) l := by
  have hp : PosPrefix l := fun k hk hkl => by have := hpos k hk hkl; rwa [wsum_eq] at this
  obtain ⟨h1, h2, h3, h4⟩ := accOf_west l hp
  have hm : (accOf l).mean = wmean l := by rw [wmean_eq]; exact eq_div_of_mul_eq (hp.total hne).ne' h3
  refine ⟨h1, by rw [h2, wsum_eq], hm, ?_⟩
  rw [sumBy_eq, sum_sq_dev, R, ← hm, h4]
  linear_combination (-(accOf l).mean) * h3

example : (accOf [((1 : ℝ), (0.2 : ℝ)), (4, 0.3), (2, 0.5)]).mean = wmean [((1 : ℝ), (0.2 : ℝ)), (4, 0.3), (2, 0.5)] :=
  (update_invariant _ (by simp) (by
    intro k hk hkl
    rw [wsum_eq]
    exact posPrefix_of_pos nv_weights_pos k hk hkl)).2.2.1

/-- Pooled = two-pass, for ANY assignment of the samples to ranks (blocks may be empty or hold one sample),
    through the serialisation of every gathered value: with positive weights and at least two samples in total,
    every rank's `parallelVariance` is the two-pass weighted variance of the concatenation of the blocks. -/
theorem combine_two_pass (parts : List (List (ℝ × ℝ))) (hpos : ∀ part ∈ parts, ∀ p ∈ part, 0 < p.2)
    (h2 : 2 ≤ parts.flatten.length) :
    pooledVariance ser parts = some (Val.fin (twoPassVar parts.flatten)) :=
  parallelVariance_eq exchange_ser (summ_forall hpos) h2

/-- non-vacuity: 3 ranks holding 2 / 1 / 0 samples -/
example : pooledVariance ser [[((1 : ℝ), (0.2 : ℝ)), (4, 0.3)], [(2, 0.5)], []] =
    some (Val.fin (twoPassVar [((1 : ℝ), (0.2 : ℝ)), (4, 0.3), (2, 0.5)])) :=
  combine_two_pass _ (fun part hpart p hp => nv_weights_pos p (List.mem_flatten.2 ⟨part, hpart, hp⟩)) (by simp)

/-- the pooled mean computed on the way is the weighted mean of all samples -/
theorem combine_mean (parts : List (List (ℝ × ℝ))) (hpos : ∀ part ∈ parts, ∀ p ∈ part, 0 < p.2)
    (hne : parts.flatten ≠ []) :
    parallelMean nanByValue ser (parts.map accOf) = some (Val.fin (wmean parts.flatten)) :=
  parallelMean_eq exchange_ser (summ_forall hpos) hne

/-- With fewer than two samples in total every rank reports NaN, as a single process does. -/
theorem pooled_lt2 (exch : Obj ℝ → Obj ℝ) (parts : List (List (ℝ × ℝ)))
    (hpos : ∀ part ∈ parts, ∀ p ∈ part, 0 < p.2) (h2 : parts.flatten.length < 2) :
    pooledVariance exch parts = some Val.nan :=
  parallelVariance_lt2 (summ_forall hpos) h2

example : pooledVariance ser [[], [((3 : ℝ), (1 : ℝ))], []] = some Val.nan :=
  pooled_lt2 _ _ nv_single_pos (by simp)

/-- The single process without mpi4py (nothing is serialised, one block) computes the same two-pass variance. -/
theorem single_process_two_pass (xs : List (ℝ × ℝ)) (hpos : ∀ p ∈ xs, 0 < p.2) (h2 : 2 ≤ xs.length) :
    pooledVariance id [xs] = some (Val.fin (twoPassVar xs)) := by
  rw [pooledVariance_of_perm exchange_id (flatten_singleton_perm xs) hpos, if_neg (by omega)]

/-- The rank slices `xs[r::size]`, `r < size`, are a partition of the samples: concatenated they are a
    permutation of `xs` (each sample exactly once), there are `size` of them, and on the index list `range n`
    slice `r` is exactly the indices below `n` congruent to `r`. -/
theorem strided_partition {β : Type} {size : ℕ} (hs : 0 < size) (xs : List β) :
    (partition size xs).flatten.Perm xs ∧ (partition size xs).length = size ∧
      ∀ n r i, r < size → (i ∈ strided r size (List.range n) ↔ i < n ∧ i % size = r) :=
  ⟨partition_flatten_perm hs xs, partition_length size xs, fun _ _ _ hr => mem_strided_range hr⟩

example : (partition 2 [10, 11, 12]).flatten.Perm [10, 11, 12] ∧ partition 2 [10, 11, 12] = [[10, 12], [11]] :=
  ⟨(strided_partition (by norm_num) _).1, by decide⟩

/-- Invariance to the split: for every number of ranks the post-processing loop (strided blocks, streaming
    update on each rank, gather through pickling, pooled combination) returns what the single process returns:
    the two-pass weighted variance of all samples, or NaN when there are fewer than two. -/
theorem split_invariant {size : ℕ} (hs : 0 < size) (xs : List (ℝ × ℝ)) (hpos : ∀ p ∈ xs, 0 < p.2) :
    splitVariance size xs = pooledVariance id [xs] ∧
      splitVariance size xs = if xs.length < 2 then some Val.nan else some (Val.fin (twoPassVar xs)) := by
  have e1 : splitVariance size xs = _ := pooledVariance_of_perm exchange_ser (partition_flatten_perm hs xs) hpos
  exact ⟨e1.trans (pooledVariance_of_perm exchange_id (flatten_singleton_perm xs) hpos).symm, e1⟩

/-- … hence the same for any two rank counts -/
theorem split_invariant_sizes {s₁ s₂ : ℕ} (h₁ : 0 < s₁) (h₂ : 0 < s₂) (xs : List (ℝ × ℝ))
    (hpos : ∀ p ∈ xs, 0 < p.2) : splitVariance s₁ xs = splitVariance s₂ xs := by
  rw [(split_invariant h₁ xs hpos).1, (split_invariant h₂ xs hpos).1]

example : splitVariance 2 [((1 : ℝ), (0.2 : ℝ)), (4, 0.3), (2, 0.5)] =
    splitVariance 7 [((1 : ℝ), (0.2 : ℝ)), (4, 0.3), (2, 0.5)] :=
  split_invariant_sizes (by norm_num) (by norm_num) _ nv_weights_pos

/-- What the model distinguishes (defect F7): had `combine_variance` recognised the NaN
    variance of a one-sample rank by *identity* with `np.nan`, the serialised exchange would poison the pooled
    variance — 2 ranks, 3 samples, exact rational arithmetic — while the value test gives the two-pass 14/9. -/
theorem nan_identity_witness :
    parallelVariance nanByIdentity ser ((partition 2 [((1 : Rat), (1 : Rat)), (2, 1), (4, 1)]).map accOf)
        = some Val.nan ∧
    parallelVariance nanByIdentity id ([[((1 : Rat), (1 : Rat)), (2, 1), (4, 1)]].map accOf)
        = some (Val.fin (14 / 9)) ∧
    parallelVariance nanByValue ser ((partition 2 [((1 : Rat), (1 : Rat)), (2, 1), (4, 1)]).map accOf)
        = some (Val.fin (14 / 9)) := by
  decide +kernel

/-- `compute_derived_trace`: every rank evaluates the derived parameters of its slice
    `range(rank, n, size)`; the per-rank traces and the per-rank sample indices are concatenated in rank order and
    the trace is put back by the argsort of the gathered indices.  The stored trace is the trace in sample order
    for EVERY trace and weight list (the same `restore` is applied to both) and every number of ranks. -/
theorem derived_order {β : Type} [Inhabited β] {size : ℕ} (hs : 0 < size) (trace : List β) :
    derivedTraceGather size trace = trace :=
  derivedTraceGather_eq hs trace

/-- non-vacuity: the gather on 2 ranks really permutes (`[10, 12, 11]`) and the result is sample order -/
example : gatherLists (partition 2 [(10 : ℝ), 11, 12]) ≠ [10, 11, 12] ∧
    derivedTraceGather 2 [(10 : ℝ), 11, 12] = [10, 11, 12] :=
  ⟨by show [(10 : ℝ), 12, 11] ≠ [10, 11, 12]; norm_num, derived_order (by norm_num) _⟩

/-- `derivedTraceGatherPinned` restores order by matching sorted weights instead of sample indices (defect K2):
    with pairwise distinct weights it returns sample order … -/
theorem derived_order_pinned {size : ℕ} (hs : 0 < size) {weights trace : List ℝ} (hn : weights.Nodup)
    (hlen : trace.length = weights.length) : derivedTraceGatherPinned size weights trace = trace :=
  derivedTraceGatherPinned_eq hs hn hlen

example : derivedTraceGatherPinned 2 [(0.2 : ℝ), 0.5, 0.3] [(10 : ℝ), 11, 12] = [10, 11, 12] :=
  derived_order_pinned (by norm_num) (by
    rw [List.nodup_cons, List.nodup_cons]
    refine ⟨?_, ?_, List.nodup_singleton _⟩ <;> simp <;> norm_num) rfl

/-- … and with tied weights it does not: three samples of equal weight on two ranks are gathered as
    `[t0, t2, t1]` and stay there, while the index-based re-ordering of `derivedTraceGather` returns sample order
    (exact rational arithmetic, kernel-decided). -/
theorem derived_order_tie_witness :
    derivedTraceGatherPinned 2 [(1 : Rat), 1, 1] [(10 : Rat), 11, 12] = [10, 12, 11] ∧
    derivedTraceGather 2 [(10 : Rat), 11, 12] = [10, 11, 12] := by
  decide +kernel

/-- **drawn_samples_once** (`Optimizer.sample_parameters` → `generate_profiles`): whatever list of indices below `n` is drawn
    (`random.sample(range(n), int(n*sigma_fraction))`), every drawn sample is yielded exactly once (weight raised by the
    positive floor `1e-300`), and for every number of ranks the pooled result is the single-process result: the two-pass
    weighted variance of the drawn samples, NaN with fewer than two. -/
theorem drawn_samples_once {size : ℕ} (hs : 0 < size) {floor : ℝ} (hf : 0 < floor) (samples : List (ℝ × ℝ))
    (hw : ∀ p ∈ samples, 0 ≤ p.2) (draw : List ℕ) (hlt : ∀ i ∈ draw, i < samples.length) :
    (sampleParameters draw floor samples).length = draw.length ∧
    postProcess size draw floor samples = pooledVariance id [sampleParameters draw floor samples] ∧
    postProcess size draw floor samples =
      if draw.length < 2 then some Val.nan else some (Val.fin (twoPassVar (sampleParameters draw floor samples))) := by
  have hl := sampleParameters_length floor samples hlt
  have := split_invariant hs (sampleParameters draw floor samples) (sampleParameters_pos hf hw)
  rw [hl] at this
  exact ⟨hl, this.1, this.2⟩

/-- non-vacuity: two of three samples drawn (a fraction below 1), three ranks (one of them empty) -/
example : postProcess 3 [2, 0] (1 / 2 : ℝ) [((1 : ℝ), (0 : ℝ)), (4, 1), (2, 3)] =
    pooledVariance id [sampleParameters [2, 0] (1 / 2 : ℝ) [((1 : ℝ), (0 : ℝ)), (4, 1), (2, 3)]] :=
  (drawn_samples_once (size := 3) (by norm_num) (by norm_num) _
    nv_weights_nonneg [2, 0]
    (by intro i hi; simp at hi; rcases hi with rfl | rfl <;> simp)).2.1

/-- **sigma_fraction_one_all_samples**: an optimizer built with `sigma_fraction = 1` (through whichever concrete
    constructor: `heldFraction` is what reaches the base class) draws `int(n*1.0) = n` distinct indices below `n`, i.e.
    EVERY posterior sample exactly once, and for every number of ranks the pooled variance is the two-pass weighted
    variance of ALL samples (floored weights), NaN with fewer than two. -/
theorem sigma_fraction_one_all_samples {size : ℕ} (hs : 0 < size) {floor : ℝ} (hf : 0 < floor)
    (samples : List (ℝ × ℝ)) (hw : ∀ p ∈ samples, 0 ≤ p.2) (draw : List ℕ) (hnd : draw.Nodup)
    (hlt : ∀ i ∈ draw, i < samples.length)
    (hlen : draw.length = drawCount (fun k : ℕ => (k : ℝ)) (fun x : ℝ => ⌊x⌋₊) samples.length
      (heldFraction (0.1 : ℝ) (some 1))) :
    (sampleParameters draw floor samples).Perm (samples.map (fun p => (p.1, p.2 + floor))) ∧
    postProcess size draw floor samples =
      if samples.length < 2 then some Val.nan
      else some (Val.fin (twoPassVar (samples.map (fun p => (p.1, p.2 + floor))))) := by
  have hk : draw.length = samples.length := by
    rw [hlen]
    simp only [heldFraction, Option.getD_some]
    exact drawCount_one _
  have hperm : draw.Perm (List.range samples.length) := by
    refine (List.subperm_of_subset hnd ?_).perm_of_length_le ?_
    · intro i hi
      exact List.mem_range.2 (hlt i hi)
    · rw [List.length_range, hk]
  have hp := sampleParameters_perm floor samples hperm
  refine ⟨hp, ?_⟩
  have h := (drawn_samples_once hs hf samples hw draw hlt).2.2
  rw [h, hk, twoPassVar_perm hp]

/-- non-vacuity: three samples (one of weight 0), drawn in the order 2, 0, 1, on two ranks -/
example : (sampleParameters [2, 0, 1] (1 / 2 : ℝ) [((1 : ℝ), (0 : ℝ)), (4, 1), (2, 3)]).Perm
    ([((1 : ℝ), (0 : ℝ)), (4, 1), (2, 3)].map (fun p => (p.1, p.2 + 1 / 2))) :=
  (sigma_fraction_one_all_samples (size := 2) (by norm_num) (by norm_num) _
    nv_weights_nonneg [2, 0, 1] (by decide)
    (by intro i hi; simp at hi; rcases hi with rfl | rfl | rfl <;> simp)
    (by simp [heldFraction, drawCount])).1

end Taurex.C18
