/-
  C17 — source tie.  `TaurexModel/Gen/SrcC17.lean` is regenerated on every run by the list dialect of the source translator
  (`harness/translate_list.py`) from the source text of taurex/data/spectrum/array.py, taurex/data/spectrum/spectrum.py,
  taurex/data/spectrum/taurex.py, taurex/data/spectrum/observed.py, taurex/binning/fluxbinner.py and taurex/util/util.py.  The theorems below state, for EVERY carrier (no algebra is used),
  that each regenerated definition computes the hand-written model function of `TaurexModel/Observation.lean` that the C17
  theorems are about and that `driver_c17` executes.  numpy's primitives are the definitions of
  `TaurexModel/Gen/Prelude.lean`; helper lemmas in `Proofs/C05SrcNp.lean`, `Proofs/C05Bindown.lean`,
  `Proofs/C17SrcNp.lean`.

  The observation array is `rows.map (encode fourCol)` (one inner list `[wl, value, error(, width)]` per row) and
  `rawData.shape[1]` is `ncols fourCol` (4 or 3); an object is represented by the attributes its methods assign.
-/
import TaurexModel.Gen.SrcC17
import TaurexModel.Observation
import Proofs.C05Bindown
import Proofs.C17SrcNp
set_option linter.unusedSectionVars false
set_option linter.unusedSimpArgs false

namespace Taurex.C17Src
open Taurex.Binning Taurex.Observation Taurex.Gen

section
variable {α : Type} [Add α] [Sub α] [Mul α] [Div α] [Neg α] [LT α] [LE α]
  [DecidableLT α] [DecidableLE α] [Taurex.Transc α] [OfNat α 0] [OfNat α 1] [OfNat α 2] [OfNat α 10000]

/-- `compute_bin_edges` (the same source function as in C05) is `computeBinEdges` -/
theorem src_compute_bin_edges (g : List α) : SrcC17.compute_bin_edges g = computeBinEdges g := by
  simp only [SrcC17.compute_bin_edges, Np.midEdges_eq]
  simp only [Np.diff_eq]
  rfl

/-- **`_sort_spectrum`**: `obs[obs[:, 0].argsort()[::-1]]` is `sortRowsDesc`: whole rows move together -/
theorem src_sort_spectrum (fc : Bool) (rows : List (ORow α)) :
    SrcC17.sort_spectrum (rows.map (encode fc)) = (sortRowsDesc rows).map (encode fc) := by
  simp only [SrcC17.sort_spectrum, col0, Np.take_reverse, Np.take_argsort, sortRowsDesc, List.map_reverse]

/-- `wnwidth_to_wlwidth(grid, width) = 10000*width/grid**2`, element by element (`widthConv`).  Guard: one width per grid
    point, or an empty grid (numpy broadcasts a single width over any grid; the model's `zipWith` would truncate). -/
theorem src_wnwidth_to_wlwidth (g w : List α) (h : g.length = w.length ∨ g = []) :
    SrcC17.wnwidth_to_wlwidth g w = List.zipWith widthConv g w := by
  simp only [SrcC17.wnwidth_to_wlwidth]
  rcases h with h | h
  · rw [Np.zip2_eq _ _ _ (by simp [h]), List.zipWith_map, List.zipWith_comm]
    rfl
  · subst h
    cases w with
    | nil => rfl
    | cons b s =>
      cases s with
      | nil => rfl
      | cons c s => simp [Np.zip2]

/-- the properties `rawData` / `wavelengthGrid`: column 0 -/
theorem src_wavelengthGrid (fc : Bool) (rows : List (ORow α)) :
    SrcC17.wavelengthGrid (rows.map (encode fc)) = rows.map ORow.wl := by
  simp only [SrcC17.wavelengthGrid, SrcC17.rawData, col0]

/-- `_process_spectrum` (with `manual_binning` for 3 columns): `(_bin_widths, _bin_edges)` of the sorted rows -/
theorem src_process_spectrum (fc : Bool) (sorted : List (ORow α)) :
    SrcC17.process_spectrum (ncols fc) (sorted.map (encode fc))
      = if fc then (sorted.map ORow.bw, edges4 sorted) else ((computeBinEdges (sorted.map ORow.wl)).2, (computeBinEdges (sorted.map ORow.wl)).1) := by
  cases fc
  · simp only [SrcC17.process_spectrum, ncols, SrcC17.manual_binning, src_wavelengthGrid, src_compute_bin_edges]
    simp
  · have c3 : List.map (fun r__ : List α => r__.getD 3 0) (sorted.map (encode true)) = sorted.map ORow.bw := by
      simp [encode, List.map_map, Function.comp_def]
    simp only [SrcC17.process_spectrum, ncols, src_wavelengthGrid, c3, if_true, decide_true, ← List.map_reverse,
      List.map_map, Np.zip2_map_map, Function.comp_def, List.length_map]
    rw [← List.length_reverse, Np.setStride_interleave]
    simp [edges4]

/-- **`ArraySpectrum.__init__(spectrum)`** (`_sort_spectrum`, `_process_spectrum`, `manual_binning`,
    `wnwidth_to_wlwidth`): the attributes `(_obs_spectrum, _bin_widths, _bin_edges, _wnwidths)` it leaves behind are the
    fields of `load fourCol rows` -/
theorem src_init (fc : Bool) (rows : List (ORow α)) :
    SrcC17.arrayspectrum_init (rows.map (encode fc)) (ncols fc)
      = ((load fc rows).rows.map (encode fc), (load fc rows).bw, (load fc rows).edgesWl, (load fc rows).wnWidths) := by
  simp only [SrcC17.arrayspectrum_init, src_sort_spectrum, src_process_spectrum, src_wavelengthGrid, load]
  cases fc
  · simp only [Bool.false_eq_true, if_false]
    rw [src_wnwidth_to_wlwidth]
    rw [Np.length_widths, List.length_map]
    cases h : sortRowsDesc rows with
    | nil => right; rfl
    | cons a t => left; simp
  · simp only [if_true]
    rw [src_wnwidth_to_wlwidth _ _ (Or.inl (by simp))]

/-- the public properties read the same columns as the model's accessors -/
theorem src_wavenumberGrid (fc : Bool) (o : Obs α) :
    SrcC17.wavenumberGrid (o.rows.map (encode fc)) = o.wavenumberGrid := by
  simp only [SrcC17.wavenumberGrid, src_wavelengthGrid, List.map_map, Function.comp_def, Obs.wavenumberGrid]

theorem src_spectrum (fc : Bool) (o : Obs α) : SrcC17.spectrum (o.rows.map (encode fc)) = o.spectrum := by
  cases fc <;> simp [SrcC17.spectrum, encode, Obs.spectrum, List.map_map, Function.comp_def]

theorem src_errorBar (fc : Bool) (o : Obs α) : SrcC17.errorBar (o.rows.map (encode fc)) = o.errorBar := by
  cases fc <;> simp [SrcC17.errorBar, SrcC17.rawData, encode, Obs.errorBar, List.map_map, Function.comp_def]

theorem src_binWidths (o : Obs α) : SrcC17.binWidths o.wnWidths = o.binWidths := rfl

theorem src_binEdges (o : Obs α) : SrcC17.binEdges o.edgesWl = o.binEdges := rfl

/-- `FluxBinner.__init__(wngrid, wngrid_width=<array>)` (as in C05) -/
theorem src_fluxbinner_init (ts : List (TBin α)) :
    SrcC17.fluxbinner_init (ts.map TBin.c) (ts.map TBin.w)
      = ((targetBins WidthMode.array ts).map TBin.c, (targetBins WidthMode.array ts).map TBin.w) := by
  simp [SrcC17.fluxbinner_init, Np.take_argsort, targetBins, Binning.length_sortBy]

/-- **`create_binner()`**: the binner built from the observation holds the sorted centres and widths of
    `Obs.createBinner`.  Guard: one width per row (true of every loaded observation: `Observation.length_wnWidths`). -/
theorem src_create_binner (fc : Bool) (o : Obs α) (h : o.wnWidths.length = o.rows.length) :
    SrcC17.create_binner (o.rows.map (encode fc)) o.wnWidths
      = (o.createBinner.map TBin.c, o.createBinner.map TBin.w) := by
  have hl : o.wavenumberGrid.length = o.binWidths.length := by simp [Obs.wavenumberGrid, Obs.binWidths, h]
  simp only [SrcC17.create_binner, src_wavenumberGrid, src_binWidths, Obs.createBinner]
  have hcw := Np.zipWith_mk_map _ _ hl
  have e := src_fluxbinner_init
    (List.zipWith (fun c w => ({ c := c, w := w } : TBin α)) o.wavenumberGrid o.binWidths)
  rw [hcw.1, hcw.2] at e
  exact e

/-- `FluxBinner.bindown(wngrid, spectrum)` (as in C05): `fluxBindown false` -/
theorem src_bindown_midpoint (rows : List (Row α)) (targets : List (TBin α)) :
    (SrcC17.fluxbinner_bindown (rows.map Row.c) (rows.map Row.s)
        (targets.map TBin.c) (targets.map TBin.w)).2.1 = fluxBindown false Row.s rows targets := by
  show (C05Src.bindownLoop _ _ _ (targets.map TBin.c) (targets.map TBin.w)).2.2 = _
  simp only [Np.take_argsort, src_compute_bin_edges]
  rw [C05Src.midpoint_edge, C05Src.midpoint_edge, C05Src.midpoint_col rows Row.s (fun _ _ => rfl)]
  exact C05Src.bindownLoop_spectrum Row.s (nativeBins false rows) targets

/-- **a forward model binned to the observation**: `obs.create_binner().bin_model((native_wn, native_spectrum))[1]`, with
    the binner state produced by the regenerated `create_binner`, is `Obs.binModel` — element by element aligned with
    `Obs.spectrum` (theorem `binner_aligned` of Props/C17.lean) -/
theorem src_bin_model_obs (fc : Bool) (o : Obs α) (h : o.wnWidths.length = o.rows.length) (native : List (Row α)) :
    (SrcC17.bin_model (native.map Row.c, native.map Row.s)
        (SrcC17.create_binner (o.rows.map (encode fc)) o.wnWidths).1
        (SrcC17.create_binner (o.rows.map (encode fc)) o.wnWidths).2).2.1 = o.binModel native := by
  rw [src_create_binner fc o h]
  exact src_bindown_midpoint native o.createBinner

/-! ### the file loaders `TaurexSpectrum` (HDF5) and `ObservedSpectrum` (text)

The content of the file is an input of the regenerated definitions: the four datasets `_load_from_hdf5` reads are the
parameters `h5_Output_Spectra_instrument_* : Option (List α)` (named after the path strings of the source text; `none`: the
file has no such object, the read raises KeyError), the array `np.loadtxt(self._filename)` returns is `loadtxt filename`.
A TauREx file is described by its rows `(wn, spectrum, noise, wn width)` — the four datasets are the four columns. -/

/-- **`TaurexSpectrum._load_from_hdf5(filename)`**: the array `np.vstack((10000/wn, spectrum, noise,
    wnwidth_to_wlwidth(wn, wnwidth))).T` it returns is, row by row, the model's `fromTaurex` (what `driver_c17` maps over
    the rows for `kind = 2`) -/
theorem src_load_from_hdf5 (fn : String) (rows : List (ORow α)) :
    SrcC17.load_from_hdf5 fn (h5_Output_Spectra_instrument_wngrid := some (rows.map ORow.wl))
        (h5_Output_Spectra_instrument_spectrum := some (rows.map ORow.v))
        (h5_Output_Spectra_instrument_noise := some (rows.map ORow.e))
        (h5_Output_Spectra_instrument_wnwidth := some (rows.map ORow.bw))
      = (rows.map fromTaurex).map (encode true) := by
  simp only [SrcC17.load_from_hdf5]
  rw [src_wnwidth_to_wlwidth _ _ (Or.inl (by simp)), Np.zipWith_map_map, List.map_map]
  have := Np.transpose_maps (0 : α) (fun r : ORow α => 10000 / r.wl) [ORow.v, ORow.e, fun r => widthConv r.wl r.bw] rows
  simp only [List.map_cons, List.map_nil] at this
  simp only [Function.comp_def]
  rw [this]
  simp [encode, fromTaurex, List.map_map, Function.comp_def]

/-- a file without one of the four instrument datasets (a retrieval output, or a forward model run without an
    instrument): every path ends in the `KeyError` (the declared total value `[]`), whichever dataset is missing -/
theorem src_load_from_hdf5_missing (fn : String) (wn sp no ww : Option (List α))
    (h : wn = none ∨ sp = none ∨ no = none ∨ ww = none) :
    SrcC17.load_from_hdf5 fn (h5_Output_Spectra_instrument_wngrid := wn)
        (h5_Output_Spectra_instrument_spectrum := sp) (h5_Output_Spectra_instrument_noise := no)
        (h5_Output_Spectra_instrument_wnwidth := ww) = [] := by
  cases wn <;> cases sp <;> cases no <;> cases ww <;> simp_all [SrcC17.load_from_hdf5]

/-- **`TaurexSpectrum.__init__(filename)`** = `super().__init__(self._load_from_hdf5(filename))`: the attributes are the
    fields of `load true (rows.map fromTaurex)` — exactly what `driver_c17` computes for `kind = 2`.  `ncols`
    (`rawData.shape[1]`) is 4: the transposed stack of four arrays. -/
theorem src_taurexspectrum_init (fn : String) (rows : List (ORow α)) :
    SrcC17.taurexspectrum_init fn (h5_Output_Spectra_instrument_wngrid := some (rows.map ORow.wl))
        (h5_Output_Spectra_instrument_spectrum := some (rows.map ORow.v))
        (h5_Output_Spectra_instrument_noise := some (rows.map ORow.e))
        (h5_Output_Spectra_instrument_wnwidth := some (rows.map ORow.bw)) (ncols := ncols true)
      = ((load true (rows.map fromTaurex)).rows.map (encode true), (load true (rows.map fromTaurex)).bw,
          (load true (rows.map fromTaurex)).edgesWl, (load true (rows.map fromTaurex)).wnWidths) := by
  simp only [SrcC17.taurexspectrum_init, src_load_from_hdf5, src_init]

/-- **`ObservedSpectrum.__init__(filename)`** = `super().__init__(np.loadtxt(self._filename))`: everything after
    `np.loadtxt` (sorting, column handling, bin edges, width conversion) is `load fourCol rows` of the rows of the array
    `np.loadtxt` returned for this file name -/
theorem src_observedspectrum_init (fc : Bool) (fn : String) (loadtxt : String → List (List α)) (rows : List (ORow α))
    (h : loadtxt fn = rows.map (encode fc)) :
    SrcC17.observedspectrum_init fn loadtxt (ncols fc)
      = ((load fc rows).rows.map (encode fc), (load fc rows).bw, (load fc rows).edgesWl, (load fc rows).wnWidths) := by
  simp only [SrcC17.observedspectrum_init, h, src_init]

end
end Taurex.C17Src
