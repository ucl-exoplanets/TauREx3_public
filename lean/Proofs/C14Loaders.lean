/-
  What the file decoders / encoders of C14 need of an ordered FIELD: the unit factors, scaling there and back, the Exo-Transmit
  round trip, the blocks written for a HITRAN table.  What needs the order only is in
  Proofs/C14LoadersOrder.lean and Proofs/C14HitranCore.lean.
-/
import Mathlib.Tactic.NormNum
import Proofs.C14LoadersOrder

namespace Taurex.Loaders

variable {K : Type} [Field K] [LinearOrder K] [IsStrictOrderedRing K]

/-- the unit tables are chains `if name = … then some a else …`: one link of such a chain -/
theorem ite_some_ne_zero {K : Type} [Field K] {p : Prop} [Decidable p] {a : K} {o : Option K} (ha : a ≠ 0)
    (ho : ∀ c, o = some c → c ≠ 0) (c : K) (h : (if p then some a else o) = some c) : c ≠ 0 := by
  split at h
  · cases h; exact ha
  · exact ho c h

theorem unitDirect_ne_zero {u : String} {c : K} (h : unitDirect u = some c) : c ≠ 0 :=
  ite_some_ne_zero one_ne_zero (ite_some_ne_zero (by norm_num) <| ite_some_ne_zero (by norm_num) <|
    ite_some_ne_zero (by norm_num) <| ite_some_ne_zero (by norm_num) <| ite_some_ne_zero (by norm_num) <|
    ite_some_ne_zero (by norm_num) <| ite_some_ne_zero (by norm_num) (fun _ h => by cases h)) c h

theorem unitCds_ne_zero {u : String} {c : K} (h : unitCds u = some c) : c ≠ 0 :=
  ite_some_ne_zero (by norm_num) (ite_some_ne_zero (by norm_num) (fun _ h => by cases h)) c h

theorem unitFactor_ne_zero {fb : Bool} {u : String} {c : K} (h : unitFactor fb u = some c) : c ≠ 0 := by
  unfold unitFactor at h
  cases hd : (unitDirect u : Option K) with
  | some f => simp only [hd] at h; cases h; exact unitDirect_ne_zero hd
  | none =>
    simp only [hd] at h
    cases fb with
    | false => simp at h
    | true => exact unitCds_ne_zero (by simpa using h)

theorem map_div_mul {K : Type} [Field K] (l : List K) {c : K} (hc : c ≠ 0) : (l.map (fun v => v / c)).map
    (fun v => v * c) = l := by
  rw [List.map_map]
  conv_rhs => rw [← List.map_id l]
  apply List.map_congr_left
  intro a _
  simp [div_mul_cancel₀ a hc]

def XTab.WF {α : Type} (tab : XTab α) : Prop :=
  tab.x.length = tab.p.length ∧
    ∀ row ∈ tab.x, row.length = tab.t.length ∧ ∀ col ∈ row, col.length = tab.wn.length

/-- the rows written under the wavelength of wavenumber index `k` -/
def exoRows (tab : XTab K) (k : Nat) : List (List K) :=
  (List.range tab.p.length).map fun i =>
    (tab.p.getD i 0 / 100000) ::
      (List.range tab.t.length).map fun j => (((tab.x.getD i []).getD j []).getD k 0) / 10000

def exoBlock (tab : XTab K) (k : Nat) : K × List (List K) := (exoWn (tab.wn.getD k 0), exoRows tab k)

theorem exoRows_length {K : Type} [Field K] (tab : XTab K) (k : Nat) : (exoRows tab k).length = tab.p.length := by
  rw [exoRows, List.length_map, List.length_range]

theorem length_of_mem_exoRows {K : Type} [Field K] (tab : XTab K) (k : Nat) (r : List K) (hr : r ∈ exoRows tab k) :
    r.length = tab.t.length + 1 := by
  obtain ⟨i, _, rfl⟩ := List.mem_map.mp hr
  rw [List.length_cons, List.length_map, List.length_range]

theorem encExo_body {K : Type} [Field K] (tab : XTab K) :
    (encExo tab).body = (((List.range tab.wn.length).reverse).map (exoBlock tab)).flatMap (fun b => [b.1] :: b.2) := by
  rw [List.flatMap_map]
  rfl

theorem exoGroup_encExo {K : Type} [Field K] (tab : XTab K) (ht : tab.t ≠ []) :
    exoGroup (encExo tab).body = ((List.range tab.wn.length).reverse).map (exoBlock tab) := by
  rw [encExo_body, exoGroup_blocks]
  intro b hb r hr
  obtain ⟨k, _, rfl⟩ := List.mem_map.mp hb
  have := length_of_mem_exoRows tab k r hr
  have : tab.t.length ≠ 0 := fun h0 => ht (List.length_eq_zero_iff.mp h0)
  omega

theorem exoWn_exoWn (w : K) : exoWn (exoWn w) = w := by
  unfold exoWn
  have hc : (10000 * (1 / 1000000) : K) ≠ 0 := by norm_num
  rw [div_div_eq_mul_div, mul_comm, mul_div_assoc, div_self hc, mul_one]

theorem exoRows_getD {K : Type} [Field K] (tab : XTab K) (k i j : Nat) (hi : i < tab.p.length) (hj : j < tab.t.length) :
    ((exoRows tab k).getD i []).getD (j + 1) 0 = (((tab.x.getD i []).getD j []).getD k 0) / 10000 := by
  rw [exoRows, getD_map_range _ hi, List.getD_cons_succ, getD_map_range _ hj]

/-- what the Exo-Transmit reader makes of a written value -/
def exoShift (tiny : K) (v : K) : K := (v / 10000 + tiny) * 10000

theorem decExo_encExo (tiny : K) (tab : XTab K) (hwf : tab.WF) (ht : tab.t ≠ [])
    (hwn : tab.wn.Pairwise (· < ·)) :
    decExo tiny (encExo tab) =
      { wn := tab.wn, t := tab.t, p := tab.p,
        x := tab.x.map fun row => row.map fun col => col.map (exoShift tiny) } := by
  obtain ⟨hx, hrows⟩ := hwf
  have hB := exoGroup_encExo tab ht
  have hwn0 : (exoGroup (encExo tab).body).map (fun b => exoWn b.1) = tab.wn.reverse := by
    rw [hB, List.map_map]
    have : ((fun b : K × List (List K) => exoWn b.1) ∘ exoBlock tab) = fun k => id (tab.wn.getD k 0) := by
      funext k; simp [exoBlock, exoWn_exoWn]
    rw [this, range_reverse_map_getD]
    simp
  have hperm : argsort tab.wn.reverse = (List.range tab.wn.length).reverse := argsort_reverse_of_strict _ hwn
  have hBlen : (exoGroup (encExo tab).body).length = tab.wn.length := by rw [hB]; simp
  unfold decExo
  simp only [hwn0, hperm, gather_reverse_range]
  have hp : (encExo tab).prow.map (fun v => v * 100000) = tab.p := by
    simp only [encExo]
    exact map_div_mul _ (by norm_num)
  have htrow : (encExo tab).trow = tab.t := rfl
  have hplen : (encExo tab).prow.length = tab.p.length := by simp [encExo]
  rw [hp, htrow, hplen]
  congr 1
  rw [← hx, ← range_map_getD tab.x [] (fun row => row.map fun col => col.map (exoShift tiny))]
  apply List.map_congr_left
  intro i hi
  rw [List.mem_range] at hi
  have hrow := hrows (tab.x.getD i []) (getD_mem_of_lt _ _ _ hi)
  rw [← hrow.1, ← range_map_getD (tab.x.getD i []) [] (fun col => col.map (exoShift tiny))]
  apply List.map_congr_left
  intro j hj
  rw [List.mem_range] at hj
  have hcol := hrow.2 ((tab.x.getD i []).getD j []) (getD_mem_of_lt _ _ _ hj)
  -- one column: run through the blocks in sorted order
  have hstep : (List.range tab.wn.length).reverse.map (fun k =>
        ((((exoGroup (encExo tab).body).getD k (0, [])).2.getD i []).getD (j + 1) 0 + tiny) * 10000)
      = ((exoGroup (encExo tab).body).map (fun b => ((b.2.getD i []).getD (j + 1) 0 + tiny) * 10000)).reverse := by
    rw [← hBlen]
    exact range_reverse_map_getD _ (0, []) (fun b => ((b.2.getD i []).getD (j + 1) 0 + tiny) * 10000)
  rw [hstep, hB, List.map_map, List.map_reverse, List.reverse_reverse]
  rw [← hcol, ← range_map_getD ((tab.x.getD i []).getD j []) 0 (exoShift tiny), hcol]
  apply List.map_congr_left
  intro k _
  have hi' : i < tab.p.length := hx ▸ hi
  have hj' : j < tab.t.length := hrow.1 ▸ hj
  simp only [Function.comp, exoBlock, exoRows_getD tab k i j hi' hj', exoShift]

/-! ### HITRAN: the blocks written for a table -/

theorem clipSigma_enc {s : K} (h : 0 ≤ s) : clipSigma (s / (1 / 10000000000)) = s := by
  unfold clipSigma
  have hc : (1 / 10000000000 : K) ≠ 0 := by norm_num
  simp only [div_mul_cancel₀ s hc, not_lt.mpr h, if_false]

def CTab.WF (tab : CTab K) : Prop :=
  tab.x.length = tab.t.length ∧ ∀ row ∈ tab.x, row.length = tab.wn.length ∧ ∀ v ∈ row, 0 ≤ v

/-- the block written for one temperature -/
def hBlock (pair : String) (tab : CTab K) (T : K) (row : List K) : HBlock K :=
  { pair := pair, wn0 := tab.wn.headD 0, wn1 := tab.wn.getLastD 0, temp := T, maxcia := lmax row,
    pts := List.zip tab.wn (row.map (fun s => s / (1 / 10000000000))) }

omit [IsStrictOrderedRing K] in
theorem encHitran_eq (pair : String) (tab : CTab K) :
    encHitran pair tab = List.zipWith (hBlock pair tab) tab.t tab.x := rfl

omit [IsStrictOrderedRing K] in
theorem hBlock_wn (pair : String) (tab : CTab K) (T : K) (row : List K) (h : row.length = tab.wn.length) :
    (hBlock pair tab T row).pts.map (·.1) = tab.wn := by
  simp only [hBlock]
  exact List.map_fst_zip (by simp [h])

theorem hBlock_sigma (pair : String) (tab : CTab K) (T : K) (row : List K) (h : row.length = tab.wn.length)
    (hn : ∀ v ∈ row, 0 ≤ v) : (hBlock pair tab T row).pts.map (fun q => clipSigma q.2) = row := by
  simp only [hBlock]
  have h1 : (List.zip tab.wn (row.map (fun s => s / (1 / 10000000000)))).map (fun q => clipSigma q.2)
      = ((List.zip tab.wn (row.map (fun s => s / (1 / 10000000000)))).map Prod.snd).map clipSigma := by
    rw [List.map_map]; rfl
  rw [h1, List.map_snd_zip (by simp [h]), List.map_map]
  conv_rhs => rw [← List.map_id row]
  apply List.map_congr_left
  intro v hv
  show clipSigma (v / (1 / 10000000000)) = v
  exact clipSigma_enc (hn v hv)

omit [IsStrictOrderedRing K] in
theorem le_lmax (l : List K) (x : K) (hx : x ∈ l) : x ≤ lmax l :=
  (foldl_sel_bound (fun a b => a < b) (· ≤ ·) le_refl (fun _ _ _ => le_trans) (fun _ _ => le_of_lt) (fun _ _ => not_lt.mp)
    l _).2 x hx

end Taurex.Loaders
