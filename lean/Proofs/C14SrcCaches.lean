/-
  Helper lemmas for the k-table cache and CIA cache ties of Props/C14Src.lean (taurex/cache/ktablecache.py,
  taurex/cache/ciaacache.py against `CacheSM.stepK` / `CiaSM.step`): loops whose body may raise (`Py.forE`) against the model's
  folds, how a state of `CiaSM` is laid out as the Python objects, and the three CIA-cache ties (`cia_load_from_path_of`,
  `cia_load_cia_of`, `cia_getitem_of`) for a `stem` that is right on the files of the directories.  Core only.
-/
import Proofs.C14SrcLemmas
import Proofs.C14KCia

namespace Taurex.C14Src
open Taurex.CacheSM Taurex.Gen

theorem forE_sim {β σ τ : Type} (enc : τ → σ) (g : τ → β → τ) (Inv : τ → Prop)
    (F : σ → β → σ × Option Py.Err)
    (hInv : ∀ t x, Inv t → Inv (g t x))
    (hF : ∀ t x, Inv t → F (enc t) x = (enc (g t x), none)) :
    ∀ (l : List β) (t : τ), Inv t → Py.forE l (enc t) F = (enc (l.foldl g t), none) := by
  intro l
  induction l with
  | nil => intro t _; rfl
  | cons x l ih =>
    intro t h
    rw [Py.forE_cons, hF t x h]
    exact ih _ (hInv t x h)

theorem memOrTrue_eq (b : Option Bool) : memOrTrue b = true := by
  cases b with
  | none => rfl
  | some v => cases v <;> rfl

/-- `c.discover()` of a k-table class: reads `GlobalCache()['ktable_path']` and the interpolation setting; never raises -/
def discoverK (fs : List Dir) (w : World) (path : Option Nat) (interp : Option Nat) (c : Fmt) :
    Except Py.Err (List (String × Args)) := .ok (discoverM fs w path interp none c)

end Taurex.C14Src

namespace Taurex.C14Src
open Taurex.CiaSM Taurex.Gen

theorem forE_simB {β σ τ : Type} (enc : τ → σ) (g : τ → β → τ × Bool) (err : Py.Err)
    (F : σ → β → σ × Option Py.Err) (l : List β)
    (hF : ∀ t x, x ∈ l → F (enc t) x = (enc (g t x).1, if (g t x).2 then some err else none)) :
    ∀ t, Py.forE l (enc t) F = (enc (forB g t l).1, if (forB g t l).2 then some err else none) := by
  induction l with
  | nil => intro t; rfl
  | cons x l ih =>
    intro t
    rw [Py.forE_cons, hF t x (by simp)]
    unfold forB
    rcases hg : g t x with ⟨t', b⟩
    cases b with
    | true => rfl
    | false => exact ih (fun t x hx => hF t x (by simp [hx])) t'

abbrev CWorld := List (String × Nat) × Nat

/-- the Python-side state of the CIA cache a loading loop carries: `cia_dict` and the world -/
def encC (s : St) : List (String × CObj) × CWorld := (s.dict, (s.log, s.nextId))

/-- `glob(os.path.join(path, pattern))` -/
def globC (fs : List CDir) (_w : CWorld) (g : CPath × String) : List CFile :=
  match g.1 with
  | .single p => if g.2 = "*.db" then dirFiles fs p .db else dirFiles fs p .cia
  | .many _ => []

/-- `PickleCIA(file, pairname)`: logged, next identity, named as told -/
def constructP (w : CWorld) (_k : Unit) (f : CFile) (pn : String) : CWorld × CObj :=
  ((w.1 ++ [(pn, f.fileId)], w.2 + 1), { id := w.2, pair := pn, src := some f.fileId })

/-- `HitranCIA(file)`: logged under the name its file name advertises, named by its content -/
def constructH (w : CWorld) (_k : Unit) (f : CFile) : CWorld × CObj :=
  ((w.1 ++ [(f.disc, f.fileId)], w.2 + 1), { id := w.2, pair := f.obj, src := some f.fileId })

def isStr : CPath → Bool
  | .single _ => true
  | .many _ => false

def isList : CPath → Bool
  | .single _ => false
  | .many _ => true

def pathItems : CPath → List CPath
  | .single _ => []
  | .many ps => ps.map .single

/-- how `add_cia` reports: `Exception` or nothing -/
def excB (b : Bool) : Except Py.Err Unit := if b then .error .exception else .ok ()

theorem addCia_frame (s : St) (o : CObj) :
    (addCia s o).1 = { s with dict := (addCia s o).1.dict } := by
  unfold addCia
  split <;> rfl

theorem add_cia_eq (s : St) (o : CObj) :
    Gen.SrcC14.CIACache_add_cia o s.dict (fun o => o.pair) = ((addCia s o).1.dict, excB (addCia s o).2) := by
  unfold Gen.SrcC14.CIACache_add_cia addCia
  rw [CiaSM.hasKey_eq_dhas]
  cases hk : Py.dhas s.dict o.pair with
  | true => simp [excB]
  | false => simp [excB, Py.dset_new _ _ _ (Py.dget_eq_none_iff_dhas.2 hk)]

/-- one pass of either loop of `load_cia_from_path(path, pair_filter=[m])` on the file `e`, whose constructor logs the call
    under the pair read off the file name and builds an object named `objPair e`: it is `loadStep m` -/
theorem cia_pass (m : String) (t : St) (e : CFile) (construct : CWorld → CWorld × CObj)
    (hcon : construct (t.log, t.nextId) =
      ((t.log ++ [(e.disc, e.fileId)], t.nextId + 1), { id := t.nextId, pair := objPair e, src := some e.fileId })) :
    (if (!(Py.lhas [m] e.disc)) = true then (encC t, none)
      else if Py.dhas t.dict e.disc = true then (encC t, none)
      else Py.caseE (Gen.SrcC14.CIACache_add_cia (construct (t.log, t.nextId)).2 t.dict (fun o => o.pair)).2
        (fun err => (((Gen.SrcC14.CIACache_add_cia (construct (t.log, t.nextId)).2 t.dict (fun o => o.pair)).1,
          (construct (t.log, t.nextId)).1), some err))
        (fun _ => (((Gen.SrcC14.CIACache_add_cia (construct (t.log, t.nextId)).2 t.dict (fun o => o.pair)).1,
          (construct (t.log, t.nextId)).1), none)))
      = (encC (loadStep m t e).1, if (loadStep m t e).2 then some Py.Err.exception else none) := by
  rw [hcon]
  simp only [Py.lhas, List.any_cons, List.any_nil, Bool.or_false, loadStep, CiaSM.hasKey_eq_dhas]
  by_cases hd : e.disc = m
  · subst hd
    cases hkc : Py.dhas t.dict e.disc with
    | true => simp
    | false =>
      simp only [decide_true, Bool.not_true, Bool.false_eq_true, if_false, beq_self_eq_true, Bool.not_false, Bool.and_self,
        if_true]
      -- the constructed object is handed to `add_cia`, whose exception ends the loop
      have ha := add_cia_eq { t with nextId := t.nextId + 1, log := t.log ++ [(e.disc, e.fileId)] }
        { id := t.nextId, pair := objPair e, src := some e.fileId }
      simp only [] at ha
      rw [ha, addCia_frame, encC]
      cases (addCia { t with nextId := t.nextId + 1, log := t.log ++ [(e.disc, e.fileId)] }
        { id := t.nextId, pair := objPair e, src := some e.fileId }).2 <;> simp [excB]
  · have : (e.disc == m) = false := by simpa using hd
    simp [hd, this]

theorem forB_map {σ β γ : Type} (f : γ → β) (g : σ → β → σ × Bool) (l : List γ) (t : σ) :
    forB g t (l.map f) = forB (fun t x => g t (f x)) t l := by
  fun_induction forB (fun t x => g t (f x)) t l with
  | case1 t => rfl
  | case2 t x l t' h => simp only [List.map_cons, forB, h]
  | case3 t x l t' h ih => simp only [List.map_cons, forB, h, ih]

/-- how a response of the CIA model reads as the outcome of `__getitem__` -/
def respC : Resp → Except Py.Err CObj
  | .served o => .ok o
  | _ => .error .exception

/-! ### the three CIA-cache ties, for a `stem` that reads the pair name off the files of the directories (`hdir`); the theorems of
  Props/C14Src.lean ask this of every `CFile` -/

section
variable (fs : List CDir) (stem : CFile → String)
  (hdir : ∀ d ∈ fs, ∀ e ∈ d, (Py.split1 '_' (stem e)).getD 0 "" = e.disc)
include hdir

theorem cia_load_from_path_of (s : St) (m : String) (p : Nat) :
    Gen.SrcC14.CIACache_load_cia_from_path (CPath.single p) (some [m]) () () s.dict constructH constructP (globC fs)
        (fun o => o.pair) Prod.mk stem (s.log, s.nextId)
      = (encC (loadDir fs m s p).1, excB (loadDir fs m s p).2) := by
  unfold Gen.SrcC14.CIACache_load_cia_from_path loadDir loadDirWith
  simp only [Option.elim_some, Prod.eta]
  generalize hR : Py.forE (globC fs (s.log, s.nextId) (CPath.single p, "*.db")) _ _ = R
  have key : R = (encC (forB (loadStep m) s (dirFiles fs p .db)).1,
      if (forB (loadStep m) s (dirFiles fs p .db)).2 then some Py.Err.exception else none) := by
    rw [← hR]
    refine forE_simB encC (loadStep m) Py.Err.exception _ (dirFiles fs p .db) (fun t e he => ?_) s
    have hfmt : e.fmt = .db := by simpa [dirFiles] using (List.mem_filter.1 he).2
    obtain ⟨d, hd, hed⟩ := mem_scan (q := some (.single p)) (List.mem_append_left _ he)
    simp only [hdir d hd e hed]
    exact cia_pass m t e (fun w => constructP w () e e.disc) (by simp [constructP, objPair, hfmt])
  rw [key]
  rcases h1 : forB (loadStep m) s (dirFiles fs p .db) with ⟨s1, b1⟩
  cases b1 with
  | true => simp [encC, excB]
  | false =>
    simp only [Bool.false_eq_true, if_false, Py.caseO_none, encC]
    generalize hR2 : Py.forE (globC fs (s1.log, s1.nextId) (CPath.single p, "*.cia")) _ _ = R2
    have key2 : R2 = (encC (forB (loadStep m) s1 (dirFiles fs p .cia)).1,
        if (forB (loadStep m) s1 (dirFiles fs p .cia)).2 then some Py.Err.exception else none) := by
      rw [← hR2]
      refine forE_simB encC (loadStep m) Py.Err.exception _ (dirFiles fs p .cia) (fun t e he => ?_) s1
      have hfmt : e.fmt = .cia := by simpa [dirFiles] using (List.mem_filter.1 he).2
      obtain ⟨d, hd, hed⟩ := mem_scan (q := some (.single p)) (List.mem_append_right _ he)
      simp only [hdir d hd e hed]
      exact cia_pass m t e (fun w => constructH w () e) (by simp [constructH, objPair, hfmt])
    rw [key2]
    rcases h2 : forB (loadStep m) s1 (dirFiles fs p .cia) with ⟨s2, b2⟩
    cases b2 <;> simp [encC, excB]

theorem cia_load_cia_of (s : St) (m : String) :
    Gen.SrcC14.CIACache_load_cia (some [m]) () () s.dict s.path constructH constructP (globC fs) isList isStr
        (fun o => o.pair) pathItems Prod.mk stem (s.log, s.nextId)
      = (encC (loadCia fs m s).1, excB (loadCia fs m s).2) := by
  unfold Gen.SrcC14.CIACache_load_cia loadCia loadCiaWith
  cases hp : s.path with
  | none => simp [encC, excB]
  | some q =>
    cases q with
    | single p =>
      simp only [Option.elim_some, isStr, if_true, cia_load_from_path_of fs stem hdir s m p, encC, loadDir]
      rcases loadDirWith loadStep fs m s p with ⟨s1, b1⟩
      cases b1 <;> simp [excB]
    | many ps =>
      simp only [Option.elim_some, isStr, isList, Bool.false_eq_true, if_false, if_true, pathItems, Prod.eta]
      generalize hR : Py.forE (ps.map CPath.single) _ _ = R
      have key : R = (encC (forB (loadDirWith loadStep fs m) s ps).1,
          if (forB (loadDirWith loadStep fs m) s ps).2 then some Py.Err.exception else none) := by
        rw [← hR]
        have hb : forB (loadDirWith loadStep fs m) s ps = forB (fun t (q : CPath) => match q with
            | .single p => loadDirWith loadStep fs m t p
            | .many _ => (t, false)) s (ps.map CPath.single) := by rw [forB_map]
        rw [hb]
        refine forE_simB encC _ Py.Err.exception _ (ps.map CPath.single) (fun t q hq => ?_) s
        obtain ⟨p, _, rfl⟩ := List.mem_map.1 hq
        have h := cia_load_from_path_of fs stem hdir t m p
        simp only [encC, loadDir] at h ⊢
        simp only [h]
        cases (loadDirWith loadStep fs m t p).2 <;> simp [excB]
      rw [key]
      rcases forB (loadDirWith loadStep fs m) s ps with ⟨s1, b1⟩
      cases b1 <;> simp [encC, excB]

theorem cia_getitem_of (s : St) (m : String) :
    Gen.SrcC14.CIACache_getitem m () () s.dict s.path constructH constructP (globC fs) isList isStr
        (fun o => o.pair) pathItems Prod.mk stem (s.log, s.nextId)
      = (encC (step fs s (.get m)).1, respC (step fs s (.get m)).2) := by
  unfold Gen.SrcC14.CIACache_getitem
  simp only [step, stepWith, CiaSM.lookup_eq_dget, Py.dhas_eq_isSome, Py.dgetE]
  cases h1 : Py.dget s.dict m with
  | some o => simp [encC, respC]
  | none =>
    simp only [Option.isSome_none, Bool.false_eq_true, if_false, cia_load_cia_of fs stem hdir s m, encC, loadCia]
    rcases loadCiaWith loadStep fs m s with ⟨s1, b1⟩
    cases b1 with
    | true => simp [excB, respC]
    | false =>
      simp only [excB, Bool.false_eq_true, if_false, Py.caseE_ok]
      cases h2 : Py.dget s1.dict m with
      | some o => simp [respC]
      | none => simp [respC]

end

/-- `hdir` holds of a directory whose files are named `<pair>_2011.*` -/
example : ∀ d ∈ ([[⟨.db, 0, "H2-H2", "H2-H2"⟩, ⟨.cia, 1, "H2-He", "H2-He"⟩]] : List CDir), ∀ e ∈ d,
    (Py.split1 '_' ((fun e : CFile => e.disc ++ "_2011") e)).getD 0 "" = e.disc := by
  decide +kernel

end Taurex.C14Src
