/-
  `Taurex.Transmission` over ℝ: the accumulation loop as a finite sum, sign and monotonicity of the optical depth in the
  opacities, what the early exit `tau[layer].min() > 10` can change, the depth integral, and the chord lengths on the
  altitude grid `Shells`.
-/
import Mathlib.Algebra.BigOperators.Group.Finset.Basic
import Mathlib.Algebra.BigOperators.Group.List.Basic
import Mathlib.Algebra.Order.BigOperators.Group.List
import Mathlib.Algebra.Order.BigOperators.Group.Finset
import Mathlib.Analysis.SpecialFunctions.Exp
import Mathlib.Analysis.SpecialFunctions.Sqrt
import Mathlib.Tactic.Ring
import Mathlib.Tactic.Linarith
import Mathlib.Tactic.Positivity
import Proofs.RealInst
import Proofs.Convex
import TaurexModel.Transmission

open Finset

namespace Taurex.Transmission

theorem accFrom_eq (a : ℝ) (n : ℕ) (f : ℕ → ℝ) : accFrom a n f = a + ∑ k ∈ range n, f k := by
  unfold accFrom
  induction n generalizing a with
  | zero => simp
  | succ n ih =>
    rw [List.range_succ, List.foldl_append, ih]
    simp [Finset.sum_range_succ]
    ring

/-! ### contributions: the optical depth as a linear form in the opacities

  Every kernel adds `Σ_k sigma[srcLayer k, wn] · weight k` to its row; the weights do not depend on the opacity and are
  non-negative for non-negative paths and densities.  Sign, monotonicity, additivity and proportionality of the optical
  depth (here and in `Props/C03.lean`) are read off this form. -/

/-- physical sign conditions on one contribution's prepared opacity -/
def Contrib.Nonneg (c : Contrib ℝ) : Prop := ∀ l wn, 0 ≤ c.sigma l wn

def Contrib.Le (c c' : Contrib ℝ) : Prop := c.kind = c'.kind ∧ ∀ l wn, c.sigma l wn ≤ c'.sigma l wn

/-- what multiplies the opacity in the `k`-th summand: path × density (`contribute_tau`), × density once more
    (`contribute_cia`), `1` for the cloud deck -/
def weight (κ : Kind) (path dens : ℕ → ℝ) (l k : ℕ) : ℝ :=
  match κ with
  | .lin => path k * dens (k + l)
  | .sq => path k * dens (k + l) * dens (k + l)
  | .layerOnly => 1

/-- the layer whose opacity the `k`-th summand reads -/
def srcLayer (κ : Kind) (l k : ℕ) : ℕ :=
  match κ with
  | .layerOnly => l
  | _ => k + l

theorem term_eq (c : Contrib ℝ) (path dens : ℕ → ℝ) (l wn k : ℕ) :
    term c path dens l wn k = c.sigma (srcLayer c.kind l k) wn * weight c.kind path dens l k := by
  unfold term weight srcLayer
  cases c.kind <;> simp only <;> ring

theorem weight_nonneg (c : Contrib ℝ) (n l : ℕ) (path dens : ℕ → ℝ) (hp : ∀ k < n - l, 0 ≤ path k)
    (hd : ∀ j < n, 0 ≤ dens j) (k : ℕ) (hk : k < nTerms c n l) : 0 ≤ weight c.kind path dens l k := by
  unfold weight
  unfold nTerms at hk
  cases hkind : c.kind <;> simp only [hkind] at hk ⊢
  · exact mul_nonneg (hp k hk) (hd (k + l) (by omega))
  · exact mul_nonneg (mul_nonneg (hp k hk) (hd (k + l) (by omega))) (hd (k + l) (by omega))
  · exact zero_le_one

/-- what one contribution adds to a row -/
noncomputable def inc (n : ℕ) (path dens : ℕ → ℝ) (l : ℕ) (c : Contrib ℝ) (wn : ℕ) : ℝ :=
  ∑ k ∈ range (nTerms c n l), c.sigma (srcLayer c.kind l k) wn * weight c.kind path dens l k

theorem addContrib_eq_inc (c : Contrib ℝ) (n : ℕ) (path dens : ℕ → ℝ) (l : ℕ) (acc : ℕ → ℝ) (wn : ℕ) :
    addContrib c n path dens l acc wn = acc wn + inc n path dens l c wn := by
  unfold addContrib inc
  rw [accFrom_eq]
  simp only [term_eq]

theorem tauFullFrom_eq_sum (n : ℕ) (path dens : ℕ → ℝ) (l : ℕ) (cs : List (Contrib ℝ)) (acc : ℕ → ℝ) (wn : ℕ) :
    tauFullFrom n path dens l cs acc wn = acc wn + (cs.map fun c => inc n path dens l c wn).sum := by
  unfold tauFullFrom
  induction cs generalizing acc with
  | nil => simp
  | cons c cs ih => rw [List.foldl_cons, ih, addContrib_eq_inc, List.map_cons, List.sum_cons, add_assoc]

theorem tauFull_eq_sum (n : ℕ) (path dens : ℕ → ℝ) (l : ℕ) (cs : List (Contrib ℝ)) (wn : ℕ) :
    tauFull n path dens l cs wn = (cs.map fun c => inc n path dens l c wn).sum := by
  unfold tauFull; rw [tauFullFrom_eq_sum, zero_add]

theorem tauFull_single (n : ℕ) (path dens : ℕ → ℝ) (l : ℕ) (c : Contrib ℝ) (wn : ℕ) :
    tauFull n path dens l [c] wn = inc n path dens l c wn := by
  rw [tauFull_eq_sum, List.map_singleton, List.sum_singleton]

theorem inc_nonneg (c : Contrib ℝ) (hc : c.Nonneg) (n : ℕ) (path dens : ℕ → ℝ) (l : ℕ)
    (hp : ∀ k < n - l, 0 ≤ path k) (hd : ∀ j < n, 0 ≤ dens j) (wn : ℕ) : 0 ≤ inc n path dens l c wn :=
  Finset.sum_nonneg fun k hk => mul_nonneg (hc _ _) (weight_nonneg c n l path dens hp hd k (mem_range.1 hk))

theorem inc_mono (c c' : Contrib ℝ) (h : c.Le c') (n : ℕ) (path dens : ℕ → ℝ) (l : ℕ)
    (hp : ∀ k < n - l, 0 ≤ path k) (hd : ∀ j < n, 0 ≤ dens j) (wn : ℕ) :
    inc n path dens l c wn ≤ inc n path dens l c' wn := by
  unfold inc nTerms
  rw [← h.1]
  exact Finset.sum_le_sum fun k hk =>
    mul_le_mul_of_nonneg_right (h.2 _ _) (weight_nonneg c n l path dens hp hd k (mem_range.1 hk))

theorem inc_zero (n : ℕ) (path dens : ℕ → ℝ) (l : ℕ) (c : Contrib ℝ) (hc : ∀ l wn, c.sigma l wn = 0) (wn : ℕ) :
    inc n path dens l c wn = 0 :=
  Finset.sum_eq_zero fun k _ => by rw [hc, zero_mul]

theorem inc_add (n : ℕ) (path dens : ℕ → ℝ) (l : ℕ) (κ : Kind) (s1 s2 : ℕ → ℕ → ℝ) (wn : ℕ) :
    inc n path dens l { kind := κ, sigma := fun a b => s1 a b + s2 a b } wn
      = inc n path dens l { kind := κ, sigma := s1 } wn + inc n path dens l { kind := κ, sigma := s2 } wn := by
  unfold inc
  exact (Finset.sum_congr rfl fun k _ => add_mul _ _ _).trans Finset.sum_add_distrib

theorem inc_smul (n : ℕ) (path dens : ℕ → ℝ) (l : ℕ) (κ : Kind) (s : ℝ) (s1 : ℕ → ℕ → ℝ) (wn : ℕ) :
    inc n path dens l { kind := κ, sigma := fun a b => s * s1 a b } wn
      = s * inc n path dens l { kind := κ, sigma := s1 } wn := by
  unfold inc
  exact (Finset.sum_congr rfl fun k _ => mul_assoc _ _ _).trans (Finset.mul_sum _ _ _).symm

theorem addContrib_ge (c : Contrib ℝ) (hc : c.Nonneg) (n : ℕ) (path dens : ℕ → ℝ) (l : ℕ)
    (hp : ∀ k < n - l, 0 ≤ path k) (hd : ∀ j < n, 0 ≤ dens j) (acc : ℕ → ℝ) (wn : ℕ) :
    acc wn ≤ addContrib c n path dens l acc wn := by
  rw [addContrib_eq_inc]
  exact le_add_of_nonneg_right (inc_nonneg c hc n path dens l hp hd wn)

theorem addContrib_mono_acc (c : Contrib ℝ) (n : ℕ) (path dens : ℕ → ℝ) (l : ℕ) {a b : ℕ → ℝ}
    (h : ∀ wn, a wn ≤ b wn) (wn : ℕ) : addContrib c n path dens l a wn ≤ addContrib c n path dens l b wn := by
  rw [addContrib_eq_inc, addContrib_eq_inc]
  exact add_le_add_left (h wn) _

theorem tauFullFrom_ge (n : ℕ) (path dens : ℕ → ℝ) (l : ℕ) (hp : ∀ k < n - l, 0 ≤ path k) (hd : ∀ j < n, 0 ≤ dens j)
    (cs : List (Contrib ℝ)) (hcs : ∀ c ∈ cs, c.Nonneg) (acc : ℕ → ℝ) (wn : ℕ) :
    acc wn ≤ tauFullFrom n path dens l cs acc wn := by
  rw [tauFullFrom_eq_sum]
  exact le_add_of_nonneg_right
    (Convex.sum_map_nonneg cs _ fun c hc => inc_nonneg c (hcs c hc) n path dens l hp hd wn)

theorem saturated_iff (nwn : ℕ) (row : ℕ → ℝ) : saturated nwn row = true ↔ ∀ wn < nwn, 10 < row wn := by
  simp [saturated, List.all_eq_true]

/-- the early exit only ever stops at a row that is already above 10 everywhere (whatever the signs of the terms) -/
theorem cutoff_dichotomy (n nwn : ℕ) (path dens : ℕ → ℝ) (l : ℕ) (cs : List (Contrib ℝ)) (acc : ℕ → ℝ) :
    (∀ wn, tauCutFrom n nwn path dens l cs acc wn = tauFullFrom n path dens l cs acc wn) ∨
      (∀ wn < nwn, 10 < tauCutFrom n nwn path dens l cs acc wn) := by
  induction cs generalizing acc with
  | nil => exact Or.inl fun _ => rfl
  | cons c cs ih =>
    simp only [tauCutFrom]
    split
    · rename_i hs
      exact Or.inr ((saturated_iff nwn acc).1 hs)
    · exact ih (addContrib c n path dens l acc)

/-- with non-negative terms the loop with the exit ends between the row it started from and the full sum -/
theorem tauCutFrom_between (n nwn : ℕ) (path dens : ℕ → ℝ) (l : ℕ) (hp : ∀ k < n - l, 0 ≤ path k)
    (hd : ∀ j < n, 0 ≤ dens j) (cs : List (Contrib ℝ)) (hcs : ∀ c ∈ cs, c.Nonneg) (acc : ℕ → ℝ) (wn : ℕ) :
    acc wn ≤ tauCutFrom n nwn path dens l cs acc wn ∧
      tauCutFrom n nwn path dens l cs acc wn ≤ tauFullFrom n path dens l cs acc wn := by
  induction cs generalizing acc with
  | nil => exact ⟨le_refl _, le_refl _⟩
  | cons c cs ih =>
    simp only [tauCutFrom]
    split
    · exact ⟨le_refl _, tauFullFrom_ge n path dens l hp hd (c :: cs) hcs acc wn⟩
    · obtain ⟨h1, h2⟩ := ih (fun c' hc' => hcs c' (List.mem_cons_of_mem _ hc')) (addContrib c n path dens l acc)
      exact ⟨(addContrib_ge c (hcs c List.mem_cons_self) n path dens l hp hd acc wn).trans h1, h2⟩

/-! at the zero row, as `path_integral` starts every layer -/

section zeroRow
variable (n nwn : ℕ) (path dens : ℕ → ℝ) (l : ℕ) (hp : ∀ k < n - l, 0 ≤ path k) (hd : ∀ j < n, 0 ≤ dens j)
  (cs : List (Contrib ℝ)) (hcs : ∀ c ∈ cs, c.Nonneg) (wn : ℕ)
include hp hd hcs

theorem tauFull_nonneg : 0 ≤ tauFull n path dens l cs wn :=
  tauFullFrom_ge n path dens l hp hd cs hcs (fun _ => 0) wn

theorem tauCut_nonneg : 0 ≤ tauCut n nwn path dens l cs wn :=
  (tauCutFrom_between n nwn path dens l hp hd cs hcs (fun _ => 0) wn).1

theorem tauCut_le_tauFull : tauCut n nwn path dens l cs wn ≤ tauFull n path dens l cs wn :=
  (tauCutFrom_between n nwn path dens l hp hd cs hcs (fun _ => 0) wn).2

end zeroRow

/-- so the first contribution of a layer is always added -/
theorem not_saturated_zero (nwn : ℕ) (h : 0 < nwn) : saturated nwn (fun _ => (0 : ℝ)) = false := by
  rw [Bool.eq_false_iff, Ne, saturated_iff]
  exact fun hall => absurd (hall 0 h) (by norm_num)

/-! ### monotonicity in the opacities -/

theorem tauFullFrom_mono (n : ℕ) (path dens : ℕ → ℝ) (l : ℕ) (hp : ∀ k < n - l, 0 ≤ path k) (hd : ∀ j < n, 0 ≤ dens j)
    (cs cs' : List (Contrib ℝ)) (h : List.Forall₂ Contrib.Le cs cs') {a b : ℕ → ℝ} (hab : ∀ wn, a wn ≤ b wn)
    (wn : ℕ) : tauFullFrom n path dens l cs a wn ≤ tauFullFrom n path dens l cs' b wn := by
  rw [tauFullFrom_eq_sum, tauFullFrom_eq_sum]
  refine add_le_add (hab wn) (List.Forall₂.sum_le_sum ?_)
  rw [List.forall₂_map_left_iff, List.forall₂_map_right_iff]
  exact h.imp fun c c' hc => inc_mono c c' hc n path dens l hp hd wn

def Contrib.scale (s : ℝ) (c : Contrib ℝ) : Contrib ℝ := { kind := c.kind, sigma := fun l wn => s * c.sigma l wn }

theorem scale_le (s : ℝ) (hs : 1 ≤ s) (cs : List (Contrib ℝ)) (hcs : ∀ c ∈ cs, c.Nonneg) :
    List.Forall₂ Contrib.Le cs (cs.map (Contrib.scale s)) := by
  induction cs with
  | nil => simp
  | cons c cs ih =>
    exact List.Forall₂.cons ⟨rfl, fun l wn => le_mul_of_one_le_left (hcs c List.mem_cons_self l wn) hs⟩
      (ih (fun c' hc' => hcs c' (List.mem_cons_of_mem _ hc')))

theorem scale_nonneg (s : ℝ) (hs : 0 ≤ s) (cs : List (Contrib ℝ)) (hcs : ∀ c ∈ cs, c.Nonneg) :
    ∀ c ∈ cs.map (Contrib.scale s), c.Nonneg := by
  intro c hc
  obtain ⟨c0, hc0, rfl⟩ := List.mem_map.1 hc
  intro l wn
  exact mul_nonneg hs (hcs c0 hc0 l wn)

/-! ### nothing absorbs -/

theorem addContrib_zero (c : Contrib ℝ) (hc : ∀ l wn, c.sigma l wn = 0) (n : ℕ) (path dens : ℕ → ℝ) (l : ℕ)
    (acc : ℕ → ℝ) : addContrib c n path dens l acc = acc :=
  funext fun wn => by rw [addContrib_eq_inc, inc_zero n path dens l c hc, add_zero]

theorem tauFullFrom_zero (n : ℕ) (path dens : ℕ → ℝ) (l : ℕ) (cs : List (Contrib ℝ))
    (h : ∀ c ∈ cs, ∀ l wn, c.sigma l wn = 0) (acc : ℕ → ℝ) : tauFullFrom n path dens l cs acc = acc :=
  funext fun wn => by
    rw [tauFullFrom_eq_sum, List.sum_eq_zero, add_zero]
    intro x hx
    obtain ⟨c, hc, rfl⟩ := List.mem_map.1 hx
    exact inc_zero n path dens l c (h c hc) wn

theorem tauCutFrom_zero (n nwn : ℕ) (path dens : ℕ → ℝ) (l : ℕ) (cs : List (Contrib ℝ))
    (h : ∀ c ∈ cs, ∀ l wn, c.sigma l wn = 0) (acc : ℕ → ℝ) : tauCutFrom n nwn path dens l cs acc = acc := by
  induction cs generalizing acc with
  | nil => rfl
  | cons c cs ih =>
    unfold tauCutFrom
    split
    · rfl
    · rw [addContrib_zero c (h c (by simp))]
      exact ih (fun c' hc' => h c' (by simp [hc'])) acc

/-! ### depth -/

theorem depth_eq (rp rs : ℝ) (n : ℕ) (z dz tr : ℕ → ℝ) :
    depth rp rs n z dz tr = (rp ^ 2 + ∑ l ∈ range n, 2 * (rp + z l) * (1 - tr l) * dz l) / rs ^ 2 := by
  unfold depth
  rw [accFrom_eq]
  simp only [sq, depthTerm, zero_add]
  congr 1
  · congr 1
    · ring
    · exact Finset.sum_congr rfl (fun l _ => by ring)
  · ring

theorem depth_sub (rp rs : ℝ) (n : ℕ) (z dz tr tr' : ℕ → ℝ) :
    depth rp rs n z dz tr' - depth rp rs n z dz tr
      = (∑ l ∈ range n, 2 * (rp + z l) * dz l * (tr l - tr' l)) / rs ^ 2 := by
  rw [depth_eq, depth_eq, ← sub_div]
  congr 1
  rw [add_sub_add_left_eq_sub, ← Finset.sum_sub_distrib]
  exact Finset.sum_congr rfl (fun l _ => by ring)

theorem depth_mono_tr (rp rs : ℝ) (n : ℕ) (z dz tr tr' : ℕ → ℝ)
    (hz : ∀ l < n, 0 ≤ rp + z l) (hdz : ∀ l < n, 0 ≤ dz l) (h : ∀ l < n, tr' l ≤ tr l) :
    depth rp rs n z dz tr ≤ depth rp rs n z dz tr' := by
  rw [← sub_nonneg, depth_sub]
  exact div_nonneg (Finset.sum_nonneg fun l hl => mul_nonneg
    (mul_nonneg (mul_nonneg zero_le_two (hz l (mem_range.1 hl))) (hdz l (mem_range.1 hl)))
    (sub_nonneg.2 (h l (mem_range.1 hl)))) (sq_nonneg rs)

theorem depth_band (rp rs : ℝ) (n : ℕ) (z dz tr tr' : ℕ → ℝ) (e : ℝ)
    (hz : ∀ l < n, 0 ≤ rp + z l) (hdz : ∀ l < n, 0 ≤ dz l)
    (h0 : ∀ l < n, tr' l ≤ tr l) (h1 : ∀ l < n, tr l - tr' l ≤ e) :
    0 ≤ depth rp rs n z dz tr' - depth rp rs n z dz tr ∧
    depth rp rs n z dz tr' - depth rp rs n z dz tr ≤ e * (∑ l ∈ range n, 2 * (rp + z l) * dz l) / rs ^ 2 := by
  have hw : ∀ l ∈ range n, 0 ≤ 2 * (rp + z l) * dz l := fun l hl =>
    mul_nonneg (mul_nonneg zero_le_two (hz l (mem_range.1 hl))) (hdz l (mem_range.1 hl))
  refine ⟨sub_nonneg.2 (depth_mono_tr rp rs n z dz tr tr' hz hdz h0), ?_⟩
  rw [depth_sub]
  apply div_le_div_of_nonneg_right _ (sq_nonneg rs)
  rw [mul_comm, Finset.sum_mul]
  exact Finset.sum_le_sum fun l hl => mul_le_mul_of_nonneg_left (h1 l (mem_range.1 hl)) (hw l hl)

/-! ### the band of the early exit -/

theorem trans_le_one (t : ℝ) (h : 0 ≤ t) : trans t ≤ 1 := by
  unfold trans; simp only [exp_real]; exact Real.exp_le_one_iff.2 (by linarith)

theorem trans_pos (t : ℝ) : 0 < trans t := by
  unfold trans; simp only [exp_real]; exact Real.exp_pos _

theorem trans_anti {a b : ℝ} (h : a ≤ b) : trans b ≤ trans a := by
  unfold trans; simp only [exp_real]; exact Real.exp_le_exp.2 (by linarith)

theorem trans_lt_of_gt {a : ℝ} (h : 10 < a) : trans a < trans 10 := by
  unfold trans; simp only [exp_real]; exact Real.exp_lt_exp.2 (by linarith)

theorem trans_cut_band (n nwn : ℕ) (path dens : ℕ → ℝ) (l : ℕ) (hp : ∀ k < n - l, 0 ≤ path k)
    (hd : ∀ j < n, 0 ≤ dens j) (cs : List (Contrib ℝ)) (hcs : ∀ c ∈ cs, c.Nonneg) (wn : ℕ) (hwn : wn < nwn) :
    trans (tauFull n path dens l cs wn) ≤ trans (tauCut n nwn path dens l cs wn) ∧
    trans (tauCut n nwn path dens l cs wn) - trans (tauFull n path dens l cs wn) ≤ trans 10 := by
  refine ⟨trans_anti (tauCut_le_tauFull n nwn path dens l hp hd cs hcs wn), ?_⟩
  rcases cutoff_dichotomy n nwn path dens l cs (fun _ => 0) with h | h
  · rw [show tauCut n nwn path dens l cs wn = tauFull n path dens l cs wn from h wn, sub_self]
    exact (trans_pos 10).le
  · exact (sub_le_self _ (trans_pos _).le).trans (trans_lt_of_gt (h wn hwn)).le

/-! ### the altitude grid and the chords through it -/

/-- the altitude grid the forward model builds (`calculate_scale_properties`): `z = zb[:-1]`,
    `zb[l+1] = zb[l] + dz[l]`, non-negative layer thickness, the surface not below the centre -/
structure Shells (rp : ℝ) (n : ℕ) (zb z dz : ℕ → ℝ) : Prop where
  base : 0 ≤ rp + zb 0
  hz : ∀ l < n, z l = zb l
  step : ∀ l < n, zb (l + 1) = zb l + dz l
  thick : ∀ l < n, 0 ≤ dz l

theorem mono_of_step {f : ℕ → ℝ} {m : ℕ} (h : ∀ j < m, f j ≤ f (j + 1)) : ∀ i j, i ≤ j → j ≤ m → f i ≤ f j := by
  intro i j hij hj
  induction j, hij using Nat.le_induction with
  | base => exact le_refl _
  | succ j _ ih => exact (ih (Nat.le_of_succ_le hj)).trans (h j hj)

namespace Shells
variable {rp : ℝ} {n : ℕ} {zb z dz : ℕ → ℝ}

theorem zb_mono (S : Shells rp n zb z dz) : ∀ i j, i ≤ j → j ≤ n → zb i ≤ zb j :=
  mono_of_step fun j hj => by rw [S.step j hj]; exact le_add_of_nonneg_right (S.thick j hj)

theorem radius_nonneg (S : Shells rp n zb z dz) (i : ℕ) (hi : i ≤ n) : 0 ≤ rp + zb i :=
  S.base.trans ((add_le_add_iff_left rp).2 (S.zb_mono 0 i (Nat.zero_le _) hi))

theorem z_radius_nonneg (S : Shells rp n zb z dz) (l : ℕ) (hl : l < n) : 0 ≤ rp + z l := by
  rw [S.hz l hl]; exact S.radius_nonneg l hl.le

end Shells

/-- the grid of the examples: unit layers above a unit planet -/
theorem shells_unit (n : ℕ) : Shells (1 : ℝ) n (fun l => (l : ℝ)) (fun l => (l : ℝ)) (fun _ => 1) :=
  ⟨by positivity, fun _ _ => rfl, fun l _ => Nat.cast_succ l, fun _ _ => zero_le_one⟩

section chords
variable {rp : ℝ} {n : ℕ} {zb z dz : ℕ → ℝ}

/-- the radius whose square is the `p` of the old method -/
theorem oldBase_nonneg (S : Shells rp n zb z dz) (l : ℕ) (hl : l < n) : 0 ≤ rp + dz 0 / 2 + z l := by
  linarith only [S.z_radius_nonneg l hl, S.thick 0 (Nat.zero_lt_of_lt hl)]

theorem oldMid_nonneg (S : Shells rp n zb z dz) (j : ℕ) (hj : j < n) : 0 ≤ oldMid rp z dz j :=
  add_nonneg (oldBase_nonneg S j hj) (div_nonneg (S.thick j hj) zero_le_two)

theorem oldMid_step (S : Shells rp n zb z dz) (j : ℕ) (hj : j + 1 < n) :
    oldMid rp z dz j ≤ oldMid rp z dz (j + 1) := by
  have hj' : j < n := Nat.lt_of_succ_lt hj
  unfold oldMid
  rw [S.hz j hj', S.hz (j + 1) hj, S.step j hj']
  linarith only [S.thick j hj', S.thick (j + 1) hj]

theorem oldMid_mono (S : Shells rp n zb z dz) (i j : ℕ) (hij : i ≤ j) (hj : j < n) :
    oldMid rp z dz i ≤ oldMid rp z dz j :=
  mono_of_step (m := n - 1) (fun j hj => oldMid_step S j (Nat.add_lt_of_lt_sub hj)) i j hij (Nat.le_sub_one_of_lt hj)

end chords

theorem sum_chordOld (rp : ℝ) (z dz : ℕ → ℝ) (l m : ℕ) :
    ∑ k ∈ range (m + 1), chordOld rp z dz l k = 2 * oldHalf rp z dz l (l + m) := by
  induction m with
  | zero =>
    rw [Finset.sum_range_one]
    exact mul_comm _ _
  | succ m ih =>
    rw [Finset.sum_range_succ, ih]
    simp only [chordOld, Nat.succ_ne_zero, if_false, Nat.add_succ_sub_one]
    ring

theorem sum_chordNew (rp : ℝ) (zb z dz : ℕ → ℝ) (l m : ℕ) :
    ∑ k ∈ range (m + 1), chordNew rp zb z dz l k = newD rp zb z dz l (l + 1 + m) := by
  induction m with
  | zero => exact Finset.sum_range_one _
  | succ m ih =>
    rw [Finset.sum_range_succ, ih]
    simp only [chordNew, Nat.succ_ne_zero, if_false]
    have : l + (m + 1) = l + 1 + m := by omega
    rw [this, ← Nat.add_assoc]; ring

/-- both chord methods take the square root of a difference of squares of radii: it grows with the outer radius -/
theorem sqrt_sq_sub_mono {a b : ℝ} (p : ℝ) (h0 : 0 ≤ a) (h : a ≤ b) :
    Real.sqrt (a * a - p) ≤ Real.sqrt (b * b - p) :=
  Real.sqrt_le_sqrt (sub_le_sub_right (mul_self_le_mul_self h0 h) p)

theorem oldHalf_mono (rp : ℝ) (z dz : ℕ → ℝ) (l i j : ℕ) (h0 : 0 ≤ oldMid rp z dz i)
    (h : oldMid rp z dz i ≤ oldMid rp z dz j) : oldHalf rp z dz l i ≤ oldHalf rp z dz l j :=
  sqrt_sq_sub_mono _ h0 h

theorem newD_mono (rp : ℝ) (zb z dz : ℕ → ℝ) (l i j : ℕ) (h0 : 0 ≤ rp + zb i) (h : zb i ≤ zb j) :
    newD rp zb z dz l i ≤ newD rp zb z dz l j :=
  mul_le_mul_of_nonneg_left (sqrt_sq_sub_mono _ h0 ((add_le_add_iff_left rp).2 h)) zero_le_two

/-- hypotheses on one atmosphere + contribution list, as the model-level theorems need them
    (`path_nonneg` follows from `shells` for both chord methods: `C01.wellFormed_of_shells`) -/
structure WellFormed (newMethod : Bool) (rp rs : ℝ) (n : ℕ) (zb z dz dens : ℕ → ℝ) (cs : List (Contrib ℝ)) : Prop where
  rs_pos : 0 < rs
  shells : Shells rp n zb z dz
  path_nonneg : ∀ l < n, ∀ k < n - l, 0 ≤ chord newMethod rp zb z dz l k
  dens_nonneg : ∀ j < n, 0 ≤ dens j
  sigma_nonneg : ∀ c ∈ cs, c.Nonneg

/-- pointwise larger opacities (same kernels, same order) never decrease the documented (uncut) depth -/
theorem modelDepth_mono_sigma {newMethod : Bool} {rp rs : ℝ} {n nwn : ℕ} {zb z dz dens : ℕ → ℝ} {cs cs' : List (Contrib ℝ)}
    (W : WellFormed newMethod rp rs n zb z dz dens cs) (h : List.Forall₂ Contrib.Le cs cs') (wn : ℕ) :
    modelDepth false newMethod rp rs n nwn zb z dz dens cs wn ≤ modelDepth false newMethod rp rs n nwn zb z dz dens cs' wn := by
  unfold modelDepth modelTrans
  simp only [Bool.false_eq_true, if_false]
  exact depth_mono_tr rp rs n z dz _ _ (fun l hl => W.shells.z_radius_nonneg l hl) W.shells.thick fun l hl =>
    trans_anti (tauFullFrom_mono n _ dens l (W.path_nonneg l hl) W.dens_nonneg cs cs' h (fun _ => le_refl _) wn)

end Taurex.Transmission
