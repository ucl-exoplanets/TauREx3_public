/-
  C04: `searchsorted` and `find_closest_pair` on strictly increasing grids; the interpolation kernels keep
  their value in any interval that holds the node values and return the node values at the two ends; the
  dispatch `bilinearGrid` is, away from the both-below corner, a clamped one-axis interpolation along T of
  clamped one-axis interpolations along P (`bilinearGrid_eq_along`), so that what is proved once about one
  axis (`along_mem`, `along_node`) gives the statements about the table in both modes.
-/
import Mathlib.Tactic.Linarith
import Mathlib.Tactic.Ring
import Proofs.RealInst
import Proofs.ListCore
import Proofs.Convex

namespace Taurex.C04L
open Taurex.Interp

def Sorted (g : List ℝ) : Prop := g.Pairwise (· < ·)

theorem sorted_getD_lt {g : List ℝ} (h : Sorted g) {i j : Nat} (hij : i < j) (hj : j < g.length) :
    g.getD i 0 < g.getD j 0 := by
  have hi : i < g.length := lt_trans hij hj
  rw [← List.getElem_eq_getD (h := hi) 0, ← List.getElem_eq_getD (h := hj) 0]
  exact List.pairwise_iff_getElem.1 h i j hi hj hij

theorem sorted_getD_le {g : List ℝ} (h : Sorted g) {i j : Nat} (hij : i ≤ j) (hj : j < g.length) :
    g.getD i 0 ≤ g.getD j 0 := by
  rcases Nat.lt_or_eq_of_le hij with h1 | h1
  · exact (sorted_getD_lt h h1 hj).le
  · subst h1; exact le_refl _

theorem lt_searchLeft_iff (g : List ℝ) (h : Sorted g) (v : ℝ) (i : Nat) (hi : i < g.length) :
    i < searchLeft g v ↔ g.getD i 0 < v := by
  rw [← List.getElem_eq_getD (h := hi) 0]
  exact lt_countP_iff (· < ·) (· < v) (fun _ _ hxy hy => lt_trans hxy hy) g h i hi

theorem pair_adjacent (g : List ℝ) (v : ℝ) (hn : 2 ≤ g.length) :
    (findClosestPair g v).2 = (findClosestPair g v).1 + 1 ∧ (findClosestPair g v).2 < g.length := by
  unfold findClosestPair
  simp only
  omega

theorem pair_lt (g : List ℝ) (h : Sorted g) (v : ℝ) (hn : 2 ≤ g.length) :
    g.getD (findClosestPair g v).1 0 < g.getD (findClosestPair g v).2 0 :=
  sorted_getD_lt h (by have := pair_adjacent g v hn; omega) (pair_adjacent g v hn).2

theorem pair_brackets (g : List ℝ) (h : Sorted g) (v : ℝ) (hn : 2 ≤ g.length)
    (hlo : g.getD 0 0 ≤ v) (hhi : v ≤ g.getD (g.length - 1) 0) :
    g.getD (findClosestPair g v).1 0 ≤ v ∧ v ≤ g.getD (findClosestPair g v).2 0 := by
  have hk : searchLeft g v ≤ g.length := List.countP_le_length
  have hiff := lt_searchLeft_iff g h v
  unfold findClosestPair
  simp only
  generalize searchLeft g v = k at hk hiff
  constructor
  · -- the left index is `0` or counts an element below `v`
    rcases (by omega : max (min (g.length - 1) k) 1 - 1 = 0 ∨ max (min (g.length - 1) k) 1 - 1 < k) with e | e
    · rw [e]; exact hlo
    · exact ((hiff _ (by omega)).1 e).le
  · -- the right index is the last one or is not counted
    rcases (by omega : max (min (g.length - 1) k) 1 = g.length - 1 ∨ ¬ max (min (g.length - 1) k) 1 < k) with e | e
    · rw [e]; exact hhi
    · exact not_lt.1 (mt (hiff _ (by omega)).2 e)

theorem pair_below (g : List ℝ) (h : Sorted g) (v : ℝ) (hn : 2 ≤ g.length) (hlo : v ≤ g.getD 0 0) :
    findClosestPair g v = (0, 1) := by
  have : searchLeft g v = 0 := Nat.eq_zero_of_not_pos fun hc =>
    absurd ((lt_searchLeft_iff g h v 0 (by omega)).1 hc) (not_lt.2 hlo)
  unfold findClosestPair
  rw [this, Nat.min_zero, Nat.zero_max]

theorem searchLeft_node (g : List ℝ) (h : Sorted g) (j : Nat) (hj : j < g.length) :
    searchLeft g (g.getD j 0) = j :=
  le_antisymm (not_lt.1 fun hc => lt_irrefl _ ((lt_searchLeft_iff g h _ j hj).1 hc))
    (not_lt.1 fun hc => lt_irrefl _ ((lt_searchLeft_iff g h _ _ (hc.trans hj)).2 (sorted_getD_lt h hc hj)))

theorem pair_node (g : List ℝ) (h : Sorted g) (j : Nat) (hj : j < g.length - 1) :
    (findClosestPair g (g.getD j 0)).1 = j ∨ (findClosestPair g (g.getD j 0)).2 = j := by
  unfold findClosestPair
  simp only [searchLeft_node g h j (by omega)]
  omega

section kernels
variable {lo hi x y v a b : ℝ}

theorem interpLin_mem (h1 : a ≤ v) (h2 : v ≤ b) (hx : x ∈ Set.Icc lo hi) (hy : y ∈ Set.Icc lo hi) :
    interpLin x y v a b ∈ Set.Icc lo hi :=
  Convex.mem_of_eq (by unfold interpLin; ring) (Convex.unit_of_bracket h1 h2) hx hy

theorem interpLin_between (x11 x12 p pmin pmax : ℝ) (h : pmin < pmax) (h1 : pmin ≤ p) (h2 : p ≤ pmax) :
    min x11 x12 ≤ interpLin x11 x12 p pmin pmax ∧ interpLin x11 x12 p pmin pmax ≤ max x11 x12 :=
  interpLin_mem h1 h2 ⟨min_le_left _ _, le_max_left _ _⟩ ⟨min_le_right _ _, le_max_right _ _⟩

theorem interpLin_left : interpLin x y a a b = x := by
  unfold interpLin; simp

theorem interpLin_right (hab : a < b) : interpLin x y b a b = y := by
  unfold interpLin
  rw [div_self (sub_pos.2 hab).ne']; ring

theorem interpLin_pos (hx : 0 < x) (hy : 0 < y) (h1 : a ≤ v) (h2 : v ≤ b) : 0 < interpLin x y v a b :=
  (lt_min hx hy).trans_le
    (interpLin_mem h1 h2 ⟨min_le_left _ _, le_max_left _ _⟩ ⟨min_le_right _ _, le_max_right _ _⟩).1

theorem min4_le_min2 (a b c d : ℝ) :
    min (min a b) (min c d) ≤ min (min a b) (min c d) := le_refl _

/-- the exponent weight `λ = Tmax (T - Tmin) / (T (Tmax - Tmin))` lies in `[0,1]` inside the bracket -/
theorem lam_unit (h0 : 0 < a) (hab : a < b) (h1 : a ≤ v) (h2 : v ≤ b) :
    0 ≤ b * (v - a) / (v * (b - a)) ∧ b * (v - a) / (v * (b - a)) ≤ 1 := by
  have hd : 0 < v * (b - a) := mul_pos (by linarith) (by linarith)
  refine ⟨div_nonneg (mul_nonneg (by linarith) (by linarith)) hd.le, (div_le_one hd).2 ?_⟩
  have := mul_le_mul_of_nonneg_right h2 h0.le
  linarith

/-- `x * exp(c * log(x/y))` with `c = -λ` is the weighted geometric mean `exp((1-λ) log x + λ log y)` -/
theorem interpExp_geo (hx : 0 < x) (hy : 0 < y) :
    interpExp x y v a b
      = Real.exp ((1 - b * (v - a) / (v * (b - a))) * Real.log x + b * (v - a) / (v * (b - a)) * Real.log y) := by
  unfold interpExp
  simp only [exp_real, log_real]
  rw [Real.log_div hx.ne' hy.ne']
  conv_lhs => rw [← Real.exp_log hx]
  rw [← Real.exp_add]
  congr 1
  rw [Real.log_exp]
  ring

theorem interpExp_mem (hlo : 0 < lo) (h0 : 0 < a) (hab : a < b) (h1 : a ≤ v) (h2 : v ≤ b)
    (hx : x ∈ Set.Icc lo hi) (hy : y ∈ Set.Icc lo hi) : interpExp x y v a b ∈ Set.Icc lo hi := by
  have hx0 : 0 < x := hlo.trans_le hx.1
  have hy0 : 0 < y := hlo.trans_le hy.1
  -- the convex combination of the logarithms stays in `[log lo, log hi]`, and `exp` is monotone
  obtain ⟨l, u⟩ := Convex.combo_mem (lam_unit h0 hab h1 h2)
    ⟨Real.log_le_log hlo hx.1, Real.log_le_log hx0 hx.2⟩ ⟨Real.log_le_log hlo hy.1, Real.log_le_log hy0 hy.2⟩
  rw [interpExp_geo hx0 hy0]
  constructor
  · rw [← Real.exp_log hlo]; exact Real.exp_le_exp.2 l
  · rw [← Real.exp_log (hx0.trans_le hx.2)]; exact Real.exp_le_exp.2 u

theorem interpExp_left : interpExp x y a a b = x := by
  unfold interpExp; simp

theorem interpExp_right (hx : 0 < x) (hy : 0 < y) (ha : 0 < a) (hab : a < b) : interpExp x y b a b = y := by
  unfold interpExp
  simp only [exp_real, log_real]
  have hd : b * (b - a) ≠ 0 := mul_ne_zero (by linarith) (by linarith)
  rw [show b * (-b + a) * Real.log (x / y) = -Real.log (x / y) * (b * (b - a)) by ring,
    mul_div_cancel_right₀ _ hd, Real.exp_neg, Real.exp_log (div_pos hx hy), inv_div, mul_div_cancel₀ _ hx.ne']

end kernels

theorem interpBilin_nested (x11 x12 x21 x22 t tmin tmax p pmin pmax : ℝ) :
    interpBilin x11 x12 x21 x22 t tmin tmax p pmin pmax
      = interpLin (interpLin x11 x21 p pmin pmax) (interpLin x12 x22 p pmin pmax) t tmin tmax := by
  unfold interpBilin interpLin; ring

theorem interpExpLin_nested (x11 x12 x21 x22 t tmin tmax p pmin pmax : ℝ) (hp : pmin < pmax) :
    interpExpLin x11 x12 x21 x22 t tmin tmax p pmin pmax
      = interpExp (interpLin x11 x21 p pmin pmax) (interpLin x12 x22 p pmin pmax) t tmin tmax := by
  have hd : pmax - pmin ≠ 0 := (sub_pos.2 hp).ne'
  -- `a` and `b` of the code are the two pressure interpolants times `pmax - pmin`
  have e : ∀ x y : ℝ, x * (pmax - pmin) - (p - pmin) * (x - y) = interpLin x y p pmin pmax * (pmax - pmin) := by
    intro x y; unfold interpLin; rw [sub_mul x, mul_right_comm, div_mul_cancel₀ _ hd]
  unfold interpExpLin interpExp
  simp only [exp_real, log_real]
  rw [e, e, mul_div_mul_right _ _ hd, mul_right_comm, mul_div_cancel_right₀ _ hd]

/-- `interp_temp_only` chooses between the two temperature kernels by `_interp_mode` -/
noncomputable def kernelT : Mode → ℝ → ℝ → ℝ → ℝ → ℝ → ℝ
  | .linear => interpLin
  | .exp => interpExp

/-- exp mode takes logarithms: it needs positive values and positive temperatures -/
theorem kernelT_mem {mode : Mode} {lo hi x y v a b : ℝ} (hm : mode = .exp → 0 < lo ∧ 0 < a)
    (hab : a < b) (h1 : a ≤ v) (h2 : v ≤ b) (hx : x ∈ Set.Icc lo hi) (hy : y ∈ Set.Icc lo hi) :
    kernelT mode x y v a b ∈ Set.Icc lo hi := by
  cases mode
  · exact interpLin_mem h1 h2 hx hy
  · exact interpExp_mem (hm rfl).1 (hm rfl).2 hab h1 h2 hx hy

theorem kernelT_ends {mode : Mode} {x y a b : ℝ} (hm : mode = .exp → 0 < x ∧ 0 < y ∧ 0 < a) (hab : a < b) :
    kernelT mode x y a a b = x ∧ kernelT mode x y b a b = y := by
  cases mode
  · exact ⟨interpLin_left, interpLin_right hab⟩
  · exact ⟨interpExp_left, interpExp_right (hm rfl).1 (hm rfl).2.1 (hm rfl).2.2 hab⟩

/-- interpolation with kernel `K` of the column `col` (values by node index) along the grid `g`, clamped to
    the edge nodes outside it: what `interp_bilinear_grid` does along either axis -/
noncomputable def along (K : ℝ → ℝ → ℝ → ℝ → ℝ → ℝ) (g : List ℝ) (col : Nat → ℝ) (v : ℝ) : ℝ :=
  if v < g.getD 0 0 then col 0
  else if g.getD (g.length - 1) 0 ≤ v then col (g.length - 1)
  else K (col (findClosestPair g v).1) (col (findClosestPair g v).2) v
        (g.getD (findClosestPair g v).1 0) (g.getD (findClosestPair g v).2 0)

/-- the pair of bracketing nodes of `v` along `g`: the nearest edge node twice outside the grid, else the pair of
    `find_closest_pair` (`C04.bracketIdx` of Props/C04.lean is the same expression) -/
noncomputable def bracket (g : List ℝ) (v : ℝ) : Nat × Nat :=
  if v < g.getD 0 0 then (0, 0) else if g.getD (g.length - 1) 0 ≤ v then (g.length - 1, g.length - 1)
    else findClosestPair g v

theorem bracket_lt (g : List ℝ) (v : ℝ) (hn : 2 ≤ g.length) :
    (bracket g v).1 < g.length ∧ (bracket g v).2 < g.length := by
  have := pair_adjacent g v hn
  unfold bracket
  split
  · exact ⟨by omega, by omega⟩
  · split
    · exact ⟨by omega, by omega⟩
    · exact ⟨by omega, this.2⟩

section axis
variable {K : ℝ → ℝ → ℝ → ℝ → ℝ → ℝ} {g : List ℝ} {col : Nat → ℝ} (h : Sorted g) (hn : 2 ≤ g.length)
include h hn

theorem along_mem {v lo hi : ℝ}
    (hK : ∀ x y a c, g.getD 0 0 ≤ a → a < c → a ≤ v → v ≤ c → x ∈ Set.Icc lo hi → y ∈ Set.Icc lo hi →
      K x y v a c ∈ Set.Icc lo hi)
    (h1 : col (bracket g v).1 ∈ Set.Icc lo hi) (h2 : col (bracket g v).2 ∈ Set.Icc lo hi) :
    along K g col v ∈ Set.Icc lo hi := by
  unfold bracket at h1 h2
  unfold along
  by_cases hmin : v < g.getD 0 0
  · rw [if_pos hmin] at h1 ⊢; exact h1
  · rw [if_neg hmin] at h1 h2 ⊢
    by_cases hmax : g.getD (g.length - 1) 0 ≤ v
    · rw [if_pos hmax] at h1 ⊢; exact h1
    · rw [if_neg hmax] at h1 h2 ⊢
      obtain ⟨c, d⟩ := pair_brackets g h v hn (not_lt.1 hmin) (not_le.1 hmax).le
      exact hK _ _ _ _ (sorted_getD_le h (Nat.zero_le _) (by have := pair_adjacent g v hn; omega))
        (pair_lt g h v hn) c d h1 h2

theorem along_node {j : Nat} (hj : j < g.length)
    (hK : ∀ l r, l < g.length → r < g.length → g.getD l 0 < g.getD r 0 →
      K (col l) (col r) (g.getD l 0) (g.getD l 0) (g.getD r 0) = col l ∧
      K (col l) (col r) (g.getD r 0) (g.getD l 0) (g.getD r 0) = col r) :
    along K g col (g.getD j 0) = col j := by
  unfold along
  rw [if_neg (not_lt.2 (sorted_getD_le h (Nat.zero_le j) hj))]
  by_cases hjl : j = g.length - 1
  · subst hjl; rw [if_pos (le_refl _)]
  · have hj' : j < g.length - 1 := by omega
    rw [if_neg (not_le.2 (sorted_getD_lt h hj' (by omega)))]
    have hadj := pair_adjacent g (g.getD j 0) hn
    obtain ⟨l, r⟩ := hK _ _ (by omega) hadj.2 (pair_lt g h (g.getD j 0) hn)
    -- `j` is one of the two nodes of the pair; name the pair, so that `j` can be replaced by that node
    have hnode := pair_node g h j hj'
    generalize findClosestPair g (g.getD j 0) = P at l r hnode ⊢
    rcases hnode with rfl | rfl
    · exact l
    · exact r

end axis

theorem interpTempOnly_eq (mode : Mode) (tg : List ℝ) (tab : List (List ℝ)) (t : ℝ) (tl tr pi : Nat) :
    interpTempOnly mode tg tab t tl tr pi
      = kernelT mode (at2 tab pi tl) (at2 tab pi tr) t (tg.getD tl 0) (tg.getD tr 0) := by
  cases mode <;> rfl

section grid
variable (mode : Mode) (tg pg : List ℝ) (tab : List (List ℝ))
  (hT : Sorted tg) (hP : Sorted pg) (hnT : 2 ≤ tg.length) (hnP : 2 ≤ pg.length)
include hT hP hnT hnP

theorem bilinearGrid_eq_along (t p : ℝ) :
    bilinearGrid mode tg pg tab t p =
      if t < tg.getD 0 0 ∧ p < pg.getD 0 0 then 0
      else along (kernelT mode) tg (fun j => along interpLin pg (fun i => at2 tab i j) p) t := by
  have hT0 : tg.getD 0 0 < tg.getD (tg.length - 1) 0 := sorted_getD_lt hT (by omega) (by omega)
  have hP0 : pg.getD 0 0 < pg.getD (pg.length - 1) 0 := sorted_getD_lt hP (by omega) (by omega)
  -- on each axis the value is below the grid, at or above its last node, or inside
  have three : ∀ {g0 g1 v : ℝ}, g0 < g1 → (v < g0 ∧ ¬ g1 ≤ v) ∨ (¬ v < g0 ∧ g1 ≤ v) ∨ (¬ v < g0 ∧ ¬ g1 ≤ v) :=
    fun h => (lt_or_ge _ _).elim (fun h0 => .inl ⟨h0, not_le.2 (h0.trans h)⟩) fun h0 =>
      (le_or_gt _ _).elim (fun h1 => .inr (.inl ⟨not_lt.2 h0, h1⟩)) fun h1 => .inr (.inr ⟨not_lt.2 h0, not_le.2 h1⟩)
  unfold bilinearGrid along
  simp only [interpTempOnly_eq, interpPressOnly, Bool.and_eq_true, decide_eq_true_eq]
  -- in each of the nine regions the code's branch order and the two nested choices pick the same term
  rcases three (v := p) hP0 with ⟨h3, h1⟩ | ⟨h3, h1⟩ | ⟨h3, h1⟩ <;>
    rcases three (v := t) hT0 with ⟨h4, h2⟩ | ⟨h4, h2⟩ | ⟨h4, h2⟩ <;>
    simp only [h1, h2, h3, h4, and_self, and_true, and_false, if_true, if_false]
  -- inside on both axes: the cell kernel is the temperature kernel of the two pressure interpolants
  cases mode
  · exact interpBilin_nested ..
  · exact interpExpLin_nested _ _ _ _ _ _ _ _ _ _ (pair_lt pg hP p hnP)

/-- exp mode takes logarithms: the table is asked to be positive INSIDE its index range (`at2` is `0` outside it) -/
theorem at_node (i j : Nat)
    (hm : mode = .exp → (∀ i j, i < pg.length → j < tg.length → 0 < at2 tab i j) ∧ 0 < tg.getD 0 0)
    (hi : i < pg.length) (hj : j < tg.length) :
    bilinearGrid mode tg pg tab (tg.getD j 0) (pg.getD i 0) = at2 tab i j := by
  rw [bilinearGrid_eq_along mode tg pg tab hT hP hnT hnP,
    if_neg fun h => absurd h.1 (not_lt.2 (sorted_getD_le hT (Nat.zero_le j) hj))]
  have hcol : ∀ k, along interpLin pg (fun i => at2 tab i k) (pg.getD i 0) = at2 tab i k := fun k =>
    along_node hP hnP hi fun l r _ _ hlr => ⟨interpLin_left, interpLin_right hlr⟩
  simp only [hcol]
  exact along_node (col := fun k => at2 tab i k) hT hnT hj fun l r hl hr hlr =>
    kernelT_ends (fun e => ⟨(hm e).1 i l hi hl, (hm e).1 i r hi hr,
      (hm e).2.trans_le (sorted_getD_le hT (Nat.zero_le l) hl)⟩) hlr

theorem between_nodes (t p lo hi : ℝ) (hm : mode = .exp → 0 < lo ∧ 0 < tg.getD 0 0)
    (hnb : ¬ (t < tg.getD 0 0 ∧ p < pg.getD 0 0))
    (hnodes : ∀ i j, (i = (bracket pg p).1 ∨ i = (bracket pg p).2) → (j = (bracket tg t).1 ∨ j = (bracket tg t).2) →
      at2 tab i j ∈ Set.Icc lo hi) :
    bilinearGrid mode tg pg tab t p ∈ Set.Icc lo hi := by
  rw [bilinearGrid_eq_along mode tg pg tab hT hP hnT hnP, if_neg hnb]
  have hcol : ∀ j, (j = (bracket tg t).1 ∨ j = (bracket tg t).2) →
      along interpLin pg (fun i => at2 tab i j) p ∈ Set.Icc lo hi :=
    fun j hj => along_mem hP hnP (fun _ _ _ _ _ _ h1 h2 => interpLin_mem h1 h2)
      (hnodes _ j (.inl rfl) hj) (hnodes _ j (.inr rfl) hj)
  exact along_mem hT hnT
    (fun _ _ _ _ ha hac h1 h2 => kernelT_mem (fun e => ⟨(hm e).1, (hm e).2.trans_le ha⟩) hac h1 h2)
    (hcol _ (.inl rfl)) (hcol _ (.inr rfl))

theorem between_nodes_minmax (t p : ℝ)
    (hm : mode = .exp → (∀ i j, i < pg.length → j < tg.length → 0 < at2 tab i j) ∧ 0 < tg.getD 0 0)
    (hnb : ¬ (t < tg.getD 0 0 ∧ p < pg.getD 0 0)) :
    bilinearGrid mode tg pg tab t p ∈ Set.Icc
      (min (min (at2 tab (bracket pg p).1 (bracket tg t).1) (at2 tab (bracket pg p).1 (bracket tg t).2))
        (min (at2 tab (bracket pg p).2 (bracket tg t).1) (at2 tab (bracket pg p).2 (bracket tg t).2)))
      (max (max (at2 tab (bracket pg p).1 (bracket tg t).1) (at2 tab (bracket pg p).1 (bracket tg t).2))
        (max (at2 tab (bracket pg p).2 (bracket tg t).1) (at2 tab (bracket pg p).2 (bracket tg t).2))) := by
  obtain ⟨hp1, hp2⟩ := bracket_lt pg p hnP
  obtain ⟨ht1, ht2⟩ := bracket_lt tg t hnT
  refine between_nodes mode tg pg tab hT hP hnT hnP t p _ _
    (fun e => ⟨lt_min (lt_min ((hm e).1 _ _ hp1 ht1) ((hm e).1 _ _ hp1 ht2))
      (lt_min ((hm e).1 _ _ hp2 ht1) ((hm e).1 _ _ hp2 ht2)), (hm e).2⟩)
    hnb fun i j hi hj => ?_
  rcases hi with rfl | rfl <;> rcases hj with rfl | rfl <;>
    simp only [Set.mem_Icc, min_le_iff, le_max_iff, le_refl, true_or, or_true, and_self]

end grid

/-- the exp-mode hypothesis of `at_node` / `between_nodes_minmax` is met by a table of positive entries on grids with a
    positive first temperature (2×2 here); at the node `(T, log10 P) = (200, 1)` the tabulated `4` comes back -/
example : bilinearGrid .exp [100, 200] [0, 1] [[1, 2], [3, 4]] 200 1 = (4 : ℝ) := by
  have hm : Mode.exp = .exp → (∀ i j, i < [(0 : ℝ), 1].length → j < [(100 : ℝ), 200].length →
      0 < at2 [[(1 : ℝ), 2], [3, 4]] i j) ∧ 0 < [(100 : ℝ), 200].getD 0 0 := by
    refine fun _ => ⟨fun i j hi hj => ?_, by norm_num⟩
    have hi' : i = 0 ∨ i = 1 := by simp only [List.length_cons, List.length_nil] at hi; omega
    have hj' : j = 0 ∨ j = 1 := by simp only [List.length_cons, List.length_nil] at hj; omega
    rcases hi' with rfl | rfl <;> rcases hj' with rfl | rfl <;> norm_num [at2]
  simpa [at2] using at_node .exp _ _ _ (by norm_num [Sorted]) (by norm_num [Sorted]) (by simp) (by simp) 1 1 hm
    (by simp) (by simp)

end Taurex.C04L
