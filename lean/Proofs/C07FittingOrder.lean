/-
  The records `generate_fitting_parameters` builds, and therefore the settings a section describes, do not depend on the
  order of the lines (keys `name:option` unique, as ConfigObj guarantees).
-/
import Proofs.C07Fitting

namespace Taurex.C07
open Taurex.Priors Taurex.OptimizerSM Taurex.FittingSection

section
variable {α : Type} (mkPrior : OptVal α → Option (Prior α))

def GEq (g g' : List (String × Rec α)) : Prop := ∀ n, getRec g n = getRec g' n

def OGEq : Option (List (String × Rec α)) → Option (List (String × Rec α)) → Prop
  | none, none => True
  | some a, some b => GEq a b
  | _, _ => False

theorem GEq.refl (g : List (String × Rec α)) : GEq g g := fun _ => rfl
theorem GEq.symm {g g' : List (String × Rec α)} (h : GEq g g') : GEq g' g := fun n => (h n).symm
theorem GEq.trans {a b c : List (String × Rec α)} (h₁ : GEq a b) (h₂ : GEq b c) : GEq a c :=
  fun n => (h₁ n).trans (h₂ n)

theorem OGEq.refl (x : Option (List (String × Rec α))) : OGEq x x := by
  cases x with
  | none => trivial
  | some a => exact GEq.refl a

theorem OGEq.trans {a b c : Option (List (String × Rec α))} (h₁ : OGEq a b) (h₂ : OGEq b c) : OGEq a c := by
  cases a <;> cases b <;> cases c <;> simp only [OGEq] at * <;> first | trivial | exact GEq.trans h₁ h₂ | exact h₁.elim | exact h₂.elim

theorem OGEq.bind_congr {x y : Option (List (String × Rec α))}
    {f g : List (String × Rec α) → Option (List (String × Rec α))} (h : OGEq x y)
    (hfg : ∀ a b, GEq a b → OGEq (f a) (g b)) : OGEq (x.bind f) (y.bind g) := by
  cases x <;> cases y <;> simp only [OGEq] at h
  · trivial
  · exact hfg _ _ h

/-- one line of `generate_fitting_parameters` -/
def stepL (l : Line α) (acc : List (String × Rec α)) :
    Option (List (String × Rec α)) :=
  (setOpt mkPrior l ((getRec acc l.name).getD {})).map (fun r => updRec acc l.name (fun _ => r))

theorem group_cons (l : Line α) (ls : List (Line α)) (acc : List (String × Rec α)) :
    group mkPrior (l :: ls) acc = (stepL mkPrior l acc).bind (group mkPrior ls) := by
  simp only [group, stepL]
  cases setOpt mkPrior l ((getRec acc l.name).getD {}) <;> rfl

theorem stepL_congr (l : Line α) (a a' : List (String × Rec α)) (h : GEq a a') :
    OGEq (stepL mkPrior l a) (stepL mkPrior l a') := by
  unfold stepL
  rw [h l.name]
  cases setOpt mkPrior l ((getRec a' l.name).getD {}) with
  | none => trivial
  | some r =>
    intro m
    rw [getRec_updRec, getRec_updRec, h m]

theorem group_congr : ∀ (ls : List (Line α)) (a a' : List (String × Rec α)),
    GEq a a' → OGEq (group mkPrior ls a) (group mkPrior ls a') := by
  intro ls
  induction ls with
  | nil => intro a a' h; exact h
  | cons l rest ih =>
    intro a a' h
    rw [group_cons, group_cons]
    exact (stepL_congr mkPrior l a a' h).bind_congr ih

theorem classify_name (o : String) :
    match classify o with
    | .fit => o = "fit" | .bounds => o = "bounds" | .mode => o = "mode" | .factor => o = "factor" | .prior => o = "prior"
    | .other => True := by
  unfold classify
  by_cases h1 : o = "fit"
  · simp [h1]
  by_cases h2 : o = "bounds"
  · simp [h2]
  by_cases h3 : o = "mode"
  · simp [h3]
  by_cases h4 : o = "factor"
  · simp [h4]
  by_cases h5 : o = "prior"
  · simp [h5]
  simp [h1, h2, h3, h4, h5]

theorem setOpt_comm (l₁ l₂ : Line α) (hne : l₁.opt ≠ l₂.opt) (r : Rec α) :
    (setOpt mkPrior l₁ r).bind (setOpt mkPrior l₂) = (setOpt mkPrior l₂ r).bind (setOpt mkPrior l₁) := by
  have n₁ := classify_name l₁.opt
  have n₂ := classify_name l₂.opt
  unfold setOpt
  generalize classify l₁.opt = k₁ at n₁ ⊢
  generalize classify l₂.opt = k₂ at n₂ ⊢
  -- two different fields of the record (the same kind twice is the same option text, or `other`, which writes nothing);
  -- only `prior` can fail, and then it fails on both sides
  cases k₁ <;> cases k₂ <;> first
    | rfl
    | exact absurd (n₁.trans n₂.symm) hne
    | (cases mkPrior l₁.val <;> rfl)
    | (cases mkPrior l₂.val <;> rfl)

theorem updRec_twice (acc : List (String × Rec α)) (n : String) (a r : Rec α) :
    GEq (updRec (updRec acc n fun _ => a) n fun _ => r) (updRec acc n fun _ => r) := by
  intro m
  simp only [getRec_updRec]
  split <;> rfl

theorem stepL_swap (l₁ l₂ : Line α)
    (hne : (l₁.name, l₁.opt) ≠ (l₂.name, l₂.opt)) (acc : List (String × Rec α)) :
    OGEq ((stepL mkPrior l₁ acc).bind (stepL mkPrior l₂)) ((stepL mkPrior l₂ acc).bind (stepL mkPrior l₁)) := by
  unfold stepL
  by_cases hn : l₁.name = l₂.name
  · -- same parameter, different options: both sides store `setOpt` of the two lines, which commute
    have hc := setOpt_comm mkPrior l₁ l₂ (fun e => hne (by rw [hn, e])) ((getRec acc l₁.name).getD {})
    rw [← hn]
    cases h1 : setOpt mkPrior l₁ ((getRec acc l₁.name).getD {}) <;>
      cases h2 : setOpt mkPrior l₂ ((getRec acc l₁.name).getD {}) <;>
      simp only [h1, h2, Option.bind_none, Option.bind_some] at hc <;>
      simp only [Option.map_none, Option.map_some, Option.bind_none, Option.bind_some, getRec_updRec, if_true,
        Option.getD_some]
    · trivial
    · rw [← hc]; trivial
    · rw [hc]; trivial
    · rw [hc]
      cases setOpt mkPrior l₁ _ with
      | none => trivial
      | some r => exact (updRec_twice acc l₁.name _ r).trans (updRec_twice acc l₁.name _ r).symm
  · -- different parameters: neither line sees the other's record
    have hn' : ¬ l₂.name = l₁.name := fun e => hn e.symm
    cases h1 : setOpt mkPrior l₁ ((getRec acc l₁.name).getD {}) <;>
      cases h2 : setOpt mkPrior l₂ ((getRec acc l₂.name).getD {}) <;>
      simp only [Option.map_none, Option.map_some, Option.bind_none, Option.bind_some, getRec_updRec, hn, hn',
        if_false, h1, h2] <;> try trivial
    intro m
    simp only [getRec_updRec]
    by_cases hm1 : l₁.name = m
    · simp [hm1, show ¬ l₂.name = m from fun e => hn (hm1.trans e.symm)]
    · simp [hm1]

def lkey (l : Line α) : String × String := (l.name, l.opt)

theorem group_perm {ls ls' : List (Line α)} (hp : ls.Perm ls') :
    (ls.map lkey).Nodup → ∀ (a a' : List (String × Rec α)), GEq a a' → OGEq (group mkPrior ls a) (group mkPrior ls' a') := by
  induction hp with
  | nil => intro _ a a' h; exact h
  | cons x _ ih =>
    intro hnd a a' h
    simp only [List.map_cons, List.nodup_cons] at hnd
    rw [group_cons, group_cons]
    exact (stepL_congr mkPrior x a a' h).bind_congr (ih hnd.2)
  | swap x y l =>
    intro hnd a a' h
    simp only [List.map_cons, List.nodup_cons, List.mem_cons, not_or] at hnd
    have hne : lkey y ≠ lkey x := hnd.1.1
    -- y then x on `a`  ≈  x then y on `a`  ≈  x then y on `a'`, then the common rest
    have e : ∀ (u v : Line α) (b : List (String × Rec α)),
        group mkPrior (u :: v :: l) b = ((stepL mkPrior u b).bind (stepL mkPrior v)).bind (group mkPrior l) := by
      intro u v b
      rw [group_cons, Option.bind_assoc]
      congr 1; funext c; exact group_cons mkPrior v l c
    rw [e, e]
    refine OGEq.bind_congr ?_ (group_congr mkPrior l)
    exact (stepL_swap mkPrior y x hne a).trans
      ((stepL_congr mkPrior x a a' h).bind_congr (stepL_congr mkPrior y))
  | trans p₁ _ ih₁ ih₂ =>
    intro hnd a a' h
    have hnd' := (List.Perm.nodup_iff (List.Perm.map lkey p₁)).1 hnd
    exact OGEq.trans (ih₁ hnd a a (GEq.refl a)) (ih₂ hnd' a a' h)

theorem nodup_group : ∀ (ls : List (Line α)) (acc grp : List (String × Rec α)),
    (gkeys acc).Nodup → group mkPrior ls acc = some grp → (gkeys grp).Nodup := by
  intro ls acc grp h hg
  fun_induction group mkPrior ls acc with
  | case1 => cases hg; exact h
  | case2 => cases hg
  | case3 => rename_i ih; exact ih (nodup_updRec _ _ _ h) hg

theorem parseFitting_eq_group : ∀ (ents : List (String × OptVal α))
    (ls : List (Line α)) (acc : List (String × Rec α)), splitAll ents = some ls →
    parseFitting mkPrior ents acc = match group mkPrior ls acc with
      | some g => .ok g
      | none => .error .priorError := by
  intro ents
  induction ents with
  | nil =>
    intro ls acc h
    simp only [splitAll, Option.some.injEq] at h
    subst h
    rfl
  | cons kv rest ih =>
    intro ls acc h
    obtain ⟨k, v⟩ := kv
    simp only [splitAll] at h
    cases hs : splitKey k with
    | none => simp [hs] at h
    | some ab =>
      cases hr : splitAll rest with
      | none => simp [hs, hr] at h
      | some ls' =>
        obtain ⟨a, b⟩ := ab
        simp only [hs, hr, Option.some.injEq] at h
        subst h
        simp only [parseFitting, hs, group]
        cases ho : setOpt mkPrior ⟨a, b, v⟩ ((getRec acc a).getD {}) with
        | none => rfl
        | some r => exact ih ls' _ hr

theorem tget_describePriors (g : List (String × Rec α)) (hnd : (gkeys g).Nodup) (n : String) :
    tget (describePriors g) n = (getRec g n).bind (·.prior) := by
  fun_induction describePriors g with
  | case1 => rfl
  | case2 k r t p hp ih =>
    simp only [gkeys, List.map_cons, List.nodup_cons] at hnd
    by_cases hk : k = n <;> simp [tget, getRec, hk, hp, ih hnd.2]
  | case3 k r t hp ih =>
    simp only [gkeys, List.map_cons, List.nodup_cons] at hnd
    by_cases hk : k = n
    · subst hk; simp [getRec, hp, ih hnd.2, getRec_none_of_not_mem t k hnd.1]
    · simp [getRec, hk, ih hnd.2]

variable [LT α] [DecidableLT α] [OfNat α 0]

theorem describeTable_congr [Mul α] (g g' : List (String × Rec α)) (h : GEq g g') (ps : List (Param String α)) :
    describeTable g ps = describeTable g' ps := by
  unfold describeTable
  apply List.map_congr_left
  intro p _
  rw [h p.name]

variable [Transc α]

theorem impliedRows_congr (u u' : Table String α) (h : ∀ n, tget u n = tget u' n) (o : Owner) (ps : List (Param String α)) :
    impliedRows u o ps = impliedRows u' o ps := by
  induction ps with
  | nil => rfl
  | cons p ps ih =>
    simp only [impliedRows, impliedRow, h p.name, ih]

theorem implied_congr (m ob : List (Param String α)) (dm dob : List (Derived String)) (u u' : Table String α)
    (h : ∀ n, tget u n = tget u' n) : implied (⟨m, ob, dm, dob, u⟩ : Settings String α) = implied ⟨m, ob, dm, dob, u'⟩ := by
  simp only [implied, impliedRows_congr u u' h]

end

end Taurex.C07
