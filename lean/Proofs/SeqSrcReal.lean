/-
  The cumsum trick of `taurex.util.movingaverage` over the real carrier: the translated text (`np.cumsum`, the slice
  store `ret[n:] = ret[n:] - ret[:-n]`, `ret[n-1:] / n`, with the shape tests numpy makes) yields exactly the window means
  of the model's `movingAverage`.  This is an algebraic identity (telescoping sums): it holds over ℝ, not bit for bit
  on floats (ASSUMPTIONS of harness/c12.py: "movingaverage (cumsum trick) = exact window mean up to rounding").
  Second part: Python's `int()` and int → float on reals (`pyIntR`, `toFloatR`), with which Props/C10SrcProps.lean and
  Props/C12SrcProps.lean instantiate the ties.
-/
import Mathlib.Algebra.Order.Floor.Semifield
import Proofs.NpInterp
import Proofs.SeqSrc
import Proofs.C05SrcNp

namespace Taurex.SeqSrc
open Taurex Taurex.NpInterp Taurex.Gen

noncomputable def psum (a : List ℝ) (k : Nat) : ℝ := sumL (a.take k)

theorem psum_zero (a : List ℝ) : psum a 0 = 0 := by simp [psum]

theorem psum_add (a : List ℝ) (i w : Nat) : psum a (i + w) = psum a i + sumL ((a.drop i).take w) := by
  unfold psum
  rw [List.take_add, sumL_append]

theorem cumsumFrom_eq (acc : ℝ) : ∀ (l : List ℝ),
    Np.cumsumFrom acc l = (List.range l.length).map (fun i => acc + sumL (l.take (i + 1)))
  | [] => rfl
  | x :: t => by
    rw [Np.cumsumFrom, cumsumFrom_eq (acc + x) t, List.length_cons, List.range_succ_eq_map, List.map_cons,
      List.map_map]
    congr 1
    · simp only [List.take_succ_cons, List.take_zero, sumL_cons, sumL_nil, add_zero]
    · apply List.map_congr_left
      intro i _
      simp only [Function.comp, List.take_succ_cons, sumL_cons, add_assoc]

/-- `np.cumsum(a)` is the list of the partial sums `a[0] + … + a[i]` -/
theorem cumsum_eq (a : List ℝ) : Np.cumsum a = (List.range a.length).map (fun i => psum a (i + 1)) := by
  cases a with
  | nil => rfl
  | cons x t =>
    have := cumsumFrom_eq 0 (x :: t)
    simp only [Np.cumsumFrom, zero_add] at this
    simpa only [psum, Np.cumsum] using this

theorem cumsum_length (a : List ℝ) : (Np.cumsum a).length = a.length := by
  rw [cumsum_eq, List.length_map, List.length_range]

/-- `ret[n:] - ret[:-n]` on the partial sums: the sums of the windows that start at `1, 2, …` -/
theorem cumsum_diff (a : List ℝ) (w : Nat) :
    List.zipWith (fun x y => x - y) ((Np.cumsum a).drop w) ((Np.cumsum a).take ((Np.cumsum a).length - w))
      = (List.range (a.length - w)).map (fun i => sumL ((a.drop (i + 1)).take w)) := by
  rw [cumsum_length, cumsum_eq, drop_map_range, take_map_range, Nat.min_eq_left (Nat.sub_le _ _), List.zipWith_map,
    List.zipWith_self]
  apply List.map_congr_left
  intro i _
  simp only [Nat.add_right_comm i w 1, psum_add, add_sub_cancel_left]

/-- **the cumsum trick**: for a window `w ≥ 1` the three steps of `movingaverage` pass numpy's shape tests and yield the
    `len(a) - w + 1` window means (none when the window is longer than the array).  Over ℝ. -/
theorem ma_cumsum (a : List ℝ) (w : Nat) (hw : 1 ≤ w) (c : ℝ) (hc : c = (w : ℝ)) :
    Np.bcastOk (List.length (Np.pySlice (Np.cumsum a) (some (Int.ofNat w)) none))
      (List.length (Np.pySlice (Np.cumsum a) none (some (-(Int.ofNat w))))) = true ∧
    Np.storeOk (Np.cumsum a).length (some (Int.ofNat w)) none
      (Np.zip2 (fun x y => x - y) (Np.pySlice (Np.cumsum a) (some (Int.ofNat w)) none)
        (Np.pySlice (Np.cumsum a) none (some (-(Int.ofNat w))))).length = true ∧
    List.map (fun x => x / c)
      (Np.pySlice (Np.storeSlice (Np.cumsum a) (some (Int.ofNat w)) none
        (Np.zip2 (fun x y => x - y) (Np.pySlice (Np.cumsum a) (some (Int.ofNat w)) none)
          (Np.pySlice (Np.cumsum a) none (some (-(Int.ofNat w)))))) (some (Int.ofNat w - (1 : Int))) none)
      = movingAverage a w := by
  have hlen : ((Np.cumsum a).drop w).length = ((Np.cumsum a).take ((Np.cumsum a).length - w)).length := by
    rw [List.length_drop, List.length_take, Nat.min_eq_left (Nat.sub_le _ _)]
  have hw1 : Int.ofNat w - (1 : Int) = Int.ofNat (w - 1) := (Int.ofNat_sub hw).symm
  rw [pySlice_from, pySlice_to_neg _ _ (by omega), storeOk_from, Gen.Np.zip2_eq _ _ _ hlen, cumsum_diff, hw1,
    pySlice_from, storeSlice_from _ _ _ (by rw [List.length_map, List.length_range, cumsum_length])]
  refine ⟨by rw [hlen]; simp only [Np.bcastOk, beq_self_eq_true, Bool.true_or], ?_, ?_⟩
  · rw [List.length_map, List.length_range, cumsum_length, beq_self_eq_true, Bool.true_or]
  · -- what is returned: `ret[w-1]`, the sum of the first window, followed by the differences
    unfold movingAverage
    by_cases hlong : a.length < w
    · rw [if_pos (Or.inr hlong), List.drop_eq_nil_of_le, List.map_nil]
      rw [List.length_append, List.length_take, cumsum_length, List.length_map, List.length_range]
      omega
    · rw [if_neg (by omega), List.drop_append_of_le_length (by rw [List.length_take, cumsum_length]; omega),
        cumsum_eq, take_map_range, Nat.min_eq_left (by omega), drop_map_range, Nat.sub_sub_self hw, List.range_one,
        List.range_succ_eq_map]
      simp only [List.map_cons, List.map_nil, List.cons_append, List.nil_append, List.map_map, Function.comp_def,
        windowMean, ofNat'_real, hc, psum, Nat.zero_add, Nat.sub_add_cancel hw, List.drop_zero, Nat.succ_eq_add_one]

/-! ### Python's `int()` and int → float conversion on the real carrier -/

/-- Python's `int()` on a real number: truncation toward zero -/
noncomputable def pyIntR (x : ℝ) : Int := if 0 ≤ x then ⌊x⌋ else ⌈x⌉

/-- Python's int → float conversion -/
noncomputable def toFloatR (k : Int) : ℝ := (k : ℝ)

theorem pyIntR_nonneg {x : ℝ} (hx : 0 ≤ x) : pyIntR x = Int.ofNat ⌊x⌋₊ := by
  unfold pyIntR
  rw [if_pos hx]
  exact (Int.natCast_floor_eq_floor hx).symm

theorem pyIntR_nonneg' {x : ℝ} (hx : 0 ≤ x) : 0 ≤ pyIntR x := by
  rw [pyIntR_nonneg hx]; simp

theorem pyIntR_max (x : ℝ) : max (pyIntR x) 0 = Int.ofNat (truncNat x) := by
  simp only [truncNat_real]
  by_cases hx : 0 ≤ x
  · rw [pyIntR_nonneg hx]; simp
  · unfold pyIntR
    rw [if_neg hx]
    have h1 : ⌈x⌉ ≤ 0 := Int.ceil_le.2 (by push_cast; linarith)
    have h2 : ⌊x⌋₊ = 0 := Nat.floor_of_nonpos (by linarith)
    rw [h2]
    simp only [Int.ofNat_eq_natCast, Nat.cast_zero]
    omega

theorem toFloatR_nat (n : Nat) : toFloatR (Int.ofNat n) = (n : ℝ) := by
  simp [toFloatR]

theorem pyIntR_half (k : Nat) : pyIntR (toFloatR (Int.ofNat k) / 2) = Int.ofNat (k / 2) := by
  rw [toFloatR_nat, pyIntR_nonneg (by positivity)]
  congr 1
  have := Nat.floor_div_eq_div (K := ℝ) k 2
  simpa using this

end Taurex.SeqSrc
