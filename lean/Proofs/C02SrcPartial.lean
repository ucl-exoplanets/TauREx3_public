/-
  C02 — source tie, the orchestration of `EmissionModel.partial_model` (translated with the `dyn` dialect: every call on
  another object goes to one oracle `ext`).  This file is the ORACLE: the model object, its star, its contributions, named
  grids (0 = `self.nativeWavenumberGrid`, 1 = what `clip_native_to_wngrid(native_grid, wngrid)` returns), the result of
  `evaluate_emission` on a grid.  The state is the log of the calls made (`Emission.Step`), in order; nothing else of the
  objects is modelled (what the called methods compute is the subject of the other ties).
-/
import TaurexModel.Gen.DynPrelude
import TaurexModel.Emission
import Proofs.DynCore

namespace Taurex.C02Src
open Taurex.Gen Taurex.Gen.Dyn
open Taurex.Emission (Step partialModelSteps)

inductive PObj where
  | model
  | star
  | contrib (i : Nat)
  | grid (g : Nat)
  | wn                 -- the `wngrid` argument
  | clipFn             -- `clip_native_to_wngrid`
  | result (g : Nat)   -- what `evaluate_emission(grid g, False)` returns
  deriving DecidableEq

abbrev PM := Dyn.Eff (List Step)
abbrev PV (α : Type) := Dyn.Val α PObj

section
variable {α : Type}

def plog (st : Step) (r : PV α) : PM (PV α) := fun s => (.ok r, s ++ [st])

/-- the oracle for a model with `n` contributions -/
def pext (n : Nat) : Ext PM α PObj where
  global name := if name = "clip_native_to_wngrid" then pure (.obj .clipFn) else throw .NameError
  getattr o name :=
    match o with
    | .model =>
      if name = "nativeWavenumberGrid" then pure (.obj (.grid 0))
      else if name = "_star" then pure (.obj .star)
      else if name = "contribution_list" then pure (.list ((List.range n).map (fun i => .obj (.contrib i))))
      else throw .AttributeError
    | _ => throw .AttributeError
  call o args _ :=
    match o, args with
    | .clipFn, [.obj (.grid 0), .obj .wn] => pure (.obj (.grid 1))
    | _, _ => throw .TypeError
  method o name args _ :=
    match o with
    | .model =>
      if name = "initialize_profiles" then
        match args with
        | [] => plog .initProfiles .none
        | _ => throw .TypeError
      else if name = "evaluate_emission" then
        match args with
        | [.obj (.grid g), .bool false] => plog (.evaluate g) (.obj (.result g))
        | _ => throw .TypeError
      else throw .AttributeError
    | .star =>
      if name = "initialize" then
        match args with
        | [.obj (.grid g)] => plog (.starInit g) .none
        | _ => throw .TypeError
      else throw .AttributeError
    | .contrib i =>
      if name = "prepare" then
        match args with
        | [.obj .model, .obj (.grid g)] => plog (.prepare i g) .none
        | _ => throw .TypeError
      else throw .AttributeError
    | _ => throw .AttributeError
  isinst _ _ := false
  iter _ := throw .TypeError
  truthy _ := pure true
  op _ _ := throw .TypeError
  parseFloat _ := none

theorem peff_pure {σ β : Type} (x : β) (s : σ) : (pure x : Eff σ β) s = (.ok x, s) := Dyn.eff_pure x s

end
end Taurex.C02Src
