/-
  Source tie of `detect_and_return_klass` (taurex/parameter/factory.py) and `build_new_mixed_class`
  (taurex/mixin/core.py): the two functions `determine_klass` reaches through the oracle of `Proofs/C15SrcOracle.lean`
  (`World.ext.call (.fn "detect_and_return_klass") …`, `… "build_new_mixed_class" …`) are translated themselves, and run
  here against a LOWER-LEVEL oracle `detectExt` that only knows the machinery they delegate to:

  * `importlib.util.spec_from_file_location("foo", file)`, `module_from_spec(spec)`, `spec.loader.exec_module(foo)`: loading
    the file — `exec_module` raises for a file the world does not have (`customs`), otherwise the module object exists;
  * `inspect.getmembers(foo, inspect.isclass)`: the classes of the module as `(name, class)` pairs SORTED BY NAME
    (`Factory.sortByName`, the documented behaviour) — and, anywhere in between, the section base classes the file has
    imported (`Imports`: which base classes appear before which class, and which after the last), because a custom file
    usually does `from taurex… import TemperatureProfile`;
  * `issubclass(c, base)`: a class of the world derives from the base of section `sec` iff `sec ∈ c.sections`; a base class
    is a subclass of itself only;
  * `type(name, bases, namespace)`: class creation — the class `mixed ms b` for `bases = ms ++ [b]`, `TypeError` for a
    repeated base;
  * `hasattr(x, '__len__')`: true for lists and tuples.
  Encoding of the objects (constructors of `Obj` re-used, this oracle is used for these two functions only): the spec of
  `file` is `.other file`, its loader `.ref file`, the loaded module `.module file`, `inspect.isclass` is `.fn "inspect.isclass"`.

  The theorems (`Props/C15Src.lean`) state that the regenerated functions, run against `detectExt`, return exactly what the
  main oracle answers for them — so what `determine_klass` is tied against IS the translated selection logic: which members
  are candidates (classes deriving from the base, the base itself excluded by identity), the pick (`classes[0]` of the
  name-sorted members), `Exception` when there is none, and the MRO order `tuple(mixins) + (base,)`.
-/
import Proofs.C15SrcLemmas

namespace Taurex.C15Src
open Taurex.Gen Taurex.Gen.Dyn
open Taurex.Factory (Scalar Value Config Klass Registry SectionReg Resolved Err Customs Component)

/-- the section base classes a custom file has imported, by where `inspect.getmembers` lists them among the file's
    classes: `before k` right before class `k`, `last` after the last class; a base class is `(its __name__, its section)` -/
structure Imports where
  before : Klass → List (String × String)
  last : List (String × String)

def baseEntry (b : String × String) : V := .tuple [.str b.1, .obj (.base b.1 b.2)]
def klassEntry (k : Klass) : V := .tuple [.str k.name, kobj k]

/-- `inspect.getmembers(module, inspect.isclass)`: the classes sorted by name, imported base classes in between -/
def membersOf (imp : Imports) (members : List Klass) : List V :=
  (Factory.sortByName members).flatMap (fun k => (imp.before k).map baseEntry ++ [klassEntry k]) ++ imp.last.map baseEntry

/-- `type(name, bases, ns)` on classes of the world: `bases = ms ++ [b]` -/
def typeOf (bases : List V) : M V :=
  match bases.mapM unKlass with
  | some ks =>
    match ks.getLast? with
    | some b =>
      if Factory.hasDup (ks.map (·.path)) then .error .TypeError else .ok (.obj (.mixed ks.dropLast b))
    | none => .error .TypeError
  | none => .error .TypeError

def detectExt (w : World) (imp : String → Imports) : Ext M Scalar Obj :=
  { w.ext with
    global := fun name =>
      if name = "importlib" then .ok (.obj (.module "importlib")) else w.ext.global name
    getattr := fun o name =>
      match o with
      | .module m =>
        if m = "importlib" ∧ name = "util" then .ok (.obj (.module "importlib.util"))
        else if m = "inspect" ∧ name = "isclass" then .ok (.obj (.fn "inspect.isclass"))
        else w.ext.getattr o name
      | .other file => if name = "loader" then .ok (.obj (.ref file)) else w.ext.getattr o name
      | _ => w.ext.getattr o name
    method := fun o name args kw =>
      match o with
      | .module m =>
        if m = "importlib.util" ∧ name = "spec_from_file_location" then
          match args with
          | [_, .str file] => .ok (.obj (.other file))
          | _ => .error .Exception
        else if m = "importlib.util" ∧ name = "module_from_spec" then
          match args with
          | [.obj (.other file)] => .ok (.obj (.module file))
          | _ => .error .Exception
        else if m = "inspect" ∧ name = "getmembers" then
          match args with
          | [.obj (.module file), .obj (.fn "inspect.isclass")] =>
            match w.customs.lookup file with
            | some members => .ok (.list (membersOf (imp file) members))
            | none => .error .Exception
          | _ => .error .TypeError
        else w.ext.method o name args kw
      | .ref file =>
        if name = "exec_module" then
          match w.customs.lookup file with
          | some _ => .ok .none
          | none => .error .Exception
        else w.ext.method o name args kw
      | _ => w.ext.method o name args kw
    op := fun name args =>
      if name = "issubclass" then
        match args with
        | [.obj (.klass k), .obj (.base _ sec)] => .ok (.bool (k.sections.contains sec))
        | [.obj (.base n' s'), .obj (.base n s)] => .ok (.bool (n' == n && s' == s))
        | _ => w.ext.op name args
      else if name = "type3" then
        match args with
        | [.str _, .tuple bases, .dict _] => typeOf bases
        | _ => .error .TypeError
      else if name = "hasattr" then
        match args with
        | [.list _, .str "__len__"] => .ok (.bool true)
        | [.tuple _, .str "__len__"] => .ok (.bool true)
        | [_, .str "__len__"] => .ok (.bool false)
        | _ => w.ext.op name args
      else w.ext.op name args }

section
variable (w : World) (imp : String → Imports)

@[simp] theorem dx_global_importlib : (detectExt w imp).global "importlib" = .ok (.obj (.module "importlib")) := rfl
@[simp] theorem dx_global_inspect : (detectExt w imp).global "inspect" = .ok (.obj (.module "inspect")) := rfl
@[simp] theorem dx_global_mixed_init : (detectExt w imp).global "mixed_init" = .ok (.obj (.fn "mixed_init")) := by
  have h : (detectExt w imp).global "mixed_init" = w.ext.global "mixed_init" := by
    show (if "mixed_init" = "importlib" then (Except.ok (Val.obj (Obj.module "importlib")) : M V)
      else w.ext.global "mixed_init") = _
    rw [if_neg (by simp only [String.reduceEq, not_false_eq_true])]
  rw [h]
  exact ext_global_fn w _ (by table) (by table) (by table)
@[simp] theorem dx_getattr_util :
    (detectExt w imp).getattr (.module "importlib") "util" = .ok (.obj (.module "importlib.util")) := rfl
@[simp] theorem dx_getattr_isclass :
    (detectExt w imp).getattr (.module "inspect") "isclass" = .ok (.obj (.fn "inspect.isclass")) := rfl
@[simp] theorem dx_getattr_loader (file : String) :
    (detectExt w imp).getattr (.other file) "loader" = .ok (.obj (.ref file)) := rfl
@[simp] theorem dx_getattr_name (k : Klass) : (detectExt w imp).getattr (.klass k) "__name__" = .ok (.str k.name) := rfl
@[simp] theorem dx_spec (a : V) (file : String) (kw : List (String × V)) :
    (detectExt w imp).method (.module "importlib.util") "spec_from_file_location" [a, .str file] kw
      = .ok (.obj (.other file)) := rfl
@[simp] theorem dx_module_from_spec (file : String) (kw : List (String × V)) :
    (detectExt w imp).method (.module "importlib.util") "module_from_spec" [.obj (.other file)] kw
      = .ok (.obj (.module file)) := rfl
@[simp] theorem dx_exec_module (file : String) (a : List V) (kw : List (String × V)) :
    (detectExt w imp).method (.ref file) "exec_module" a kw
      = match w.customs.lookup file with
        | some _ => .ok .none
        | none => .error .Exception := rfl
@[simp] theorem dx_getmembers (file : String) (kw : List (String × V)) :
    (detectExt w imp).method (.module "inspect") "getmembers" [.obj (.module file), .obj (.fn "inspect.isclass")] kw
      = match w.customs.lookup file with
        | some members => .ok (.list (membersOf (imp file) members))
        | none => .error .Exception := rfl
@[simp] theorem dx_issubclass_klass (k : Klass) (n sec : String) :
    (detectExt w imp).op "issubclass" [.obj (.klass k), .obj (.base n sec)] = .ok (.bool (k.sections.contains sec)) := rfl
@[simp] theorem dx_type3 (name : String) (bases : List V) (d : List (V × V)) :
    (detectExt w imp).op "type3" [.str name, .tuple bases, .dict d] = typeOf bases := rfl
@[simp] theorem dx_hasattr_list (l : List V) :
    (detectExt w imp).op "hasattr" [.list l, .str "__len__"] = .ok (.bool true) := rfl

/-! ### the comprehension `[m[1] for m in members if m[1] is not baseclass and issubclass(m[1], baseclass)]` -/

theorem pass_member (n sec : String) (a : V) (o : Obj) (sub : Bool) (acc : List V)
    (hsub : (detectExt w imp).op "issubclass" [.obj o, .obj (.base n sec)] = .ok (.bool sub)) :
    (do
      let t__14 ← Dyn.getItem (detectExt w imp) (.tuple [a, .obj o]) (Dyn.Val.int 1)
      let t__15 ← Dyn.is_ (detectExt w imp) t__14 (.obj (.base n sec))
      let t__19 ← (if (!t__15) then (do
          let t__16 ← Dyn.getItem (detectExt w imp) (.tuple [a, .obj o]) (Dyn.Val.int 1)
          let t__17 ← (detectExt w imp).op "issubclass" [t__16, .obj (.base n sec)]
          let t__18 ← Dyn.truthy (detectExt w imp) t__17
          pure t__18) else pure false)
      if t__19 then (do
          let t__20 ← Dyn.getItem (detectExt w imp) (.tuple [a, .obj o]) (Dyn.Val.int 1)
          pure (acc ++ [t__20])) else pure acc : M (List V))
      = .ok (if !(o == .base n sec) && sub then acc ++ [.obj o] else acc) := by
  have hget : Dyn.getItem (detectExt w imp) (.tuple [a, .obj o]) (Dyn.Val.int 1) = (.ok (.obj o) : M V) := rfl
  have his : Dyn.is_ (detectExt w imp) (.obj o) (.obj (.base n sec)) = (.ok (o == .base n sec) : M Bool) := rfl
  simp only [hget, bind_ok, his, hsub]
  cases o == Obj.base n sec <;> cases sub <;> rfl

/-- A class of the file is kept iff it derives from the base; an imported base class is dropped — the base itself by
    identity, another section's base because it does not derive from this one -/
theorem comprehension (im : Imports) (n sec : String) (body : List V → V → M (List V))
    (hm : ∀ a o sub acc, (detectExt w imp).op "issubclass" [.obj o, .obj (.base n sec)] = .ok (.bool sub) →
      body acc (.tuple [a, .obj o]) = .ok (if !(o == .base n sec) && sub then acc ++ [.obj o] else acc))
    (sorted : List Klass) (acc : List V) :
    Dyn.forM (sorted.flatMap (fun k => (im.before k).map baseEntry ++ [klassEntry k]) ++ im.last.map baseEntry) acc body
      = .ok (acc ++ (sorted.filter (fun k => k.sections.contains sec)).map kobj) := by
  have hk : ∀ k acc, body acc (klassEntry k) = .ok (if k.sections.contains sec then acc ++ [kobj k] else acc) :=
    fun k acc => hm (.str k.name) (.klass k) (k.sections.contains sec) acc (dx_issubclass_klass w imp k n sec)
  have hb : ∀ b acc, body acc (baseEntry b) = .ok acc := by
    intro b acc
    rw [baseEntry, hm (.str b.1) (.base b.1 b.2) (b.1 == n && b.2 == sec) acc rfl]
    by_cases h : b.1 = n ∧ b.2 = sec
    · simp [h]
    · simp [h]
  have hbases : ∀ (bs : List (String × String)) (rest : List V) (acc : List V),
      Dyn.forM (bs.map baseEntry ++ rest) acc body = Dyn.forM rest acc body := by
    intro bs
    induction bs with
    | nil => intro rest acc; rfl
    | cons b bs ih =>
      intro rest acc
      show (body acc (baseEntry b) >>= fun s' => Dyn.forM (bs.map baseEntry ++ rest) s' body) = _
      rw [hb, bind_ok, ih]
  induction sorted generalizing acc with
  | nil =>
    simp only [List.flatMap_nil, List.nil_append, List.filter_nil, List.map_nil, List.append_nil]
    have := hbases im.last [] acc
    rw [List.append_nil] at this
    rw [this]; rfl
  | cons k ks ih =>
    simp only [List.flatMap_cons, List.append_assoc]
    rw [hbases]
    show (body acc (klassEntry k) >>= fun s' => Dyn.forM _ s' body) = _
    rw [hk, bind_ok]
    show Dyn.forM (List.flatMap (fun k => List.map baseEntry (im.before k) ++ [klassEntry k]) ks
      ++ List.map baseEntry im.last) _ body = _
    rw [ih]
    by_cases hs : k.sections.contains sec = true
    · simp only [hs, if_true, List.filter_cons, List.map_cons, List.append_assoc, List.singleton_append]
    · simp only [hs, if_false, List.filter_cons, Bool.false_eq_true]

/-- `classes[0]` / the empty case, on the filtered sorted list: the model's `detectKlass` -/
theorem pick_first (members : List Klass) (sec : String) :
    (do
      let t__22 ← Dyn.len (detectExt w imp)
        (Dyn.Val.list (((Factory.sortByName members).filter (fun k => k.sections.contains sec)).map kobj))
      let t__23 ← Dyn.eqB (detectExt w imp) t__22 (Dyn.Val.int 0)
      if t__23 then (throw Dyn.Exc.Exception : M V)
      else do
        let t__24 ← Dyn.getItem (detectExt w imp)
          (Dyn.Val.list (((Factory.sortByName members).filter (fun k => k.sections.contains sec)).map kobj)) (Dyn.Val.int 0)
        pure t__24)
      = embE kobj (match (Factory.sortByName members).filter (fun k => k.sections.contains sec) with
          | [] => .error (.generic "no class in custom file")
          | k :: _ => .ok k) := by
  simp only [len_list, pure_ok, bind_ok, List.length_map, eqB_int]
  cases (Factory.sortByName members).filter (fun k => k.sections.contains sec) <;> rfl

theorem mapM_unKlass_snoc (ms : List Klass) (b : Klass) :
    (ms.map kobj ++ [kobj b]).mapM unKlass = some (ms ++ [b]) := by
  have := mapM_unKlass (ms ++ [b])
  simpa using this

theorem names_join (ks : List Klass) :
    Dyn.mapM (fun x => (do
        let t__7 ← Dyn.getAttr (detectExt w imp) x "__name__"
        let t__8 ← Dyn.getSlice (detectExt w imp) t__7 Dyn.Val.none (Dyn.Val.int 10)
        pure t__8 : M V)) (ks.map kobj)
      = .ok (ks.map (fun k => .str (String.ofList (Dyn.sliceList k.name.toList none (some 10))))) := by
  induction ks with
  | nil => rfl
  | cons k ks ih =>
    simp only [List.map_cons, Dyn.mapM, ih]
    rfl

theorem join_strs {β : Type} (f : β → String) (l : List β) (sep : String) :
    Dyn.m_join (detectExt w imp) (.str sep) (.list (l.map (fun k => (.str (f k) : V))))
      = .ok (.str (sep.intercalate (l.map f))) := by
  have h : ∀ (g : V → M String) (hg : ∀ s, g (.str s) = .ok s) (l : List β),
      Dyn.mapM g (l.map (fun k => (.str (f k) : V))) = .ok (l.map f) := by
    intro g hg l
    induction l with
    | nil => rfl
    | cons a t ih => simp only [List.map_cons, Dyn.mapM, hg, bind_ok, ih]; rfl
  simp only [m_join_str, iter_list, pure_ok, bind_ok]
  rw [h _ (fun s => rfl)]
  rfl

theorem hasDup_snoc (l : List String) (x : String) : Factory.hasDup (l ++ [x]) = (Factory.hasDup l || l.contains x) := by
  induction l with
  | nil => simp [Factory.hasDup]
  | cons a t ih =>
    simp only [List.cons_append, Factory.hasDup, ih, List.contains_cons, List.contains_append]
    by_cases hax : a = x
    · subst hax
      cases t.contains a <;> cases Factory.hasDup t <;> simp
    · have h1 : (x == a) = false := by simpa using fun h => hax h.symm
      have h2 : (a == x) = false := by simpa using hax
      cases t.contains a <;> cases Factory.hasDup t <;> cases t.contains x <;> simp [h1, h2]

end

end Taurex.C15Src
