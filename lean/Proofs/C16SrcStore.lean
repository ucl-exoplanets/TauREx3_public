/-
  C16 — source tie, the recursive writer: how a result dictionary of the model (`Output.Value`) is seen by the regenerated
  `store_thing` / `recursively_save_dict_contents_to_output`, and the ORACLE for the objects they act on.

  * `embV enc : Value α → Val α (SObj α)`: ints / floats / bools / strings / lists / tuples / dicts are the Python values,
    a numeric ndarray is the object `nd a`, anything the writer has no case for is the object `unsup`.  The model keeps a
    string as its code points; `enc` is ANY injective representation of code-point lists as `String`s (`dec` its left
    inverse): the writer never looks inside a string value, the theorems hold for every such pair.
  * the outside world is the file being written.  Its state is the LOG of datasets / groups created so far:
    `(path of the group, name, node)` in creation order (a group is logged when it is created, its children follow with
    the longer path) — `flat p es` is the log that creating the entries `es` (the model's result) in the group at `p`
    leaves.  An output (group) object is `group p`.
  * `SWorld.ext`: `write_scalar / write_array / write_string` create the dataset the model's `storeThing` lists for that
    type, `write_string_array` creates `Output.stringNode` (AttributeError for a non-string element, before anything is
    written), `create_group` logs the group and returns its handle, `np.array(list)` is `Output.toNdList … |>.bind stack`
    (numpy's rule as documented in Output.lean; when it is `none` numpy / h5py raise `w.npErr`, a TypeError or a
    ValueError), `isinstance(·, np.ndarray)` holds for `nd` only.
  The monad is `Dyn.Eff (Log α)`: state = the log, which is kept when an exception is raised.
-/
import TaurexModel.Gen.SrcC16
import Proofs.C16Lemmas
import Proofs.DynEval

set_option linter.unusedSectionVars false

namespace Taurex.C16Src
open Taurex.Gen Taurex.Gen.Dyn
open Taurex.Output (Value Node Arr ArrData Err OfInt toNdList stack stringList stringNode storeThing storeSeq
  storeEntries subKey isStr)

inductive SObj (α : Type) where
  /-- an output group (the root or a sub-group), identified by its path -/
  | group (path : List String)
  | nd (a : Arr α)
  | np
  | npInt64
  | npFloat64
  | npNdarray
  | unsup

/-- identity of the objects (arrays are never compared by the translated code) -/
instance {α : Type} : BEq (SObj α) where
  beq a b :=
    match a, b with
    | .group p, .group q => p == q
    | .np, .np => true
    | .npInt64, .npInt64 => true
    | .npFloat64, .npFloat64 => true
    | .npNdarray, .npNdarray => true
    | .unsup, .unsup => true
    | _, _ => false

abbrev SV (α : Type) := Dyn.Val α (SObj α)

abbrev Log (α : Type) := List (List String × String × Node α)

abbrev SM (α : Type) := Dyn.Eff (Log α)

section
variable {α : Type}

mutual
def embV (enc : List Nat → String) : Value α → SV α
  | .int i => .int i
  | .float x => .float x
  | .bool b => .bool b
  | .array a => .obj (.nd a)
  | .str s => .str (enc s)
  | .list l => .list (embL enc l)
  | .tuple l => .tuple (embL enc l)
  | .dict d => .dict (embD enc d)
  | .unsupported => .obj .unsup
def embL (enc : List Nat → String) : List (Value α) → List (SV α)
  | [] => []
  | v :: vs => embV enc v :: embL enc vs
def embD (enc : List Nat → String) : List (String × Value α) → List (SV α × SV α)
  | [] => []
  | (k, v) :: r => (.str k, embV enc v) :: embD enc r
end

mutual
/-- left inverse of `embV` -/
def unV (dec : String → List Nat) : SV α → Value α
  | .none => .unsupported
  | .bool b => .bool b
  | .int i => .int i
  | .float x => .float x
  | .str s => .str (dec s)
  | .list l => .list (unL dec l)
  | .tuple l => .tuple (unL dec l)
  | .dict d => .dict (unD dec d)
  | .obj o => match o with
    | .nd a => .array a
    | _ => .unsupported
def unL (dec : String → List Nat) : List (SV α) → List (Value α)
  | [] => []
  | v :: vs => unV dec v :: unL dec vs
def unD (dec : String → List Nat) : List (SV α × SV α) → List (String × Value α)
  | [] => []
  | (k, v) :: r => ((match k with | .str s => s | _ => ""), unV dec v) :: unD dec r
end

mutual
theorem unV_embV (enc : List Nat → String) (dec : String → List Nat) (h : ∀ s, dec (enc s) = s) :
    ∀ v : Value α, unV dec (embV enc v) = v
  | .int i => rfl
  | .float x => rfl
  | .bool b => rfl
  | .array a => rfl
  | .str s => by simp [embV, unV, h]
  | .list l => by simp [embV, unV, unL_embL enc dec h l]
  | .tuple l => by simp [embV, unV, unL_embL enc dec h l]
  | .dict d => by simp [embV, unV, unD_embD enc dec h d]
  | .unsupported => rfl
theorem unL_embL (enc : List Nat → String) (dec : String → List Nat) (h : ∀ s, dec (enc s) = s) :
    ∀ l : List (Value α), unL dec (embL enc l) = l
  | [] => rfl
  | v :: vs => by simp [embL, unL, unV_embV enc dec h v, unL_embL enc dec h vs]
theorem unD_embD (enc : List Nat → String) (dec : String → List Nat) (h : ∀ s, dec (enc s) = s) :
    ∀ d : List (String × Value α), unD dec (embD enc d) = d
  | [] => rfl
  | (k, v) :: r => by simp [embD, unD, unV_embV enc dec h v, unD_embD enc dec h r]
end

mutual
def flat (p : List String) : List (String × Node α) → Log α
  | [] => []
  | (k, n) :: r => flatNode p k n ++ flat p r
def flatNode (p : List String) (k : String) : Node α → Log α
  | .group ch => (p, k, .group []) :: flat (p ++ [k]) ch
  | .num a => [(p, k, .num a)]
  | .vstr s => [(p, k, .vstr s)]
  | .sfix wd rows => [(p, k, .sfix wd rows)]
end

theorem flat_append (p : List String) (a b : List (String × Node α)) : flat p (a ++ b) = flat p a ++ flat p b := by
  induction a with
  | nil => simp [flat]
  | cons x t ih => obtain ⟨k, n⟩ := x; simp [flat, ih, List.append_assoc]

mutual
/-- nesting depth of a value: the fuel `store_thing` needs is one more -/
def depth : Value α → Nat
  | .list l => depthL l + 1
  | .tuple l => depthL l + 1
  | .dict d => depthD d + 1
  | _ => 0
def depthL : List (Value α) → Nat
  | [] => 0
  | v :: vs => max (depth v) (depthL vs)
def depthD : List (String × Value α) → Nat
  | [] => 0
  | (_, v) :: r => max (depth v) (depthD r)
end

structure SWorld (α : Type) where
  enc : List Nat → String
  dec : String → List Nat
  /-- what numpy / h5py raise when a list does not become a numeric array -/
  npErr : Exc

/-- `enc` / `dec` represent code-point lists faithfully; `npErr` is one of the two classes `store_thing` catches -/
def SWorldOK (w : SWorld α) : Prop :=
  (∀ s, w.dec (w.enc s) = s) ∧ (w.npErr = .TypeError ∨ w.npErr = .ValueError)

def logEntry (p : List String) (k : String) (n : Node α) : SM α (SV α) := fun s => (.ok .none, s ++ [(p, k, n)])

def SWorld.ext [OfInt α] (w : SWorld α) : Ext (SM α) α (SObj α) where
  global name := if name = "np" then pure (.obj .np) else throw .NameError
  getattr o name :=
    match o with
    | .np =>
      if name = "int64" then pure (.obj .npInt64) else if name = "float64" then pure (.obj .npFloat64)
      else if name = "ndarray" then pure (.obj .npNdarray) else throw .AttributeError
    | _ => throw .AttributeError
  call _ _ _ := throw .TypeError
  method o name args _ :=
    match o with
    | .group p =>
      if name = "write_scalar" then
        match args with
        | [.str key, .int i] => logEntry p key (.num ⟨[], .ints [i]⟩)
        | [.str key, .bool b] => logEntry p key (.num ⟨[], .bools [b]⟩)
        | [.str key, .float x] => logEntry p key (.num ⟨[], .floats [x]⟩)
        | _ => throw .TypeError
      else if name = "write_array" then
        match args with
        | [.str key, .obj (.nd a)] => logEntry p key (.num a)
        | _ => throw .TypeError
      else if name = "write_string" then
        match args with
        | [.str key, .str s] => logEntry p key (.vstr (w.dec s))
        | _ => throw .TypeError
      else if name = "write_string_array" then
        match args with
        | [.str key, .list items] =>
          match stringList (unL w.dec items) with
          | some strs => logEntry p key (stringNode strs)
          | none => throw .AttributeError
        | _ => throw .TypeError
      else if name = "create_group" then
        match args with
        | [.str key] => fun s => (.ok (.obj (.group (p ++ [key]))), s ++ [(p, key, .group [])])
        | _ => throw .TypeError
      else throw .AttributeError
    | .np =>
      if name = "array" then
        match args with
        | [.list items] =>
          match (toNdList (unL w.dec items)).bind stack with
          | some a => pure (.obj (.nd a))
          | none => throw w.npErr
        | _ => throw .TypeError
      else throw .AttributeError
    | _ => throw .AttributeError
  isinst v o :=
    match o, v with
    | .npNdarray, .obj (.nd _) => true
    | _, _ => false
  iter _ := throw .TypeError
  truthy _ := pure true
  op _ _ := throw .TypeError
  parseFloat _ := none

/-! Four laws of `Eff` from `Proofs/DynCore.lean` (`Dyn.eff_pure`, …) under this namespace's names.  `eff_pure` is the one the
    C16 files write; the other three are not called: the proofs rewrite with DynCore's `eff_bind`. -/

@[simp] theorem eff_pure {σ β : Type} (x : β) (s : σ) : (pure x : Eff σ β) s = (.ok x, s) := Dyn.eff_pure x s
@[simp] theorem eff_throw {σ β : Type} (e : Exc) (s : σ) : (throw e : Eff σ β) s = (.error e, s) := Dyn.eff_throw e s
theorem eff_bind_ok {σ β γ : Type} (x : Eff σ β) (f : β → Eff σ γ) (s s' : σ) (a : β) (h : x s = (.ok a, s')) :
    (x >>= f) s = f a s' := Dyn.eff_bind_ok x f s s' a h
theorem eff_bind_err {σ β γ : Type} (x : Eff σ β) (f : β → Eff σ γ) (s s' : σ) (e : Exc) (h : x s = (.error e, s')) :
    (x >>= f) s = (.error e, s') := Dyn.eff_bind_err x f s s' e h

/-- `'{}{}'.format(key, i)` is `Output.subKey`, whatever the oracle -/
theorem format_key [FloatLike α] {ω : Type} [BEq ω] (ext : Ext (SM α) α ω) (key : String) (i : Nat) (s : Log α) :
    Dyn.m_format ext ["", "", ""] [Dyn.Val.str key, Dyn.Val.int (i : Int)] s = (.ok (.str (subKey key i)), s) := by
  simp [Dyn.m_format, Dyn.mapM, Dyn.str_, eff_bind, Dyn.formatParts, subKey, Dyn.intStr]
  rfl

section
variable [OfInt α] [FloatLike α]

/-- the exception classes a model error stands for at the level of `store_thing` -/
def errOK : Err → Exc → Prop
  | .unsupported, e => e = .TypeError ∨ e = .ValueError
  | .mixedStringList, e => e = .AttributeError
  | .notDict, _ => False

/-- the same one level up, at `recursively_save_dict_contents_to_output`, whose `except TypeError: raise ValueError` has turned
    a TypeError into a ValueError -/
def errOK' : Err → Exc → Prop
  | .unsupported, e => e = .ValueError
  | .mixedStringList, e => e = .AttributeError
  | .notDict, _ => False

/-- how a run `r = (result, file state)` of a regenerated writer from the state `s`, in the group at `p`, stands to the model's
    answer `m`: where the model stores the entries `es`, the run returns `okv` and has appended exactly `flat p es`; where the
    model fails with `e`, the run raises some `e'` with `R e e'` (nothing is said of the state then) -/
def OutcomeR {β : Type} (R : Err → Exc → Prop) (p : List String) (s : Log α)
    (m : Except Err (List (String × Node α))) (okv : β) (r : Except Exc β × Log α) : Prop :=
  match m with
  | .ok es => r = (.ok okv, s ++ flat p es)
  | .error e => ∃ e' s', r = (.error e', s') ∧ R e e'

abbrev Outcome {β : Type} := @OutcomeR α β errOK

theorem outcome_ok {β : Type} {p : List String} {s : Log α} {es : List (String × Node α)} {okv : β}
    {r : Except Exc β × Log α} {m : Except Err (List (String × Node α))} (hm : m = .ok es)
    {R : Err → Exc → Prop} (h : OutcomeR R p s m okv r) : r = (.ok okv, s ++ flat p es) := by
  subst hm; exact h

theorem outcome_err {β : Type} {p : List String} {s : Log α} {e : Err} {okv : β}
    {r : Except Exc β × Log α} {m : Except Err (List (String × Node α))} (hm : m = .error e)
    {R : Err → Exc → Prop} (h : OutcomeR R p s m okv r) : ∃ e' s', r = (.error e', s') ∧ R e e' := by
  subst hm; exact h

theorem outcome_cons {γ : Type} {R : Err → Exc → Prop} {q : List String} {s : Log α} {a : List (String × Node α)}
    {rest : Except Err (List (String × Node α))} {okv : γ} {r : Except Exc γ × Log α} :
    OutcomeR R q (s ++ flat q a) rest okv r →
      OutcomeR R q s (match rest with | .error e => .error e | .ok b => .ok (a ++ b)) okv r := by
  cases rest with
  | error e => exact id
  | ok b => intro h; simp only [OutcomeR, flat_append, List.append_assoc] at h ⊢; exact h

theorem outcome_then {β γ : Type} {R : Err → Exc → Prop} {p : List String} {s : Log α}
    {m : Except Err (List (String × Node α))} {x : SM α β} {okv : β} (okv' : γ) (h : OutcomeR R p s m okv (x s)) :
    OutcomeR R p s m okv' ((x >>= fun _ => pure okv') s) := by
  cases m with
  | ok es => simp only [OutcomeR] at h ⊢; rw [eff_bind, h]; rfl
  | error e =>
    obtain ⟨e', s', hr, he⟩ := h
    exact ⟨e', s', by rw [eff_bind, hr], he⟩

theorem errOK_of_errOK' {e : Err} {x : Exc} (h : errOK' e x) : errOK e x := by
  cases e <;> simp_all [errOK, errOK']

theorem outcome_group {β : Type} {p : List String} {key : String} {s : Log α} {d : List (String × Value α)} {okv : β}
    {r : Except Exc β × Log α} (h : OutcomeR errOK' (p ++ [key]) (s ++ [(p, key, .group [])]) (storeEntries d) okv r) :
    Outcome p s (match storeEntries d with | .ok ch => .ok [(key, .group ch)] | .error e => .error e) okv r := by
  cases hm : storeEntries d with
  | ok ch =>
    rw [outcome_ok hm h]
    simp only [Outcome, OutcomeR, flat, flatNode, List.append_assoc, List.cons_append, List.nil_append, List.append_nil]
  | error e =>
    obtain ⟨e', s', hr, he⟩ := outcome_err hm h
    exact ⟨e', s', hr, errOK_of_errOK' he⟩

theorem convert_err {e : Err} {x : Exc} (h : errOK e x) :
    errOK' e (if x.isaAny [Exc.TypeError] then Exc.ValueError else x) := by
  cases e with
  | unsupported => rcases h with rfl | rfl <;> simp [errOK', Exc.isaAny, Exc.isa, Exc.base]
  | mixedStringList => cases h; simp [errOK', Exc.isaAny, Exc.isa, Exc.base]
  | notDict => exact h

/-! ### the two loops, given the writer they call -/

/-- the `key0, key1, …` expansion loop, given the writer at the smaller fuel -/
theorem forM_seq (w : SWorld α) (st : SV α → SV α → SV α → SM α (SV α)) (p : List String) (key : String)
    (fuel : Nat)
    (IH : ∀ v : Value α, depth v < fuel → ∀ k s, Outcome p s (storeThing k v) (Dyn.Val.none : SV α)
        (st (.obj (.group p)) (.str k) (embV w.enc v) s))
    (body : Unit → SV α → SM α Unit)
    (hb : ∀ (i : Nat) (x : SV α) (s : Log α), body () (.tuple [.int (i : Int), x]) s
        = (st (.obj (.group p)) (.str (subKey key i)) x >>= fun _ => pure ()) s) :
    ∀ (l : List (Value α)) (i : Nat) (s : Log α), depthL l < fuel →
      Outcome p s (storeSeq key i l) () (Dyn.forM (enumFrom i (embL w.enc l)) () body s)
  | [], i, s, _ => by simp [Outcome, OutcomeR, storeSeq, embL, enumFrom, Dyn.forM, flat]
  | v :: vs, i, s, hd => by
    have hv : depth v < fuel := by simp only [depthL] at hd; omega
    have hvs : depthL vs < fuel := by simp only [depthL] at hd; omega
    have h1 := IH v hv (subKey key i) s
    simp only [embL, enumFrom, Dyn.forM, storeSeq]
    cases hm : storeThing (subKey key i) v with
    | error e =>
      obtain ⟨e', s', hr, he⟩ := outcome_err hm h1
      refine ⟨e', s', ?_, he⟩
      rw [eff_bind, hb, eff_bind, hr]
    | ok a =>
      have hr := outcome_ok hm h1
      have h2 := forM_seq w st p key fuel IH body hb vs (i + 1) (s ++ flat p a) hvs
      have hstep : (body () (.tuple [.int (i : Int), embV w.enc v]) >>= fun s' =>
          Dyn.forM (enumFrom (i + 1) (embL w.enc vs)) s' body) s
          = Dyn.forM (enumFrom (i + 1) (embL w.enc vs)) () body (s ++ flat p a) := by
        rw [eff_bind, hb, eff_bind, hr]
        rfl
      rw [hstep]
      exact outcome_cons h2

/-- the loop of `recursively_save_dict_contents_to_output` over the items of a dictionary -/
theorem forM_entries (w : SWorld α) (st : SV α → SV α → SV α → SM α (SV α)) (q : List String) (fuel : Nat)
    (IH : ∀ v : Value α, depth v < fuel → ∀ k s, Outcome q s (storeThing k v) (Dyn.Val.none : SV α)
        (st (.obj (.group q)) (.str k) (embV w.enc v) s))
    (body : Unit → SV α → SM α Unit)
    (hb : ∀ (k : String) (x : SV α) (s : Log α), body () (.tuple [.str k, x]) s
        = (tryCatch (st (.obj (.group q)) (.str k) x >>= fun _ => pure ())
            (fun e => if e.isaAny [Exc.TypeError] then throw Exc.ValueError else throw e)) s) :
    ∀ (d : List (String × Value α)) (s : Log α), depthD d < fuel →
      OutcomeR errOK' q s (storeEntries d) () (Dyn.forM ((embD w.enc d).map (fun e => Dyn.Val.tuple [e.1, e.2])) () body s)
  | [], s, _ => by simp [OutcomeR, storeEntries, embD, Dyn.forM, flat]
  | (k, v) :: r, s, hd => by
    have hv : depth v < fuel := by simp only [depthD] at hd; omega
    have hr' : depthD r < fuel := by simp only [depthD] at hd; omega
    have h1 := IH v hv k s
    simp only [embD, List.map_cons, Dyn.forM, storeEntries]
    cases hm : storeThing k v with
    | error e =>
      obtain ⟨e', s', hr, he⟩ := outcome_err hm h1
      refine ⟨_, s', ?_, convert_err he⟩
      rw [eff_bind, hb, eff_try, eff_bind, hr]
      by_cases hc : e'.isaAny [Exc.TypeError] = true <;> simp [hc]
    | ok a =>
      have hr := outcome_ok hm h1
      have h2 := forM_entries w st q fuel IH body hb r (s ++ flat q a) hr'
      have hstep : (body () (.tuple [.str k, embV w.enc v]) >>= fun s' =>
          Dyn.forM ((embD w.enc r).map (fun e => Dyn.Val.tuple [e.1, e.2])) s' body) s
          = Dyn.forM ((embD w.enc r).map (fun e => Dyn.Val.tuple [e.1, e.2])) () body (s ++ flat q a) := by
        rw [eff_bind, hb, eff_try, eff_bind, hr]
        rfl
      rw [hstep]
      exact outcome_cons h2

/-- `recursively_save_dict_contents_to_output(output, dic)` given the writer `st` it calls -/
theorem recursively_save_spec (w : SWorld α) (st : SV α → SV α → SV α → SM α (SV α)) (q : List String) (fuel : Nat)
    (IH : ∀ v : Value α, depth v < fuel → ∀ k s, Outcome q s (storeThing k v) (Dyn.Val.none : SV α)
        (st (.obj (.group q)) (.str k) (embV w.enc v) s))
    (d : List (String × Value α)) (s : Log α) (hd : depthD d < fuel) :
    OutcomeR errOK' q s (storeEntries d) (Dyn.Val.none : SV α)
      (SrcC16.recursively_save w.ext st (.obj (.group q)) (.dict (embD w.enc d)) s) := by
  unfold SrcC16.recursively_save
  simp only [Dyn.m_items, eff_pure_bind]
  have hloop := forM_entries w st q fuel IH
    (fun _ t => do
      let __x ← Dyn.unpack2 w.ext t
      tryCatch (do
          let _ ← st (Dyn.Val.obj (SObj.group q)) __x.fst __x.snd
          pure ())
        (fun e => if e.isaAny [Exc.TypeError] then throw Exc.ValueError else throw e))
    (fun k x s => by
      simp [eff_bind, Dyn.unpack2, Dyn.unpack, Dyn.iter])
    d s hd
  exact outcome_then _ hloop

/-! ### what `store_thing` asks of the oracle, and its test `True in [isinstance(x, str) for x in item]` -/

theorem ext_write_string_array (w : SWorld α) (p : List String) (key : String) (items : List (SV α)) (s : Log α) :
    w.ext.method (.group p) "write_string_array" [.str key, .list items] [] s =
      match stringList (unL w.dec items) with
      | some strs => (.ok .none, s ++ [(p, key, stringNode strs)])
      | none => (.error .AttributeError, s) := by
  show (match stringList (unL w.dec items) with
      | some strs => logEntry p key (stringNode strs)
      | none => throw Exc.AttributeError) s = _
  cases stringList (unL w.dec items) <;> rfl

theorem ext_np_array (w : SWorld α) (items : List (SV α)) (s : Log α) :
    w.ext.method .np "array" [.list items] [] s =
      match (toNdList (unL w.dec items)).bind stack with
      | some a => (.ok (.obj (.nd a)), s)
      | none => (.error w.npErr, s) := by
  show (match (toNdList (unL w.dec items)).bind stack with
      | some a => (pure (Dyn.Val.obj (SObj.nd a)) : SM α (SV α))
      | none => throw w.npErr) s = _
  cases (toNdList (unL w.dec items)).bind stack <;> rfl

theorem ext_write_array (w : SWorld α) (p : List String) (key : String) (a : Arr α) (s : Log α) :
    w.ext.method (.group p) "write_array" [.str key, .obj (.nd a)] [] s = (.ok .none, s ++ [(p, key, .num a)]) := (rfl)

theorem ext_create_group (w : SWorld α) (p : List String) (key : String) (s : Log α) :
    w.ext.method (.group p) "create_group" [.str key] [] s
      = (.ok (.obj (.group (p ++ [key]))), s ++ [(p, key, .group [])]) := (rfl)

@[simp] theorem ext_np (w : SWorld α) (s : Log α) : w.ext.global "np" s = (.ok (.obj .np), s) := (rfl)
@[simp] theorem ext_np_int64 (w : SWorld α) (s : Log α) :
    w.ext.getattr .np "int64" s = (.ok (.obj .npInt64), s) := (rfl)
@[simp] theorem ext_np_float64 (w : SWorld α) (s : Log α) :
    w.ext.getattr .np "float64" s = (.ok (.obj .npFloat64), s) := (rfl)
@[simp] theorem ext_np_ndarray (w : SWorld α) (s : Log α) :
    w.ext.getattr .np "ndarray" s = (.ok (.obj .npNdarray), s) := (rfl)
@[simp] theorem isinst_list (w : SWorld α) (l : List (SV α)) (o : SObj α) : w.ext.isinst (.list l) o = false := by
  cases o <;> rfl
@[simp] theorem isTy_list (t : Ty) (l : List (SV α)) : Dyn.Val.isTy t (.list l : SV α) = (t == .list) := by
  cases t <;> rfl

theorem isTy_str_emb (enc : List Nat → String) (v : Value α) :
    Dyn.Val.isTy .str (embV enc v) = isStr v := by
  cases v <;> rfl

theorem mapM_isStr (w : SWorld α) (l : List (Value α)) (s : Log α) :
    Dyn.mapM (m := SM α) (fun x => pure (Dyn.Val.bool (Dyn.Val.isTy .str x))) (embL w.enc l) s
      = (.ok (l.map (fun v => (Dyn.Val.bool (isStr v) : SV α))), s) := by
  induction l with
  | nil => rfl
  | cons v t ih => simp [embL, Dyn.mapM, eff_bind, ih, isTy_str_emb]

theorem contains_true (w : SWorld α) (l : List (Value α)) (s : Log α) :
    Dyn.contains w.ext (Dyn.Val.bool true) (Dyn.Val.list (l.map (fun v => (Dyn.Val.bool (isStr v) : SV α)))) s
      = (.ok (l.any isStr), s) := by
  simp [Dyn.contains, List.any_map, Function.comp_def, Dyn.Val.beq]

/-! ## `store_thing` by the type of the item -/

theorem writer_tuple (w : SWorld α) (fuel : Nat) (out key : SV α) (l : List (SV α)) :
    SrcC16.store_thing w.ext (fuel + 1) out key (.tuple l) = SrcC16.store_thing w.ext (fuel + 1) out key (.list l) := by
  funext s
  rfl

/-- the writer on a list: a string array if one element is a string, else a numeric array if numpy makes one of it, else
    the elements one by one under `key0, key1, …` (`body` is the body of that loop) -/
theorem writer_list (w : SWorld α) (hw : SWorldOK w) (fuel : Nat) (p : List String) (key : String) (l : List (Value α)) :
    ∃ body : Unit → SV α → SM α Unit,
      (∀ (i : Nat) (x : SV α) (s : Log α), body () (.tuple [.int (i : Int), x]) s
        = (SrcC16.store_thing w.ext fuel (.obj (.group p)) (.str (subKey key i)) x >>= fun _ => pure ()) s) ∧
      ∀ s : Log α, SrcC16.store_thing w.ext (fuel + 1) (.obj (.group p)) (.str key) (.list (embL w.enc l)) s
        = if l.any isStr then
            match stringList l with
            | some strs => (.ok .none, s ++ [(p, key, stringNode strs)])
            | none => (.error .AttributeError, s)
          else
            match (toNdList l).bind stack with
            | some a => (.ok .none, s ++ [(p, key, .num a)])
            | none => (Dyn.forM (enumFrom 0 (embL w.enc l)) () body >>= fun _ => pure .none) s := by
  refine ⟨fun _ t => do
      let __x ← Dyn.unpack2 w.ext t
      let t__20 ← Dyn.m_format w.ext ["", "", ""] [Dyn.Val.str key, __x.fst]
      let _ ← SrcC16.store_thing w.ext fuel (Dyn.Val.obj (SObj.group p)) t__20 __x.snd
      pure (), fun i x s => ?_, fun s => ?_⟩
  rotate_left
  · rw [SrcC16.store_thing]
    have hcatch : w.npErr.isaAny [Exc.TypeError, Exc.ValueError] = true := by
      rcases hw.2 with h' | h' <;> rw [h'] <;> rfl
    simp only [eff_bind, eff_ite, ext_np, getAttr_obj, ext_np_int64, ext_np_float64, ext_np_ndarray, isTy_list,
      Dyn.isinstObj, isinst_list, Bool.or_self, Bool.false_eq_true, beq_self_eq_true,
      (by decide : (Ty.float == Ty.list) = false), (by decide : (Ty.int == Ty.list) = false),
      (by decide : (Ty.str == Ty.list) = false), (by decide : (Ty.tuple == Ty.list) = false),
      if_false, Bool.or_false, Bool.false_or, if_true, eff_pure, iter_list, mapM_isStr, contains_true,
      callMethod_obj, ext_write_string_array, eff_try, ext_np_array, unL_embL w.enc w.dec hw.1 l]
    split
    · cases stringList l <;> rfl
    · cases (toNdList l).bind stack with
      | some a => rfl
      | none => simp only [hcatch, if_true, eff_bind, Dyn.enumerate_, iter_list, eff_pure]
  · simp only [eff_bind, Dyn.unpack2, Dyn.unpack, Dyn.iter, format_key, eff_pure, List.length_cons, List.length_nil, if_true]

/-- the writer on a dictionary: a new group, filled by `recursively_save_dict_contents_to_output` -/
theorem writer_dict (w : SWorld α) (fuel : Nat) (p : List String) (key : String) (d : List (SV α × SV α)) (s : Log α) :
    SrcC16.store_thing w.ext (fuel + 1) (.obj (.group p)) (.str key) (.dict d) s
      = (SrcC16.recursively_save w.ext (fun a b c => SrcC16.store_thing w.ext fuel a b c) (.obj (.group (p ++ [key]))) (.dict d)
          >>= fun _ => pure .none) (s ++ [(p, key, .group [])]) := rfl

end

end
end Taurex.C16Src
