/-
  Helper lemmas of the source ties of C10, C11 and C12 (Props/C10Src.lean, Props/C12Src.lean; `listOf` also in
  Proofs/C11.lean), generic in the carrier (core only, no algebra).
  The translated code holds a Python list of arrays as `List (Nat → α)`; the model holds `List (List α)`.
  `rowsOf n` cuts every array to its `n` entries.
-/
import Proofs.ListCore
import TaurexModel.Chemistry

namespace Taurex.C10Src
open Taurex Taurex.NpInterp Taurex.Chemistry

section
variable {α : Type}

/-- the `n` entries of an array held as a function -/
def listOf (n : Nat) (f : Nat → α) : List α := (List.range n).map f

/-- a Python list of arrays of `n` entries, as the model's list of lists -/
def rowsOf (n : Nat) (rs : List (Nat → α)) : List (List α) := rs.map (listOf n)

theorem listOf_length (n : Nat) (f : Nat → α) : (listOf n f).length = n := by simp [listOf]

theorem listOf_getD [OfNat α 0] (n : Nat) (f : Nat → α) (i : Nat) (hi : i < n) : (listOf n f).getD i 0 = f i :=
  getD_map_range f hi

theorem listOf_congr (n : Nat) (f g : Nat → α) (h : ∀ i, i < n → f i = g i) : listOf n f = listOf n g :=
  List.map_congr_left fun i hi => h i (List.mem_range.mp hi)

theorem listOf_forall (n : Nat) (f : Nat → α) (P : α → Prop) (h : ∀ i, i < n → P (f i)) : ∀ x ∈ listOf n f, P x :=
  List.forall_mem_map.2 fun i hi => h i (List.mem_range.1 hi)

theorem listOf_map (n : Nat) (f : Nat → α) (g : α → α) : (listOf n f).map g = listOf n (fun i => g (f i)) := by
  simp [listOf, List.map_map, Function.comp_def]

theorem listOf_const (n : Nat) (c : α) : listOf n (fun _ => c) = List.replicate n c := by
  rw [listOf, List.map_const', List.length_range]

theorem any_listOf (n : Nat) (f : Nat → α) (p : α → Bool) :
    (listOf n f).any p = (List.range n).any (fun i => p (f i)) := by
  simp [listOf, List.any_map, Function.comp_def]

theorem zipWith_listOf (n : Nat) (f g : Nat → α) (op : α → α → α) :
    List.zipWith op (listOf n f) (listOf n g) = listOf n (fun i => op (f i) (g i)) := by
  unfold listOf
  rw [List.zipWith_map]
  simp [List.zipWith_self]

theorem listOf_getD_self [OfNat α 0] (l : List α) (n : Nat) (h : l.length = n) : listOf n (fun i => l.getD i 0) = l := by
  subst h
  exact (list_eq_map_range 0 l).symm

theorem rowsOf_append (n : Nat) (a b : List (Nat → α)) : rowsOf n (a ++ b) = rowsOf n a ++ rowsOf n b := by
  simp [rowsOf]

theorem foldl_fun_apply [Add α] {β : Type} (g : β → Nat → α) (xs : List β) (f0 : Nat → α) (i : Nat) :
    (xs.foldl (fun (f : Nat → α) x => fun j => f j + g x j) f0) i = xs.foldl (fun a x => a + g x i) (f0 i) :=
  (List.foldl_hom (fun f : Nat → α => f i) fun _ _ => rfl).symm

theorem foldl_zipWith_listOf [Add α] {β : Type} (n : Nat) (g : β → Nat → α) (xs : List β) (f0 : Nat → α) :
    xs.foldl (fun acc x => List.zipWith (· + ·) acc (listOf n (g x))) (listOf n f0)
      = listOf n (fun i => xs.foldl (fun a x => a + g x i) (f0 i)) := by
  induction xs generalizing f0 with
  | nil => rfl
  | cons x xs ih =>
    rw [List.foldl_cons, zipWith_listOf, ih]
    rfl

/-- `sum(mix_profile)` of the model on rows cut from arrays -/
theorem totalMix_rowsOf [Add α] [OfNat α 0] (n : Nat) (rows : List (Nat → α)) :
    totalMix (rowsOf n rows) n = listOf n (fun i => rows.foldl (fun a r => a + r i) 0) := by
  unfold totalMix rowsOf
  rw [List.foldl_map, ← listOf_const]
  exact foldl_zipWith_listOf n (fun r => r) rows (fun _ => 0)

/-- one coefficient of `PowerGas.initialize_profile`: `if x is None: x = coeffs[i]; if x is None: raise ValueError`.
    `inner` is the translated inner test, which re-raises through a `match` that is the identity (`h`). -/
theorem powerCoeff_lookup {β : Type} (given known : Option β) (inner : Except String β)
    (h : inner = known.elim (Except.error "ValueError") Except.ok) :
    given.elim inner Except.ok = (powerCoeff given known).elim (Except.error "ValueError") Except.ok := by
  subst h
  cases given <;> rfl

end

end Taurex.C10Src
