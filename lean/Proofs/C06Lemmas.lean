/-
  The statistic of C06 over ℝ: `chiSq`, `logNorm`, and the model's `np.sum` / `np.nansum` as list sums.
-/
import Proofs.RealInst
import TaurexModel.Likelihood
import Mathlib.Tactic.Ring

namespace Taurex.C06
open Taurex.Likelihood

/-- the squared, error-normalised residuals `((d_i - m_i)/σ_i)²` of the property statement -/
noncomputable def sqList : List ℝ → List ℝ → List ℝ → List ℝ
  | d :: ds, s :: ss, m :: ms => ((d - m) / s) ^ 2 :: sqList ds ss ms
  | _, _, _ => []

noncomputable def chiSq (obs sig m : List ℝ) : ℝ := (sqList obs sig m).sum

noncomputable def logNorm (sig : List ℝ) : ℝ := (sig.map (fun s => Real.log (s * Real.sqrt (2 * Real.pi)))).sum

theorem sumL_eq (l : List ℝ) : sumL l = l.sum := List.sum_eq_foldl.symm

theorem nansum_foldl (l : List (Option ℝ)) (a : ℝ) :
    l.foldl nanAdd a = a + (l.filterMap id).sum := by
  induction l generalizing a with
  | nil => simp
  | cons x xs ih =>
    cases x with
    | none => simp [List.foldl_cons, ih, nanAdd]
    | some v => simp [List.foldl_cons, ih, nanAdd, add_assoc]

theorem nansum_eq (l : List (Option ℝ)) : nansum l = (l.filterMap id).sum := by
  unfold nansum
  rw [nansum_foldl]
  simp

/-- `chisq_trans` on a model evaluation that succeeded: NaN when every residual is, else the sum of the others -/
theorem chisq_ok (obs sig : List ℝ) (m : List (Option ℝ)) :
    chisq obs sig (.ok m) = if (residuals obs sig m).all Option.isNone then .nan
      else .fin ((residuals obs sig m).filterMap id).sum := by
  rw [← nansum_eq]; rfl

theorem nansum_map_some (l : List ℝ) : nansum (l.map some) = l.sum := by
  rw [nansum_eq]; congr 1
  induction l with
  | nil => rfl
  | cons x xs ih => simp

/-! `sqList` and `residuals` walk three lists in step and stop with the shortest: they are maps over the zip of the three,
    and what is needed of them follows from the library's facts about `zip` and `map` (`sqList_self`, where model and
    observation are the same list, is shown along the recursion) -/

theorem residuals_eq_map : ∀ (obs sig : List ℝ) (m : List (Option ℝ)),
    residuals obs sig m = (obs.zip (sig.zip m)).map (fun t => residSq t.1 t.2.1 t.2.2)
  | [], _, _ => rfl
  | _ :: _, [], _ => rfl
  | _ :: _, _ :: _, [] => rfl
  | d :: ds, s :: ss, m :: ms => congrArg (residSq d s m :: ·) (residuals_eq_map ds ss ms)

theorem sqList_eq_map : ∀ (obs sig m : List ℝ),
    sqList obs sig m = (obs.zip (sig.zip m)).map (fun t => ((t.1 - t.2.2) / t.2.1) ^ 2)
  | [], _, _ => rfl
  | _ :: _, [], _ => rfl
  | _ :: _, _ :: _, [] => rfl
  | d :: ds, s :: ss, m :: ms => congrArg ((((d - m) / s) ^ 2) :: ·) (sqList_eq_map ds ss ms)

theorem residuals_some (obs sig m : List ℝ) : residuals obs sig (m.map some) = (sqList obs sig m).map some := by
  rw [residuals_eq_map, sqList_eq_map, List.zip_map_right, List.zip_map_right, List.map_map, List.map_map]
  exact List.map_congr_left fun t _ => congrArg some (pow_two _).symm

theorem residuals_replicate_none (obs sig : List ℝ) (n : Nat) :
    (residuals obs sig (List.replicate n none)).all Option.isNone = true := by
  rw [residuals_eq_map, List.all_map, List.all_eq_true]
  intro t ht
  show (residSq t.1 t.2.1 t.2.2).isNone = true
  rw [List.eq_of_mem_replicate (List.of_mem_zip (List.of_mem_zip ht).2).2]
  rfl

theorem sqList_ne_nil {obs sig m : List ℝ} (hs : sig.length = obs.length) (hm : m.length = obs.length) (hne : obs ≠ []) :
    sqList obs sig m ≠ [] := by
  rw [sqList_eq_map, ← List.length_pos_iff, List.length_map, List.length_zip, List.length_zip, hs, hm, Nat.min_self,
    Nat.min_self]
  exact List.length_pos_iff.2 hne

theorem all_isNone_map_some {l : List ℝ} (h : l ≠ []) : (l.map some).all Option.isNone = false := by
  cases l with
  | nil => exact absurd rfl h
  | cons x xs => rfl

theorem sqList_nonneg (obs sig m : List ℝ) : ∀ v ∈ sqList obs sig m, 0 ≤ v := by
  rw [sqList_eq_map, List.forall_mem_map]
  exact fun _ _ => sq_nonneg _

theorem chiSq_nonneg (obs sig m : List ℝ) : 0 ≤ chiSq obs sig m :=
  List.sum_nonneg (sqList_nonneg obs sig m)

theorem sqList_self : ∀ (obs sig : List ℝ), ∀ v ∈ sqList obs sig obs, v = 0
  | [], _ => fun _ h => nomatch h
  | _ :: _, [] => fun _ h => nomatch h
  | d :: ds, s :: ss => fun v hv => by
    rcases List.mem_cons.1 hv with rfl | hv
    · rw [sub_self, zero_div, zero_pow two_ne_zero]
    · exact sqList_self ds ss v hv

theorem chiSq_self (obs sig : List ℝ) : chiSq obs sig obs = 0 :=
  List.sum_eq_zero (sqList_self obs sig)

/-- writing what the prior callback returned: both walk the same list of priors -/
theorem zipWith_zipWith_same {π α β γ : Type} (f : π → β → γ) (g : π → α → β) :
    ∀ (ps : List π) (l : List α), List.zipWith f ps (List.zipWith g ps l) = List.zipWith (fun p a => f p (g p a)) ps l
  | [], _ => rfl
  | _ :: _, [] => rfl
  | p :: ps, a :: l => congrArg (f p (g p a) :: ·) (zipWith_zipWith_same f g ps l)

theorem loglike_ok_some (obs sig m : List ℝ) (hs : sig.length = obs.length) (hm : m.length = obs.length)
    (hne : obs ≠ []) :
    loglike Real.pi obs sig (.ok (m.map some)) = .fin (-(logNorm sig) - chiSq obs sig m / 2) := by
  unfold loglike chisq
  simp only [residuals_some, all_isNone_map_some (sqList_ne_nil hs hm hne), nansum_map_some]
  simp only [Bool.false_eq_true, if_false, normTerm, sumL_eq, sqrt_real, log_real]
  unfold logNorm chiSq
  congr 1
  ring

end Taurex.C06
