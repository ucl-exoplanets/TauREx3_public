/-
  C13, binning the restricted run, the index half.  The overlap-weighted mean of a target depends only on the
  native bins that overlap it (`spec_overlapping`), and so does the binned value (`flux_eq_of_overlapping`, `clip_flux_eq`).  The mid-point bins (`nativeBins false`) of a contiguous sub-range of a
  strictly increasing native grid are the corresponding bins of the full grid except possibly the first and the last
  one, whose widths are re-derived from one neighbour (`width_sub`, `sub_row`); on a uniformly spaced grid all of them
  coincide.  So both grids have the same overlapping bins as soon as the target reaches neither the two edge bins of
  the sub-range nor a full-grid bin outside its interior.
-/
import Proofs.C05Midpoint
import Proofs.C13Lemmas

namespace Taurex.C13L
open Taurex.Binning List

theorem sum_map_filter_zero {β : Type} (rows : List β) (p : β → Bool) (f : β → ℝ)
    (h : ∀ r ∈ rows, p r = false → f r = 0) :
    (rows.map f).sum = ((rows.filter p).map f).sum := by
  induction rows with
  | nil => simp
  | cons x t ih =>
    have ht : ∀ r ∈ t, p r = false → f r = 0 := fun r hr => h r (List.mem_cons_of_mem _ hr)
    by_cases hp : p x = true
    · simp [hp, ih ht]
    · have hp' : p x = false := by simpa using hp
      simp [hp', ih ht, h x (List.mem_cons_self) hp']

noncomputable def overlapping (a b : ℝ) (rows : List (Row ℝ)) : List (Row ℝ) :=
  rows.filter (fun r => decide (0 < overlap a b r))

/-- a sum over the bins of any `f` that vanishes off the overlap is a sum over the overlapping bins -/
theorem sum_overlapping (a b : ℝ) (rows : List (Row ℝ)) (f : Row ℝ → ℝ) (hf : ∀ r, overlap a b r = 0 → f r = 0) :
    sumL (rows.map f) = sumL ((overlapping a b rows).map f) := by
  rw [sumL_eq_sum, sumL_eq_sum]
  exact sum_map_filter_zero rows _ f fun r _ h =>
    hf r (le_antisymm (not_lt.1 (of_decide_eq_false h)) (overlap_nonneg a b r))

theorem spec_overlapping (val : Row ℝ → ℝ) (rows : List (Row ℝ)) (a b : ℝ) :
    overlapMeanSpec val rows a b = overlapMeanSpec val (overlapping a b rows) a b := by
  unfold overlapMeanSpec
  rw [sum_overlapping a b rows _ fun r h => by rw [h, zero_mul], sum_overlapping a b rows _ fun _ h => h]

theorem sum_overlap_overlapping (a b : ℝ) (rows : List (Row ℝ)) :
    sumL (rows.map (overlap a b)) = sumL ((overlapping a b rows).map (overlap a b)) :=
  sum_overlapping a b rows _ fun _ h => h

theorem getD_drop_take (g : List ℝ) (i m j : Nat) (hj : j < m) :
    ((g.drop i).take m).getD j 0 = g.getD (i + j) 0 := by
  rw [List.getD_eq_getElem?_getD, List.getD_eq_getElem?_getD, List.getElem?_take, if_pos hj, List.getElem?_drop]

theorem spacing_drop_take (g : List ℝ) (i m j : Nat) (hj : j + 1 < m) :
    spacing ((g.drop i).take m) j = spacing g (i + j) := by
  unfold spacing
  rw [getD_drop_take g i m (j + 1) hj, getD_drop_take g i m j (by omega)]
  rfl

theorem length_drop_take {β : Type} (l : List β) (i m : Nat) (h : i + m ≤ l.length) :
    ((l.drop i).take m).length = m := by
  rw [List.length_take, List.length_drop]; omega

theorem map_drop_take (rows : List (Row ℝ)) (i m : Nat) :
    ((rows.drop i).take m).map Row.c = ((rows.map Row.c).drop i).take m := by
  rw [List.map_take, List.map_drop]

theorem sub_increasing (g : List ℝ) (i m : Nat) (hg : g.Pairwise (· < ·)) :
    ((g.drop i).take m).Pairwise (· < ·) :=
  (hg.sublist (List.drop_sublist _ _)).sublist (List.take_sublist _ _)

theorem sub_rows_increasing (full : List (Row ℝ)) (i m : Nat) (hg : (full.map Row.c).Pairwise (· < ·)) :
    (((full.drop i).take m).map Row.c).Pairwise (· < ·) := by
  rw [map_drop_take]
  exact sub_increasing _ i m hg

theorem getElem?_withWidths (rows : List (Row ℝ)) (ws : List ℝ) (k : Nat) (hk : k < rows.length)
    (hl : ws.length = rows.length) :
    (withWidths rows ws)[k]? = some { rows[k] with w := ws.getD k 0 } := by
  unfold withWidths
  have hk' : k < ws.length := by omega
  rw [List.getElem?_eq_getElem (by rw [List.length_zipWith]; omega), List.getElem_zipWith,
    List.getD_eq_getElem _ _ hk']

theorem getElem?_nativeBins (rows : List (Row ℝ)) (hg : (rows.map Row.c).Pairwise (· < ·)) (k : Nat)
    (hk : k < rows.length) :
    (nativeBins false rows)[k]? =
      some { rows[k] with w := (computeBinEdges (rows.map Row.c)).2.getD k 0 } := by
  rw [nativeBins_false_of_sorted rows hg]
  exact getElem?_withWidths rows _ k hk (by rw [Gen.Np.length_widths, List.length_map]; omega)

/-- the mid-point width of a sub-range at `k` is the width of the full grid at `i + k`, unless `k` is an end of
    the sub-range that is not an end of the grid (there the missing neighbour is replaced by the other one) -/
theorem width_sub (g : List ℝ) (i m k : Nat) (hg : g.Pairwise (· < ·)) (hm : 2 ≤ m) (him : i + m ≤ g.length)
    (hk : k < m) (hlo : 0 < k ∨ i = 0) (hhi : k + 1 < m ∨ i + m = g.length) :
    (computeBinEdges ((g.drop i).take m)).2.getD k 0 = (computeBinEdges g).2.getD (i + k) 0 := by
  have hl := length_drop_take g i m him
  rw [getD_widths _ (hl.symm ▸ hm) (sub_increasing g i m hg) k (hl.symm ▸ hk),
    getD_widths g (hm.trans ((Nat.le_add_left m i).trans him)) hg (i + k) ((Nat.add_lt_add_left hk i).trans_le him)]
  have eL : spacingL ((g.drop i).take m) k = spacingL g (i + k) := by
    unfold spacingL
    by_cases hk0 : k = 0
    · rw [if_pos hk0, if_pos (by omega), spacing_drop_take g i m k (by omega)]
    · rw [if_neg hk0, if_neg (by omega), spacing_drop_take g i m (k - 1) (by omega), show i + (k - 1) = i + k - 1 by omega]
  have eR : spacingE ((g.drop i).take m) k = spacingE g (i + k) := by
    unfold spacingE
    rw [hl]
    by_cases hk1 : k + 1 = m
    · rw [if_pos hk1, if_pos (by omega), spacing_drop_take g i m (m - 2) (by omega), show i + (m - 2) = g.length - 2 by omega]
    · rw [if_neg hk1, if_neg (by omega), spacing_drop_take g i m k (by omega)]
  rw [eL, eR]

theorem sub_row (full : List (Row ℝ)) (i m k : Nat) (hg : (full.map Row.c).Pairwise (· < ·))
    (hm : 2 ≤ m) (him : i + m ≤ full.length) (hk : k < m) (hlo : 0 < k ∨ i = 0)
    (hhi : k + 1 < m ∨ i + m = full.length) :
    (nativeBins false ((full.drop i).take m))[k]? = (nativeBins false full)[i + k]? := by
  have hlen : ((full.drop i).take m).length = m := length_drop_take full i m him
  rw [getElem?_nativeBins _ (sub_rows_increasing full i m hg) k (hlen.symm ▸ hk),
    getElem?_nativeBins full hg (i + k) (by omega), List.getElem_take, List.getElem_drop,
    map_drop_take, width_sub _ i m k hg hm (by rw [List.length_map]; exact him) hk hlo
      (by rw [List.length_map]; exact hhi)]

theorem clip_interior_rows (full : List (Row ℝ)) (i m : Nat) (hg : (full.map Row.c).Pairwise (· < ·))
    (hm : 2 ≤ m) (him : i + m ≤ full.length) :
    ((nativeBins false ((full.drop i).take m)).drop 1).take (m - 2) =
      ((nativeBins false full).drop (i + 1)).take (m - 2) := by
  apply List.ext_getElem?
  intro k
  rw [List.getElem?_take, List.getElem?_take]
  by_cases hk : k < m - 2
  · rw [if_pos hk, if_pos hk, List.getElem?_drop, List.getElem?_drop]
    rw [sub_row full i m (1 + k) hg hm him (by omega) (.inl (by omega)) (.inl (by omega))]
    congr 1; omega
  · rw [if_neg hk, if_neg hk]

theorem clip_interior_rows_dropLast (full : List (Row ℝ)) (i m : Nat) (hg : (full.map Row.c).Pairwise (· < ·))
    (hm : 2 ≤ m) (him : i + m ≤ full.length) :
    ((nativeBins false ((full.drop i).take m)).drop 1).dropLast =
      ((nativeBins false full).drop (i + 1)).take (m - 2) := by
  rw [← clip_interior_rows full i m hg hm him, List.dropLast_eq_take, List.length_drop,
    length_nativeBins_false _ (by rw [length_drop_take full i m him]; omega), length_drop_take full i m him]
  congr 1

theorem overlapping_middle (a b : ℝ) (l : List (Row ℝ)) (s k : Nat)
    (h1 : ∀ r ∈ l.take s, overlap a b r = 0) (h2 : ∀ r ∈ l.drop (s + k), overlap a b r = 0) :
    overlapping a b l = overlapping a b ((l.drop s).take k) :=
  filter_segment _ l s k (fun r hr => decide_eq_false (by rw [h1 r hr]; exact lt_irrefl 0))
    (fun r hr => decide_eq_false (by rw [h2 r hr]; exact lt_irrefl 0))

theorem clip_overlapping_eq (full : List (Row ℝ)) (i m : Nat) (a b : ℝ)
    (hg : (full.map Row.c).Pairwise (· < ·)) (hm : 2 ≤ m) (him : i + m ≤ full.length)
    (hc1 : ∀ r ∈ (nativeBins false ((full.drop i).take m)).take 1, overlap a b r = 0)
    (hc2 : ∀ r ∈ (nativeBins false ((full.drop i).take m)).drop (m - 1), overlap a b r = 0)
    (hf1 : ∀ r ∈ (nativeBins false full).take (i + 1), overlap a b r = 0)
    (hf2 : ∀ r ∈ (nativeBins false full).drop (i + m - 1), overlap a b r = 0) :
    overlapping a b (nativeBins false full) = overlapping a b (nativeBins false ((full.drop i).take m)) := by
  rw [overlapping_middle a b (nativeBins false full) (i + 1) (m - 2) hf1
        (by have : i + 1 + (m - 2) = i + m - 1 := by omega
            rw [this]; exact hf2),
      overlapping_middle a b (nativeBins false ((full.drop i).take m)) 1 (m - 2) hc1
        (by have : 1 + (m - 2) = m - 1 := by omega
            rw [this]; exact hc2),
      clip_interior_rows full i m hg hm him]

theorem sub_spacing_of_all {Q : ℝ → Prop} (full : List (Row ℝ)) (i m : Nat)
    (hd : ∀ j, j + 1 < (full.map Row.c).length → Q (spacing (full.map Row.c) j)) (him : i + m ≤ full.length) :
    ∀ j, j + 1 < (((full.drop i).take m).map Row.c).length → Q (spacing (((full.drop i).take m).map Row.c) j) := by
  intro j hj
  rw [List.length_map, length_drop_take full i m him] at hj
  rw [map_drop_take, spacing_drop_take _ i m j hj]
  exact hd (i + j) (by rw [List.length_map]; omega)

theorem nativeBins_uniform (rows : List (Row ℝ)) (d : ℝ) (hd0 : 0 < d)
    (hd : ∀ j, j + 1 < (rows.map Row.c).length → spacing (rows.map Row.c) j = d) (hn : 2 ≤ rows.length) :
    nativeBins false rows = rows.map fun r => { r with w := d } := by
  have hl : (rows.map Row.c).length = rows.length := List.length_map _
  refine List.ext_getElem? fun k => ?_
  by_cases hk : k < rows.length
  · rw [getElem?_nativeBins rows (linear_increasing _ d hd0 hd) k hk,
      linear_widths _ (hl.symm ▸ hn) d hd0 hd k (hl.symm ▸ hk), List.getElem?_map, List.getElem?_eq_getElem hk]
    rfl
  · rw [List.getElem?_eq_none (by rw [length_nativeBins_false rows (by omega)]; omega),
      List.getElem?_eq_none (by rw [List.length_map]; omega)]

theorem clip_uniform_overlapping_eq (full : List (Row ℝ)) (i m : Nat) (a b d : ℝ) (hd0 : 0 < d)
    (hd : ∀ j, j + 1 < (full.map Row.c).length → spacing (full.map Row.c) j = d)
    (hm : 2 ≤ m) (him : i + m ≤ full.length)
    (hf1 : ∀ r ∈ (nativeBins false full).take i, overlap a b r = 0)
    (hf2 : ∀ r ∈ (nativeBins false full).drop (i + m), overlap a b r = 0) :
    overlapping a b (nativeBins false full) = overlapping a b (nativeBins false ((full.drop i).take m)) := by
  rw [overlapping_middle a b _ i m hf1 hf2, nativeBins_uniform full d hd0 hd (by omega),
    nativeBins_uniform _ d hd0 (sub_spacing_of_all (Q := (· = d)) full i m hd him) (by rw [length_drop_take full i m him]; exact hm),
    List.map_take, List.map_drop]

/-- the binned value depends on the overlapping bins only (that the second run overlaps the target follows from `hsame`) -/
theorem flux_eq_of_overlapping (val : Row ℝ → ℝ) (full clipped : List (Row ℝ)) (a b : ℝ)
    (hordF : OrderedBins full) (hordC : OrderedBins clipped)
    (hwF : ∀ r ∈ full, r.lo ≤ r.hi) (hwC : ∀ r ∈ clipped, r.lo ≤ r.hi)
    (hposF : 0 < sumL (full.map (overlap a b)))
    (hsame : overlapping a b full = overlapping a b clipped) :
    fluxBinVal val full a b = fluxBinVal val clipped a b := by
  have hposC : 0 < sumL (clipped.map (overlap a b)) := by
    rw [sum_overlap_overlapping, ← hsame, ← sum_overlap_overlapping]
    exact hposF
  rw [flux_eq_spec val full a b hordF hwF hposF, flux_eq_spec val clipped a b hordC hwC hposC,
      spec_overlapping val full, spec_overlapping val clipped, hsame]

theorem clip_flux_eq (val : Row ℝ → ℝ) (full : List (Row ℝ)) (i m : Nat) (a b : ℝ)
    (hg : (full.map Row.c).Pairwise (· < ·)) (hm : 2 ≤ m) (him : i + m ≤ full.length)
    (hokF : MidpointSpacingOK (full.map Row.c))
    (hokC : MidpointSpacingOK (((full.drop i).take m).map Row.c))
    (hposF : 0 < sumL ((nativeBins false full).map (overlap a b)))
    (hsame : overlapping a b (nativeBins false full) = overlapping a b (nativeBins false ((full.drop i).take m))) :
    fluxBinVal val (nativeBins false full) a b = fluxBinVal val (nativeBins false ((full.drop i).take m)) a b :=
  flux_eq_of_overlapping val _ _ a b (midpoint_ordered full (by omega) hg hokF)
    (midpoint_ordered _ (by rw [length_drop_take full i m him]; exact hm) (sub_rows_increasing full i m hg) hokC)
    (midpoint_lo_le_hi full) (midpoint_lo_le_hi _) hposF hsame

end Taurex.C13L
