/-
  Helper lemma of Props/C11Src.lean (source tie of C11), generic in the carrier (no Mathlib, no algebra).

  `fold_scale`: ANY index-state loop `foldl step init (range' 1 n)` whose body satisfies the four point-wise equations of
  the body of `BasePlanet.calculate_scale_properties` (hypotheses `hdz hz hg hH`; they are discharged by unfolding the
  regenerated loop body in Props/C11Src.lean) leaves arrays that are, entry by entry, what the structural recursion
  `Structure.scaleLoop` of the hand-written model returns.
-/
import Proofs.C11Loop
import Proofs.FoldCore

namespace Taurex.C11Src
open Taurex Taurex.Structure

section
variable {α : Type} [Add α] [Mul α] [Div α] [Neg α] [OfNat α 0] [OfNat α 1] [Transc α]

/-- loop state of `calculate_scale_properties`: the arrays `(deltaz, z, g, H)` -/
abbrev St (α : Type) := (Nat → α) × (Nat → α) × (Nat → α) × (Nat → α)

/-- Step `i` writes the four arrays at index `i` only, from the entries at `i - 1`, so after the loop the arrays satisfy
    the recurrences of the loop body at every index (`foldl_range'_inv`), and these determine `scaleLoop`
    (`scaleLoop_eq_of_rec`). -/
theorem fold_scale (kb gm r : α) (Tl ml pl : List α) (n : Nat)
    (hT : Tl.length = n) (hm : ml.length = n) (hp : pl.length = n + 1)
    (step : St α → Nat → St α)
    (hdz : ∀ st i, (step st i).1 = fun j => if j = i then
        ((-1 : α) * st.2.2.2 (i - 1)) * log (pl.getD i 0 / pl.getD (i - 1) 0) else st.1 j)
    (hz : ∀ st i, (step st i).2.1 = fun j => if j = i then st.2.1 (i - 1) + (step st i).1 i else st.2.1 j)
    (hg : ∀ st i, (step st i).2.2.1 = if i < n then
        (fun j => if j = i then gravityAt gm r ((step st i).2.1 i) else st.2.2.1 j) else st.2.2.1)
    (hH : ∀ st i, (step st i).2.2.2 = if i < n then
        (fun j => if j = i then (kb * Tl.getD i 0) / (ml.getD i 0 * (step st i).2.2.1 i) else st.2.2.2 j)
        else st.2.2.2)
    (init : St α) (hH0 : init.2.2.2 0 = (kb * Tl.getD 0 0) / (ml.getD 0 0 * init.2.2.1 0)) :
    let fin := (List.range' 1 n).foldl step init
    scaleLoop kb gm r (init.2.1 0) (init.2.2.1 0) Tl ml pl
      = ((List.range n).map fun i => ⟨fin.2.1 i, fin.2.2.2 i, fin.2.2.1 i, fin.1 (i + 1)⟩, fin.2.1 n) := by
  intro fin
  have frame : ∀ st i j, j ≠ i → (step st i).1 j = st.1 j ∧ (step st i).2.1 j = st.2.1 j ∧
      (step st i).2.2.1 j = st.2.2.1 j ∧ (step st i).2.2.2 j = st.2.2.2 j := by
    intro st i j hj
    refine ⟨by rw [hdz]; exact if_neg hj, by rw [hz]; exact if_neg hj, ?_, ?_⟩
    · rw [hg]; split
      · exact if_neg hj
      · rfl
    · rw [hH]; split
      · exact if_neg hj
      · rfl
  -- the recurrences at index `i ≥ 1`, as a property of the state
  let Q : Nat → St α → Prop := fun i s =>
    s.1 i = ((-1 : α) * s.2.2.2 (i - 1)) * log (pl.getD i 0 / pl.getD (i - 1) 0) ∧
    s.2.1 i = s.2.1 (i - 1) + s.1 i ∧
    (i < n → s.2.2.1 i = gravityAt gm r (s.2.1 i) ∧ s.2.2.2 i = (kb * Tl.getD i 0) / (ml.getD i 0 * s.2.2.1 i))
  have hQ : ∀ s i, 1 ≤ i → Q i (step s i) := by
    intro s i hi
    obtain ⟨_, fz, _, fH⟩ := frame s i (i - 1) (by omega)
    refine ⟨?_, ?_, fun hin => ⟨?_, ?_⟩⟩
    · rw [fH, hdz]; exact if_pos rfl
    · rw [fz, hz]; exact if_pos rfl
    · rw [hg, if_pos hin]; exact if_pos rfl
    · rw [hH, if_pos hin]; exact if_pos rfl
  have hkeep : ∀ s i j, i < j → Q i s → Q i (step s j) := by
    intro s i j hij h
    obtain ⟨a1, a2, a3, a4⟩ := frame s j i (by omega)
    obtain ⟨_, b2, _, b4⟩ := frame s j (i - 1) (by omega)
    simp only [Q, a1, a2, a3, a4, b2, b4]
    exact h
  have hfin : ∀ i, i < n → Q (i + 1) fin := fun i hi =>
    foldl_range'_inv step Q 1 hQ hkeep init n (by omega) (fun h => absurd h (by omega))
  -- the entries at index 0 are those of the initial state
  obtain ⟨z0, g0, H0⟩ : fin.2.1 0 = init.2.1 0 ∧ fin.2.2.1 0 = init.2.2.1 0 ∧ fin.2.2.2 0 = init.2.2.2 0 :=
    foldl_range'_inv step (fun i s => i = 0 → s.2.1 0 = init.2.1 0 ∧ s.2.2.1 0 = init.2.2.1 0 ∧ s.2.2.2 0 = init.2.2.2 0)
      1 (fun _ i hi h => absurd h (by omega))
      (fun s _ j hj h h0 => by
        obtain ⟨_, a2, a3, a4⟩ := frame s j 0 (by omega)
        rw [a2, a3, a4]; exact h h0)
      init (i := 0) n (by omega) (fun _ _ => ⟨rfl, rfl, rfl⟩) rfl
  subst hT
  rw [← z0]
  refine scaleLoop_eq_of_rec kb gm r Tl fin.2.1 fin.2.2.2 fin.2.2.1 (fun i => fin.1 (i + 1)) _ ml pl hm hp
    (fun _ => g0.symm) ?_ (fun i hi => (hfin i hi).1) (fun i hi => (hfin i hi).2.1)
    (fun i hi => ((hfin i (by omega)).2.2 hi).1)
  intro i hi
  cases i with
  | zero => rw [H0, g0]; exact hH0
  | succ k => exact ((hfin k (by omega)).2.2 hi).2

end

end Taurex.C11Src
