/-
  The only place where real analysis is needed: writing the reported values back is the identity
  (`10 ^ (log10 v) = v` for `0 < v`).
-/
import Proofs.RealInst
import Proofs.C07Update

namespace Taurex.C07
open Taurex.Priors Taurex.OptimizerSM

section
variable {ν : Type} [DecidableEq ν]

theorem back_reportValue (s : St ν ℝ) (e : Entry ν ℝ) (p : Prior ℝ) (x : ℝ) (h : reportValue s e p = some x) :
    getValue s e.owner e.name = some (p.back x) := by
  unfold reportValue at h
  cases hg : getValue s e.owner e.name with
  | none => simp [hg] at h
  | some v =>
    simp only [hg] at h
    unfold Prior.back
    cases hm : p.mode with
    | linear => simp only [hm] at h ⊢; exact h
    | log =>
      simp only [hm] at h ⊢
      unfold log10? at h
      split at h
      · rename_i hv
        simp only [Option.some.injEq] at h
        rw [← h, pow10_log10 hv]
      · simp at h

theorem applyUpdate_writeback (s : St ν ℝ) (hw : WF s) : ∀ (es : List (Entry ν ℝ)) (ps : List (Prior ℝ)) (xs : List ℝ),
    fitValuesAux s es ps = some xs → applyUpdate s es ps xs = s := by
  intro es
  induction es with
  | nil => intro ps xs _; simp [applyUpdate]
  | cons e es ih =>
    intro ps xs h
    cases ps with
    | nil => simp [applyUpdate]
    | cons p ps =>
      simp only [fitValuesAux] at h
      cases hr : reportValue s e p with
      | none => simp [hr] at h
      | some x =>
        cases hf : fitValuesAux s es ps with
        | none => simp [hr, hf] at h
        | some xs' =>
          simp only [hr, hf, Option.some.injEq] at h
          subst h
          simp only [applyUpdate]
          have hnd : (names (table s e.owner)).Nodup := by
            cases e.owner
            · exact hw.model
            · exact hw.obs
          rw [setValue_same s e.owner e.name _ hnd (back_reportValue s e p x hr)]
          exact ih ps xs' hf

/-- in a well-formed state whose rows and priors pair up, writing the reported vector back changes nothing -/
theorem updateModel_writeback (s : St ν ℝ) (hw : WF s) (hl : s.compiled.length = s.compiledPriors.length) (v : List ℝ)
    (hv : fitValues s = some v) : step s (.updateModel v) = (s, .ok) := by
  rw [step_updateModel s v (fitValuesAux_length _ _ _ v hl hv), applyUpdate_writeback _ hw _ _ v hv]
end

end Taurex.C07
