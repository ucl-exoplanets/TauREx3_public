/-
  The loop of `FluxBinner.bindown` over the target bins, as the list dialect of the source translator spells it, against
  the model's `fluxBinVal` / `fluxBinErr`.  The regenerated calling patterns (`grid_width` absent / an array / one
  number, with and without `error`) differ only in the arrays `old_spect_min`, `old_spect_max`, `old_spect_flux`,
  `old_spect_err` the loop body reads and in whether the state carries `bin_error`; the body is written out once here,
  with those arrays as parameters, and each regenerated function is this loop by unfolding.
-/
import Proofs.C05SrcNp
set_option linter.unusedSectionVars false

namespace Taurex.C05Src
open Taurex.Binning Taurex.Gen

section
variable {α : Type} [Add α] [Sub α] [Mul α] [Div α] [Neg α] [LT α] [LE α]
  [DecidableLT α] [DecidableLE α] [Taurex.Transc α] [OfNat α 0] [OfNat α 1] [OfNat α 2]

section body
variable (lo hi : List α) (a b : α)

/-- `(save_start, save_stop)` after the two clamps -/
def saveBounds : Nat × Nat :=
  (min (Np.searchsortedRight hi a) (lo.length - 1), min (Np.searchsortedRight (lo.drop 1) b) (lo.length - 1))

/-- the test in front of `continue` -/
def skipTest : Bool :=
  (!decide (a ≤ hi.getD (saveBounds lo hi a b).1 0)) || (!decide (lo.getD (saveBounds lo hi a b).2 0 ≤ b))

/-- `l[save_start:save_stop+1]` -/
def winSlice {β : Type} (l : List β) : List β :=
  Np.slice l (saveBounds lo hi a b).1 ((saveBounds lo hi a b).2 + 1)

/-- `weight` -/
def binWeights : List α :=
  List.map (fun x => x / (b - a)) (Np.zip2 (fun x y => x - y)
    (List.map (fun x => Np.minimum b x) (winSlice lo hi a b hi))
    (List.map (fun x => Np.maximum x a) (winSlice lo hi a b lo)))

/-- `sum_spectrum` -/
def sumSpectrum (flux : List α) : α :=
  Np.sum (Np.zip2 (fun x y => x * y)
    (List.map (fun x => x / Np.sum (binWeights lo hi a b)) (binWeights lo hi a b)) (winSlice lo hi a b flux))

/-- `sum_noise` as stored -/
def sumNoise (err : List α) : α :=
  sqrt (Np.sum (Np.zip2 (fun x y => x * y)
      (Np.zip2 (fun x y => x * y) (binWeights lo hi a b) (binWeights lo hi a b))
      (List.map (fun x => x * x) (winSlice lo hi a b err)))
    / Np.sum (binWeights lo hi a b) / Np.sum (binWeights lo hi a b))

end body

/-- one pass of the loop without `error`: state `(save_start, save_stop, bin_spectrum)`, item `((wn, wn_min, wn_max), idx)` -/
def bindownStep (lo hi flux : List α) (st : Nat × Nat × List α) (it : (α × α × α) × Nat) : Nat × Nat × List α :=
  let a := it.1.2.1
  let b := it.1.2.2
  let w := saveBounds lo hi a b
  if skipTest lo hi a b then (w.1, w.2, st.2.2) else (w.1, w.2, st.2.2.set it.2 (sumSpectrum lo hi a b flux))

/-- one pass of the loop with `error`: the state carries `bin_error` as well -/
def bindownStepE (lo hi flux err : List α) (st : Nat × Nat × List α × List α) (it : (α × α × α) × Nat) :
    Nat × Nat × List α × List α :=
  let a := it.1.2.1
  let b := it.1.2.2
  let w := saveBounds lo hi a b
  if skipTest lo hi a b then (w.1, w.2, st.2.2.1, st.2.2.2)
  else (w.1, w.2, st.2.2.1.set it.2 (sumSpectrum lo hi a b flux), st.2.2.2.set it.2 (sumNoise lo hi a b err))

/-- `enumerate(zip(new_spec_wn, new_spec_wn_min, new_spec_wn_max))` from `self._wngrid`, `self._wngrid_width` -/
def targetItems (c w : List α) : List ((α × α × α) × Nat) :=
  List.zipIdx (List.zip c (List.zip
    (Np.zip2 (fun x y => x - y) c (List.map (fun x => x / 2) w))
    (Np.zip2 (fun x y => x + y) c (List.map (fun x => x / 2) w))))

def bindownLoop (lo hi flux c w : List α) : Nat × Nat × List α :=
  List.foldl (bindownStep lo hi flux) (0, 0, List.replicate c.length 0) (targetItems c w)

def bindownLoopE (lo hi flux err c w : List α) : Nat × Nat × List α × List α :=
  List.foldl (bindownStepE lo hi flux err) (0, 0, List.replicate c.length 0, List.replicate c.length 0)
    (targetItems c w)

section rows
variable (R : List (Row α)) (a b : α)

theorem window_rows :
    window R a b = if skipTest (R.map Row.lo) (R.map Row.hi) a b then none
      else some (saveBounds (R.map Row.lo) (R.map Row.hi) a b) := by
  have hsr : ∀ (l : List α) (v : α), Interp.searchRight l v = Np.searchsortedRight l v := fun _ _ => rfl
  simp only [window, skipTest, saveBounds, List.length_map, hsr]
  split <;> rename_i h
  · simp only [h.1, h.2, decide_true, Bool.not_true, Bool.or_self, Bool.false_eq_true, if_false]
  · rw [if_pos (Np.not_and_bool h)]

theorem winSlice_map {β γ : Type} (lo hi : List α) (f : β → γ) (l : List β) :
    winSlice lo hi a b (l.map f) = (winSlice lo hi a b l).map f :=
  Np.slice_map f l _ _

theorem binWeights_rows :
    binWeights (R.map Row.lo) (R.map Row.hi) a b
      = (winSlice (R.map Row.lo) (R.map Row.hi) a b R).map (weight a b) := by
  simp only [binWeights, winSlice_map, List.map_map, Np.zip2_map_map]
  rfl

theorem fluxBinVal_rows (val : Row α → α) :
    fluxBinVal val R a b = if skipTest (R.map Row.lo) (R.map Row.hi) a b then 0
      else sumSpectrum (R.map Row.lo) (R.map Row.hi) a b (R.map val) := by
  simp only [fluxBinVal, window_rows]
  by_cases h : skipTest (R.map Row.lo) (R.map Row.hi) a b = true
  · simp only [if_pos h]
  · simp only [if_neg h, sumSpectrum, binWeights_rows, winSlice_map, List.map_map, Np.zip2_map_map]
    rfl

theorem fluxBinErr_rows (err : Row α → α) :
    fluxBinErr err R a b = if skipTest (R.map Row.lo) (R.map Row.hi) a b then 0
      else sumNoise (R.map Row.lo) (R.map Row.hi) a b (R.map err) := by
  simp only [fluxBinErr, fluxBinNoise, window_rows]
  by_cases h : skipTest (R.map Row.lo) (R.map Row.hi) a b = true
  · simp only [if_pos h]
  · simp only [if_neg h, sumNoise, binWeights_rows, winSlice_map, List.map_map, Np.zip2_map_map]
    rfl

end rows

theorem targetItems_map (targets : List (TBin α)) :
    targetItems (targets.map TBin.c) (targets.map TBin.w)
      = (targets.map (fun t => (t.c, t.lo, t.hi))).zipIdx := by
  simp only [targetItems, List.map_map, Np.zip2_map_map, List.zip_map']
  rfl

theorem foldl_bindown {σ : Type} (step : σ → (α × α × α) × Nat → σ) (proj : σ → List α) (lo hi : List α)
    (v g : α → α → α) (hg : ∀ a b, g a b = if skipTest lo hi a b then 0 else v a b)
    (hstep : ∀ st it, proj (step st it)
      = if skipTest lo hi it.1.2.1 it.1.2.2 then proj st else (proj st).set it.2 (v it.1.2.1 it.1.2.2))
    (targets : List (TBin α)) (s : σ) (hs : proj s = List.replicate (targets.map TBin.c).length 0) :
    proj (List.foldl step s (targetItems (targets.map TBin.c) (targets.map TBin.w)))
      = targets.map (fun t => g t.lo t.hi) := by
  rw [targetItems_map]
  refine (Np.foldl_enum_set step proj (fun x => skipTest lo hi x.2.1 x.2.2) (fun x => v x.2.1 x.2.2) 0
    (fun st x i => hstep st (x, i)) _ [] s (by simpa using hs)).trans ?_
  rw [List.map_map]
  exact List.map_congr_left (fun t _ => (hg t.lo t.hi).symm)

theorem bindownLoop_spectrum (val : Row α → α) (R : List (Row α)) (targets : List (TBin α)) :
    (bindownLoop (R.map Row.lo) (R.map Row.hi) (R.map val) (targets.map TBin.c) (targets.map TBin.w)).2.2
      = targets.map (fun t => fluxBinVal val R t.lo t.hi) :=
  foldl_bindown _ (fun st : Nat × Nat × List α => st.2.2) _ _ _ _ (fun a b => fluxBinVal_rows R a b val)
    (fun st it => by simp only [bindownStep]; split <;> rfl) targets _ rfl

theorem bindownLoopE_spectrum (val : Row α → α) (errs : List α) (R : List (Row α)) (targets : List (TBin α)) :
    (bindownLoopE (R.map Row.lo) (R.map Row.hi) (R.map val) errs (targets.map TBin.c) (targets.map TBin.w)).2.2.1
      = targets.map (fun t => fluxBinVal val R t.lo t.hi) :=
  foldl_bindown _ (fun st : Nat × Nat × List α × List α => st.2.2.1) _ _ _ _ (fun a b => fluxBinVal_rows R a b val)
    (fun st it => by simp only [bindownStepE]; split <;> rfl) targets _ rfl

theorem bindownLoopE_error (err : Row α → α) (flux : List α) (R : List (Row α)) (targets : List (TBin α)) :
    (bindownLoopE (R.map Row.lo) (R.map Row.hi) flux (R.map err) (targets.map TBin.c) (targets.map TBin.w)).2.2.2
      = targets.map (fun t => fluxBinErr err R t.lo t.hi) :=
  foldl_bindown _ (fun st : Nat × Nat × List α × List α => st.2.2.2) _ _ _ _ (fun a b => fluxBinErr_rows R a b err)
    (fun st it => by simp only [bindownStepE]; split <;> rfl) targets _ rfl

/-! ### the arrays the loop reads are columns of the model's native bins

With `grid_width` an array they are columns of `sortBy Row.c rows` as they stand.  The other two calling patterns: -/

section midpoint
variable (rows : List (Row α))

/-- no `grid_width`: `old_spect_wn ∓ compute_bin_edges(old_spect_wn)[-1]/2` (`op` is `-` for `Row.lo`, `+` for `Row.hi`) -/
theorem midpoint_edge (op : α → α → α) :
    Np.zip2 op ((sortBy Row.c rows).map Row.c)
        (List.map (fun x => x / 2) (computeBinEdges ((sortBy Row.c rows).map Row.c)).2)
      = (nativeBins false rows).map (fun r => op r.c (r.w / 2)) :=
  Np.zip2_withWidths _ _ _ _ (by rw [Np.length_widths, List.length_map])

theorem midpoint_col {γ : Type} (f : Row α → γ) (hf : ∀ (r : Row α) (w : α), f { r with w := w } = f r) :
    (sortBy Row.c rows).map f = (nativeBins false rows).map f :=
  (Np.withWidths_map f hf _ _ (by rw [Np.length_widths, List.length_map]; omega)).symm

end midpoint

section scalar
variable (w : α) (rows : List (Row α))

/-- one number as `grid_width`: it is not permuted and broadcasts, as if every native bin carried it -/
theorem scalar_col {γ : Type} (f g : Row α → γ) (hf : ∀ r : Row α, f { r with w := w } = g r) :
    (sortBy Row.c rows).map g = (nativeBins true (rows.map (fun r => { r with w := w }))).map f := by
  rw [nativeBins, if_pos rfl, Np.sortBy_map Row.c, List.map_map]
  exact List.map_congr_left (fun r _ => (hf r).symm)

theorem scalar_lo :
    List.map (fun x => x - w / 2) ((sortBy Row.c rows).map Row.c)
      = (nativeBins true (rows.map (fun r => { r with w := w }))).map Row.lo := by
  rw [List.map_map]
  exact scalar_col w rows Row.lo _ (fun _ => rfl)

theorem scalar_hi :
    List.map (fun x => x + w / 2) ((sortBy Row.c rows).map Row.c)
      = (nativeBins true (rows.map (fun r => { r with w := w }))).map Row.hi := by
  rw [List.map_map]
  exact scalar_col w rows Row.hi _ (fun _ => rfl)

end scalar

end
end Taurex.C05Src
