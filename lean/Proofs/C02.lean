/-
  The emission integral over the real carrier.  Every intensity of the model has the form
  `v₀·w₀ + Σ_l v_l·w_l` (source functions `v`, non-negative weights `w`: the surface term and one term per layer), so
  the hot/cold bounds and the isothermal identities at every level (rows, full model, flux, correlated-k) come from the
  weighted sums of `Proofs/Convex.lean` (`wsum_between`, `wsum_const`; with the surface term, `source_sum_between` below)
  together with the total weight `w₀ + Σ_l w_l` of the level in question.  The clamped cross-section model carries its
  transmittances in `Row` lists (`Chain`, `RowsOk`, which the rows of `evaluate_emission` satisfy); the intensities without
  clamp are `layered B T n` for a profile `T` of transmittances to space.
-/
import Proofs.RealInst
import Proofs.Convex
import Proofs.ListCore
import Proofs.FoldCore
import TaurexModel.Emission
import Mathlib.Tactic.Ring
import Mathlib.Tactic.Linarith
import Mathlib.Tactic.Positivity

namespace Taurex.Emission

theorem foldl_add_sum {β : Type} (f : β → ℝ) (l : List β) (acc : ℝ) :
    l.foldl (fun a x => a + f x) acc = acc + (l.map f).sum := by
  induction l generalizing acc with
  | nil => simp
  | cons x xs ih => simp [List.foldl_cons, ih, add_assoc]

/-- `Σ_{lo ≤ k < hi} f k`: the form of every optical-depth loop of the kernels -/
noncomputable def rangeSum (f : ℕ → ℝ) (lo hi : ℕ) : ℝ := ((List.range' lo (hi - lo)).map f).sum

theorem foldl_range'_add (f : ℕ → ℝ) (lo hi : ℕ) (acc : ℝ) :
    (List.range' lo (hi - lo)).foldl (fun a k => a + f k) acc = acc + rangeSum f lo hi :=
  foldl_add_sum f _ acc

theorem rangeSum_self (f : ℕ → ℝ) (n : ℕ) : rangeSum f n n = 0 := by simp [rangeSum]

theorem rangeSum_succ (f : ℕ → ℝ) (l n : ℕ) (h : l < n) : rangeSum f l n = f l + rangeSum f (l + 1) n := by
  obtain ⟨d, hd⟩ := Nat.exists_eq_succ_of_ne_zero (Nat.sub_ne_zero_of_lt h)
  unfold rangeSum
  rw [← Nat.sub_sub, hd, Nat.succ_sub_one, List.range'_succ, List.map_cons, List.sum_cons]

theorem rangeSum_split (f : ℕ → ℝ) (l n : ℕ) (h : l < n) :
    rangeSum f l (l + 1) + rangeSum f (l + 1) n = rangeSum f l n := by
  rw [rangeSum_succ f l (l + 1) (Nat.lt_succ_self l), rangeSum_self, add_zero, rangeSum_succ f l n h]

theorem rangeSum_nonneg (f : ℕ → ℝ) (lo hi : ℕ) (h : ∀ k, 0 ≤ f k) : 0 ≤ rangeSum f lo hi :=
  Convex.sum_map_nonneg _ f fun k _ => h k

theorem rangeSum_mul_right (f : ℕ → ℝ) (lo hi : ℕ) (m : ℝ) :
    rangeSum (fun k => f k * m) lo hi = rangeSum f lo hi * m :=
  List.sum_map_mul_right ..

theorem source_sum_between {β : Type} (l : List β) (v w : β → ℝ) (v0 w0 lo hi : ℝ) (hw0 : 0 ≤ w0)
    (hw : ∀ x ∈ l, 0 ≤ w x) (hv0 : lo ≤ v0 ∧ v0 ≤ hi) (hv : ∀ x ∈ l, lo ≤ v x ∧ v x ≤ hi) :
    lo * (w0 + (l.map w).sum) ≤ v0 * w0 + (l.map (fun x => v x * w x)).sum ∧
    v0 * w0 + (l.map (fun x => v x * w x)).sum ≤ hi * (w0 + (l.map w).sum) := by
  obtain ⟨h1, h2⟩ := Convex.wsum_between l w v hw fun x hx _ => hv x hx
  rw [mul_add, mul_add]
  exact ⟨add_le_add (mul_le_mul_of_nonneg_right hv0.1 hw0) h1,
    add_le_add (mul_le_mul_of_nonneg_right hv0.2 hw0) h2⟩

theorem abs_sum_sub_le {β : Type} (l : List β) (f g h : β → ℝ) (H : ∀ x ∈ l, |f x - g x| ≤ h x) :
    |(l.map f).sum - (l.map g).sum| ≤ (l.map h).sum := by
  induction l with
  | nil => simp
  | cons x xs ih =>
    simp only [List.map_cons, List.sum_cons]
    rw [add_sub_add_comm]
    exact (abs_add_le _ _).trans
      (add_le_add (H x List.mem_cons_self) (ih fun y hy => H y (List.mem_cons_of_mem _ hy)))

/-- coefficient of `B(T_l)/π` contributed by one layer -/
noncomputable def coeff (m : ℝ) (r : Row ℝ) : ℝ := trans r.keepL r.lt m - trans r.keepD r.dt m

theorem intensityRows_eq (b0 surf m : ℝ) (rows : List (Row ℝ)) :
    intensityRows b0 surf m rows
      = b0 * Real.exp ((-surf) * m) + (rows.map (fun r => r.b * coeff m r)).sum := by
  unfold intensityRows coeff
  rw [foldl_add_sum]
  rfl

theorem trans_true (t m : ℝ) : trans true t m = Real.exp ((-t) * m) := if_pos rfl
theorem trans_false (t m : ℝ) : trans false t m = 0 := if_neg Bool.false_ne_true

theorem trans_nonneg (k : Bool) (t m : ℝ) : 0 ≤ trans k t m := by
  cases k <;> simp [trans, Real.exp_nonneg]

theorem trans_le_exp (k : Bool) (t m : ℝ) : trans k t m ≤ Real.exp ((-t) * m) := by
  cases k <;> simp [trans, Real.exp_nonneg]

theorem coeff_sum_chain (m : ℝ) {rows : List (Row ℝ)} {t : ℝ} {k : Bool} (h : Chain t k rows) :
    (rows.map (coeff m)).sum = 1 - trans k t m := by
  induction rows generalizing t k with
  | nil =>
    obtain ⟨rfl, rfl⟩ := h
    simp [trans]
  | cons r rs ih =>
    obtain ⟨hd, hk, hc⟩ := h
    simp only [List.map_cons, List.sum_cons, ih hc, coeff, hd, hk]
    ring

theorem rowsOk_coeff_nonneg {m : ℝ} (hm : 0 ≤ m) {rows : List (Row ℝ)} (h : RowsOk rows) :
    ∀ r ∈ rows, 0 ≤ coeff m r := fun r hr => by
  obtain ⟨h1, -, -, h4⟩ := h r hr
  unfold coeff
  cases hL : r.keepL
  · rw [h4 hL, trans_false, trans_false, sub_self]
  · rw [trans_true]
    exact sub_nonneg.2 ((trans_le_exp _ _ _).trans
      (Real.exp_le_exp.2 (mul_le_mul_of_nonneg_right (neg_le_neg h1) hm)))

/-- total weight `exp(-τ₀/μ) + Σ_l c_l` of the source functions: what the clamp took from the surface term above `1` -/
theorem weight_total (m : ℝ) {rows : List (Row ℝ)} {t : ℝ} {k : Bool} (h : Chain t k rows) :
    Real.exp ((-t) * m) + (rows.map (coeff m)).sum = 1 + (Real.exp ((-t) * m) - trans k t m) := by
  rw [coeff_sum_chain m h]; ring

/-- a clamped transmittance had optical depth `≥ 10` along a path of `1/μ ≥ 1`: at most `exp(-10)` is dropped -/
theorem clamp_loss_bounds {m : ℝ} (hm : 1 ≤ m) {t : ℝ} {k : Bool} (hk : k = false → 10 ≤ t) :
    0 ≤ Real.exp ((-t) * m) - trans k t m ∧ Real.exp ((-t) * m) - trans k t m ≤ Real.exp (-10) := by
  cases k
  · have h10 : (10 : ℝ) ≤ t * m :=
      (hk rfl).trans (le_mul_of_one_le_right (le_trans (by norm_num) (hk rfl)) hm)
    rw [trans_false, sub_zero, neg_mul]
    exact ⟨Real.exp_nonneg _, Real.exp_le_exp.2 (neg_le_neg h10)⟩
  · rw [trans_true, sub_self]
    exact ⟨le_rfl, Real.exp_nonneg _⟩

/-- positivity hypotheses on the constants of `black_body_numba` -/
def PCPos (k : PC ℝ) : Prop := 0 < k.pi ∧ 0 < k.h ∧ 0 < k.c ∧ 0 < k.kb ∧ 0 < k.conv ∧ 0 < k.scale

/-- the constants the examples of `Props/C02.lean` run with -/
theorem nv_pc_pos : PCPos ⟨3, 1, 1, 1, 1, 1⟩ := by unfold PCPos; norm_num

theorem bose_pos {x : ℝ} (hx : 0 < x) : 0 < 1 / (Real.exp x - 1) :=
  one_div_pos.2 (by linarith [Real.add_one_lt_exp hx.ne'])

theorem bose_anti {x y : ℝ} (hx : 0 < x) (hxy : x ≤ y) : 1 / (Real.exp y - 1) ≤ 1 / (Real.exp x - 1) :=
  one_div_le_one_div_of_le (by linarith [Real.add_one_lt_exp hx.ne']) (by linarith [Real.exp_le_exp.2 hxy])

theorem planck_shape {k : PC ℝ} (hk : PCPos k) {nu : ℝ} (hnu : 0 < nu) :
    ∃ A B : ℝ, 0 < A ∧ 0 < B ∧ ∀ t, planck k nu t = A * (1 / (Real.exp (B / t) - 1)) := by
  obtain ⟨h1, h2, h3, h4, h5, h6⟩ := hk
  have hwl : 0 < k.conv / nu := div_pos h5 hnu
  refine ⟨k.pi * (2 * k.h * (k.c * k.c))
      / (k.conv / nu * (k.conv / nu) * (k.conv / nu) * (k.conv / nu) * (k.conv / nu)) * k.scale,
    k.h * k.c / (k.conv / nu * k.kb), by positivity, by positivity, fun t => ?_⟩
  rw [← div_mul_eq_div_div, mul_right_comm]
  rfl

theorem angleSum_eq (qs : List (ℝ × ℝ × ℝ)) : angleSum qs = (qs.map (fun q => q.1 * (q.2.1 / q.2.2))).sum := by
  unfold angleSum
  rw [foldl_add_sum]; simp

/-- the weight `_w/_mu` with which `path_integral` takes the intensity of the `leggauss` node `x`, weight `w` -/
theorem quad_term (x w : ℝ) : wOf w / muInvOf x = w * (x + 1) / 4 := by
  unfold wOf muInvOf muOf
  rw [one_div, div_inv_eq_mul]
  ring

theorem quad_sum (l : List (ℝ × ℝ)) :
    (l.map (fun p => wOf p.2 / muInvOf p.1)).sum = ((l.map (fun p => p.2 * p.1)).sum + (l.map (fun p => p.2)).sum) / 4 := by
  induction l with
  | nil => simp
  | cons p ps ih =>
    simp only [List.map_cons, List.sum_cons, ih]
    rw [quad_term]
    ring

theorem sum_snd_zip (xs ws : List ℝ) (hlen : xs.length = ws.length) :
    ((xs.zip ws).map (fun p => p.2)).sum = ws.sum :=
  congrArg List.sum (List.map_snd_zip hlen.ge)

/-- the two moment conditions of `leggauss` (`Σ w = 2`, `Σ w x = 0`) make the weights of `path_integral` sum to `1/2` -/
theorem quad_weight_sum {xs wts : List ℝ} (hlen : xs.length = wts.length)
    (h0 : wts.sum = 2) (h1 : ((xs.zip wts).map (fun p => p.2 * p.1)).sum = 0) :
    ((xs.zip wts).map (fun p => wOf p.2 / muInvOf p.1)).sum = 1 / 2 := by
  rw [quad_sum, h1, sum_snd_zip xs wts hlen, h0]; norm_num

theorem quad_weight_nonneg (xs wts : List ℝ) (hx : ∀ x ∈ xs, -1 < x) (hw : ∀ w ∈ wts, 0 ≤ w) :
    ∀ p ∈ xs.zip wts, 0 ≤ wOf p.2 / muInvOf p.1 := fun p hp => by
  rw [quad_term]
  have := hx p.1 (List.of_mem_zip hp).1
  exact div_nonneg (mul_nonneg (hw p.2 (List.of_mem_zip hp).2) (by linarith)) (by norm_num)

theorem one_le_muInvOf {x : ℝ} (h : -1 < x) (h1 : x ≤ 1) : 1 ≤ muInvOf x := by
  unfold muInvOf muOf
  rw [le_div_iff₀ (by linarith)]
  linarith

theorem fluxOf_triples_map (I : ℝ → ℝ) (xs wts : List ℝ) :
    ((xs.map I).zip (xs.zip wts)).map (fun q => (q.1, wOf q.2.2, muInvOf q.2.1))
      = (xs.zip wts).map (fun p => (I p.1, wOf p.2, muInvOf p.1)) := by
  induction xs generalizing wts with
  | nil => simp
  | cons x xs ih =>
    cases wts with
    | nil => simp
    | cons w ws => simp only [List.map_cons, List.zip_cons_cons, ih ws]

theorem fluxOf_map (npPi : ℝ) (I : ℝ → ℝ) (xs wts : List ℝ) :
    fluxOf npPi (xs.map I) xs wts
      = 2 * npPi * ((xs.zip wts).map (fun p => I p.1 * (wOf p.2 / muInvOf p.1))).sum := by
  unfold fluxOf fluxTotal
  rw [fluxOf_triples_map, angleSum_eq, List.map_map]
  rfl

theorem fluxOf_const (npPi c : ℝ) {xs wts : List ℝ} (hlen : xs.length = wts.length)
    (h0 : wts.sum = 2) (h1 : ((xs.zip wts).map (fun p => p.2 * p.1)).sum = 0) :
    fluxOf npPi (xs.map (fun _ => c)) xs wts = npPi * c := by
  rw [fluxOf_map, List.sum_map_mul_left, quad_weight_sum hlen h0 h1]
  ring

theorem fluxOf_between (npPi : ℝ) (hnp : 0 ≤ npPi) (I : ℝ → ℝ) (lo hi : ℝ) (xs wts : List ℝ)
    (hlen : xs.length = wts.length) (hx : ∀ x ∈ xs, -1 < x) (hw : ∀ w ∈ wts, 0 ≤ w)
    (h0 : wts.sum = 2) (h1 : ((xs.zip wts).map (fun p => p.2 * p.1)).sum = 0)
    (hI : ∀ x ∈ xs, lo ≤ I x ∧ I x ≤ hi) :
    npPi * lo ≤ fluxOf npPi (xs.map I) xs wts ∧ fluxOf npPi (xs.map I) xs wts ≤ npPi * hi := by
  obtain ⟨a, b⟩ := Convex.wsum_between (xs.zip wts) (fun p => wOf p.2 / muInvOf p.1) (fun p => I p.1)
    (quad_weight_nonneg xs wts hx hw) (fun p hp _ => hI p.1 (List.of_mem_zip hp).1)
  rw [quad_weight_sum hlen h0 h1] at a b
  have h2 : 0 ≤ 2 * npPi := mul_nonneg zero_le_two hnp
  have e : ∀ c : ℝ, npPi * c = 2 * npPi * (c * (1 / 2)) := fun c => by ring
  rw [fluxOf_map, e lo, e hi]
  exact ⟨mul_le_mul_of_nonneg_left a h2, mul_le_mul_of_nonneg_left b h2⟩

def uncut (r : Row ℝ) : Row ℝ := { r with keepL := true, keepD := true }

theorem coeff_uncut_diff (m : ℝ) (hm : 1 ≤ m) (r : Row ℝ)
    (hL : r.keepL = false → (10 : ℝ) ≤ r.lt) (hD : r.keepD = false → (10 : ℝ) ≤ r.dt)
    (hLD : r.keepL = false → r.keepD = false) :
    |coeff m r - coeff m (uncut r)| ≤ if r.keepD then 0 else Real.exp (-10) := by
  obtain ⟨l0, l1⟩ := clamp_loss_bounds hm hL
  obtain ⟨d0, d1⟩ := clamp_loss_bounds hm hD
  have e : coeff m r - coeff m (uncut r)
      = (Real.exp ((-r.dt) * m) - trans r.keepD r.dt m) - (Real.exp ((-r.lt) * m) - trans r.keepL r.lt m) := by
    simp only [coeff, uncut, trans_true]; ring
  rw [e]
  cases hd : r.keepD
  · rw [hd] at d0 d1
    rw [if_neg Bool.false_ne_true]
    exact abs_le.2 ⟨by linarith, by linarith⟩
  · have hl : r.keepL = true := by
      cases h : r.keepL
      · rw [hLD h] at hd; cases hd
      · rfl
    simp [hl, trans_true]

theorem clamp_band_rows (m b0 t : ℝ) (hm : 1 ≤ m) (rows : List (Row ℝ)) (hok : RowsOk rows)
    (hb : ∀ r ∈ rows, 0 ≤ r.b) :
    |intensityRows b0 t m rows - intensityRows b0 t m (rows.map uncut)|
      ≤ Real.exp (-10) * (rows.map (fun r => if r.keepD then 0 else r.b)).sum := by
  rw [intensityRows_eq, intensityRows_eq, List.map_map, add_sub_add_left_eq_sub, ← List.sum_map_mul_left]
  refine abs_sum_sub_le rows _ _ _ fun r hr => ?_
  obtain ⟨_, h2, h3, h4⟩ := hok r hr
  have hd := mul_le_mul_of_nonneg_left (coeff_uncut_diff m hm r h2 h3 h4) (hb r hr)
  have e : r.b * coeff m r - ((fun r => r.b * coeff m r) ∘ uncut) r = r.b * (coeff m r - coeff m (uncut r)) := by
    simp only [Function.comp, uncut]; ring
  rw [e, abs_mul, abs_of_nonneg (hb r hr)]
  refine hd.trans (le_of_eq ?_)
  cases r.keepD <;> simp [mul_comm]

def InputsNonneg (cs : List (Kind × List ℝ)) (dz dens : List ℝ) : Prop :=
  (∀ c ∈ cs, ∀ x ∈ c.2, 0 ≤ x) ∧ (∀ x ∈ dz, 0 ≤ x) ∧ (∀ x ∈ dens, 0 ≤ x)

/-- the clamp decision on the column `[l, n)` -/
noncomputable def keepFrom (cols : List (Col ℝ)) (dz dens : List ℝ) (n l : Nat) : Bool :=
  decide (vmin (cols.map (fun c => tauRange c.sig dz dens l n)) < 10)

/-- optical depth of the layers `[lo, hi)` due to one contribution -/
noncomputable def colSum (c : Kind × List ℝ) (dz dens : List ℝ) (lo hi : Nat) : ℝ :=
  rangeSum (fun k => elem c.1 (c.2.getD k 0) (dz.getD k 0) (dens.getD k 0)) lo hi

theorem getD_nonneg (l : List ℝ) (h : ∀ x ∈ l, 0 ≤ x) (k : Nat) : 0 ≤ l.getD k 0 :=
  getD_of_forall l 0 le_rfl h k

theorem elem_nonneg (kd : Kind) {s dz rho : ℝ} (h1 : 0 ≤ s) (h2 : 0 ≤ dz) (h3 : 0 ≤ rho) : 0 ≤ elem kd s dz rho := by
  cases kd <;> simp only [elem] <;> positivity

section
variable {cs : List (Kind × List ℝ)} {dz dens : List ℝ}

theorem tauAcc_eq (c : Kind × List ℝ) (lo hi : Nat) (acc : ℝ) :
    tauAcc c dz dens lo hi acc = acc + colSum c dz dens lo hi :=
  foldl_range'_add _ lo hi acc

theorem tauRange_eq (lo hi : Nat) : tauRange cs dz dens lo hi = (cs.map (fun c => colSum c dz dens lo hi)).sum := by
  unfold tauRange
  simp only [tauAcc_eq]
  rw [foldl_add_sum, zero_add]

theorem tauRange_cons (c : Kind × List ℝ) (cs : List (Kind × List ℝ)) (dz dens : List ℝ) (lo hi : Nat) :
    tauRange (c :: cs) dz dens lo hi = colSum c dz dens lo hi + tauRange cs dz dens lo hi := by
  rw [tauRange_eq, tauRange_eq]; simp

theorem tauRange_split {l n : Nat} (h : l < n) :
    tauRange cs dz dens l (l + 1) + tauRange cs dz dens (l + 1) n = tauRange cs dz dens l n := by
  rw [tauRange_eq, tauRange_eq, tauRange_eq, ← List.sum_map_add]
  exact congrArg List.sum (List.map_congr_left fun c _ => rangeSum_split _ l n h)

theorem tauRange_empty (n : Nat) : tauRange cs dz dens n n = 0 := by
  rw [tauRange_eq]
  simp [colSum, rangeSum_self]

theorem tauRange_nonneg (h : InputsNonneg cs dz dens) (lo hi : Nat) : 0 ≤ tauRange cs dz dens lo hi := by
  rw [tauRange_eq]
  exact Convex.sum_map_nonneg cs _ fun c hc => rangeSum_nonneg _ lo hi fun k =>
    elem_nonneg _ (getD_nonneg _ (h.1 c hc) k) (getD_nonneg _ h.2.1 k) (getD_nonneg _ h.2.2 k)

theorem dTau_eq {n l : Nat} (h : l < n) : dTau cs dz dens n l = tauRange cs dz dens l n :=
  tauRange_split h

theorem layerTau_le_dTau (h : InputsNonneg cs dz dens) (n l : Nat) :
    layerTau cs dz dens n l ≤ dTau cs dz dens n l :=
  le_add_of_nonneg_left (tauRange_nonneg h l (l + 1))

end

theorem foldl_min_spec (ys : List ℝ) (m : ℝ) :
    (ys.foldl (fun m y => if y < m then y else m) m = m ∨ ys.foldl (fun m y => if y < m then y else m) m ∈ ys)
      ∧ ys.foldl (fun m y => if y < m then y else m) m ≤ m
      ∧ ∀ y ∈ ys, ys.foldl (fun m y => if y < m then y else m) m ≤ y :=
  ⟨foldl_sel_mem (fun a b => b < a) ys m,
    foldl_sel_bound (fun a b => b < a) (fun a b => b ≤ a) le_refl (fun _ _ _ h1 h2 => h2.trans h1) (fun _ _ h => h.le)
      (fun _ _ h => not_lt.1 h) ys m⟩

theorem vmin_le (l : List ℝ) (x : ℝ) (hx : x ∈ l) : vmin l ≤ x := by
  cases l with
  | nil => cases hx
  | cons y ys =>
    rcases List.mem_cons.1 hx with rfl | hx'
    · exact (foldl_min_spec ys x).2.1
    · exact (foldl_min_spec ys y).2.2 x hx'

theorem vmin_mem (l : List ℝ) (h : l ≠ []) : vmin l ∈ l := by
  cases l with
  | nil => exact absurd rfl h
  | cons y ys => exact List.mem_cons.2 (foldl_min_spec ys y).1

theorem le_vmin (l : List ℝ) (a : ℝ) (h : l ≠ []) (hall : ∀ x ∈ l, a ≤ x) : a ≤ vmin l :=
  hall _ (vmin_mem l h)

theorem vmin_zeros (l : List ℝ) (hall : ∀ x ∈ l, x = 0) : vmin l = 0 := by
  cases l with
  | nil => rfl
  | cons y ys => exact hall _ (vmin_mem _ (List.cons_ne_nil y ys))

theorem clamp_false {β : Type} {l : List β} {f : β → ℝ} (h : decide (vmin (l.map f) < 10) = false) {x : β}
    (hx : x ∈ l) : (10 : ℝ) ≤ f x :=
  (not_lt.1 (of_decide_eq_false h)).trans (vmin_le _ _ (List.mem_map_of_mem hx))

section
variable {k : PC ℝ} {cols : List (Col ℝ)} {dz dens temps : List ℝ} {col : Col ℝ} {n l : Nat}

theorem flagsOf_getD (h : l < n) (d : Bool × Bool) :
    (flagsOf cols dz dens n).getD l d = (keepLOf cols dz dens n l, keepDOf cols dz dens n l) := by
  unfold flagsOf
  simp [List.getD_eq_getElem?_getD, h]

/-- `layer_tau ≤ dtau` in every column, so a clamped `layer_tau` comes with a clamped `dtau` -/
theorem keepL_keepD (hn : ∀ c ∈ cols, InputsNonneg c.sig dz dens) (h : keepLOf cols dz dens n l = false) :
    keepDOf cols dz dens n l = false := by
  have hne : cols ≠ [] := by
    rintro rfl
    simp [keepLOf, vmin] at h
  refine decide_eq_false (not_lt.2 (le_vmin _ _ (by simpa using hne) fun x hx => ?_))
  obtain ⟨c, hc, rfl⟩ := List.mem_map.1 hx
  exact (clamp_false h hc).trans (layerTau_le_dTau (hn c hc) n l)

theorem keepDOf_eq (h : l < n) : keepDOf cols dz dens n l = keepFrom cols dz dens n l := by
  unfold keepDOf keepFrom
  simp only [dTau_eq h]

theorem keepFrom_top : keepFrom cols dz dens n n = true := by
  unfold keepFrom
  rw [vmin_zeros _ fun x hx => by
    obtain ⟨c, _, rfl⟩ := List.mem_map.1 hx
    exact tauRange_empty n]
  simp

/-- the row `evaluate_emission` builds for layer `l` of a column -/
noncomputable def rowAt (k : PC ℝ) (cols : List (Col ℝ)) (dz dens temps : List ℝ) (col : Col ℝ) (l : Nat) : Row ℝ :=
  { b := planck k col.nu (temps.getD l 0) / k.pi
    lt := layerTau col.sig dz dens temps.length l
    keepL := keepLOf cols dz dens temps.length l
    dt := dTau col.sig dz dens temps.length l
    keepD := keepDOf cols dz dens temps.length l }

theorem rowsOf_eq :
    rowsOf k cols dz dens temps col = (List.range temps.length).map (rowAt k cols dz dens temps col) := by
  unfold rowsOf rowsWith rowAt
  refine List.map_congr_left fun l hl => ?_
  rw [flagsOf_getD (List.mem_range.1 hl)]

theorem mem_rowsOf {r : Row ℝ} (hr : r ∈ rowsOf k cols dz dens temps col) :
    ∃ l, l < temps.length ∧ r = rowAt k cols dz dens temps col l := by
  rw [rowsOf_eq, List.mem_map] at hr
  obtain ⟨l, hl, rfl⟩ := hr
  exact ⟨l, List.mem_range.1 hl, rfl⟩

theorem rowsOf_ok (k : PC ℝ) (temps : List ℝ) (hc : col ∈ cols) (hn : ∀ c ∈ cols, InputsNonneg c.sig dz dens) :
    RowsOk (rowsOf k cols dz dens temps col) := by
  intro r hr
  obtain ⟨l, _, rfl⟩ := mem_rowsOf hr
  exact ⟨layerTau_le_dTau (hn col hc) _ l, fun h => clamp_false h hc, fun h => clamp_false h hc, keepL_keepD hn⟩

end

/-- rows `R l, R (l+1), …, R (n-1)` whose optical depths and clamp decisions are those of the levels `l, l+1, …` of one
    profile `T`, `K` (nothing above level `n`) form a chain -/
theorem chain_range' (R : Nat → Row ℝ) (T : Nat → ℝ) (K : Nat → Bool) (n : Nat) (hT : T n = 0) (hK : K n = true)
    (h : ∀ l < n, (R l).dt = T l ∧ (R l).keepD = K l ∧ (R l).lt = T (l + 1) ∧ (R l).keepL = K (l + 1)) :
    ∀ d l, l + d = n → Chain (T l) (K l) ((List.range' l d).map R)
  | 0, l, hl => by
    rw [Nat.add_zero] at hl
    subst hl
    exact ⟨hT, hK⟩
  | d + 1, l, hl => by
    obtain ⟨h1, h2, h3, h4⟩ := h l (hl ▸ Nat.lt_add_of_pos_right (Nat.succ_pos d))
    rw [List.range'_succ, List.map_cons]
    refine ⟨h1, h2, ?_⟩
    rw [h3, h4]
    exact chain_range' R T K n hT hK h d (l + 1) ((Nat.add_right_comm l 1 d).trans hl)

theorem rowsOf_chain (k : PC ℝ) (cols : List (Col ℝ)) (dz dens temps : List ℝ) (col : Col ℝ) :
    Chain (surfTau dz dens temps col) (keepFrom cols dz dens temps.length 0) (rowsOf k cols dz dens temps col) := by
  rw [rowsOf_eq, List.range_eq_range']
  -- the two `rfl` below: `layerTau … l` is by definition `tauRange … (l + 1) n`, and `keepLOf … l` is `keepFrom … (l + 1)`
  exact chain_range' _ (fun l => tauRange col.sig dz dens l temps.length) (keepFrom cols dz dens temps.length) _
    (tauRange_empty _) keepFrom_top (fun l hl => ⟨dTau_eq hl, keepDOf_eq hl, rfl, rfl⟩) _ 0 (Nat.zero_add _)

theorem rowsUncut_eq (k : PC ℝ) (cols : List (Col ℝ)) (dz dens temps : List ℝ) (col : Col ℝ) :
    rowsUncut k dz dens temps col = (rowsOf k cols dz dens temps col).map uncut := by
  unfold rowsUncut rowsOf rowsWith
  rw [List.map_map]
  exact List.map_congr_left fun l _ => rfl

end Taurex.Emission

namespace Taurex.KTau

/-- the total weight of `Emission.layered`, hence of the k-table intensity (`KTau.levelTrans`) -/
theorem telescope (F : ℕ → ℝ) (n : ℕ) : ((List.range n).map (fun l => F (l + 1) - F l)).sum = F n - F 0 :=
  List.sum_range_sub n F

end Taurex.KTau

namespace Taurex.Emission

/-- the emission integral in level form, `T l` the transmittance from level `l` to space: the surface source `B 0` seen
    through the whole column, plus per layer its source function times the increase of `T` across the layer -/
noncomputable def layered (B T : ℕ → ℝ) (n : ℕ) : ℝ :=
  B 0 * T 0 + ((List.range n).map (fun l => B l * (T (l + 1) - T l))).sum

theorem foldl_layered (B T : ℕ → ℝ) (n : ℕ) :
    (List.range n).foldl (fun i l => i + B l * (T (l + 1) - T l)) (B 0 * T 0) = layered B T n :=
  foldl_add_sum _ _ _

section
variable {B T : ℕ → ℝ} {n : ℕ}

/-- the weights `T 0, T 1 - T 0, …, T n - T (n-1)` sum to `T n = 1` -/
theorem layered_const {b : ℝ} (hn : 0 < n) (hB : ∀ l < n, B l = b) (hTn : T n = 1) : layered B T n = b := by
  unfold layered
  rw [hB 0 hn, Convex.wsum_const _ _ B b fun l hl => hB l (List.mem_range.1 hl), KTau.telescope, ← mul_add, hTn,
    add_sub_cancel, mul_one]

theorem layered_between {lo hi : ℝ} (hn : 0 < n) (hB : ∀ l < n, lo ≤ B l ∧ B l ≤ hi) (h0 : 0 ≤ T 0)
    (hT : ∀ l < n, T l ≤ T (l + 1)) (hTn : T n = 1) : lo ≤ layered B T n ∧ layered B T n ≤ hi := by
  have h := source_sum_between _ B (fun l => T (l + 1) - T l) _ (T 0) lo hi h0
    (fun l hl => sub_nonneg.2 (hT l (List.mem_range.1 hl))) (hB 0 hn) fun l hl => hB l (List.mem_range.1 hl)
  rwa [KTau.telescope T n, hTn, add_sub_cancel, mul_one, mul_one] at h

end

/-- transmittance from level `l` to space through cross-section contributions, at the angle `m = 1/μ` -/
noncomputable def xTrans (cs : List (Kind × List ℝ)) (dz dens : List ℝ) (n : ℕ) (m : ℝ) (l : ℕ) : ℝ :=
  Real.exp ((-(tauRange cs dz dens l n)) * m)

theorem intensityUncut_levels (k : PC ℝ) (dz dens temps : List ℝ) (m : ℝ) (col : Col ℝ) :
    intensityUncut k dz dens temps m col
      = layered (fun l => planck k col.nu (temps.getD l 0) / k.pi) (xTrans col.sig dz dens temps.length m)
          temps.length := by
  rw [← foldl_layered]
  unfold intensityUncut intensityRows rowsUncut rowsWith b0Of
  rw [List.foldl_map]
  refine List.foldl_ext _ _ _ fun i l hl => ?_
  simp only [xTrans, ← dTau_eq (List.mem_range.1 hl)]
  rfl

end Taurex.Emission
