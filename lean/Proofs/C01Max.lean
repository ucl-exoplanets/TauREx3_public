/-
  `arr.max()` as the model writes it (`Geometry.arrMax`: a running maximum over `f 0 … f n`): it bounds every element and
  is attained.  The `weight.max()` of the grey haze is `arrMax` of the slice's weights (`Haze.flatWmax_eq` in
  `Proofs/C19.lean`).
-/
import Proofs.RealInst
import TaurexModel.Geometry
import Proofs.FoldCore

namespace Taurex

namespace Geometry

theorem arrMax_eq (n : ℕ) (f : ℕ → ℝ) :
    arrMax n f = ((List.range n).map fun i => f (i + 1)).foldl (fun a b => if a < b then b else a) (f 0) := by
  rw [List.foldl_map]; rfl

theorem arrMax_ge (n : ℕ) (f : ℕ → ℝ) (j : ℕ) (hj : j ≤ n) : f j ≤ arrMax n f := by
  rw [arrMax_eq]
  have h := foldl_sel_bound (· < ·) (· ≤ ·) le_refl (fun _ _ _ => le_trans) (fun _ _ => le_of_lt)
    (fun _ _ => le_of_not_gt) ((List.range n).map fun i => f (i + 1)) (f 0)
  cases j with
  | zero => exact h.1
  | succ i => exact h.2 _ (List.mem_map.2 ⟨i, List.mem_range.2 hj, rfl⟩)

theorem arrMax_attained (n : ℕ) (f : ℕ → ℝ) : ∃ j ≤ n, arrMax n f = f j := by
  rw [arrMax_eq]
  rcases foldl_sel_mem (· < ·) ((List.range n).map fun i => f (i + 1)) (f 0) with h | h
  · exact ⟨0, Nat.zero_le n, h⟩
  · obtain ⟨i, hi, e⟩ := List.mem_map.1 h
    exact ⟨i + 1, List.mem_range.1 hi, e.symm⟩

end Geometry

end Taurex
