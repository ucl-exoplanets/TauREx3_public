/-
  What Props/C10.lean rests on, over ℝ: the mixture (column sums of the trace total, the fill block in one form, the cases of
  `mixProfile`), the active / inactive masks, the five gas profiles between their control values, and one step of the
  opacity-cache session.
-/
import Proofs.NpInterp
import Proofs.C10Src

namespace Taurex.Chemistry
open Taurex.NpInterp

/-! ### the element-wise total of the trace rows -/

/-- value of layer `j` in each row -/
def column (rows : List (List ℝ)) (j : Nat) : List ℝ := rows.map (fun r => r.getD j 0)

/-- the any-carrier fold lemma of the source tie (`totalMix_rowsOf`), read for rows given as lists -/
theorem totalMix_eq (traces : List (List ℝ)) (n : Nat) (hr : ∀ r ∈ traces, r.length = n) :
    totalMix traces n = C10Src.listOf n (fun j => sumL (column traces j)) := by
  have hrows : traces = C10Src.rowsOf n (traces.map fun r i => r.getD i 0) := by
    rw [C10Src.rowsOf, List.map_map]
    exact (List.map_id' traces).symm.trans
      (List.map_congr_left fun r h => (C10Src.listOf_getD_self r n (hr r h)).symm)
  conv => lhs; rw [hrows, C10Src.totalMix_rowsOf]
  refine C10Src.listOf_congr n _ _ fun j _ => ?_
  rw [List.foldl_map, column, sumL, List.foldl_map]

theorem totalMix_length (traces : List (List ℝ)) (n : Nat) (hr : ∀ r ∈ traces, r.length = n) :
    (totalMix traces n).length = n := by
  rw [totalMix_eq traces n hr, C10Src.listOf_length]

theorem totalMix_getD (traces : List (List ℝ)) (n j : Nat) (hj : j < n) (hr : ∀ r ∈ traces, r.length = n) :
    (totalMix traces n).getD j 0 = sumL (column traces j) := by
  rw [totalMix_eq traces n hr, C10Src.listOf_getD n _ j hj]

theorem column_append (a b : List (List ℝ)) (j : Nat) : column (a ++ b) j = column a j ++ column b j := by
  simp [column]

theorem getD_map_zero {f : ℝ → ℝ} (hf : f 0 = 0) (l : List ℝ) (j : Nat) : (l.map f).getD j 0 = f (l.getD j 0) := by
  rw [← getD_map f l j 0, hf]

/-! ### fill gases -/

/-- the factor the remainder is scaled by before it is shared out -/
noncomputable def fillScale (nFill : Nat) (ratios : List ℝ) : ℝ := if nFill = 1 then 1 else 1 / (1 + sumL ratios)

/-- one form for one and for several fill gases: the row of the weight `ρ` (`1` for the main gas, then the ratios) is
    `ρ · (rem · fillScale)` -/
theorem fillAtmosphere_eq (nFill : Nat) (ratios rem : List ℝ) :
    fillAtmosphere nFill ratios rem
      = (1 :: ratios.take (nFill - 1)).map (fun ρ => rem.map (fun x => ρ * (x * fillScale nFill ratios))) := by
  unfold fillAtmosphere fillScale
  split
  · next h => subst h; simp
  · simp only [List.map_cons, List.map_map, Function.comp_def, one_mul]

/-- the weights add up to the whole when there is one ratio per further fill gas -/
theorem fillScale_total (nFill : Nat) (ratios : List ℝ) (hl : nFill ≠ 1 → ratios.length = nFill - 1)
    (hS : 1 + sumL ratios ≠ 0) : (1 + sumL (ratios.take (nFill - 1))) * fillScale nFill ratios = 1 := by
  unfold fillScale
  split
  · next h => subst h; simp
  · next h => rw [← hl h, List.take_length]; field_simp

theorem fill_column_sum (nFill : Nat) (ratios rem : List ℝ) (j : Nat) (hl : nFill ≠ 1 → ratios.length = nFill - 1)
    (hS : 1 + sumL ratios ≠ 0) : sumL (column (fillAtmosphere nFill ratios rem) j) = rem.getD j 0 := by
  have hcol : column (fillAtmosphere nFill ratios rem) j
      = (1 :: ratios.take (nFill - 1)).map (fun ρ => ρ * (rem.getD j 0 * fillScale nFill ratios)) := by
    rw [fillAtmosphere_eq, column, List.map_map]
    exact List.map_congr_left fun ρ _ =>
      getD_map_zero (f := fun x => ρ * (x * fillScale nFill ratios)) (by rw [zero_mul, mul_zero]) rem j
  rw [hcol, sumL_map_mul_right, sumL_cons, ← mul_assoc, mul_comm _ (rem.getD j 0), mul_assoc,
    fillScale_total nFill ratios hl hS, mul_one]

theorem fill_rows_length (nFill : Nat) (ratios rem : List ℝ) : ∀ r ∈ fillAtmosphere nFill ratios rem,
    r.length = rem.length := by
  rw [fillAtmosphere_eq]
  exact List.forall_mem_map.2 fun _ _ => List.length_map _

theorem fill_length (nFill : Nat) (ratios rem : List ℝ) (h0 : 1 ≤ nFill) (hl : nFill ≠ 1 → ratios.length = nFill - 1) :
    (fillAtmosphere nFill ratios rem).length = nFill := by
  rw [fillAtmosphere_eq, List.length_map, List.length_cons, List.length_take]
  by_cases h : nFill = 1
  · subst h; rfl
  · rw [hl h, Nat.min_self, Nat.sub_add_cancel h0]

theorem fill_nonneg (nFill : Nat) (ratios rem : List ℝ) (hr : ∀ r ∈ ratios, 0 ≤ r) (hrem : ∀ x ∈ rem, 0 ≤ x) :
    ∀ r ∈ fillAtmosphere nFill ratios rem, ∀ x ∈ r, 0 ≤ x := by
  have hκ : 0 ≤ fillScale nFill ratios := by
    unfold fillScale
    split
    · exact zero_le_one
    · exact div_nonneg zero_le_one (add_nonneg zero_le_one (sumL_nonneg _ hr))
  rw [fillAtmosphere_eq]
  refine List.forall_mem_map.2 fun ρ hρ => List.forall_mem_map.2 fun x hx => mul_nonneg ?_ (mul_nonneg (hrem x hx) hκ)
  rcases List.mem_cons.1 hρ with rfl | h
  · exact zero_le_one
  · exact hr ρ (List.mem_of_mem_take h)

/-! ### the mixture -/

theorem mixProfile_cases (nFill : Nat) (ratios : List ℝ) (traces : List (List ℝ)) (n : Nat) :
    (mixProfile nFill ratios traces n = .invalid ∧
      ((1 < nFill ∧ ratios.length ≠ nFill - 1) ∨ ∃ t ∈ totalMix traces n, 1 < t)) ∨
    (mixProfile nFill ratios traces n =
        .ok (fillAtmosphere nFill ratios ((totalMix traces n).map (fun t => 1 - t)) ++ traces) ∧
      (1 < nFill → ratios.length = nFill - 1) ∧ ∀ t ∈ totalMix traces n, t ≤ 1) := by
  unfold mixProfile
  dsimp only
  split_ifs with h1 h2
  · exact Or.inl ⟨rfl, Or.inl h1⟩
  · obtain ⟨t, ht, hlt⟩ := List.any_eq_true.1 h2
    exact Or.inl ⟨rfl, Or.inr ⟨t, ht, of_decide_eq_true hlt⟩⟩
  · refine Or.inr ⟨rfl, fun hn => not_not.1 fun hne => h1 ⟨hn, hne⟩, fun t ht => not_lt.1 fun hlt => h2 ?_⟩
    exact List.any_eq_true.2 ⟨t, ht, decide_eq_true hlt⟩

theorem mixProfile_ok (nFill : Nat) (ratios : List ℝ) (traces : List (List ℝ)) (n : Nat) (rows : List (List ℝ))
    (h : mixProfile nFill ratios traces n = .ok rows) :
    (1 < nFill → ratios.length = nFill - 1) ∧ (∀ t ∈ totalMix traces n, t ≤ 1) ∧
      rows = fillAtmosphere nFill ratios ((totalMix traces n).map (fun t => 1 - t)) ++ traces := by
  rcases mixProfile_cases nFill ratios traces n with ⟨hinv, _⟩ | ⟨hok, hl, hle⟩
  · rw [hinv] at h; cases h
  · rw [hok] at h; injection h with h
    exact ⟨hl, hle, h.symm⟩

theorem mixProfile_ne_error (nFill : Nat) (ratios : List ℝ) (traces : List (List ℝ)) (n : Nat) :
    mixProfile nFill ratios traces n ≠ .error := by
  rcases mixProfile_cases nFill ratios traces n with ⟨h, _⟩ | ⟨h, _⟩ <;> rw [h] <;> exact fun e => nomatch e

theorem rem_getD (total : List ℝ) (j : Nat) (hj : j < total.length) :
    (total.map (fun t => 1 - t)).getD j 0 = 1 - total.getD j 0 := by
  rw [List.getD_eq_getElem _ _ (by simpa using hj), List.getD_eq_getElem _ _ hj]; simp

/-! ### mean molecular weight -/

theorem muProfile_eq_totalMix (mix : List (List ℝ)) (masses : List ℝ) (n : Nat) :
    muProfile mix masses n = totalMix ((mix.zip masses).map (fun rm => rm.1.map (fun x => x * rm.2))) n := by
  unfold muProfile totalMix
  rw [List.foldl_map]

theorem muProfile_getD (mix : List (List ℝ)) (masses : List ℝ) (n j : Nat) (hj : j < n)
    (hr : ∀ r ∈ mix, r.length = n) :
    (muProfile mix masses n).getD j 0 = sumL ((mix.zip masses).map (fun rm => rm.1.getD j 0 * rm.2)) := by
  rw [muProfile_eq_totalMix, totalMix_getD _ n j hj]
  · simp only [column, List.map_map]
    congr 1
    apply List.map_congr_left
    intro rm _
    simp only [Function.comp]
    exact getD_map_zero (f := fun x => x * rm.2) (zero_mul _) _ _
  · intro r hr'
    simp only [List.mem_map] at hr'
    obtain ⟨rm, hrm, rfl⟩ := hr'
    simp [hr _ (List.of_mem_zip hrm).1]

/-! ### active / inactive split -/

theorem maskFrom_map (keep : String → Bool) : ∀ (gs pre : List String) (s : Nat), pre.length = s →
    (maskFrom keep gs s).map (fun i => (pre ++ gs).getD i "") = gs.filter keep
  | [], _, _, _ => by simp [maskFrom]
  | g :: t, pre, s, hs => by
    have ih := maskFrom_map keep t (pre ++ [g]) (s + 1) (by simp [hs])
    rw [List.append_assoc, List.singleton_append] at ih
    have hg : (pre ++ g :: t).getD s "" = g := by
      rw [List.getD_eq_getElem _ _ (by simp [hs])]
      simp [← hs]
    unfold maskFrom
    by_cases hk : keep g = true
    · simp only [hk, if_true, List.map_cons, ih, hg, List.filter_cons_of_pos hk]
    · simp only [hk, Bool.false_eq_true, if_false, ih, List.filter_cons_of_neg hk]

theorem maskFrom_idxOf (keep : String → Bool) (g : String) (hk : keep g = true) : ∀ (gs : List String) (s : Nat),
    g ∈ gs → (maskFrom keep gs s).getD ((gs.filter keep).idxOf g) 0 = s + gs.idxOf g
  | [], _, h => by simp at h
  | x :: t, s, h => by
    by_cases hx : x = g
    · subst hx
      simp [maskFrom, hk]
    · have ih := maskFrom_idxOf keep g hk t (s + 1) ((List.mem_cons.1 h).resolve_left (Ne.symm hx))
      have hbeq : (x == g) = false := beq_eq_false_iff_ne.2 hx
      unfold maskFrom
      by_cases hkx : keep x = true
      · simp only [hkx, if_true, List.filter_cons_of_pos hkx, List.idxOf_cons, hbeq, cond_false]
        rw [List.getD_cons_succ, ih]
        omega
      · simp only [hkx, Bool.false_eq_true, if_false, List.filter_cons_of_neg hkx, List.idxOf_cons, hbeq,
          cond_false]
        rw [ih]
        omega

theorem maskFrom_length (keep : String → Bool) : ∀ (gs : List String) (s : Nat),
    (maskFrom keep gs s).length = (gs.filter keep).length
  | [], _ => rfl
  | g :: t, s => by
    have ih := maskFrom_length keep t (s + 1)
    cases hk : keep g <;> simp [maskFrom, hk, ih]

theorem selectRows_maskFrom {β : Type} (keep : String → Bool) (gs : List String) (mix : List (List β)) (g : String)
    (hg : g ∈ gs) (hk : keep g = true) :
    (selectRows mix (maskFrom keep gs 0)).getD ((gs.filter keep).idxOf g) [] = mix.getD (gs.idxOf g) [] := by
  have hlt : (gs.filter keep).idxOf g < (maskFrom keep gs 0).length := by
    rw [maskFrom_length]; exact List.idxOf_lt_length_of_mem (List.mem_filter.2 ⟨hg, hk⟩)
  unfold selectRows
  rw [List.getD_eq_getElem _ _ (by rw [List.length_map]; exact hlt), List.getElem_map, ← List.getD_eq_getElem _ 0 hlt,
    maskFrom_idxOf keep g hk gs 0 hg, Nat.zero_add]

/-! ### gas profiles -/

theorem log10_pow10 (y : ℝ) : (log10 (pow10 y) : ℝ) = y := Taurex.log10_pow10 y

theorem pow10_within {lo hi e : ℝ} (hlo : 0 < lo) (hhi : 0 < hi) (h1 : log10 lo ≤ e) (h2 : e ≤ log10 hi) :
    lo ≤ (pow10 e : ℝ) ∧ (pow10 e : ℝ) ≤ hi := by
  constructor
  · calc lo = pow10 (log10 lo) := (pow10_log10 hlo).symm
      _ ≤ pow10 e := pow10_le_pow10 h1
  · calc (pow10 e : ℝ) ≤ pow10 (log10 hi) := pow10_le_pow10 h2
      _ = hi := pow10_log10 hhi

theorem log10_within {lo hi x : ℝ} (hlo : 0 < lo) (h : lo ≤ x ∧ x ≤ hi) :
    (log10 lo : ℝ) ≤ log10 x ∧ (log10 x : ℝ) ≤ log10 hi :=
  ⟨log10_le_log10 hlo h.1, log10_le_log10 (hlo.trans_le h.1) h.2⟩

theorem within_map_log10 {lo hi : ℝ} (hlo : 0 < lo) {l : List ℝ} (h : Within lo hi l) :
    Within (log10 lo) (log10 hi) (l.map log10) := by
  intro y hy
  obtain ⟨x, hx, rfl⟩ := List.mem_map.1 hy
  exact log10_within hlo (h x hx)

theorem within_map_pow10 {lo hi : ℝ} (hlo : 0 < lo) (hhi : 0 < hi) {l : List ℝ}
    (h : Within (log10 lo) (log10 hi) l) : Within lo hi (l.map pow10) := by
  intro y hy
  obtain ⟨e, he, rfl⟩ := List.mem_map.1 hy
  exact pow10_within hlo hhi (h e he).1 (h e he).2

theorem constantGas_spec (mix : ℝ) (n : Nat) : (constantGas mix n).length = n ∧ ∀ v ∈ constantGas mix n, v = mix := by
  unfold constantGas
  refine ⟨List.length_replicate, fun v hv => ?_⟩
  rw [(List.mem_replicate.1 hv).2, mul_one]

theorem twoPointGas_length (surf top : ℝ) (pressure : List ℝ) : (twoPointGas surf top pressure).length = pressure.length := by
  simp only [twoPointGas, List.length_map, List.length_range]

theorem twoPointGas_within {lo hi : ℝ} (surf top : ℝ) (pressure : List ℝ) (hlo : 0 < lo)
    (hs : lo ≤ surf ∧ surf ≤ hi) (ht : lo ≤ top ∧ top ≤ hi)
    (hpos : 0 < pressure.getD (pressure.length - 1) 0)
    (hp : ∀ i, 0 < i → i < pressure.length - 1 →
      pressure.getD (pressure.length - 1) 0 ≤ pressure.getD i 0 ∧ pressure.getD i 0 ≤ pressure.getD 0 0) :
    Within lo hi (twoPointGas surf top pressure) := by
  intro v hv
  unfold twoPointGas at hv
  simp only [List.mem_map, List.mem_range] at hv
  obtain ⟨i, hi', rfl⟩ := hv
  split_ifs with h1 h2
  · exact ht
  · exact hs
  · -- only the interior layers are computed: there the exponent is the line through (log10 P_top, log10 X_top) and
    -- (log10 P_surf, log10 X_surf) at log10 P_i
    obtain ⟨hge, hle⟩ := hp i (Nat.pos_of_ne_zero h2) (by omega)
    have hline := line_between (log10_within hlo ht) (log10_within hlo hs) (log10_le_log10 hpos hge)
      (log10_le_log10 (hpos.trans_le hge) hle)
    exact pow10_within hlo (hlo.trans_le (hs.1.trans hs.2)) hline.1 hline.2

theorem twoPointGas_pos (surf top : ℝ) (pressure : List ℝ) (hs : 0 < surf) (ht : 0 < top) :
    ∀ x ∈ twoPointGas surf top pressure, 0 < x := by
  intro x hx
  unfold twoPointGas at hx
  simp only [List.mem_map] at hx
  obtain ⟨i, _, rfl⟩ := hx
  split_ifs
  · exact ht
  · exact hs
  · exact pow10_pos _

theorem arrayGas_length (arr : List ℝ) (n : Nat) : (arrayGas arr n).length = n := by
  rw [arrayGas, List.length_map, linspace_length]

theorem arrayGas_within {lo hi : ℝ} (arr : List ℝ) (n : Nat) (hne : 0 < arr.length) (h : Within lo hi arr) :
    Within lo hi (arrayGas arr n) := by
  intro v hv
  obtain ⟨x, _, rfl⟩ := List.mem_map.1 hv
  exact npInterp_between _ _ _ (linspace_length _ _ _) (by rw [linspace_length]; exact hne)
    (linspace_sorted 0 1 _ zero_le_one) h

/-- the power-law combination `(1/√A₀ + 1/√A_d)⁻²`: positive and at most the deep-atmosphere abundance `A₀`,
    because `1/(1/u + 1/v) ≤ 1/(1/u) = u` -/
theorem power_value_bounds {a0 ad : ℝ} (h0 : 0 < a0) (hd : 0 < ad) :
    0 < (1 / (1 / sqrt a0 + 1 / sqrt ad)) * (1 / (1 / sqrt a0 + 1 / sqrt ad)) ∧
      (1 / (1 / sqrt a0 + 1 / sqrt ad)) * (1 / (1 / sqrt a0 + 1 / sqrt ad)) ≤ a0 := by
  simp only [sqrt_real]
  have hu : 0 < Real.sqrt a0 := Real.sqrt_pos.2 h0
  have h1 : 0 < 1 / Real.sqrt a0 := one_div_pos.2 hu
  have h2 : 0 < 1 / Real.sqrt ad := one_div_pos.2 (Real.sqrt_pos.2 hd)
  have hpos : 0 < 1 / (1 / Real.sqrt a0 + 1 / Real.sqrt ad) := one_div_pos.2 (add_pos h1 h2)
  have hle : 1 / (1 / Real.sqrt a0 + 1 / Real.sqrt ad) ≤ Real.sqrt a0 := by
    have := one_div_le_one_div_of_le h1 (le_add_of_nonneg_right h2.le)
    rwa [one_div_one_div] at this
  refine ⟨mul_pos hpos hpos, ?_⟩
  calc 1 / (1 / Real.sqrt a0 + 1 / Real.sqrt ad) * (1 / (1 / Real.sqrt a0 + 1 / Real.sqrt ad))
      ≤ Real.sqrt a0 * Real.sqrt a0 := mul_le_mul hle hle hpos.le hu.le
    _ = a0 := Real.mul_self_sqrt h0.le

theorem powerGas_within (ms alpha beta gamma bf : ℝ) (pressure temperature : List ℝ) (h0 : 0 < ms) :
    ∀ v ∈ powerGas ms alpha beta gamma bf pressure temperature, 0 < v ∧ v ≤ ms := by
  intro v hv
  unfold powerGas at hv
  obtain ⟨i, hidx, rfl⟩ := List.mem_iff_getElem.1 hv
  rw [List.getElem_zipWith]
  apply power_value_bounds h0
  simp only [exp_real]
  exact mul_pos (mul_pos (pow10_pos _) (Real.exp_pos _)) (pow10_pos _)

theorem powerGas_length (ms alpha beta gamma bf : ℝ) (pressure temperature : List ℝ) :
    (powerGas ms alpha beta gamma bf pressure temperature).length = min pressure.length temperature.length := by
  rw [powerGas, List.length_zipWith]

/-! ### TwoLayerGas -/

/-- `np.interp` in `log P` through the four nodes (top layer, `en`, `st`, bottom layer; `st ≤ en`) with ordinates
    `log10` of the two control abundances: its power of ten stays between the control abundances -/
theorem twoLayerNodes_within {lo hi surf top : ℝ} (hlo : 0 < lo) (hs : lo ≤ surf ∧ surf ≤ hi)
    (ht : lo ≤ top ∧ top ≤ hi) (pressure : List ℝ) (hpos : ∀ x ∈ pressure, 0 < x)
    (hsorted : pressure.Pairwise (fun a b => b ≤ a)) {st en : Nat} (hse : st ≤ en) (hen : en < pressure.length)
    (x : ℝ) :
    (pow10 (npInterp [log (pressure.getD (pressure.length - 1) 0), log (pressure.getD en 0),
        log (pressure.getD st 0), log (pressure.getD 0 0)] [log10 top, log10 top, log10 surf, log10 surf] x) : ℝ)
      ∈ Set.Icc lo hi := by
  have hlog : ∀ {i j : Nat}, i ≤ j → j < pressure.length →
      (log (pressure.getD j 0) : ℝ) ≤ log (pressure.getD i 0) := fun {i j} hij hj => by
    rw [List.getD_eq_getElem _ _ hj, List.getD_eq_getElem _ _ (hij.trans_lt hj)]
    refine Real.log_le_log (hpos _ (List.getElem_mem _)) ?_
    rcases hij.lt_or_eq with h | rfl
    · exact List.pairwise_iff_getElem.1 hsorted i j _ hj h
    · exact le_rfl
  have hxp : [log (pressure.getD (pressure.length - 1) 0), log (pressure.getD en 0),
      log (pressure.getD st 0), (log (pressure.getD 0 0) : ℝ)].Pairwise (· ≤ ·) :=
    List.IsChain.pairwise (.cons_cons (hlog (by omega) (by omega))
      (.cons_cons (hlog hse hen) (.cons_cons (hlog (Nat.zero_le _) (by omega)) (.singleton _))))
  have hfp : Within (log10 lo) (log10 hi) ([top, top, surf, surf].map log10) :=
    within_map_log10 hlo (by
      intro y hy
      simp only [List.mem_cons, List.not_mem_nil, or_false] at hy
      rcases hy with rfl | rfl | rfl | rfl <;> assumption)
  have := npInterp_between _ _ x (by rfl) (by exact Nat.succ_pos 3) hxp hfp
  exact pow10_within hlo (hlo.trans_le (hs.1.trans hs.2)) this.1 this.2

theorem twoLayerRaw_within {lo hi : ℝ} (surf top pb w : ℝ) (n : Nat) (pressure : List ℝ) (hlo : 0 < lo)
    (hs : lo ≤ surf ∧ surf ≤ hi) (ht : lo ≤ top ∧ top ≤ hi) (hn : n = pressure.length) (hw : 0 ≤ w)
    (hpos : ∀ x ∈ pressure, 0 < x) (hsorted : pressure.Pairwise (fun a b => b ≤ a)) :
    Within lo hi (twoLayerRaw surf top pb w n pressure) := by
  intro v hv
  unfold twoLayerRaw at hv
  simp only [List.mem_map, List.mem_reverse, ofNat'_real, truncNat_real] at hv
  obtain ⟨p, hp, rfl⟩ := hv
  have hclt : argminAbs pressure pb < pressure.length := argminAbs_lt pressure pb (List.length_pos_of_mem hp)
  -- the transition layers enclose the boundary layer: start ≤ P_layer ≤ end < nlayers
  have hst : ⌊(argminAbs pressure pb : ℝ) - w / 2⌋₊ ≤ argminAbs pressure pb := by
    simpa only [Nat.floor_natCast] using
      Nat.floor_le_floor (sub_le_self (argminAbs pressure pb : ℝ) (div_nonneg hw zero_le_two))
  have hen : argminAbs pressure pb ≤ min ⌊(argminAbs pressure pb : ℝ) + w / 2⌋₊ (n - 1) :=
    le_min (Nat.le_floor (le_add_of_nonneg_right (div_nonneg hw zero_le_two))) (by omega)
  exact twoLayerNodes_within hlo hs ht pressure hpos hsorted (hst.trans hen)
    (lt_of_le_of_lt (min_le_right _ _) (by omega)) _

theorem twoLayerRaw_length (surf top pb w : ℝ) (n : Nat) (pressure : List ℝ) :
    (twoLayerRaw surf top pb w n pressure).length = pressure.length := by
  rw [twoLayerRaw, List.length_map, List.length_reverse]

theorem twoLayerGas_within {lo hi : ℝ} (surf top pb w : ℝ) (n : Nat) (pressure row : List ℝ) (hlo : 0 < lo)
    (hs : lo ≤ surf ∧ surf ≤ hi) (ht : lo ≤ top ∧ top ≤ hi) (hn : n = pressure.length) (hw : 0 ≤ w)
    (hpos : ∀ x ∈ pressure, 0 < x) (hsorted : pressure.Pairwise (fun a b => b ≤ a))
    (hok : twoLayerGas surf top pb w n pressure = .ok row) : Within lo hi row := by
  have hraw := twoLayerRaw_within surf top pb w n pressure hlo hs ht hn hw hpos hsorted
  have hsm : Within lo hi ((movingAverage ((twoLayerRaw surf top pb w n pressure).map log10)
      (oddWindow n w)).map pow10) :=
    within_map_pow10 hlo (hlo.trans_le (hs.1.trans hs.2))
      (movingAverage_between _ _ (within_map_log10 hlo hraw))
  exact smooth_within _ _ _ hraw hsm (assembleSmoothed_sound _ _ _ hok).2

theorem twoLayerGas_ok (surf top pb w : ℝ) (n : Nat) (pressure : List ℝ) (hn : n = pressure.length)
    (hw1 : w ≤ 100) :
    ∃ row, twoLayerGas surf top pb w n pressure = .ok row ∧ row.length = n := by
  unfold twoLayerGas
  obtain ⟨r, hr, hl⟩ := smooth_ok (twoLayerRaw surf top pb w n pressure) n w
    (by rw [twoLayerRaw_length]; exact hn) hw1
    ((movingAverage ((twoLayerRaw surf top pb w n pressure).map log10) (oddWindow n w)).map pow10)
    (by
      have hpos : 0 < oddWindow n w := one_le_oddWindow n w
      rw [List.length_map, movingAverage_length _ _ hpos, movingAverage_length _ _ hpos, List.length_map])
  exact ⟨r, hr, by rw [hl, twoLayerRaw_length, hn]⟩

theorem twoLayerGas_pos (surf top pb w : ℝ) (n : Nat) (pressure row : List ℝ)
    (hok : twoLayerGas surf top pb w n pressure = .ok row) : ∀ x ∈ row, 0 < x := by
  unfold twoLayerGas at hok
  intro x hx
  rcases (assembleSmoothed_sound _ _ _ hok).2 x hx with h | h
  · unfold twoLayerRaw at h
    simp only [List.mem_map] at h
    obtain ⟨p, _, rfl⟩ := h
    exact pow10_pos _
  · simp only [List.mem_map] at h
    obtain ⟨e, _, rfl⟩ := h
    exact pow10_pos _

/-! ### every gas: shape and sign of the profile -/

/-- constructor arguments inside the domain of the property: positive control abundances (a constant gas may
    be zero), a non-empty non-negative array, a smoothing window that is a percentage -/
def Gas.Admissible : Gas ℝ → Prop
  | .constant m => 0 ≤ m
  | .twoLayer s t _ w => 0 < s ∧ 0 < t ∧ 0 ≤ w ∧ w ≤ 100
  | .twoPoint s t => 0 < s ∧ 0 < t
  | .array arr => 0 < arr.length ∧ ∀ x ∈ arr, 0 ≤ x
  | .power ms _ _ _ _ => 0 < ms

theorem profile_spec (g : Gas ℝ) (n : Nat) (pressure temperature : List ℝ) (hadm : g.Admissible)
    (hn : n = pressure.length) (hT : n = temperature.length) :
    ∃ row, g.profile n pressure temperature = .ok row ∧ row.length = n ∧ ∀ x ∈ row, 0 ≤ x := by
  cases g with
  | constant m =>
    exact ⟨_, rfl, (constantGas_spec m n).1, fun x hx => by rw [(constantGas_spec m n).2 x hx]; exact hadm⟩
  | twoLayer s t pb w =>
    obtain ⟨row, hrow, hlen⟩ := twoLayerGas_ok s t pb w n pressure hn hadm.2.2.2
    exact ⟨row, hrow, hlen, fun x hx => (twoLayerGas_pos s t pb w n pressure row hrow x hx).le⟩
  | twoPoint s t =>
    exact ⟨_, rfl, by rw [twoPointGas_length, hn], fun x hx => (twoPointGas_pos s t pressure hadm.1 hadm.2 x hx).le⟩
  | array arr =>
    obtain ⟨hne, hnn⟩ := hadm
    -- any upper bound will do for `arrayGas_within`: the sum of the (non-negative) entries
    have hb : Within 0 (sumL arr) arr := fun x hx =>
      ⟨hnn x hx, (List.single_le_sum hnn x hx).trans_eq (sumL_eq_sum arr).symm⟩
    exact ⟨_, rfl, arrayGas_length arr n, fun x hx => (arrayGas_within arr n hne hb x hx).1⟩
  | power ms a b c bf =>
    exact ⟨_, rfl, by rw [powerGas_length, ← hn, ← hT, Nat.min_self],
      fun x hx => (powerGas_within ms a b c bf pressure temperature hadm x hx).1.le⟩

/-- the loop of `initialize_chemistry` over admissible gases never fails -/
theorem traceProfiles_spec (n : Nat) (pressure temperature : List ℝ) (hn : n = pressure.length)
    (hT : n = temperature.length) : ∀ (gases : List (Gas ℝ)), (∀ g ∈ gases, g.Admissible) →
    ∃ traces, traceProfiles gases n pressure temperature = .ok traces ∧ traces.length = gases.length ∧
      (∀ r ∈ traces, r.length = n) ∧ ∀ r ∈ traces, ∀ x ∈ r, 0 ≤ x
  | [], _ => ⟨[], rfl, rfl, fun _ h => absurd h List.not_mem_nil, fun _ h => absurd h List.not_mem_nil⟩
  | g :: gs, h => by
    obtain ⟨row, hrow, hl, hnn⟩ := profile_spec g n pressure temperature (h g List.mem_cons_self) hn hT
    obtain ⟨rows, hrows, hlen, hls, hnns⟩ :=
      traceProfiles_spec n pressure temperature hn hT gs (fun x hx => h x (List.mem_cons_of_mem _ hx))
    exact ⟨row :: rows, by unfold traceProfiles; rw [hrow, hrows], by rw [List.length_cons, List.length_cons, hlen],
      List.forall_mem_cons.2 ⟨hl, hls⟩, List.forall_mem_cons.2 ⟨hnn, hnns⟩⟩

/-! ### the opacity-cache session -/

/-- the forced-active list is written by `force_active` alone -/
theorem forced_step (t : CacheState) (op : CacheOp) (h : ∀ l, op ≠ CacheOp.force l) : (t.step op).forced = t.forced := by
  cases op with
  | force l => exact absurd rfl (h l)
  | register m => simp only [CacheState.step]; split <;> rfl
  | load m => simp only [CacheState.step]; split <;> [rfl; (split <;> rfl)]
  | _ => rfl

end Taurex.Chemistry
