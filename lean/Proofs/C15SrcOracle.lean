/-
  How the model's data is seen by the regenerated (dynamically typed) code, and the ORACLE that answers what the translated
  functions ask of objects that are not built-in values.

  * `emb : Value → Val Scalar Obj`: a typed config value as the Python value it stands for (a float is carried by the
    model's decimal literal `Scalar.dec/inf/nan`, so the float payload `φ` is `Scalar`); `embCfg`: a `Config` as a `dict`
    with string keys.
  * `Obj`: the objects the code touches — classes (a `Klass` record of the registry), a class built by
    `build_new_mixed_class`, `klass.__init__`, the `ClassFactory` singleton, the `inspect` module, the section base
    classes, module-level functions that are not translated.
  * `World`: the registry and custom files of the model plus everything the model does NOT fix (which exception
    `input_keywords()` raises for a class without keywords, the parameters without default in an argspec, what calling
    a class returns): the tie theorems hold FOR EVERY world, i.e. the translated code does not depend on those.
    `argspec` is the named tuple `inspect.getfullargspec` returns (attributes `args` / `defaults`, slice `[:4]`).
  * `World.ext`: the oracle.  `ClassFactory().<x>Klasses` lists the classes of the registry section in the registry's
    order (the code iterates a `set`; `C15.lookup_unique` shows the order is irrelevant), `klass.input_keywords()` is
    the `keywords` column or raises, `inspect.getfullargspec(klass.__init__)` ends in the `kwargs` column (names and
    defaults), `build_new_mixed_class` / `detect_and_return_klass` are the model's `Resolved.mixed` / `detectKlass`,
    `float(str)` is `parseNumber`.
-/
import TaurexModel.Gen.SrcC15
import Proofs.C15Lemmas
import Proofs.DynCore
import Proofs.ListCore

namespace Taurex.C15Src
open Taurex.Gen Taurex.Gen.Dyn
open Taurex.Factory (Scalar Value Config Klass Registry SectionReg Resolved Err Customs Component Sec InputFile)

abbrev M := Except Exc

deriving instance DecidableEq for Taurex.Factory.Sec

/-- Python floats as the model carries them: decimal literals.  `float(i)` of an int is the model's `toFloat (.int i)`;
    ordering / zero tests of floats are not used by the translated C15 code -/
instance : FloatLike Scalar where
  ofInt i := .dec (i < 0) i.natAbs 0
  beq a b := a == b
  lt _ _ := false
  isZero _ := false

inductive Obj where
  /-- a class of the registry / of a custom file -/
  | klass (k : Klass)
  /-- `build_new_mixed_class(base, mixins)` -/
  | mixed (ms : List Klass) (b : Klass)
  /-- `klass.__init__` (`mixin = false`) / `klass.__init_mixin__` (`mixin = true`) -/
  | init (k : Klass) (mixin : Bool)
  /-- `inspect.getfullargspec(·)` of one of these: a named tuple -/
  | argspec (k : Klass) (mixin : Bool)
  /-- the class `ClassFactory` and its instance -/
  | classFactory
  | cf
  /-- an imported module -/
  | module (name : String)
  /-- a module-level function / class that is not translated -/
  | fn (name : String)
  /-- the base class of a section: its `__name__` and the section -/
  | base (name sec : String)
  /-- a constructor default that is neither a scalar nor a flat list -/
  | other (repr : String)
  /-- another component of the graph -/
  | ref (what : String)
  /-- a `ParameterParser` that has read the (typed) input file `f`, and its attribute `_raw_config` (the `ConfigObj`) -/
  | parser (f : InputFile)
  | rawConfig (f : InputFile)
  deriving DecidableEq

abbrev V := Dyn.Val Scalar Obj

def embS : Scalar → V
  | .none => .none
  | .bool b => .bool b
  | .int i => .int i
  | .str s => .str s
  | .dec n m e => .float (.dec n m e)
  | .inf n => .float (.inf n)
  | .nan => .float .nan

def emb : Value → V
  | .scalar s => embS s
  | .list l => .list (l.map embS)
  | .other r => .obj (.other r)
  | .ref w => .obj (.ref w)

/-- a `Config` as the entries of a `dict` -/
def embCfg (c : Config) : List (V × V) := c.map (fun kv => (.str kv.1, emb kv.2))

/-- the sub-sections of a section as dictionary entries -/
def subsEmb (subs : List (String × Config)) : List (V × V) :=
  subs.map (fun sc => (.str sc.1, .dict (embCfg sc.2)))

/-- a section as the Python dictionary: its scalar entries, then its sub-sections (dictionaries) -/
def embSec (scalars : Config) (subs : List (String × Config)) : List (V × V) :=
  embCfg scalars ++ subs.map (fun sc => (.str sc.1, .dict (embCfg sc.2)))

/-- `ConfigObj.dict()`: the whole file as a dictionary of sections -/
def embFile (f : InputFile) : List (V × V) := f.map (fun s => (.str s.1, .dict (embSec s.2.scalars s.2.subs)))

/-- a `Config` as keyword arguments -/
def embKw (c : Config) : List (String × V) := c.map (fun kv => (kv.1, emb kv.2))

def kobj (k : Klass) : V := .obj (.klass k)

/-- the exception class of a model error -/
def errExc : Err → Exc
  | .keyError _ => .KeyError
  | .notImplemented _ => .NotImplementedError
  | .typeError _ => .TypeError
  | .attrError _ => .AttributeError
  | .generic _ => .Exception
  | .valueError _ => .ValueError

/-- a model result as the outcome of the Python call -/
def embE {β γ : Type} (f : β → γ) : Except Err β → M γ
  | .ok b => .ok (f b)
  | .error e => .error (errExc e)

/-- `ClassFactory` attribute → (registry section, mixin list?) -/
def cfAttrs : List (String × String × Bool) :=
  [("temperatureKlasses", "temperature", false), ("chemistryKlasses", "chemistry", false), ("gasKlasses", "gas", false),
   ("pressureKlasses", "pressure", false), ("planetKlasses", "planet", false), ("starKlasses", "star", false),
   ("instrumentKlasses", "instrument", false), ("modelKlasses", "model", false),
   ("contributionKlasses", "contribution", false), ("optimizerKlasses", "optimizer", false),
   ("observationKlasses", "observation", false), ("priorKlasses", "prior", false),
   ("temperatureMixinKlasses", "temperature", true), ("chemistryMixinKlasses", "chemistry", true),
   ("gasMixinKlasses", "gas", true), ("pressureMixinKlasses", "pressure", true), ("planetMixinKlasses", "planet", true),
   ("starMixinKlasses", "star", true), ("instrumentMixinKlasses", "instrument", true),
   ("modelMixinKlasses", "model", true), ("contributionMixinKlasses", "contribution", true),
   ("optimizerMixinKlasses", "optimizer", true), ("observationMixinKlasses", "observation", true)]

/-- `mixin_factory`'s table and the base classes the `create_*` functions import: `__name__` → registry section -/
def mixinBases : List (String × String) :=
  [("TemperatureProfile", "temperature"), ("Chemistry", "chemistry"), ("Gas", "gas"), ("PressureProfile", "pressure"),
   ("Planet", "planet"), ("Star", "star"), ("Instrument", "instrument"), ("ForwardModel", "model"),
   ("Contribution", "contribution"), ("Optimizer", "optimizer"), ("BaseSpectrum", "observation")]

structure World where
  reg : Registry
  customs : Customs
  /-- `klass.input_keywords()` raises this (a class without keywords) -/
  kwErr : Klass → Option Exc
  /-- the leading entries of `getfullargspec(klass.__init__).args`: `self` and the parameters without a default -/
  argsPre : Klass → List V
  varargs : Klass → V
  varkw : Klass → V
  /-- calling an object (constructing a component), for every callable the oracle does not define below -/
  call : Obj → List V → List (String × V) → M V
  /-- `hasattr(value, name)` -/
  hasattr : V → String → Bool

def unKlass : V → Option Klass
  | .obj (.klass k) => some k
  | _ => none

/-- the trailing parameters with their defaults that an argspec describes: the constructor's, or `__init_mixin__`'s -/
def specKwargs (k : Klass) (mixin : Bool) : Config := if mixin then k.mixinKwargs else k.kwargs

/-- `argspec.args`: some leading names (`self`, parameters without default), then the parameters with a default -/
def argspecArgs (w : World) (k : Klass) (mixin : Bool) : V :=
  .list (w.argsPre k ++ (specKwargs k mixin).map (fun kv => .str kv.1))

/-- `argspec.defaults`: `None` when there is none, else the tuple of the default values -/
def argspecDefaults (k : Klass) (mixin : Bool) : V :=
  if (specKwargs k mixin).isEmpty then .none else .tuple ((specKwargs k mixin).map (fun kv => emb kv.2))

def World.ext (w : World) : Ext M Scalar Obj where
  global name :=
    if name = "ClassFactory" then .ok (.obj .classFactory)
    else if name = "inspect" then .ok (.obj (.module "inspect"))
    else match mixinBases.lookup name with
      | some sec => .ok (.obj (.base name sec))
      | none => .ok (.obj (.fn name))
  getattr o name :=
    match o with
    | .cf =>
      match cfAttrs.lookup name with
      | some (sec, mix) =>
        .ok (.list ((if mix then (w.reg.sec sec).mixins else (w.reg.sec sec).classes).map kobj))
      | none => .error .AttributeError
    | .klass k =>
      if name = "__name__" then .ok (.str k.name)
      else if name = "__init__" then .ok (.obj (.init k false))
      else if name = "__init_mixin__" then .ok (.obj (.init k true))
      else .error .AttributeError
    | .argspec k mx =>
      if name = "args" then .ok (argspecArgs w k mx)
      else if name = "defaults" then .ok (argspecDefaults k mx)
      else .error .AttributeError
    | .mixed ms b =>
      if name = "__bases__" then .ok (.tuple ((ms ++ [b]).map kobj))
      else if name = "__name__" then .ok (.str "mixed")
      else .error .AttributeError
    | .base n _ => if name = "__name__" then .ok (.str n) else .error .AttributeError
    | .ref _ => if name = "activeGases" then .ok .none else .error .AttributeError
    | .parser f => if name = "_raw_config" then .ok (.obj (.rawConfig f)) else .error .AttributeError
    | _ => .error .AttributeError
  call o args kw :=
    match o with
    | .classFactory => .ok (.obj .cf)
    | .fn name =>
      if name = "build_new_mixed_class" then
        match args with
        | [.obj (.klass b), .list ms] =>
          match ms.mapM unKlass with
          | some ks =>
            if Factory.hasDup (ks.map (·.path)) then .error .TypeError else .ok (.obj (.mixed ks b))
          | none => .error .TypeError
        | _ => .error .TypeError
      else if name = "detect_and_return_klass" then
        match args with
        | [.str file, .obj (.base _ sec)] =>
          match w.customs.lookup file with
          | none => .error .Exception
          | some members => embE kobj (Factory.detectKlass members sec)
        | _ => .error .Exception
      else w.call o args kw
    | _ => w.call o args kw
  method o name args _ :=
    match o with
    | .klass k =>
      if name = "input_keywords" then
        match w.kwErr k with
        | some e => .error e
        | none => .ok (.list (k.keywords.map .str))
      else .error .AttributeError
    | .module m =>
      if m = "inspect" ∧ name = "getfullargspec" then
        match args with
        | [.obj (.init k mx)] => .ok (.obj (.argspec k mx))
        | _ => .error .TypeError
      else .error .AttributeError
    | .rawConfig f => if name = "dict" then .ok (.dict (embFile f)) else .error .AttributeError
    | _ => .error .AttributeError
  isinst _ _ := false
  iter _ := .error .TypeError
  truthy _ := .ok true
  op name args :=
    if name = "getslice" then
      match args with
      | [.obj (.argspec k mx), .none, .int 4] =>
        .ok (.tuple [argspecArgs w k mx, w.varargs k, w.varkw k, argspecDefaults k mx])
      | _ => .error .TypeError
    else if name = "issubclass" then
      match args with
      | [.obj (.klass k), .obj (.fn "Mixin")] => .ok (.bool k.isMixin)
      | _ => .error .TypeError
    else if name = "hasattr" then
      match args with
      | [o, .str n] => .ok (.bool (w.hasattr o n))
      | _ => .error .TypeError
    else .error .TypeError
  parseFloat s := Factory.parseNumber s

/-! The monad laws under this namespace's names: inside `Taurex.C15Src` the unqualified `pure_ok`, `throw_err`, `bind_err`,
    `try_ok`, `try_err` of the `simp only` lists are these.  Each is the law of the same name of `Proofs/DynCore.lean`. -/

@[simp] theorem pure_ok {β : Type} (x : β) : (pure x : M β) = .ok x := Dyn.pure_ok x
@[simp] theorem throw_err {β : Type} (e : Exc) : (throw e : M β) = .error e := Dyn.throw_err e
@[simp] theorem bind_err {β γ : Type} (e : Exc) (f : β → M γ) : ((Except.error e : M β) >>= f) = .error e := Dyn.bind_err e f
@[simp] theorem try_ok {β : Type} (x : β) (h : Exc → M β) : tryCatch (Except.ok x : M β) h = .ok x := Dyn.try_ok x h
@[simp] theorem try_err {β : Type} (e : Exc) (h : Exc → M β) : tryCatch (Except.error e : M β) h = h e := Dyn.try_err e h

/-- `List.lookup` with the comparison stated as a proposition, which `simp` decides on string literals
    (`String.reduceEq`) -/
theorem lookup_cons_ite {α β : Type} [DecidableEq α] (a k : α) (b : β) (es : List (α × β)) :
    ((k, b) :: es).lookup a = if a = k then some b else es.lookup a := by
  rw [List.lookup_cons]
  by_cases h : a = k
  · rw [if_pos h, beq_iff_eq.mpr h]
  · rw [if_neg h, beq_eq_false_iff_ne.mpr h]

section
variable (w : World)

theorem ext_global (name : String) :
    w.ext.global name =
      if name = "ClassFactory" then .ok (.obj .classFactory)
      else if name = "inspect" then .ok (.obj (.module "inspect"))
      else match mixinBases.lookup name with
        | some sec => .ok (.obj (.base name sec))
        | none => .ok (.obj (.fn name)) := rfl

@[simp] theorem ext_global_cf : w.ext.global "ClassFactory" = .ok (.obj .classFactory) := by
  rw [ext_global, if_pos rfl]
@[simp] theorem ext_global_inspect : w.ext.global "inspect" = .ok (.obj (.module "inspect")) := by
  simp only [ext_global, String.reduceEq, ↓reduceIte]
theorem ext_global_fn (name : String) (h1 : name ≠ "ClassFactory") (h2 : name ≠ "inspect")
    (h3 : mixinBases.lookup name = none) :
    w.ext.global name = .ok (.obj (.fn name)) := by
  rw [ext_global, if_neg h1, if_neg h2, h3]
theorem ext_global_base (name sec : String) (h : (name, sec) ∈ mixinBases) :
    w.ext.global name = .ok (.obj (.base name sec)) := by
  simp only [mixinBases, List.mem_cons, Prod.mk.injEq, List.mem_nil_iff, or_false] at h
  rcases h with ⟨rfl, rfl⟩ | ⟨rfl, rfl⟩ | ⟨rfl, rfl⟩ | ⟨rfl, rfl⟩ | ⟨rfl, rfl⟩ | ⟨rfl, rfl⟩ | ⟨rfl, rfl⟩ | ⟨rfl, rfl⟩ |
    ⟨rfl, rfl⟩ | ⟨rfl, rfl⟩ | ⟨rfl, rfl⟩ <;>
  simp only [ext_global, mixinBases, lookup_cons_ite, String.reduceEq, ↓reduceIte]
@[simp] theorem ext_call_cf (a : List V) (k : List (String × V)) : w.ext.call .classFactory a k = .ok (.obj .cf) := rfl
theorem ext_getattr_cf (name sec : String) (mix : Bool) (h : cfAttrs.lookup name = some (sec, mix)) :
    w.ext.getattr .cf name
      = .ok (.list ((if mix then (w.reg.sec sec).mixins else (w.reg.sec sec).classes).map kobj)) := by
  unfold World.ext
  simp only [h]
@[simp] theorem ext_getattr_name (k : Klass) : w.ext.getattr (.klass k) "__name__" = .ok (.str k.name) := rfl
@[simp] theorem ext_getattr_init (k : Klass) : w.ext.getattr (.klass k) "__init__" = .ok (.obj (.init k false)) := rfl
@[simp] theorem ext_getattr_init_mixin (k : Klass) :
    w.ext.getattr (.klass k) "__init_mixin__" = .ok (.obj (.init k true)) := by
  unfold World.ext
  simp only [String.reduceEq, ↓reduceIte]
@[simp] theorem ext_getattr_args (k : Klass) (mx : Bool) :
    w.ext.getattr (.argspec k mx) "args" = .ok (argspecArgs w k mx) := rfl
@[simp] theorem ext_getattr_defaults (k : Klass) (mx : Bool) :
    w.ext.getattr (.argspec k mx) "defaults" = .ok (argspecDefaults k mx) := rfl
@[simp] theorem ext_getslice4 (k : Klass) (mx : Bool) :
    w.ext.op "getslice" [.obj (.argspec k mx), .none, .int 4]
      = .ok (.tuple [argspecArgs w k mx, w.varargs k, w.varkw k, argspecDefaults k mx]) := rfl
@[simp] theorem ext_issubclass (k : Klass) :
    w.ext.op "issubclass" [.obj (.klass k), .obj (.fn "Mixin")] = .ok (.bool k.isMixin) := by
  unfold World.ext
  simp only [String.reduceEq, ↓reduceIte]
@[simp] theorem ext_global_mixin : w.ext.global "Mixin" = .ok (.obj (.fn "Mixin")) :=
  ext_global_fn w _ (by simp only [ne_eq, String.reduceEq, not_false_eq_true])
    (by simp only [ne_eq, String.reduceEq, not_false_eq_true])
    (by simp only [mixinBases, lookup_cons_ite, List.lookup_nil, String.reduceEq, ↓reduceIte])
@[simp] theorem ext_getattr_bases (ms : List Klass) (b : Klass) :
    w.ext.getattr (.mixed ms b) "__bases__" = .ok (.tuple ((ms ++ [b]).map kobj)) := rfl
@[simp] theorem ext_getattr_base (n sec : String) : w.ext.getattr (.base n sec) "__name__" = .ok (.str n) := rfl
@[simp] theorem ext_getattr_activeGases (r : String) : w.ext.getattr (.ref r) "activeGases" = .ok .none := rfl
@[simp] theorem ext_input_keywords (k : Klass) (a : List V) (kw : List (String × V)) :
    w.ext.method (.klass k) "input_keywords" a kw
      = match w.kwErr k with
        | some e => .error e
        | none => .ok (.list (k.keywords.map .str)) := by
  unfold World.ext
  simp only [↓reduceIte]
@[simp] theorem ext_getfullargspec (k : Klass) (mx : Bool) (kw : List (String × V)) :
    w.ext.method (.module "inspect") "getfullargspec" [.obj (.init k mx)] kw = .ok (.obj (.argspec k mx)) := by
  unfold World.ext
  simp only [and_self, ↓reduceIte]
@[simp] theorem ext_parseFloat (s : String) : w.ext.parseFloat s = Factory.parseNumber s := by
  rw [World.ext]
@[simp] theorem ext_call_klass (k : Klass) (a : List V) (kw : List (String × V)) :
    w.ext.call (.klass k) a kw = w.call (.klass k) a kw := rfl
@[simp] theorem ext_call_mixed (ms : List Klass) (b : Klass) (a : List V) (kw : List (String × V)) :
    w.ext.call (.mixed ms b) a kw = w.call (.mixed ms b) a kw := rfl
@[simp] theorem ext_hasattr (o : V) (n : String) :
    w.ext.op "hasattr" [o, .str n] = .ok (.bool (w.hasattr o n)) := by
  unfold World.ext
  simp only [String.reduceEq, ↓reduceIte]
@[simp] theorem ext_getattr_raw_config (f : InputFile) :
    w.ext.getattr (.parser f) "_raw_config" = .ok (.obj (.rawConfig f)) := by
  unfold World.ext
  simp only [↓reduceIte]
@[simp] theorem ext_method_dict (f : InputFile) (a : List V) (kw : List (String × V)) :
    w.ext.method (.rawConfig f) "dict" a kw = .ok (.dict (embFile f)) := rfl

theorem mapM_unKlass (ms : List Klass) : (ms.map kobj).mapM unKlass = some ms := by
  induction ms with
  | nil => rfl
  | cons k t ih => simp [List.mapM_cons, kobj, unKlass, ih] <;> rfl

theorem ext_call_detect (v : Value) (name sec : String) :
    w.ext.call (.fn "detect_and_return_klass") [emb v, .obj (.base name sec)] [] =
      match v with
      | .scalar (.str file) =>
        match w.customs.lookup file with
        | none => .error .Exception
        | some members => embE kobj (Factory.detectKlass members sec)
      | _ => .error .Exception := by
  unfold World.ext
  simp only [String.reduceEq, ↓reduceIte]
  cases v with
  | scalar s => cases s <;> rfl
  | list l => rfl
  | other r => rfl
  | ref r => rfl

/-- `ext_call_detect` at a file name: the form the call has in `determine_klass` -/
theorem ext_call_detect_str (file name sec : String) :
    w.ext.call (.fn "detect_and_return_klass") [.str file, .obj (.base name sec)] [] =
      match w.customs.lookup file with
      | none => .error .Exception
      | some members => embE kobj (Factory.detectKlass members sec) :=
  ext_call_detect w (.scalar (.str file)) name sec

theorem ext_call_build (b : Klass) (ms : List Klass) :
    w.ext.call (.fn "build_new_mixed_class") [kobj b, .list (ms.map kobj)] [] =
      if Factory.hasDup (ms.map (·.path)) then .error .TypeError else .ok (.obj (.mixed ms b)) := by
  unfold World.ext
  simp only [↓reduceIte, kobj, mapM_unKlass]

end

theorem dictGet_emb (c : Config) (k : String) : dictGet? (embCfg c) (.str k) = (c.lookup k).map emb :=
  dictGet_map_str emb k c

theorem dictGet?_append (a b : List (V × V)) (k : V) : dictGet? (a ++ b) k = (dictGet? a k).or (dictGet? b k) := by
  induction a with
  | nil => rfl
  | cons e t ih =>
    simp only [List.cons_append, dictGet?, ih]
    split <;> rfl

theorem dictHas_emb (c : Config) (k : String) : dictHas (embCfg c) (.str k) = Factory.hasKey c k := by
  simp [dictHas, embCfg, Factory.hasKey, List.any_map, Function.comp_def]

theorem dictDel_emb (c : Config) (k : String) :
    dictDel (embCfg c) (.str k) = embCfg (c.filter (·.1 != k)) := by
  simp only [dictDel, embCfg, List.filter_map, Function.comp_def, beq_str, bne]

theorem dictSet_emb (c : Config) (hn : (c.map (·.1)).Nodup) (k : String) (v : Value) :
    dictSet (embCfg c) (.str k) (emb v) = embCfg (Factory.dictSet c k v) := by
  induction c with
  | nil => rfl
  | cons kv t ih =>
    obtain ⟨k', v'⟩ := kv
    have hn' : (t.map (·.1)).Nodup := (List.nodup_cons.mp hn).2
    have hk' : k' ∉ t.map (·.1) := (List.nodup_cons.mp hn).1
    by_cases h : k' = k
    · subst h
      have hmap : t.map (fun kv => if (kv.1 == k') = true then (k', v) else kv) = t := by
        conv => rhs; rw [← List.map_id t]
        apply List.map_congr_left
        intro kv hm
        have : kv.1 ≠ k' := fun he => hk' (he ▸ List.mem_map_of_mem hm)
        simp [this]
      have hr : Factory.dictSet ((k', v') :: t) k' v = (k', v) :: t := by
        simp only [Factory.dictSet, Factory.hasKey, List.any_cons, beq_self_eq_true, Bool.true_or, if_true,
          List.map_cons, hmap]
      rw [hr]
      simp only [embCfg, List.map_cons, dictSet, beq_str, beq_self_eq_true, if_true]
    · have h' : (k' == k) = false := by simp [h]
      have hl : dictSet (embCfg ((k', v') :: t)) (.str k) (emb v)
          = (.str k', emb v') :: dictSet (embCfg t) (.str k) (emb v) := by
        simp only [embCfg, List.map_cons, dictSet, beq_str, h', Bool.false_eq_true, if_false]
      rw [hl, ih hn']
      have hr : Factory.dictSet ((k', v') :: t) k v = (k', v') :: Factory.dictSet t k v := by
        simp only [Factory.dictSet, Factory.hasKey, List.any_cons, h', Bool.false_or]
        by_cases hh : (t.any fun x => x.1 == k) = true
        · simp only [hh, if_true, List.map_cons, h', Bool.false_eq_true, if_false]
        · simp only [hh, Bool.false_eq_true, if_false, List.cons_append]
      rw [hr]
      simp only [embCfg, List.map_cons]

theorem nodup_dictSet (c : Config) (hn : (c.map (·.1)).Nodup) (k : String) (v : Value) :
    ((Factory.dictSet c k v).map (·.1)).Nodup := by
  cases hh : Factory.hasKey c k with
  | true => rw [C15L.keys_dictSet v hh]; exact hn
  | false =>
    -- a new key is appended
    have hk : k ∉ c.map (·.1) := fun hm => by rw [(C15L.hasKey_iff_mem_keys c k).mpr hm] at hh; cases hh
    simp only [Factory.dictSet, hh, Bool.false_eq_true, if_false, List.map_append, List.map_cons, List.map_nil]
    exact nodup_append_singleton hn hk

end Taurex.C15Src
