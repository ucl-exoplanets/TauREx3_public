/-
  Helper lemmas for C13 (grid restriction): list max/min and the margins built on them, `np.array_equal`, the value
  bounds of `opacityOnGrid`, a filter that rejects everything outside a segment (`filter_segment`), and the column
  selection `reindex` of the transmission model (the C01 model is column-wise: selecting wavenumbers before or after
  the computation gives the same optical depth, `tauFullFrom_reindex`).
-/
import Proofs.C01
import Proofs.C05Basic
import Proofs.NpInterp
import TaurexModel.Grid
import Proofs.FoldCore

namespace Taurex.C13L
open Taurex.Grid

theorem maxL_ge (l : List ℝ) (x : ℝ) (hx : x ∈ l) : x ≤ maxL l :=
  (foldl_sel_bound (· ≤ ·) (· ≤ ·) le_refl (fun _ _ _ => le_trans) (fun _ _ => id) (fun _ _ => le_of_not_ge) l _).2 x hx

theorem minL_le (l : List ℝ) (x : ℝ) (hx : x ∈ l) : minL l ≤ x :=
  (foldl_sel_bound (· ≥ ·) (· ≥ ·) le_refl (fun _ _ _ => ge_trans) (fun _ _ => id) (fun _ _ => le_of_not_ge) l _).2 x hx

theorem widestBin_nonneg (wn : List ℝ) : 0 ≤ widestBin wn := by
  -- `max()` is at least its seed, the first width or the default `0`
  have h0 : 0 ≤ (Binning.computeBinEdges wn).2.getD 0 0 := by
    rw [List.getD_eq_getElem?_getD]
    cases h : (Binning.computeBinEdges wn).2[0]? with
    | none => exact le_refl _
    | some x => exact Binning.widths_nonneg wn x (List.mem_of_getElem? h)
  exact h0.trans (foldl_sel_bound (· ≤ ·) (· ≤ ·) le_refl (fun _ _ _ => le_trans) (fun _ _ => id) (fun _ _ => le_of_not_ge) _ _).1

theorem clipMargin_nonneg (wn : List ℝ) : 0 ≤ clipMargin wn :=
  mul_nonneg (by norm_num) (widestBin_nonneg wn)

theorem clipMarginPinned_nonneg (wn : List ℝ) : 0 ≤ clipMarginPinned wn := widestBin_nonneg wn

theorem eqL_iff (a b : List ℝ) : eqL a b = true ↔ a = b := by
  induction a generalizing b with
  | nil => cases b <;> simp [eqL]
  | cons x t ih =>
    cases b with
    | nil => simp [eqL]
    | cons y u =>
      simp only [eqL, Bool.and_eq_true, decide_eq_true_eq, ih, List.cons.injEq]
      constructor
      · rintro ⟨⟨h1, h2⟩, h3⟩; exact ⟨le_antisymm h1 h2, h3⟩
      · rintro ⟨h1, h3⟩; exact ⟨⟨h1.le, h1.ge⟩, h3⟩

/-- on a request that is not the native selection every returned opacity is an `np.interp` value between bracketing native
    points, hence in any interval that holds the native values -/
theorem opacityOnGrid_between (nativeWn vals req : List ℝ) (lo hi : ℝ)
    (hlen : nativeWn.length = vals.length) (hs : nativeWn.Pairwise (· ≤ ·))
    (hv : ∀ v ∈ vals, lo ≤ v ∧ v ≤ hi)
    (hne : 0 < ((nativeWn.drop (Interp.searchRight nativeWn (minL req) - 1)).take
      (min (Interp.searchLeft nativeWn (maxL req)) (nativeWn.length - 1) + 1 -
        (Interp.searchRight nativeWn (minL req) - 1))).length) :
    ∀ y ∈ opacityOnGrid nativeWn vals req, lo ≤ y ∧ y ≤ hi := by
  intro y hy
  simp only [opacityOnGrid] at hy
  split at hy
  · -- identity branch: a selection of `vals`
    obtain ⟨p, hp, rfl⟩ := List.mem_map.1 hy
    exact hv _ (List.of_mem_zip (List.mem_filter.1 hp).1).2
  · obtain ⟨x, _, rfl⟩ := List.mem_map.1 hy
    refine NpInterp.npInterp_between (lo := lo) (hi := hi) _ _ x ?_ hne
      ((hs.sublist (List.drop_sublist _ _)).sublist (List.take_sublist _ _))
      fun v hvm => hv v (List.mem_of_mem_drop (List.mem_of_mem_take hvm))
    rw [List.length_take, List.length_take, List.length_drop, List.length_drop, hlen]

theorem filter_segment {β : Type} (p : β → Bool) (l : List β) (s k : Nat)
    (h1 : ∀ x ∈ l.take s, p x = false) (h2 : ∀ x ∈ l.drop (s + k), p x = false) :
    l.filter p = ((l.drop s).take k).filter p := by
  have hnil : ∀ l' : List β, (∀ x ∈ l', p x = false) → l'.filter p = [] := fun l' h =>
    List.filter_eq_nil_iff.2 fun x hx => by simp [h x hx]
  conv_lhs => rw [← List.take_append_drop s l, ← List.take_append_drop k (l.drop s), List.drop_drop]
  rw [List.filter_append, List.filter_append, hnil _ h1, hnil _ h2, List.nil_append, List.append_nil]

theorem sorted_around (l : List ℝ) (hs : l.Pairwise (· < ·)) (j : Nat) (hj : j < l.length) :
    (∀ x ∈ l.take j, x < l[j]) ∧ (∀ x ∈ l.drop (j + 1), l[j] < x) := by
  have h := hs
  rw [← List.take_append_drop j l, List.drop_eq_getElem_cons hj, List.pairwise_append, List.pairwise_cons] at h
  exact ⟨fun x hx => h.2.2 x hx _ List.mem_cons_self, h.2.1.1⟩

open Taurex.Transmission

/-- evaluate a contribution on a selection `σ` of the wavenumber columns (`sigma_xsec[:, σ]`) -/
def reindex (σ : ℕ → ℕ) (c : Contrib ℝ) : Contrib ℝ := ⟨c.kind, fun l w => c.sigma l (σ w)⟩

/-- the optical depth is a sum over the contributions of sums of `sigma · weight` (`tauFullFrom_eq_sum`), and the selection only
    renames the wavenumber the opacity is read at -/
theorem tauFullFrom_reindex (σ : ℕ → ℕ) (n : ℕ) (path dens : ℕ → ℝ) (l : ℕ) (cs : List (Contrib ℝ))
    (acc acc' : ℕ → ℝ) (h : ∀ w, acc' w = acc (σ w)) (w : ℕ) :
    tauFullFrom n path dens l (cs.map (reindex σ)) acc' w = tauFullFrom n path dens l cs acc (σ w) := by
  rw [tauFullFrom_eq_sum, tauFullFrom_eq_sum, h w, List.map_map]
  rfl

end Taurex.C13L
