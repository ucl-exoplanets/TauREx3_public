/-
  C05: the `searchsorted` window of `FluxBinner.bindown` against the overlap of intervals.
-/
import Proofs.C05Spec
import Proofs.ListCore

namespace Taurex.Binning
open List Taurex.Interp

/-- number of native bins whose upper edge is `≤ a` (`save_start` before clamping) -/
noncomputable def start0 (rows : List (Row ℝ)) (a : ℝ) : Nat := rows.countP (fun r => decide (r.hi ≤ a))
/-- number of native bins after the first whose lower edge is `≤ b` (`save_stop` before clamping) -/
noncomputable def stop0 (rows : List (Row ℝ)) (b : ℝ) : Nat := (rows.drop 1).countP (fun r => decide (r.lo ≤ b))

theorem window_unfold (rows : List (Row ℝ)) (a b : ℝ) :
    window rows a b =
      if a ≤ (rows.map Row.hi).getD (min (start0 rows a) (rows.length - 1)) 0 ∧
          (rows.map Row.lo).getD (min (stop0 rows b) (rows.length - 1)) 0 ≤ b
      then some (min (start0 rows a) (rows.length - 1), min (stop0 rows b) (rows.length - 1)) else none := by
  unfold window start0 stop0
  rw [searchRight_map, ← List.map_drop, searchRight_map]

theorem start0_facts (rows : List (Row ℝ)) (a : ℝ) (hhi : rows.Pairwise (fun r r' => r.hi ≤ r'.hi)) :
    (∀ r ∈ rows.take (start0 rows a), r.hi ≤ a) ∧ (∀ r ∈ rows.drop (start0 rows a), a < r.hi) :=
  (countP_prefix (fun r r' : Row ℝ => r.hi ≤ r'.hi) (fun r => r.hi ≤ a) (fun _ _ hxy hy => le_trans hxy hy)
    rows hhi).imp_right fun h r hr => not_le.1 (h r hr)

theorem stop0_facts (rows : List (Row ℝ)) (b : ℝ) (hlo : rows.Pairwise (fun r r' => r.lo ≤ r'.lo)) :
    (∀ r ∈ (rows.drop 1).take (stop0 rows b), r.lo ≤ b) ∧ (∀ r ∈ rows.drop (stop0 rows b + 1), b < r.lo) := by
  obtain ⟨h1, h2⟩ := countP_prefix (fun r r' : Row ℝ => r.lo ≤ r'.lo) (fun r => r.lo ≤ b)
    (fun _ _ hxy hy => le_trans hxy hy) (rows.drop 1) (hlo.sublist (List.drop_sublist _ _))
  refine ⟨h1, fun r hr => not_le.1 (h2 r ?_)⟩
  rw [List.drop_drop, Nat.add_comm]
  exact hr

theorem stop0_le (rows : List (Row ℝ)) (b : ℝ) : stop0 rows b ≤ rows.length - 1 := by
  unfold stop0
  have := List.countP_le_length (p := fun r : Row ℝ => decide (r.lo ≤ b)) (l := rows.drop 1)
  simpa using this

/-- before `save_start` every upper edge is `≤ a`, whether or not the clamp acted -/
theorem before_start (rows : List (Row ℝ)) (a : ℝ) (hhi : rows.Pairwise (fun r r' => r.hi ≤ r'.hi)) :
    ∀ r ∈ rows.take (min (start0 rows a) (rows.length - 1)), r.hi ≤ a := by
  intro r hr
  rw [Nat.min_comm, ← List.take_take] at hr
  exact (start0_facts rows a hhi).1 r (List.mem_of_mem_take hr)

/-- after `save_stop` every lower edge is `> b` (the clamp never acts on `save_stop`) -/
theorem after_stop (rows : List (Row ℝ)) (b : ℝ) (hlo : rows.Pairwise (fun r r' => r.lo ≤ r'.lo)) :
    ∀ r ∈ rows.drop (min (stop0 rows b) (rows.length - 1) + 1), b < r.lo := by
  rw [Nat.min_eq_left (stop0_le rows b)]
  exact (stop0_facts rows b hlo).2

/-- the first half of the skip test fails only when the clamp acted: every upper edge is `≤ a` -/
theorem all_hi_le (rows : List (Row ℝ)) (a : ℝ) (hhi : rows.Pairwise (fun r r' => r.hi ≤ r'.hi))
    (h : (rows.map Row.hi).getD (min (start0 rows a) (rows.length - 1)) 0 < a) : ∀ r ∈ rows, r.hi ≤ a := by
  have hall : start0 rows a = rows.length := by
    by_contra hne
    have hlt : start0 rows a < rows.length := lt_of_le_of_ne List.countP_le_length hne
    rw [Nat.min_eq_left (by omega), getD_map_getElem _ hlt] at h
    exact lt_asymm h ((start0_facts rows a hhi).2 _ (List.mem_drop_iff_getElem.2 ⟨0, by omega, rfl⟩))
  exact fun r hr => of_decide_eq_true (List.countP_eq_length.1 hall r hr)

/-- the second half of the skip test fails only at `save_stop = 0`: every lower edge is `> b` -/
theorem all_lo_gt : ∀ (rows : List (Row ℝ)) (b : ℝ), rows.Pairwise (fun r r' => r.lo ≤ r'.lo) →
    b < (rows.map Row.lo).getD (min (stop0 rows b) (rows.length - 1)) 0 → ∀ r ∈ rows, b < r.lo
  | [], _, _, _ => fun _ hr => absurd hr List.not_mem_nil
  | r0 :: tl, b, hlo, h => by
    have hle : stop0 (r0 :: tl) b ≤ tl.length := stop0_le (r0 :: tl) b
    rw [Nat.min_eq_left (stop0_le (r0 :: tl) b)] at h
    cases hk : stop0 (r0 :: tl) b with
    | zero =>
      rw [hk] at h
      intro r hr
      rcases List.mem_cons.1 hr with rfl | hr
      · exact h
      · exact lt_of_lt_of_le h ((List.pairwise_cons.1 hlo).1 r hr)
    | succ k =>
      -- row `save_stop` was counted: its lower edge is `≤ b`
      rw [hk] at h hle
      rw [List.map_cons, List.getD_cons_succ, getD_map_getElem _ hle] at h
      have hmem : tl[k] ∈ ((r0 :: tl).drop 1).take (stop0 (r0 :: tl) b) := by
        rw [hk]
        exact List.mem_take_iff_getElem.2 ⟨k, by simp only [List.drop_succ_cons, List.drop_zero]; omega, rfl⟩
      exact absurd ((stop0_facts (r0 :: tl) b hlo).1 _ hmem) (not_le_of_gt h)

theorem window_some (rows : List (Row ℝ)) (a b : ℝ) (hne : rows ≠ [])
    (hord : OrderedBins rows) (s t : Nat) (hwin : window rows a b = some (s, t)) :
    (∀ r ∈ rows.take s, overlap a b r = 0) ∧ (∀ r ∈ rows.drop (t + 1), overlap a b r = 0) ∧
    (∀ r ∈ slice rows s t, a ≤ r.hi ∧ r.lo ≤ b) := by
  obtain ⟨hlo, hhi⟩ := hord
  have hn : 0 < rows.length := List.length_pos_iff.2 hne
  rw [window_unfold] at hwin
  split at hwin
  · rename_i hc
    simp only [Option.some.injEq, Prod.mk.injEq] at hwin
    obtain ⟨rfl, rfl⟩ := hwin
    refine ⟨fun r hr => overlap_zero_of_hi_le a b r (before_start rows a hhi r hr),
      fun r hr => overlap_zero_of_le_lo a b r (after_stop rows b hlo r hr).le, ?_⟩
    set s := min (start0 rows a) (rows.length - 1)
    set t := min (stop0 rows b) (rows.length - 1)
    have hsn : s < rows.length := by omega
    have htn : t < rows.length := by omega
    rw [getD_map_getElem _ hsn, getD_map_getElem _ htn] at hc
    intro r hr
    obtain ⟨j, hj, rfl⟩ := List.mem_take_iff_getElem.1 hr
    rw [List.length_drop] at hj
    rw [List.getElem_drop]
    constructor
    · rcases Nat.eq_zero_or_pos j with rfl | hjp
      · exact hc.1
      · exact le_trans hc.1 (List.pairwise_iff_getElem.1 hhi s (s + j) hsn (by omega) (by omega))
    · rcases Nat.lt_or_ge (s + j) t with hlt | hge
      · exact le_trans (List.pairwise_iff_getElem.1 hlo (s + j) t (by omega) htn hlt) hc.2
      · have : s + j = t := by omega
        simp only [this]; exact hc.2
  · exact absurd hwin (by simp)

theorem window_none (rows : List (Row ℝ)) (a b : ℝ) (hord : OrderedBins rows) (hwin : window rows a b = none) :
    ∀ r ∈ rows, overlap a b r = 0 := by
  rw [window_unfold] at hwin
  split at hwin
  · exact absurd hwin (by simp)
  · rename_i hc
    rcases not_and_or.1 hc with h1 | h2
    · exact fun r hr => overlap_zero_of_hi_le a b r (all_hi_le rows a hord.2 (lt_of_not_ge h1) r hr)
    · exact fun r hr => overlap_zero_of_le_lo a b r (all_lo_gt rows b hord.1 (lt_of_not_ge h2) r hr).le

theorem sum_slice {β : Type} (f : β → ℝ) (rows : List β) (s t : Nat)
    (h1 : ∀ r ∈ rows.take s, f r = 0) (h2 : ∀ r ∈ rows.drop (t + 1), f r = 0) :
    (rows.map f).sum = ((slice rows s t).map f).sum := by
  have z : ∀ l : List β, (∀ r ∈ l, f r = 0) → (l.map f).sum = 0 := fun l h => by
    rw [List.map_congr_left h]; simp
  have h3 : ∀ r ∈ (rows.drop s).drop (t + 1 - s), f r = 0 := fun r hr => by
    rw [List.drop_drop, show s + (t + 1 - s) = (t + 1) + (s - (t + 1)) by omega, ← List.drop_drop] at hr
    exact h2 r (List.mem_of_mem_drop hr)
  conv_lhs => rw [← List.take_append_drop s rows]
  rw [List.map_append, List.sum_append, z _ h1, zero_add, ← List.take_append_drop (t + 1 - s) (rows.drop s),
    List.map_append, List.sum_append, z _ h3, add_zero]
  rfl

end Taurex.Binning
