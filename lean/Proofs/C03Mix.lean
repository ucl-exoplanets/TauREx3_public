/-
  Lemmas for C03 about `TaurexModel/MixLookup.lean`: the look-up rule of `get_gas_mix_profile` and the tables of a chemistry
  wrapped with `MakeFreeMixin`.
-/
import Proofs.RealInst
import TaurexModel.MixLookup

namespace Taurex.MixLookup

variable {β : Type}

theorem hasName_find (tbl : List (String × (ℕ → β))) (name : String) (h : hasName tbl name = true) :
    ∃ p, tbl.find? (fun p => p.1 == name) = some p ∧ p.1 = name := by
  unfold hasName at h
  rw [List.any_eq_true] at h
  obtain ⟨q, hq, hqn⟩ := h
  have hs : (tbl.find? (fun p => p.1 == name)).isSome := by
    rw [List.find?_isSome]; exact ⟨q, hq, hqn⟩
  obtain ⟨p, hp⟩ := Option.isSome_iff_exists.1 hs
  refine ⟨p, hp, ?_⟩
  have := List.find?_some hp
  simpa using this

theorem find?_of_not_hasName (tbl : List (String × (ℕ → β))) (name : String) (h : hasName tbl name = false) :
    tbl.find? (fun p => p.1 == name) = none := by
  rw [List.find?_eq_none]
  intro x hx hxn
  exact Bool.false_ne_true (h.symm.trans (List.any_eq_true.2 ⟨x, hx, hxn⟩))

theorem replaceRows_find (tbl : List (String × (ℕ → β))) (free : List (Free β)) (name : String) :
    (replaceRows tbl free).find? (fun p => p.1 == name)
      = (tbl.find? (fun p => p.1 == name)).map fun p => match free.find? (fun f => f.mol == p.1) with
          | some f => (p.1, f.prof)
          | none => p := by
  unfold replaceRows
  rw [List.find?_map]
  congr 1
  congr 1
  funext p
  simp only [Function.comp_apply]
  split <;> rfl

/-- a molecule of the wrapped chemistry that has been freed carries the free gas's profile in the un-normalised table
    (`tbl` the active or the inactive table, `more` the new molecules appended to it) -/
theorem replaceRows_freed (tbl more : List (String × (ℕ → β))) (free : List (Free β)) (f : Free β)
    (hf : free.find? (fun g => g.mol == f.mol) = some f) (h : hasName tbl f.mol = true) :
    (replaceRows tbl free ++ more).find? (fun p => p.1 == f.mol) = some (f.mol, f.prof) := by
  obtain ⟨p, hp, hpn⟩ := hasName_find tbl f.mol h
  rw [List.find?_append, replaceRows_find, hp]
  simp only [Option.map_some, Option.some_or, hpn, hf]

theorem rowOf_normalised (tbl : List (String × (ℕ → ℝ))) (N : ℕ → ℝ) (name : String) :
    rowOf (tbl.map fun p => (p.1, fun l => p.2 l / N l)) name
      = (tbl.find? (fun p => p.1 == name)).map fun p => fun l => p.2 l / N l := by
  unfold rowOf
  rw [List.find?_map, Option.map_map]
  rfl

theorem rawActive_none (active inactive : List (String × (ℕ → β))) (free : List (Free β)) (name : String)
    (hA : hasName active name = false) (hI : hasName inactive name = true) :
    (rawActive active inactive free).find? (fun p => p.1 == name) = none := by
  unfold rawActive
  rw [List.find?_append, replaceRows_find, find?_of_not_hasName active name hA]
  simp only [Option.map_none, Option.none_or]
  rw [List.find?_eq_none]
  intro x hx hxn
  unfold newGases at hx
  simp only [List.mem_map, List.mem_filter] at hx
  obtain ⟨g, ⟨_, hg⟩, rfl⟩ := hx
  simp only [beq_iff_eq] at hxn
  simp only [hxn, hI, Bool.not_true, Bool.and_false, Bool.false_and] at hg
  exact Bool.noConfusion hg

theorem tableWeight_eq_sum (mass : String → ℝ) (tbl : List (String × (ℕ → ℝ))) (l : ℕ) :
    tableWeight mass tbl l = (tbl.map (fun p => p.2 l * mass p.1)).sum := by
  unfold tableWeight
  rw [List.sum_eq_foldl, List.foldl_map]

theorem tableWeight_zero_row (mass : String → ℝ) (pre post : List (String × (ℕ → ℝ))) (n : String) (r : ℕ → ℝ) (l : ℕ)
    (h : r l = 0) : tableWeight mass (pre ++ (n, r) :: post) l = tableWeight mass (pre ++ post) l := by
  simp [tableWeight_eq_sum, h]

theorem tableWeight_scale (mass : String → ℝ) (tbl : List (String × (ℕ → ℝ))) (c : ℕ → ℝ) (l : ℕ) :
    tableWeight mass (tbl.map fun p => (p.1, fun k => p.2 k * c k)) l = tableWeight mass tbl l * c l := by
  rw [tableWeight_eq_sum, tableWeight_eq_sum, List.map_map, ← List.sum_map_mul_right]
  exact congrArg List.sum (List.map_congr_left fun p _ => mul_right_comm _ _ _)

/-- the mean molecular weight is linear in the published tables layer by layer: a factor that differs from layer to layer
    (as the renormalisation `1 / normFactor … l` of a makefree chemistry does) reaches `mu` of that layer -/
theorem muOf_scale (mass : String → ℝ) (active inactive : List (String × (ℕ → ℝ))) (c : ℕ → ℝ) (l : ℕ) :
    muOf mass (active.map fun p => (p.1, fun k => p.2 k * c k)) (inactive.map fun p => (p.1, fun k => p.2 k * c k)) l
      = muOf mass active inactive l * c l := by
  unfold muOf
  rw [tableWeight_scale, tableWeight_scale, add_mul]

end Taurex.MixLookup
