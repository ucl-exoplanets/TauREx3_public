/-
  The k-table cache (`CacheSM.stepK`): with one file per advertised name its loading loop is the cross-section loop
  (`foldl_loadStepK_eq`), hence the same machine.  The CIA cache (`CiaSM`): every pass only adds to dict and log (`Ext`); the scan
  over `.db` then `.cia` files of one directory or a list of directories is ONE loop over `scan` (`loadCiaWith_eq`), which
  constructs the first file advertising the pair and skips the rest (`forB_loadStep_first`).  Core only.
-/
import Proofs.C14Cache

namespace Taurex.CacheSM

theorem foldl_loadStepK_none (m : String) (fl : List FileEntry) (s : CSt) (h : ∀ e ∈ fl, e.disc ≠ m) :
    fl.foldl (loadStepK m) s = s :=
  foldl_noop _ fl s (fun e he => by
    have : (e.disc == m) = false := by simpa using h e he
    simp [loadStepK, this])

/-- with at most one file per advertised name, the k-table loop (which constructs every matching file) and the cross-section
    loop (which stops constructing once the molecule is cached) do the same -/
theorem foldl_loadStepK_eq (m : String) (fl : List FileEntry) (s : CSt) (hn : (fl.map (·.disc)).Nodup)
    (hk : hasKey s.dict m = false) : fl.foldl (loadStepK m) s = fl.foldl (loadStep m) s := by
  induction fl generalizing s with
  | nil => rfl
  | cons e fl ih =>
    simp only [List.map_cons, List.nodup_cons] at hn
    by_cases he : e.disc = m
    · have hrest : ∀ e' ∈ fl, e'.disc ≠ m := by
        intro e' h' hc
        exact hn.1 (by rw [he, ← hc]; exact List.mem_map_of_mem h')
      simp only [List.foldl_cons, loadStepK_new m s e he hk, foldl_loadStep_none m fl _ hrest,
        foldl_loadStepK_none m fl _ hrest]
    · have he' : (e.disc == m) = false := by simpa using he
      simp only [List.foldl_cons, loadStepK, loadStep, he', Bool.false_and, Bool.false_eq_true, if_false]
      exact ih s hn.2 hk

theorem curFiles_nodup (fs : List Dir) (hu : UniqueDisc fs) (s : CSt) : ((curFiles fs s).map (·.disc)).Nodup := by
  unfold curFiles
  cases s.path with
  | none => simp
  | some p =>
    simp only []
    cases hd : fs[p]? with
    | none => simp
    | some d =>
      simp only []
      by_cases hi : d.isDir = true
      · simp only [hi, if_true]
        exact hu d (List.mem_of_getElem? hd)
      · simp [hi]

theorem stepK_eq_step (fs : List Dir) (hu : UniqueDisc fs) (s : CSt) (op : COp) : stepK fs s op = step fs s op := by
  cases op with
  | get m =>
    simp only [stepK, step]
    cases hl : lookup s.dict m with
    | some o => rfl
    | none =>
      have : loadFromK fs m s = loadFrom fs m s :=
        foldl_loadStepK_eq m _ s (curFiles_nodup fs hu s) (hasKey_false_of_lookup hl)
      simp only [this]
  | _ => rfl

theorem runK_eq_run (fs : List Dir) (hu : UniqueDisc fs) (ops : List COp) (s : CSt) : runK fs s ops = run fs s ops := by
  simp only [runK, run, stepK_eq_step fs hu]

theorem traceK_eq_trace (fs : List Dir) (hu : UniqueDisc fs) (ops : List COp) (s : CSt) :
    traceK fs s ops = trace fs s ops := by
  induction ops generalizing s with
  | nil => rfl
  | cons op ops ih => simp only [traceK, trace, stepK_eq_step fs hu, ih]

end Taurex.CacheSM
namespace Taurex.CiaSM

variable (fs : List CDir)

open Taurex.Gen in
theorem hasKey_eq_dhas (d : List (String × CObj)) (m : String) : hasKey d m = Py.dhas d m := by
  unfold hasKey Py.dhas
  congr 1

open Taurex.Gen in
theorem lookup_eq_dget (d : List (String × CObj)) (m : String) : lookup d m = Py.dget d m := Py.find?_map_eq_dget d m

/-- what a request for the pair `m` does to the state (not `CacheSM.Ext`, which is about dicts): every entry kept, the log grown
    by constructor calls for `m` only, the path kept -/
def Ext (m : String) (s s' : St) : Prop :=
  (∀ k o, lookup s.dict k = some o → lookup s'.dict k = some o) ∧
  (∃ extra, s'.log = s.log ++ extra ∧ ∀ e ∈ extra, e.1 = m) ∧ s'.path = s.path

theorem Ext.refl (m : String) (s : St) : Ext m s s := ⟨fun _ _ h => h, ⟨[], by simp, by simp⟩, rfl⟩

theorem Ext.trans {m : String} {a b c : St} (h1 : Ext m a b) (h2 : Ext m b c) : Ext m a c := by
  obtain ⟨p1, ⟨e1, l1, q1⟩, r1⟩ := h1
  obtain ⟨p2, ⟨e2, l2, q2⟩, r2⟩ := h2
  refine ⟨fun k o h => p2 k o (p1 k o h), ⟨e1 ++ e2, by rw [l2, l1, List.append_assoc], ?_⟩, r2.trans r1⟩
  intro e he
  rcases List.mem_append.1 he with h | h
  · exact q1 e h
  · exact q2 e h

theorem addCia_ext (m : String) (s : St) (o : CObj) : Ext m s (addCia s o).1 := by
  unfold addCia
  split
  · exact Ext.refl m s
  · exact ⟨fun k o' h => by rw [lookup_eq_dget] at h ⊢; exact Gen.Py.dget_append_left _ _ k o' h, ⟨[], by simp, by simp⟩, rfl⟩

/-- constructing an object for `m` (logged) and handing it to `add_cia` -/
theorem construct_ext (m : String) (s : St) (f : Nat) (o : CObj) :
    Ext m s (addCia { s with nextId := s.nextId + 1, log := s.log ++ [(m, f)] } o).1 :=
  Ext.trans (b := { s with nextId := s.nextId + 1, log := s.log ++ [(m, f)] })
    ⟨fun _ _ h => h, ⟨[(m, f)], rfl, by simp⟩, rfl⟩ (addCia_ext m _ _)

theorem loadStepPinned_ext (m : String) (s : St) (e : CFile) : Ext m s (loadStepPinned m s e).1 := by
  unfold loadStepPinned
  split
  · exact construct_ext m s e.fileId _
  · exact Ext.refl m s

theorem loadStep_ext (m : String) (s : St) (e : CFile) : Ext m s (loadStep m s e).1 := by
  unfold loadStep
  split
  · exact construct_ext m s e.fileId _
  · exact Ext.refl m s

theorem forB_ext {β : Type} (m : String) (f : St → β → St × Bool) (hf : ∀ s x, Ext m s (f s x).1) (l : List β) (s : St) :
    Ext m s (forB f s l).1 := by
  fun_induction forB f s l with
  | case1 s => exact Ext.refl m s
  | case2 s x xs s' h => have := hf s x; rwa [h] at this
  | case3 s x xs s' h ih => have := hf s x; rw [h] at this; exact Ext.trans this ih

theorem forB_append {σ β : Type} (f : σ → β → σ × Bool) (l1 l2 : List β) (s : σ) :
    forB f s (l1 ++ l2) = match forB f s l1 with
      | (s', true) => (s', true)
      | (s', false) => forB f s' l2 := by
  fun_induction forB f s l1 with
  | case1 s => rfl
  | case2 s x xs s' h => simp only [List.cons_append, forB, h]
  | case3 s x xs s' h ih => simp only [List.cons_append, forB, h, ih]

theorem forB_flatMap {σ β γ : Type} (f : σ → β → σ × Bool) (g : γ → List β) (ps : List γ) (s : σ) :
    forB (fun s p => forB f s (g p)) s ps = forB f s (ps.flatMap g) := by
  fun_induction forB (fun s p => forB f s (g p)) s ps with
  | case1 s => rfl
  | case2 s p ps s' h => simp only [List.flatMap_cons, forB_append, h]
  | case3 s p ps s' h ih => simp only [List.flatMap_cons, forB_append, h, ih]

/-- the files of a directory in the order `load_cia_from_path` visits them: `.db` files, then `.cia` files -/
def dirScan (fs : List CDir) (p : Nat) : List CFile := dirFiles fs p .db ++ dirFiles fs p .cia

def scan (fs : List CDir) : Option CPath → List CFile
  | none => []
  | some (.single p) => dirScan fs p
  | some (.many ps) => ps.flatMap (dirScan fs)

theorem loadDirWith_eq (ls : String → St → CFile → St × Bool) (fs : List CDir) (m : String) (s : St) (p : Nat) :
    loadDirWith ls fs m s p = forB (ls m) s (dirScan fs p) := by
  unfold loadDirWith dirScan
  rw [forB_append]
  rcases forB (ls m) s (dirFiles fs p .db) with ⟨s', b⟩
  cases b <;> rfl

theorem loadCiaWith_eq (ls : String → St → CFile → St × Bool) (fs : List CDir) (m : String) (s : St) :
    loadCiaWith ls fs m s = forB (ls m) s (scan fs s.path) := by
  unfold loadCiaWith scan
  cases s.path with
  | none => rfl
  | some q =>
    cases q with
    | single p => exact loadDirWith_eq ls fs m s p
    | many ps =>
      have : loadDirWith ls fs m = fun s p => forB (ls m) s (dirScan fs p) := by
        funext s p; exact loadDirWith_eq ls fs m s p
      simp only [this]
      exact forB_flatMap (ls m) (dirScan fs) ps s

theorem step_get (s : St) (m : String) :
    step fs s (.get m) =
      match lookup s.dict m with
      | some o => (s, .served o)
      | none =>
        match loadCia fs m s with
        | (s', true) => (s', .dup)
        | (s', false) =>
          match lookup s'.dict m with
          | some o => (s', .served o)
          | none => (s', .missing) := rfl

theorem step_get_hit {fs : List CDir} {s : St} {m : String} {o : CObj} (h : lookup s.dict m = some o) :
    step fs s (.get m) = (s, .served o) := by
  rw [step_get]; simp only [h]

theorem step_get_state (s : St) (m : String) :
    (step fs s (.get m)).1 = s ∨ (step fs s (.get m)).1 = (loadCia fs m s).1 := by
  rw [step_get]
  cases lookup s.dict m with
  | some o => exact Or.inl rfl
  | none =>
    right
    rcases loadCia fs m s with ⟨s', b⟩
    cases b with
    | true => rfl
    | false => simp only []; cases lookup s'.dict m <;> rfl

theorem step_get_ext (s : St) (m : String) : Ext m s (step fs s (.get m)).1 := by
  rcases step_get_state fs s m with h | h <;> rw [h]
  · exact Ext.refl m s
  · rw [loadCia, loadCiaWith_eq]
    exact forB_ext m _ (loadStep_ext m) _ s

theorem step_add_ext (s : St) (m : String) :
    Ext m s (step fs s (.add m)).1 ∧ (step fs s (.add m)).1.log = s.log := by
  have he := addCia_ext m { s with nextId := s.nextId + 1 } { id := s.nextId, pair := m, src := none }
  have hl : (addCia { s with nextId := s.nextId + 1 } { id := s.nextId, pair := m, src := none }).1.log = s.log := by
    unfold addCia; split <;> rfl
  simp only [step, stepWith]
  rcases hc : addCia { s with nextId := s.nextId + 1 } { id := s.nextId, pair := m, src := none } with ⟨s', b⟩
  rw [hc] at he hl
  cases b <;> exact ⟨he, hl⟩

theorem step_keeps (s : St) (op : Op) (k : String) (o : CObj) (h : lookup s.dict k = some o) :
    lookup (step fs s op).1.dict k = some o := by
  cases op with
  | get m => exact (step_get_ext fs s m).1 k o h
  | setPath p => exact h
  | add m => exact (step_add_ext fs s m).1.1 k o h

theorem run_keeps (ops : List Op) (s : St) (k : String) (o : CObj) (h : lookup s.dict k = some o) :
    lookup (run fs s ops).dict k = some o :=
  foldl_inv _ (fun s => lookup s.dict k = some o) ops s (fun s op _ => step_keeps fs s op k o) h

theorem loadsOf_of_ext {m k : String} {s s' : St} (hne : m ≠ k) (h : Ext m s s') : loadsOf s' k = loadsOf s k := by
  obtain ⟨_, ⟨extra, hlog, hq⟩, _⟩ := h
  unfold loadsOf
  rw [hlog, List.filter_append, List.length_append]
  have : List.filter (fun e => e.1 == k) extra = [] := by
    rw [List.filter_eq_nil_iff]
    intro e he'
    simp [hq e he', hne]
  simp [this]

theorem step_loads (s : St) (op : Op) (k : String) (o : CObj) (h : lookup s.dict k = some o) :
    loadsOf (step fs s op).1 k = loadsOf s k := by
  cases op with
  | get m =>
    by_cases hmk : m = k
    · subst hmk; rw [step_get_hit h]
    · exact loadsOf_of_ext hmk (step_get_ext fs s m)
  | setPath p => rfl
  | add m => unfold loadsOf; rw [(step_add_ext fs s m).2]

theorem run_loads (ops : List Op) (s : St) (k : String) (o : CObj) (h : lookup s.dict k = some o) :
    loadsOf (run fs s ops) k = loadsOf s k :=
  (foldl_inv _ (fun s' => lookup s'.dict k = some o ∧ loadsOf s' k = loadsOf s k) ops s
    (fun s' op _ h' => ⟨step_keeps fs s' op k o h'.1, (step_loads fs s' op k o h'.1).trans h'.2⟩) ⟨h, rfl⟩).2

theorem step_get_ne_done (s : St) (m : String) : (step fs s (.get m)).2 ≠ .done := by
  rw [step_get]
  cases lookup s.dict m with
  | some o => nofun
  | none =>
    rcases loadCia fs m s with ⟨s', b⟩
    cases b with
    | true => nofun
    | false => simp only []; cases lookup s'.dict m <;> nofun

theorem step_get_served {fs : List CDir} {s : St} {m : String} {o : CObj} (h : (step fs s (.get m)).2 = .served o) :
    lookup (step fs s (.get m)).1.dict m = some o := by
  rw [step_get] at h ⊢
  cases hl : lookup s.dict m with
  | some o' => simp only [hl] at h ⊢; cases h; rfl
  | none =>
    simp only [hl] at h ⊢
    rcases hc : loadCia fs m s with ⟨s', b⟩
    simp only [hc] at h ⊢
    cases b with
    | true => cases h
    | false =>
      simp only [] at h ⊢
      cases hl2 : lookup s'.dict m with
      | some o' => simp only [hl2] at h ⊢; cases h; rfl
      | none => simp only [hl2] at h; cases h

/-! ### the scan skips every file once the pair is cached: the first container found for a pair is the one served -/

theorem mem_dirScan {fs : List CDir} {p : Nat} {e : CFile} (h : e ∈ dirScan fs p) : e ∈ fs.getD p [] := by
  unfold dirScan dirFiles at h
  rcases List.mem_append.1 h with h | h <;> exact (List.mem_filter.1 h).1

theorem mem_scan {fs : List CDir} {q : Option CPath} {e : CFile} (h : e ∈ scan fs q) : ∃ d ∈ fs, e ∈ d := by
  have key : ∀ p, e ∈ dirScan fs p → ∃ d ∈ fs, e ∈ d := by
    intro p hp
    have := mem_dirScan hp
    rw [List.getD_eq_getElem?_getD] at this
    cases hd : fs[p]? with
    | none => simp [hd] at this
    | some d => exact ⟨d, List.mem_of_getElem? hd, by simpa [hd] using this⟩
  cases q with
  | none => simp [scan] at h
  | some q =>
    cases q with
    | single p => exact key p h
    | many ps =>
      simp only [scan, List.mem_flatMap] at h
      obtain ⟨p, _, hp⟩ := h
      exact key p hp

theorem lookup_append_new (d : List (String × CObj)) (m : String) (o : CObj) (h : lookup d m = none) :
    lookup (d ++ [(m, o)]) m = some o := by
  rw [lookup_eq_dget] at h ⊢
  rw [Gen.Py.dget_append_none _ _ _ h]
  simp [Gen.Py.dget]

theorem hasKey_false_of_lookup {d : List (String × CObj)} {m : String} (h : lookup d m = none) : hasKey d m = false := by
  rw [hasKey_eq_dhas, Gen.Py.dhas_eq_isSome, ← lookup_eq_dget, h]; rfl

theorem forB_loadStep_cached (m : String) (l : List CFile) (s : St) (h : hasKey s.dict m = true) :
    forB (loadStep m) s l = (s, false) := by
  induction l with
  | nil => rfl
  | cons e l ih =>
    have : loadStep m s e = (s, false) := by
      unfold loadStep
      by_cases he : e.disc = m
      · simp [he, h]
      · have : (e.disc == m) = false := by simpa using he
        simp [this]
    simp only [forB, this, ih]

/-- the FIRST file advertising `m` is constructed and cached, every other file is skipped, nothing raises -/
theorem forB_loadStep_first (m : String) (l : List CFile) (hl : ∀ e ∈ l, objPair e = e.disc) (s : St)
    (h : hasKey s.dict m = false) :
    forB (loadStep m) s l =
      match l.find? (fun e => e.disc == m) with
      | none => (s, false)
      | some e0 => ({ s with dict := s.dict ++ [(m, { id := s.nextId, pair := m, src := some e0.fileId })],
                             log := s.log ++ [(m, e0.fileId)], nextId := s.nextId + 1 }, false) := by
  induction l with
  | nil => rfl
  | cons e l ih =>
    by_cases he : e.disc = m
    · have hobj : objPair e = m := by rw [hl e (by simp), he]
      have h1 : loadStep m s e =
          ({ s with dict := s.dict ++ [(m, { id := s.nextId, pair := m, src := some e.fileId })],
                    log := s.log ++ [(m, e.fileId)], nextId := s.nextId + 1 }, false) := by
        unfold loadStep addCia
        simp [he, h, hobj]
      have hfind : List.find? (fun e => e.disc == m) (e :: l) = some e := by simp [he]
      simp only [forB, h1, hfind]
      exact forB_loadStep_cached m l _ (by simp [hasKey])
    · have hne : (e.disc == m) = false := by simpa using he
      have h1 : loadStep m s e = (s, false) := by simp [loadStep, hne]
      have hfind : List.find? (fun e => e.disc == m) (e :: l) = List.find? (fun e => e.disc == m) l := by
        simp [List.find?, hne]
      simp only [forB, h1, hfind]
      exact ih (fun e' he' => hl e' (by simp [he']))

theorem scan_consistent {fs : List CDir} (hc : consistent fs) (q : Option CPath) : ∀ e ∈ scan fs q, objPair e = e.disc := by
  intro e he
  obtain ⟨d, hd, hed⟩ := mem_scan he
  exact hc d hd e hed

theorem step_get_none (hc : consistent fs) (s : St) (m : String) (hl : lookup s.dict m = none)
    (hf : (scan fs s.path).find? (fun e => e.disc == m) = none) : step fs s (.get m) = (s, .missing) := by
  have h := forB_loadStep_first m (scan fs s.path) (scan_consistent hc s.path) s (hasKey_false_of_lookup hl)
  rw [hf] at h
  rw [step_get]
  simp only [hl, loadCia, loadCiaWith_eq, h]

theorem step_get_first (hc : consistent fs) (s : St) (m : String) (hl : lookup s.dict m = none)
    (e0 : CFile) (hf : (scan fs s.path).find? (fun e => e.disc == m) = some e0) :
    step fs s (.get m) =
      ({ s with dict := s.dict ++ [(m, { id := s.nextId, pair := m, src := some e0.fileId })],
                log := s.log ++ [(m, e0.fileId)], nextId := s.nextId + 1 },
       .served { id := s.nextId, pair := m, src := some e0.fileId }) := by
  have h := forB_loadStep_first m (scan fs s.path) (scan_consistent hc s.path) s (hasKey_false_of_lookup hl)
  rw [hf] at h
  rw [step_get]
  simp only [hl, loadCia, loadCiaWith_eq, h, lookup_append_new _ _ _ hl]

theorem step_get_no_dup (hc : consistent fs) (s : St) (m : String) : (step fs s (.get m)).2 ≠ .dup := by
  cases hl : lookup s.dict m with
  | some o => rw [step_get_hit hl]; simp
  | none =>
    cases hf : (scan fs s.path).find? (fun e => e.disc == m) with
    | none => rw [step_get_none fs hc s m hl hf]; simp
    | some e0 => rw [step_get_first fs hc s m hl e0 hf]; simp

end Taurex.CiaSM
