/-
  C05: `FluxBinner.bindown` (model `fluxBinVal`, `fluxBinErr`) against the specification, and the
  order-independence / histogram lemmas.
-/
import Proofs.C05Window

namespace Taurex.Binning
open List Taurex.Interp

theorem exists_pos_of_sum_pos (rows : List (Row ℝ)) (a b : ℝ) (h : 0 < (rows.map (overlap a b)).sum) :
    ∃ r ∈ rows, 0 < overlap a b r :=
  List.exists_lt_of_sum_lt (fun _ => 0) (overlap a b) (by simpa using h)

theorem lt_of_sum_overlap_pos (rows : List (Row ℝ)) (a b : ℝ) (h : 0 < (rows.map (overlap a b)).sum) : a < b := by
  obtain ⟨r, _, hr⟩ := exists_pos_of_sum_pos rows a b h
  exact ((overlap_pos_iff a b r).1 hr).2.2.1

theorem slice_subset {β : Type} (l : List β) (s t : Nat) : ∀ r ∈ slice l s t, r ∈ l := by
  intro r hr
  exact List.mem_of_mem_drop (List.mem_of_mem_take hr)

theorem weight_eq_overlap (a b : ℝ) (r : Row ℝ) (hab : a < b) (hw : r.lo ≤ r.hi) (h1 : a ≤ r.hi) (h2 : r.lo ≤ b) :
    weight a b r = overlap a b r / (b - a) := by
  unfold weight
  rw [overlap_eq, mn_eq_min, mx_eq_max]
  have : max r.lo a ≤ min b r.hi := max_le (le_min h2 hw) (le_min hab.le h1)
  rw [max_eq_right (show (0:ℝ) ≤ min b r.hi - max r.lo a by linarith)]

theorem window_weights (rows : List (Row ℝ)) (a b : ℝ) (hne : rows ≠ [])
    (hord : OrderedBins rows) (hw : ∀ r ∈ rows, r.lo ≤ r.hi) (hab : a < b) (s t : Nat)
    (hwin : window rows a b = some (s, t)) :
    ∀ r ∈ slice rows s t, weight a b r = overlap a b r / (b - a) := by
  obtain ⟨_, _, W3⟩ := window_some rows a b hne hord s t hwin
  intro r hr
  exact weight_eq_overlap a b r hab (hw r (slice_subset rows s t r hr)) (W3 r hr).1 (W3 r hr).2

theorem window_of_pos (rows : List (Row ℝ)) (a b : ℝ) (hord : OrderedBins rows) (hw : ∀ r ∈ rows, r.lo ≤ r.hi)
    (hpos : 0 < (rows.map (overlap a b)).sum) :
    ∃ s t, window rows a b = some (s, t) ∧
      (∀ r ∈ slice rows s t, weight a b r = overlap a b r * (b - a)⁻¹) ∧
      ∀ f : Row ℝ → ℝ, (∀ r, overlap a b r = 0 → f r = 0) → ((slice rows s t).map f).sum = (rows.map f).sum := by
  obtain ⟨r0, hr0, hr0pos⟩ := exists_pos_of_sum_pos rows a b hpos
  have hne : rows ≠ [] := List.ne_nil_of_mem hr0
  have hab := lt_of_sum_overlap_pos rows a b hpos
  cases hwin : window rows a b with
  | none => exact absurd (window_none rows a b hord hwin r0 hr0) hr0pos.ne'
  | some st =>
    obtain ⟨s, t⟩ := st
    obtain ⟨W1, W2, _⟩ := window_some rows a b hne hord s t hwin
    have W3 : ∀ r ∈ slice rows s t, weight a b r = overlap a b r * (b - a)⁻¹ := fun r hr => by
      rw [window_weights rows a b hne hord hw hab s t hwin r hr, div_eq_mul_inv]
    exact ⟨s, t, rfl, W3,
      fun f hf => (sum_slice f rows s t (fun r hr => hf r (W1 r hr)) (fun r hr => hf r (W2 r hr))).symm⟩

theorem flux_eq_spec (val : Row ℝ → ℝ) (rows : List (Row ℝ)) (a b : ℝ)
    (hord : OrderedBins rows) (hw : ∀ r ∈ rows, r.lo ≤ r.hi) (hpos : 0 < sumL (rows.map (overlap a b))) :
    fluxBinVal val rows a b = overlapMeanSpec val rows a b := by
  rw [sumL_eq_sum] at hpos
  obtain ⟨s, t, hwin, W3, S⟩ := window_of_pos rows a b hord hw hpos
  have hba : 0 < b - a := sub_pos.2 (lt_of_sum_overlap_pos rows a b hpos)
  unfold fluxBinVal
  rw [hwin]
  simp only [sumL_eq_sum]
  rw [overlapMeanSpec_eq, List.map_congr_left W3, List.sum_map_mul_right, S (overlap a b) (fun _ h => h)]
  set T := (rows.map (overlap a b)).sum with hT
  have e2 : (slice rows s t).map (fun r => weight a b r / (T * (b - a)⁻¹) * val r) =
      (slice rows s t).map (fun r => overlap a b r * val r * T⁻¹) := by
    apply List.map_congr_left
    intro r hr
    rw [W3 r hr, mul_div_mul_right _ _ (inv_pos.2 hba).ne', div_eq_mul_inv, mul_right_comm]
  rw [e2, List.sum_map_mul_right, S (fun r => overlap a b r * val r) (fun r h => by rw [h, zero_mul]),
    div_eq_mul_inv]

theorem flux_linear (x y : Row ℝ → ℝ) (rows : List (Row ℝ)) (a b k₁ k₂ : ℝ) :
    fluxBinVal (fun r => k₁ * x r + k₂ * y r) rows a b =
      k₁ * fluxBinVal x rows a b + k₂ * fluxBinVal y rows a b := by
  unfold fluxBinVal
  cases window rows a b with
  | none => simp
  | some st =>
    obtain ⟨s, t⟩ := st
    simp only [sumL_eq_sum]
    rw [← List.sum_map_mul_left, ← List.sum_map_mul_left, ← List.sum_map_add]
    congr 1
    apply List.map_congr_left
    intro r _
    ring

/-- a target bin strictly outside every native bin comes out as 0, and no division is involved:
    either the bin is skipped or its window is empty -/
theorem flux_outside_zero (val : Row ℝ → ℝ) (rows : List (Row ℝ)) (a b : ℝ) (hne : rows ≠ [])
    (hord : OrderedBins rows) (hout : ∀ r ∈ rows, r.hi < a ∨ b < r.lo) :
    fluxBinVal val rows a b = 0 ∧ (∀ s t, window rows a b = some (s, t) → slice rows s t = []) := by
  have hempty : ∀ s t, window rows a b = some (s, t) → slice rows s t = [] := by
    intro s t hwin
    obtain ⟨_, _, W3⟩ := window_some rows a b hne hord s t hwin
    apply List.eq_nil_iff_forall_not_mem.2
    intro r hr
    rcases hout r (slice_subset rows s t r hr) with h1 | h2
    · exact not_le_of_gt h1 (W3 r hr).1
    · exact not_le_of_gt h2 (W3 r hr).2
  refine ⟨?_, hempty⟩
  unfold fluxBinVal
  cases hwin : window rows a b with
  | none => rfl
  | some st =>
    obtain ⟨s, t⟩ := st
    simp only [hempty s t hwin, List.map_nil, sumL, List.foldr_nil]

theorem window_none_of_outside (rows : List (Row ℝ)) (a b : ℝ) (hne : rows ≠ [])
    (hout : (∀ r ∈ rows, r.hi < a) ∨ (∀ r ∈ rows, b < r.lo)) : window rows a b = none := by
  have hn : 0 < rows.length := List.length_pos_iff.2 hne
  rw [window_unfold]
  have hsn : min (start0 rows a) (rows.length - 1) < rows.length := by omega
  have htn : min (stop0 rows b) (rows.length - 1) < rows.length := by omega
  rw [getD_map_getElem _ hsn, getD_map_getElem _ htn, if_neg]
  rintro ⟨h1, h2⟩
  rcases hout with h | h
  · exact not_lt_of_ge h1 (h _ (List.getElem_mem hsn))
  · exact not_lt_of_ge h2 (h _ (List.getElem_mem htn))

theorem sum_sq_nonneg (err : Row ℝ → ℝ) (rows : List (Row ℝ)) (a b : ℝ) :
    0 ≤ (rows.map (fun r => overlap a b r * overlap a b r * (err r * err r))).sum :=
  Convex.sum_map_nonneg rows _ fun _ _ => mul_nonneg (mul_self_nonneg _) (mul_self_nonneg _)

theorem fluxErr_eq_quad (err : Row ℝ → ℝ) (rows : List (Row ℝ)) (a b : ℝ)
    (hord : OrderedBins rows) (hw : ∀ r ∈ rows, r.lo ≤ r.hi) (hpos : 0 < sumL (rows.map (overlap a b))) :
    fluxBinErr err rows a b = quadErrSpec err rows a b := by
  rw [sumL_eq_sum] at hpos
  obtain ⟨s, t, hwin, W3, S⟩ := window_of_pos rows a b hord hw hpos
  have hba : 0 < b - a := sub_pos.2 (lt_of_sum_overlap_pos rows a b hpos)
  unfold fluxBinErr fluxBinNoise quadErrSpec
  rw [hwin]
  simp only [sumL_eq_sum, sqrt_real]
  have e2 : (slice rows s t).map (fun r => weight a b r * weight a b r * (err r * err r)) =
      (slice rows s t).map (fun r => overlap a b r * overlap a b r * (err r * err r) * ((b - a)⁻¹ * (b - a)⁻¹)) := by
    apply List.map_congr_left
    intro r hr
    rw [W3 r hr]
    ring
  rw [List.map_congr_left W3, e2, List.sum_map_mul_right, List.sum_map_mul_right, S (overlap a b) (fun _ h => h),
    S (fun r => overlap a b r * overlap a b r * (err r * err r)) (fun r h => by rw [h]; ring)]
  set T := (rows.map (overlap a b)).sum with hT
  set Q := (rows.map (fun r => overlap a b r * overlap a b r * (err r * err r))).sum with hQ
  have hQ0 : 0 ≤ Q := sum_sq_nonneg err rows a b
  have hc : (b - a)⁻¹ ≠ 0 := (inv_pos.2 hba).ne'
  have : Q * ((b - a)⁻¹ * (b - a)⁻¹) / (T * (b - a)⁻¹) / (T * (b - a)⁻¹) = Q / T ^ 2 := by
    rw [div_div, mul_mul_mul_comm, mul_div_mul_right _ _ (mul_ne_zero hc hc), ← sq]
  rw [this, Real.sqrt_div hQ0, Real.sqrt_sq hpos.le]

theorem nativeBins_perm (explicit : Bool) {rows₁ rows₂ : List (Row ℝ)} (hp : rows₁ ~ rows₂)
    (hd : (rows₁.map Row.c).Nodup) : nativeBins explicit rows₁ = nativeBins explicit rows₂ := by
  unfold nativeBins
  rw [sortBy_eq_of_perm Row.c hp hd]

theorem targetBins_perm (mode : WidthMode ℝ) {ts₁ ts₂ : List (TBin ℝ)} (hp : ts₁ ~ ts₂)
    (hd : (ts₁.map TBin.c).Nodup) : targetBins mode ts₁ = targetBins mode ts₂ := by
  unfold targetBins
  rw [sortBy_eq_of_perm TBin.c hp hd]

theorem disjoint_bins_ordered (rows : List (Row ℝ)) (hw : ∀ r ∈ rows, r.lo ≤ r.hi)
    (hdis : rows.Pairwise (fun r r' => r.hi ≤ r'.lo)) : OrderedBins rows := by
  constructor
  · refine (List.Pairwise.and_mem.1 hdis).imp ?_
    rintro r r' ⟨hr, _, h⟩
    exact le_trans (hw r hr) h
  · refine (List.Pairwise.and_mem.1 hdis).imp ?_
    rintro r r' ⟨_, hr', h⟩
    exact le_trans h (hw r' hr')

/-- number of selected points as the code counts them: a sum of ones -/
theorem sum_ones (sel : List (Row ℝ)) : sumL (sel.map (fun _ => (1 : ℝ))) = (sel.length : ℝ) := by
  rw [sumL_eq_sum]
  induction sel with
  | nil => simp
  | cons x t ih => simp only [List.map_cons, List.sum_cons, List.length_cons, ih]; push_cast; ring

theorem meanOf_eq (val : Row ℝ → ℝ) (sel : List (Row ℝ)) :
    meanOf val sel = (sel.map val).sum / (sel.length : ℝ) := by
  unfold meanOf
  rw [sum_ones, sumL_eq_sum]

theorem mem_edgePairs : ∀ (l : List ℝ), ∀ p ∈ edgePairs l, p.1 ∈ l ∧ p.2.1 ∈ l
  | [], p, hp | [_], p, hp => by simp [edgePairs] at hp
  | [a, b], p, hp => by
    simp only [edgePairs, List.mem_singleton] at hp
    subst hp
    simp
  | a :: b :: c :: t, p, hp => by
    rcases List.mem_cons.1 (show p ∈ (a, b, false) :: edgePairs (b :: c :: t) from hp) with rfl | hp
    · simp
    · exact (mem_edgePairs (b :: c :: t) p hp).imp (List.mem_cons_of_mem _) (List.mem_cons_of_mem _)

theorem hist_filters_agree (rows : List (Row ℝ)) (lo hi : ℝ) (last : Bool)
    (hno : ∀ r ∈ rows, r.c ≠ lo ∧ r.c ≠ hi) :
    rows.filter (fun r => inHist lo hi last r.c) = rows.filter (fun r => decide (lo < r.c ∧ r.c < hi)) ∧
    rows.filter (fun r => inDigit lo hi r.c) = rows.filter (fun r => decide (lo < r.c ∧ r.c < hi)) := by
  constructor <;> refine List.filter_congr (fun r hr => ?_) <;> obtain ⟨h1, h2⟩ := hno r hr
  · cases last <;> simp [inHist, lt_iff_le_and_ne, h1.symm, h2]
  · simp [inDigit, lt_iff_le_and_ne, h1.symm, h2]

theorem hist_perm (val : Row ℝ → ℝ) {rows₁ rows₂ : List (Row ℝ)} (hp : rows₁ ~ rows₂) (nb : List ℝ) :
    histMean1 val rows₁ nb = histMean1 val rows₂ nb ∧ histMeanN val rows₁ nb = histMeanN val rows₂ nb := by
  constructor
  · unfold histMean1
    apply List.map_congr_left
    intro p _
    rw [meanOf_eq, meanOf_eq, ((hp.filter _).map _).sum_eq, (hp.filter _).length_eq]
  · unfold histMeanN
    apply List.map_congr_left
    intro p _
    rw [meanOf_eq, meanOf_eq, ((hp.filter _).map _).sum_eq, (hp.filter _).length_eq]

end Taurex.Binning
