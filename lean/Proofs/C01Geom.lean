/-
  The 3-D line/sphere geometry of `new_path_method=True` equals the closed-form chord differences.
  Every line of sight is, after `compute_line_3d`, the ray `o = (-X, b, 0)`, `u = (1, 0, 0)`: the quadratic of a sphere
  is solved once for that ray (`hitDistance_axis`), the shell grid then decides which spheres are hit.
-/
import Proofs.C01
import Proofs.C01Max

namespace Taurex.Geometry
open Taurex.Transmission

/-! ### lists: the selection `filt` of `compute_path_length_3d` and indexing into `range'` -/

theorem filter_range_ge (m a : ℕ) (ha : a ≤ m) (p : ℕ → Bool) (h : ∀ j < m, p j = true ↔ a ≤ j) :
    (List.range m).filter p = List.range' a (m - a) := by
  have e : List.range m = List.range' 0 a ++ List.range' a (m - a) := by
    have h1 := List.range'_append_1 (s := 0) (m := a) (n := m - a)
    rw [Nat.zero_add, Nat.add_sub_cancel' ha] at h1
    rw [List.range_eq_range', h1]
  have h1 : (List.range' 0 a).filter p = [] := by
    rw [List.filter_eq_nil_iff]
    intro j hj hp
    have hj' := List.mem_range'_1.1 hj
    have := (h j (by omega)).1 hp
    omega
  have h2 : (List.range' a (m - a)).filter p = List.range' a (m - a) := by
    rw [List.filter_eq_self]
    intro j hj
    have hj' := List.mem_range'_1.1 hj
    exact (h j (by omega)).2 hj'.1
  rw [e, List.filter_append, h1, h2, List.nil_append]

theorem getD_map_range' {β : Type} (f : ℕ → β) (a len k : ℕ) (d : β) (hk : k < len) :
    ((List.range' a len).map f).getD k d = f (a + k) := by
  simp [List.getD, hk]

theorem clamp0_of_nonneg {d : ℝ} (h : 0 ≤ d) : clamp0 d = d := by
  unfold clamp0; rw [if_neg (not_lt.2 h)]

theorem clamp0_of_neg {d : ℝ} (h : d < 0) : clamp0 d = 0 := by
  unfold clamp0; rw [if_pos h]

section axis
variable (X b : ℝ)

theorem dot_axis : dot ⟨1, 0, 0⟩ (⟨-X, b, 0⟩ : V3 ℝ) = -X := by
  simp only [dot, V3.mul, V3.sum]; ring

theorem normSq_axis : normSq (⟨-X, b, 0⟩ : V3 ℝ) = X * X + b * b := by
  simp only [normSq, V3.mul, V3.sum]; ring

theorem point_axis (d : ℝ) : (⟨-X, b, 0⟩ : V3 ℝ).add (V3.smul d ⟨1, 0, 0⟩) = ⟨-X + d, b, 0⟩ := by
  simp only [V3.add, V3.smul, mul_one, mul_zero, add_zero]

theorem dist_axis (d e : ℝ) : norm ((⟨-X + d, b, 0⟩ : V3 ℝ).sub ⟨-X + e, b, 0⟩) = |d - e| := by
  simp only [norm, normSq, V3.sub, V3.mul, V3.sum, sqrt_real, sub_self, mul_zero, add_zero]
  rw [← Real.sqrt_mul_self_eq_abs]; congr 1; ring

theorem intersect_delta (R h : ℝ) :
    (intersect R h ⟨1, 0, 0⟩ ⟨-X, b, 0⟩).delta = (R + h) * (R + h) - b * b := by
  simp only [intersect, dot_axis, normSq_axis]
  ring

/-- If the ray does not cross the planet, the two stored points are the points of the ray at the clamped parameters
    `X ± sqrt D`, in one order or the other: their distance is the difference of the parameters. -/
theorem hitDistance_axis (R h : ℝ) (hc : R * R - b * b ≤ 0) :
    hitDistance (intersect R h ⟨1, 0, 0⟩ ⟨-X, b, 0⟩)
      = |clamp0 (X + Real.sqrt ((R + h) * (R + h) - b * b)) - clamp0 (X - Real.sqrt ((R + h) * (R + h) - b * b))| := by
  have eD : -X * -X - (X * X + b * b) + (R + h) * (R + h) = (R + h) * (R + h) - b * b := by ring
  have eP : ¬ 0 < -X * -X - (X * X + b * b) + R * R := by
    rw [not_lt]; linarith
  simp only [hitDistance, intersect, dot_axis, normSq_axis, point_axis, eD, if_neg eP, neg_neg, sqrt_real]
  split
  · rw [dist_axis, abs_sub_comm]
  · rw [dist_axis]

variable {X b}

/-- origin outside the sphere: both parameters are kept, the distance is the full chord -/
theorem hitDistance_eq (R h : ℝ) (hX : 0 ≤ X) (ho : (R + h) * (R + h) - b * b ≤ X * X) (hc : R * R - b * b ≤ 0) :
    hitDistance (intersect R h ⟨1, 0, 0⟩ ⟨-X, b, 0⟩) = 2 * Real.sqrt ((R + h) * (R + h) - b * b) := by
  have hs0 := Real.sqrt_nonneg ((R + h) * (R + h) - b * b)
  have hsX := Real.sqrt_le_sqrt ho
  rw [Real.sqrt_mul_self hX] at hsX
  rw [hitDistance_axis X b R h hc, clamp0_of_nonneg (add_nonneg hX hs0), clamp0_of_nonneg (sub_nonneg.2 hsX),
    add_sub_sub_cancel, ← two_mul, abs_of_nonneg (mul_nonneg zero_le_two hs0)]

/-- the origin strictly inside a sphere: the near intersection parameter is clamped to 0, the "chord" becomes
    origin-to-far-side, `X + sqrt D` instead of `2 sqrt D` -/
theorem hitDistance_clipped (R h : ℝ) (hX : 0 ≤ X) (ho : X * X < (R + h) * (R + h) - b * b) (hc : R * R - b * b ≤ 0) :
    hitDistance (intersect R h ⟨1, 0, 0⟩ ⟨-X, b, 0⟩) = X + Real.sqrt ((R + h) * (R + h) - b * b) := by
  have hsX := Real.sqrt_lt_sqrt (mul_self_nonneg X) ho
  rw [Real.sqrt_mul_self hX] at hsX
  have h0 : 0 ≤ X + Real.sqrt ((R + h) * (R + h) - b * b) := by linarith
  rw [hitDistance_axis X b R h hc, clamp0_of_nonneg h0, clamp0_of_neg (sub_neg.2 hsX), sub_zero, abs_of_nonneg h0]

/-- a sphere the ray misses (negative discriminant; `Real.sqrt` of it is 0): both stored points coincide, distance 0 -/
theorem hitDistance_of_delta_neg (R h : ℝ) (hd : (R + h) * (R + h) - b * b < 0) (hc : R * R - b * b ≤ 0) :
    hitDistance (intersect R h ⟨1, 0, 0⟩ ⟨-X, b, 0⟩) = 0 := by
  rw [hitDistance_axis X b R h hc, Real.sqrt_eq_zero_of_nonpos hd.le, add_zero, sub_zero, sub_self, abs_zero]

end axis

/-- `compute_line_3d` of `parallel_vector`: origin `(-X, b, 0)` and direction `(1, 0, 0)`, `X = R + 2·max_alt > 0` -/
theorem line_of_parallel (R alt M : ℝ) (hX : 0 < R + M * 2) :
    line3d (parallelVector R alt M).1 (parallelVector R alt M).2
      = (⟨-(R + M * 2), R + alt, 0⟩, ⟨1, 0, 0⟩) := by
  have hn : norm ((⟨0, R + alt, 0⟩ : V3 ℝ).sub ⟨-(R + M * 2), R + alt, 0⟩) = R + M * 2 := by
    have := dist_axis (R + M * 2) (R + alt) (R + M * 2) 0
    rwa [neg_add_cancel, add_zero, sub_zero, abs_of_pos hX] at this
  simp only [line3d, parallelVector, normalize, hn]
  rw [if_neg (fun h => absurd h.1 (not_le.2 hX))]
  simp only [V3.sub, sub_self, zero_div, sub_neg_eq_add, zero_add, div_self hX.ne']

/-- what the geometry needs beyond `Shells`: a positive planet radius, the surface not below the reference
    radius, and layers of strictly positive thickness (a layer of zero thickness makes two boundary spheres
    tangent to the ray, both are then "hit" with length 0 and every later segment shifts by one index) -/
structure GeomOK (rp : ℝ) (n : ℕ) (zb z dz : ℕ → ℝ) : Prop where
  shells : Shells rp n zb z dz
  rp_pos : 0 < rp
  surface : 0 ≤ zb 0
  strict : ∀ l < n, 0 < dz l

theorem geomOK_unit (n : ℕ) : GeomOK (1 : ℝ) n (fun l => (l : ℝ)) (fun l => (l : ℝ)) (fun _ => 1) :=
  ⟨shells_unit n, one_pos, by simp, fun _ _ => one_pos⟩

namespace GeomOK
variable {rp : ℝ} {n : ℕ} {zb z dz : ℕ → ℝ}

theorem max_nonneg (G : GeomOK rp n zb z dz) : 0 ≤ arrMax n zb :=
  le_trans G.surface (arrMax_ge n zb 0 (Nat.zero_le _))

theorem X_pos (G : GeomOK rp n zb z dz) : 0 < rp + arrMax n zb * 2 :=
  add_pos_of_pos_of_nonneg G.rp_pos (mul_nonneg G.max_nonneg zero_le_two)

theorem zb_nonneg (G : GeomOK rp n zb z dz) (j : ℕ) (hj : j ≤ n) : 0 ≤ zb j :=
  le_trans G.surface (G.shells.zb_mono 0 j (Nat.zero_le _) hj)

/-- tangent radius of layer `l`: strictly between its two boundary spheres -/
theorem b_bounds (G : GeomOK rp n zb z dz) (l : ℕ) (hl : l < n) :
    rp + zb l < rp + (z l + dz l / 2) ∧ rp + (z l + dz l / 2) < rp + zb (l + 1) := by
  have h := G.strict l hl
  rw [G.shells.hz l hl, G.shells.step l hl]
  exact ⟨add_lt_add_right (lt_add_of_pos_right _ (half_pos h)) _,
    add_lt_add_right (add_lt_add_right (half_lt_self h) _) _⟩

theorem no_crossing (G : GeomOK rp n zb z dz) (l : ℕ) (hl : l < n) :
    rp * rp - (rp + (z l + dz l / 2)) * (rp + (z l + dz l / 2)) ≤ 0 :=
  sub_nonpos.2 (mul_self_le_mul_self G.rp_pos.le
    ((le_add_of_nonneg_right (G.zb_nonneg l hl.le)).trans (G.b_bounds l hl).1.le))

theorem delta_pos (G : GeomOK rp n zb z dz) (l : ℕ) (hl : l < n) (j : ℕ) (hlj : l + 1 ≤ j) (hj : j ≤ n) :
    0 < (rp + zb j) * (rp + zb j) - (rp + (z l + dz l / 2)) * (rp + (z l + dz l / 2)) := by
  obtain ⟨hb1, hb2⟩ := G.b_bounds l hl
  exact sub_pos.2 (mul_self_lt_mul_self ((add_nonneg G.rp_pos.le (G.zb_nonneg l hl.le)).trans hb1.le)
    (hb2.trans_le (add_le_add_right (G.shells.zb_mono (l + 1) j hlj hj) _)))

theorem delta_neg (G : GeomOK rp n zb z dz) (l : ℕ) (hl : l < n) (j : ℕ) (hjl : j ≤ l) :
    (rp + zb j) * (rp + zb j) - (rp + (z l + dz l / 2)) * (rp + (z l + dz l / 2)) < 0 :=
  sub_neg.2 (mul_self_lt_mul_self (add_nonneg G.rp_pos.le (G.zb_nonneg j (hjl.trans hl.le)))
    ((add_le_add_right (G.shells.zb_mono j l hjl hl.le) _).trans_lt (G.b_bounds l hl).1))

/-- the ray origin lies outside (or on) every boundary sphere: `(R+zb_j)² - b² ≤ X²`, `X = R + 2·max(zb)`.
    This is the hypothesis the clamp `d[d < 0] = 0` would otherwise break. -/
theorem origin_outside (G : GeomOK rp n zb z dz) (b : ℝ) (j : ℕ) (hj : j ≤ n) :
    (rp + zb j) * (rp + zb j) - b * b ≤ (rp + arrMax n zb * 2) * (rp + arrMax n zb * 2) := by
  have h := mul_self_le_mul_self (add_nonneg G.rp_pos.le (G.zb_nonneg j hj))
    (add_le_add_right ((arrMax_ge n zb j hj).trans (le_mul_of_one_le_right G.max_nonneg one_le_two)) rp)
  exact (sub_le_self _ (mul_self_nonneg b)).trans h

theorem good_iff (G : GeomOK rp n zb z dz) (l : ℕ) (hl : l < n) (j : ℕ)
    (hj : j < n + 1) :
    0 ≤ (rp + zb j) * (rp + zb j) - (rp + (z l + dz l / 2)) * (rp + (z l + dz l / 2)) ↔ l + 1 ≤ j := by
  constructor
  · intro h
    by_contra hcon
    exact absurd (G.delta_neg l hl j (by omega)) (not_lt.2 h)
  · intro h
    exact (G.delta_pos l hl j h (by omega)).le

end GeomOK

theorem layerDists_eq {rp : ℝ} {n : ℕ} {zb z dz : ℕ → ℝ} (G : GeomOK rp n zb z dz) (l : ℕ) (hl : l < n) :
    layerDists rp n zb z dz l = (List.range' (l + 1) (n - l)).map (fun j => newD rp zb z dz l j) := by
  simp only [layerDists]
  rw [line_of_parallel rp (z l + dz l / 2) (arrMax n zb) G.X_pos]
  simp only [rayDists, goodSpheres]
  rw [filter_range_ge (n + 1) (l + 1) (by omega), Nat.add_sub_add_right]
  · apply List.map_congr_left
    intro j hj
    have hj' := List.mem_range'_1.1 hj
    -- `newD` unfolds (`sq`, `newB`, the real `sqrt`) to `2 * Real.sqrt ((R + zb j)² - b²)`, the right side of `hitDistance_eq`
    exact hitDistance_eq rp (zb j) G.X_pos.le (G.origin_outside _ j (by omega)) (G.no_crossing l hl)
  · intro j hj
    rw [decide_eq_true_iff, intersect_delta]
    exact G.good_iff l hl j hj

end Taurex.Geometry
