/-
  What needs neither algebra nor order laws about TaurexModel/Loaders.lean: the block grouping of an Exo-Transmit body
  (`exoGroup`), index and length facts of `argsort` and `sortTs`, the insertion of a block into the HITRAN range objects (`upsert`),
  the reading loop of `load_hitran_file` as a fold of `hStep`, and `decHitran` / `hitranUnified` as the composition of their stages
  (`decHitran_eq`, `hitranUnified_eq`).  Core only; generic in the carrier.
-/
import TaurexModel.Loaders
import Proofs.FoldCore

namespace Taurex.Loaders
variable {α : Type}

theorem getD_append_length {β : Type} (l : List β) (x : β) (r : List β) (d : β) : (l ++ x :: r).getD l.length d = x := by
  rw [List.getD_eq_getElem?_getD, List.getElem?_append_right (Nat.le_refl _), Nat.sub_self]; rfl

theorem exoGroup_rows (rows : List (List α)) (acc : List (List α) × List (α × List (List α)))
    (h : ∀ r ∈ rows, r.length ≠ 1) : rows.foldr exoGroupStep acc = (rows ++ acc.1, acc.2) := by
  induction rows with
  | nil => rfl
  | cons r rows ih =>
    rw [List.foldr_cons, ih (fun x hx => h x (by simp [hx]))]
    have hr := h r (by simp)
    unfold exoGroupStep
    split
    · simp at hr
    · rfl

/-- a block is a one-number wavelength line, then rows that are not one-number lines -/
theorem exoGroup_blocks (bs : List (α × List (List α))) (h : ∀ b ∈ bs, ∀ r ∈ b.2, r.length ≠ 1) :
    exoGroup (bs.flatMap (fun b => [b.1] :: b.2)) = bs := by
  unfold exoGroup
  have key : (bs.flatMap (fun b => [b.1] :: b.2)).foldr exoGroupStep ([], []) = ([], bs) := by
    induction bs with
    | nil => rfl
    | cons b bs ih =>
      simp only [List.flatMap_cons, List.cons_append, List.foldr_cons, List.foldr_append,
        ih (fun x hx => h x (by simp [hx])), exoGroup_rows _ _ (h b (by simp))]
      simp [exoGroupStep]
  rw [key]

section
variable [LE α] [DecidableLE α]

theorem argsort_lt (l : List α) : ∀ i ∈ argsort l, i < l.length := by
  intro i hi
  unfold argsort at hi
  obtain ⟨p, hp, rfl⟩ := List.mem_map.1 hi
  have := List.snd_lt_of_mem_zipIdx (List.mem_mergeSort.1 hp)
  simpa using this

theorem argsort_length (l : List α) : (argsort l).length = l.length := by
  simp [argsort]

theorem sortTs_ne_nil {ts : List (α × List α)} (h : ts ≠ []) : sortTs ts ≠ [] := fun h0 =>
  h (List.eq_nil_of_length_eq_zero (by rw [← List.length_mergeSort (le := fun a b => decide (a.1 ≤ b.1)), ← sortTs, h0]; rfl))

theorem upsert_keys (gs : List (HGrid α)) (k : α × α) (wn : List α) (e : α × List α) :
    (upsert gs k wn e).map (·.key) =
      if gs.any (fun g => keyEq g.key k) then gs.map (·.key) else gs.map (·.key) ++ [k] := by
  unfold upsert
  split
  · rw [List.map_map]
    apply List.map_congr_left
    intro g _
    simp only [Function.comp]
    split <;> rfl
  · rw [List.map_append]; rfl

theorem mem_upsert {gs : List (HGrid α)} {k : α × α} {wn : List α} {e : α × List α} {g' : HGrid α}
    (h : g' ∈ upsert gs k wn e) :
    (∃ g ∈ gs, keyEq g.key k = false ∧ g' = g) ∨
    (∃ g ∈ gs, keyEq g.key k = true ∧ g' = { g with wn := wn, ts := g.ts ++ [e] }) ∨
    (gs.any (fun g => keyEq g.key k) = false ∧ g' = { key := k, wn := wn, ts := [e] }) := by
  unfold upsert at h
  split at h
  · obtain ⟨g, hg, rfl⟩ := List.mem_map.mp h
    cases hk : keyEq g.key k
    · exact Or.inl ⟨g, hg, hk, rfl⟩
    · exact Or.inr (Or.inl ⟨g, hg, hk, rfl⟩)
  · rename_i hany
    rcases List.mem_append.mp h with h | h
    · refine Or.inl ⟨g', h, ?_, rfl⟩
      cases hk : keyEq g'.key k
      · rfl
      · exact absurd (List.any_eq_true.mpr ⟨g', h, hk⟩) hany
    · exact Or.inr (Or.inr ⟨by simpa using hany, List.mem_singleton.mp h⟩)

theorem upsert_ts_ne_nil (grids : List (HGrid α)) (key : α × α) (wn : List α) (e : α × List α)
    (h : ∀ g ∈ grids, g.ts ≠ []) : ∀ g ∈ upsert grids key wn e, g.ts ≠ [] := by
  intro g' hg'
  rcases mem_upsert hg' with ⟨_, hg, -, rfl⟩ | ⟨g, hg, -, rfl⟩ | ⟨-, rfl⟩
  · exact h _ hg
  · simp
  · simp

end

section
variable [Mul α] [Div α] [LT α] [LE α] [DecidableLT α] [DecidableLE α] [OfNat α 0] [OfNat α 1] [OfNat α 10000000000]

/-- the body of the reading loop of `load_hitran_file` -/
def hStep (acc : List α × List (HGrid α)) (b : HBlock α) : List α × List (HGrid α) :=
  (if memv b.temp acc.1 then acc.1 else acc.1 ++ [b.temp],
   upsert acc.2 (b.wn0, b.wn1) (b.pts.map (·.1)) (b.temp, b.pts.map (fun q => clipSigma q.2)))

theorem hLoad_eq (blocks : List (HBlock α)) : hLoad blocks = blocks.foldl hStep ([], []) := rfl

section
variable [Sub α]

theorem decHitran_eq (blocks : List (HBlock α)) :
    decHitran blocks =
      finalGrid ((hLoad blocks).1.mergeSort (fun a b => decide (a ≤ b)))
        (fillGaps ((hLoad blocks).1.mergeSort (fun a b => decide (a ≤ b))) (hLoad blocks).2) := by
  unfold decHitran
  rfl

theorem hitranUnified_eq (blocks : List (HBlock α)) : hitranUnified blocks =
    unifiedTable ((hLoad blocks).1.mergeSort (fun a b => decide (a ≤ b))) (hLoad blocks).2 := rfl

end

theorem hLoad_ts_ne_nil (blocks : List (HBlock α)) : ∀ g ∈ (hLoad blocks).2, g.ts ≠ [] :=
  foldl_inv hStep (fun acc => ∀ g ∈ acc.2, g.ts ≠ []) blocks _ (fun acc _ _ h => upsert_ts_ne_nil acc.2 _ _ _ h) (by simp)

end

end Taurex.Loaders
