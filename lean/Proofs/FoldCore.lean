/-
  Loops as `List.foldl`: the four ways in which the translated sources' loops are compared with the models.
  (1) an invariant, or a relation between the state before and after; (2) two loops that stay related, of which a
  projection, an encoding and a pointwise equal body are the usual cases; (3) a loop over positions whose pass `i` writes
  slot `i` only: what holds of each slot afterwards (`foldl_range'_inv`) and what each slot holds (`foldl_range'_slots`);
  (4) a loop that only accumulates, as a closed form.  Core Lean only, no import.  Three more loop lemmas stay with the one
  cluster that uses them: the loop that stops at a test (`cutLoop`, `foldl_break`: `Proofs/C01SrcLemmas.lean`), the loop
  that stores into a list by position (`foldl_enum_set`: `Proofs/C05SrcNp.lean`), a loop that follows a sequence
  (`foldl_range_eq_seq`: `Proofs/C19.lean`).
-/

namespace Taurex

/-! ### (1) invariants -/

/-- the invariant may speak of the elements already visited -/
theorem foldl_prefix_inv {σ ι : Type} (f : σ → ι → σ) (I : σ → List ι → Prop) (l : List ι)
    (h : ∀ s seen i rest, l = seen ++ i :: rest → I s seen → I (f s i) (seen ++ [i])) (s : σ) (hs : I s []) :
    I (l.foldl f s) l := by
  have key : ∀ (rest seen : List ι) (s : σ), l = seen ++ rest → I s seen → I (rest.foldl f s) l := by
    intro rest
    induction rest with
    | nil => intro seen s hl hs; rwa [hl, List.append_nil]
    | cons i rest ih =>
      intro seen s hl hs
      exact ih (seen ++ [i]) (f s i) (by rw [hl, List.append_assoc, List.singleton_append]) (h s seen i rest hl hs)
  exact key l [] s rfl hs

/-- every pass moves the state along a reflexive, transitive `R`: so does the loop -/
theorem foldl_along {σ ι : Type} (f : σ → ι → σ) (R : σ → σ → Prop) (refl : ∀ s, R s s)
    (trans : ∀ {a b c}, R a b → R b c → R a c) :
    ∀ (l : List ι) (s : σ), (∀ s, ∀ i ∈ l, R s (f s i)) → R s (l.foldl f s)
  | [], s, _ => refl s
  | i :: l, s, h =>
    trans (h s i (by simp)) (foldl_along f R refl trans l (f s i) (fun s j hj => h s j (by simp [hj])))

theorem foldl_inv {σ ι : Type} (f : σ → ι → σ) (I : σ → Prop) (l : List ι) (s : σ) (h : ∀ s, ∀ i ∈ l, I s → I (f s i))
    (hs : I s) : I (l.foldl f s) :=
  List.foldlRecOn l f hs fun b hb a ha => h b a ha hb

/-- a projection of the state that no pass writes is what it was -/
theorem foldl_keeps {σ ι γ : Type} (f : σ → ι → σ) (p : σ → γ) (l : List ι) (s : σ)
    (h : ∀ s, ∀ i ∈ l, p (f s i) = p s) : p (l.foldl f s) = p s :=
  foldl_inv f (p · = p s) l s (fun s' i hi e => (h s' i hi).trans e) rfl

theorem foldl_noop {σ ι : Type} (f : σ → ι → σ) (l : List ι) (s : σ) (h : ∀ i ∈ l, f s i = s) : l.foldl f s = s :=
  foldl_inv f (· = s) l s (fun _ i hi e => e ▸ h i hi) rfl

/-- the running extremum of `max(l)` / `min(l)`: a loop that moves from `a` to `b` when the test `R a b` holds ends at
    an `S`-upper bound of the seed and of every element, `S` being a preorder that holds where the test does and the
    other way round where it fails (`R` is `≤` or `<`, `S` is `≤`; for the minimum both reversed) -/
theorem foldl_sel_bound {κ : Type} (R S : κ → κ → Prop) [DecidableRel R] (hrefl : ∀ a, S a a)
    (htr : ∀ a b c, S a b → S b c → S a c) (hpos : ∀ a b, R a b → S a b) (hneg : ∀ a b, ¬ R a b → S b a)
    (l : List κ) (a : κ) :
    S a (l.foldl (fun a b => if R a b then b else a) a) ∧
      ∀ x ∈ l, S x (l.foldl (fun a b => if R a b then b else a) a) := by
  induction l generalizing a with
  | nil => exact ⟨hrefl a, fun x hx => absurd hx List.not_mem_nil⟩
  | cons y t ih =>
    rw [List.foldl_cons]
    by_cases h : R a y
    · rw [if_pos h]
      exact ⟨htr _ _ _ (hpos a y h) (ih y).1, fun x hx => (List.mem_cons.1 hx).elim (fun e => e ▸ (ih y).1) ((ih y).2 x)⟩
    · rw [if_neg h]
      exact ⟨(ih a).1, fun x hx => (List.mem_cons.1 hx).elim (fun e => e ▸ htr _ _ _ (hneg a y h) (ih a).1) ((ih a).2 x)⟩

/-- … and it ends at the seed or at an element -/
theorem foldl_sel_mem {κ : Type} (R : κ → κ → Prop) [DecidableRel R] :
    ∀ (l : List κ) (a : κ), l.foldl (fun a b => if R a b then b else a) a = a ∨
      l.foldl (fun a b => if R a b then b else a) a ∈ l
  | [], _ => Or.inl rfl
  | y :: t, a => by
    rw [List.foldl_cons]
    rcases foldl_sel_mem R t (if R a y then y else a) with h | h
    · rw [h]
      split
      · exact Or.inr List.mem_cons_self
      · exact Or.inl rfl
    · exact Or.inr (List.mem_cons_of_mem _ h)

/-! ### (2) two loops that stay related: core's `List.foldl_rel`, and its usual cases -/

/-- the loop `G` works on encodings `enc t` of states that the loop `step` keeps within `Inv` -/
theorem foldl_sim {σ τ β : Type} (enc : τ → σ) (G : σ → β → σ) (step : τ → β → τ) (Inv : τ → Prop)
    (hInv : ∀ t x, Inv t → Inv (step t x)) (hG : ∀ t x, Inv t → G (enc t) x = enc (step t x)) (l : List β) (t : τ)
    (ht : Inv t) : l.foldl G (enc t) = enc (l.foldl step t) :=
  (List.foldl_rel (r := fun s t => Inv t ∧ s = enc t) ⟨ht, rfl⟩
    fun x _ _ t h => ⟨hInv t x h.1, h.2 ▸ hG t x h.1⟩).2

/-- a projection of the state that the body respects on the elements met (without `∈`: core's `List.foldl_hom`) -/
theorem foldl_proj_mem {σ β γ : Type} (step : σ → β → σ) (p : σ → γ) (f : γ → β → γ) (l : List β)
    (h : ∀ s, ∀ b ∈ l, p (step s b) = f (p s) b) (s0 : σ) : p (l.foldl step s0) = l.foldl f (p s0) :=
  List.foldl_rel (r := fun s c => p s = c) rfl fun b hb s _ e => e ▸ h s b hb

theorem foldl_congr_mem {β γ : Type} (f g : γ → β → γ) (l : List β) (a : γ) (h : ∀ a, ∀ b ∈ l, f a b = g a b) :
    l.foldl f a = l.foldl g a :=
  List.foldl_rel (r := Eq) rfl fun b hb c _ e => e ▸ h c b hb

theorem foldl_pair {σ τ β : Type} (f : σ → β → σ) (g : τ → β → τ) (l : List β) (a : σ) (b : τ) :
    l.foldl (fun (st : σ × τ) x => (f st.1 x, g st.2 x)) (a, b) = (l.foldl f a, l.foldl g b) :=
  Prod.ext (List.foldl_hom (g₂ := f) Prod.fst fun _ _ => rfl).symm (List.foldl_hom (g₂ := g) Prod.snd fun _ _ => rfl).symm

/-! ### (3) pass `i` writes slot `i` -/

/-- an index loop that writes entry `i` at step `i`: a property `Q i` of the state that step `i` establishes and every
    later step keeps holds after `for i in range(a, a + n)`, for the indices passed and for earlier ones if it held at the start -/
theorem foldl_range'_inv {σ : Type} (step : σ → Nat → σ) (Q : Nat → σ → Prop) (a : Nat)
    (hQ : ∀ s i, a ≤ i → Q i (step s i)) (hkeep : ∀ s i j, i < j → Q i s → Q i (step s j)) (s : σ) {i : Nat} :
    ∀ n, i < a + n → (i < a → Q i s) → Q i ((List.range' a n).foldl step s)
  | 0, hi, h0 => h0 hi
  | n + 1, hi, h0 => by
    rw [List.range'_concat, List.foldl_append, Nat.one_mul]
    by_cases h : i < a + n
    · exact hkeep _ _ _ h (foldl_range'_inv step Q a hQ hkeep s n h h0)
    · obtain rfl : i = a + n := by omega
      exact hQ _ _ (Nat.le_add_right a n)

/-- `for i in range(a, a+n): s[i] = …`, for any state read by slots: a pass leaves the other slots alone (`hkeep`), and
    what it writes into its own depends only on what that slot held at the start (`hown`) -/
theorem foldl_range'_slots {σ β : Type} (read : σ → Nat → β) (step : σ → Nat → σ) (s0 : σ) (w : Nat → β)
    (hkeep : ∀ s i j, j ≠ i → read (step s i) j = read s j)
    (hown : ∀ s i, read s i = read s0 i → read (step s i) i = w i) (j : Nat) :
    ∀ (n a : Nat) (s : σ), (∀ k, a ≤ k → read s k = read s0 k) →
      read ((List.range' a n).foldl step s) j = if a ≤ j ∧ j < a + n then w j else read s j
  | 0, a, s, _ => (if_neg fun h => Nat.lt_irrefl _ (Nat.lt_of_lt_of_le h.2 h.1)).symm
  | n + 1, a, s, hs => by
    rw [List.range'_succ, List.foldl_cons,
      foldl_range'_slots read step s0 w hkeep hown j n (a + 1) (step s a) fun k hk =>
        (hkeep s a k (by omega)).trans (hs k (by omega))]
    by_cases h : j = a
    · subst h
      rw [if_neg (by omega), if_pos (by omega)]
      exact hown s j (hs j (Nat.le_refl j))
    · rw [hkeep s a j h]
      exact ite_congr (propext (by omega)) (fun _ => rfl) fun _ => rfl

/-! ### (4) loops that accumulate -/

/-- `acc = init; for x in l: acc.append(f(x))` is `init ++ l.map f` -/
theorem foldl_append_map {β γ : Type} (f : β → γ) (l : List β) (init : List γ) :
    l.foldl (fun acc x => acc ++ [f x]) init = init ++ l.map f := by
  induction l generalizing init with
  | nil => simp
  | cons x l ih => simp [ih]

theorem foldl_append_flatMap {β γ : Type} (f : β → List γ) (l : List β) (init : List γ) :
    l.foldl (fun acc x => acc ++ f x) init = init ++ l.flatMap f := by
  rw [List.foldl_append_eq_append, List.flatMap_def]

/-- a state one of whose components is the list of what has been yielded so far -/
theorem foldl_yield_of {ι β σ : Type} (g : ι → β) (F : σ × List β → ι → σ × List β)
    (hF : ∀ st x, (F st x).2 = st.2 ++ [g x]) (xs : List ι) (st : σ × List β) :
    (xs.foldl F st).2 = st.2 ++ xs.map g := by
  rw [← foldl_append_map g xs st.2]
  exact (List.foldl_hom Prod.snd fun st x => (hF st x).symm).symm

end Taurex
