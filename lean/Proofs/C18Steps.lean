/-
  The two loops of `combine_variance` (`Variance.loop1`, `Variance.loop2`) as iterations of one step per gathered rank.
  Core only (no Mathlib), every carrier.
-/
import TaurexModel.Variance

namespace Taurex.Variance

section
variable {α : Type} [Add α] [Mul α] [BEq α] [OfNat α 0]

/-- `x += t` on an accumulator that starts as `None`: the first term replaces it, later ones are added -/
def accAdd (acc : Option (Val α)) (t : Val α) : Val α :=
  match acc with
  | none => t
  | some s => vadd s t

def step1M (acc : Option (Val α)) (x : Obj α × α) : Option (Val α) :=
  if x.2 == 0 then acc
  else if x.1.isNpNan then acc
  else some (accAdd acc (vmul x.1.val (Val.fin x.2)))

theorem loop1_cons (x : Obj α × α) (l : List (Obj α × α)) (acc : Option (Val α)) :
    loop1 (x :: l) acc = loop1 l (step1M acc x) := by
  obtain ⟨avg, cnt⟩ := x
  simp only [loop1, step1M]
  split
  · rfl
  · split <;> rfl

theorem loop1_fold (l : List (Obj α × α)) (acc : Option (Val α)) : loop1 l acc = l.foldl step1M acc := by
  induction l generalizing acc with
  | nil => rfl
  | cons x l ih => rw [loop1_cons, List.foldl_cons, ih]

variable [Sub α] [LT α] [DecidableLT α]

/-- outer `none`: the Python raises -/
def step2M (isNan : Obj α → Bool) (average : Val α) (acc : Option (Val α)) (x : Obj α × α × Obj α) :
    Option (Option (Val α)) :=
  if x.2.1 == 0 then some acc
  else
    let d := vsub average x.1.val
    let acc1 := if 0 < x.2.1 then some (accAdd acc (vmul (Val.fin x.2.1) (vmul d d))) else acc
    if isNan x.2.2 then some acc1
    else match acc1 with
      | none => none
      | some s => some (some (vadd s (vmul (Val.fin x.2.1) x.2.2.val)))

theorem loop2_cons (isNan : Obj α → Bool) (average : Val α) (x : Obj α × α × Obj α) (l : List (Obj α × α × Obj α))
    (acc : Option (Val α)) :
    loop2 isNan average (x :: l) acc = match step2M isNan average acc x with
      | none => none
      | some a => loop2 isNan average l a := by
  obtain ⟨avg, cnt, var⟩ := x
  by_cases h0 : (cnt == 0) = true
  · simp [loop2, step2M, h0]
  · by_cases hp : 0 < cnt <;> by_cases hn : isNan var = true <;> cases acc <;> simp [loop2, step2M, accAdd, h0, hp, hn]

end

end Taurex.Variance
