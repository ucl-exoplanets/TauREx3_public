/-
  `compute_derived_trace`: the rank-ordered gather, re-ordered by the argsort of the gathered sample indices, is the trace
  in sample order (`derivedTraceGather_eq`); re-ordering by matching sorted weights achieves that only when the weights
  are pairwise distinct (`derivedTraceGatherPinned_eq`).
-/
import Proofs.RealInst
import Proofs.Argsort
import Proofs.C18Partition

namespace Taurex.Variance

/-! ### insertion argsort -/

section
variable {κ : Type} [LinearOrder κ] (key : ℕ → κ)

theorem insertIdx_eq (i : ℕ) (l : List ℕ) : insertIdx key i l = l.orderedInsert (fun a b => key a < key b) i := by
  induction l with
  | nil => rfl
  | cons j js ih => rw [insertIdx, List.orderedInsert_cons, ih]

theorem insertIdx_perm (i : ℕ) (l : List ℕ) : (insertIdx key i l).Perm (i :: l) := by
  rw [insertIdx_eq]; exact List.perm_orderedInsert _ i l

theorem insertIdx_sorted (i : ℕ) (l : List ℕ) (h : l.Pairwise (fun a b => key a ≤ key b)) :
    (insertIdx key i l).Pairwise (fun a b => key a ≤ key b) := by
  rw [insertIdx_eq]
  exact pairwise_orderedInsert (s := fun a b => key a ≤ key b) (fun _ _ => le_of_lt) (fun _ _ => not_lt.1) (fun _ _ _ => le_trans) i l h

/-- after the positions `0 … k-1` have been inserted the list sorts them -/
theorem argsort_prefix (k : ℕ) : IsArgsort key k ((List.range k).foldl (fun acc i => insertIdx key i acc) []) := by
  induction k with
  | zero => exact ⟨List.Perm.refl _, List.Pairwise.nil⟩
  | succ k ih =>
    rw [List.range_succ, List.foldl_append]
    exact ⟨(insertIdx_perm key k _).trans ((ih.1.cons k).trans (List.range_succ ▸ (List.perm_append_singleton k _).symm)),
      insertIdx_sorted key k _ ih.2⟩

end

section
variable {κ : Type} [LinearOrder κ] [OfNat κ 0]

theorem argsort_isArgsort (keys : List κ) : IsArgsort (fun j => keys.getD j 0) keys.length (argsort keys) :=
  argsort_prefix _ _

end

/-! ### `a[idx] = vals` -/

theorem foldl_set_getElem? {β : Type} (f : ℕ → β) (idx : List ℕ) :
    ∀ (base : List β) (i : ℕ), (idx.foldl (fun b j => b.set j (f j)) base)[i]? =
      if i ∈ idx ∧ i < base.length then some (f i) else base[i]? := by
  induction idx with
  | nil => intro base i; simp
  | cons j rest ih =>
    intro base i
    simp only [List.foldl_cons]
    rw [ih]
    simp only [List.length_set, List.getElem?_set, List.mem_cons]
    by_cases hr : i ∈ rest ∧ i < base.length
    · simp [hr]
    · rw [if_neg hr]
      by_cases hji : j = i
      · subst hji
        by_cases hl : j < base.length
        · simp [hl]
        · have : base[j]? = none := List.getElem?_eq_none (not_lt.1 hl)
          simp [hl]
      · have : ¬ ((i = j ∨ i ∈ rest) ∧ i < base.length) := by
          rintro ⟨h | h, hl⟩
          · exact hji h.symm
          · exact hr ⟨h, hl⟩
        simp [hji, this]

theorem scatter_map {β : Type} (f : ℕ → β) (base : List β) (idx : List ℕ) :
    scatter base idx (idx.map f) = idx.foldl (fun b j => b.set j (f j)) base := by
  unfold scatter
  have : idx.zip (idx.map f) = idx.map (fun j => (j, f j)) := by
    induction idx with
    | nil => rfl
    | cons a l ih => simp [ih]
  rw [this, List.foldl_map]

theorem foldl_set_length (f : ℕ → ℝ) (idx : List ℕ) :
    ∀ base : List ℝ, (idx.foldl (fun b j => b.set j (f j)) base).length = base.length := by
  induction idx with
  | nil => intro base; rfl
  | cons j rest ih => intro base; simp only [List.foldl_cons]; rw [ih]; simp

theorem scatter_all {β : Type} (f : ℕ → β) (base : List β) (idx : List ℕ) (hp : idx.Perm (List.range base.length)) :
    scatter base idx (idx.map f) = (List.range base.length).map f := by
  rw [scatter_map]
  apply List.ext_getElem?
  intro i
  rw [foldl_set_getElem?]
  by_cases hi : i < base.length
  · have : i ∈ idx := hp.symm.subset (List.mem_range.2 hi)
    simp [this, hi]
  · simp [hi]

/-! ### the gathered lists are the originals read through one index list -/

theorem strided_map {β γ : Type} (f : β → γ) (r size : ℕ) (l : List β) :
    strided r size (l.map f) = (strided r size l).map f := by
  unfold strided
  rw [List.zipIdx_map, List.filter_map, List.map_map, List.map_map]
  rfl

theorem partition_map {β γ : Type} (f : β → γ) (size : ℕ) (l : List β) :
    partition size (l.map f) = (partition size l).map (List.map f) := by
  unfold partition
  rw [List.map_map]
  apply List.map_congr_left
  intro r _
  exact strided_map f r size l

/-- the gathered index list -/
def gidx (size n : ℕ) : List ℕ := gatherLists (partition size (List.range n))

theorem gather_eq {β : Type} (d : β) (size : ℕ) (xs : List β) :
    gatherLists (partition size xs) = (gidx size xs.length).map (fun i => xs.getD i d) := by
  conv_lhs => rw [list_eq_map_range d xs]
  rw [partition_map]
  unfold gidx gatherLists
  rw [List.map_flatten]

theorem gidx_perm {size : ℕ} (hs : 0 < size) (n : ℕ) : (gidx size n).Perm (List.range n) :=
  partition_flatten_perm hs _

/-- with pairwise distinct weights, matching sorted weights finds the sample order: the argsort of the gathered weights,
    read through the gathered indices, is an argsort of the weights, and there is only one -/
theorem derivedTraceGatherPinned_eq {κ β : Type} [LinearOrder κ] [OfNat κ 0] [Inhabited β] {size : ℕ} (hs : 0 < size)
    {weights : List κ} {trace : List β} (hn : weights.Nodup) (hlen : trace.length = weights.length) :
    derivedTraceGatherPinned size weights trace = trace := by
  have hG := gidx_perm hs weights.length
  have hGl : (gidx size weights.length).length = weights.length := by simpa using hG.length_eq
  have h := argsort_isArgsort ((gidx size weights.length).map fun i => weights.getD i 0)
  rw [List.length_map] at h
  have hσ := ((h.congr (key' := fun j => weights.getD ((gidx size weights.length).getD j 0) 0) fun j hj => by
      simp [List.getD_eq_getElem?_getD, hj]).comp hG).unique (argsort_isArgsort weights)
    fun a ha b hb => (List.getD_inj ha hb hn).1
  show scatter (gatherLists (partition size trace)) (argsort weights)
    (takeIdx (gatherLists (partition size trace)) (argsort (gatherLists (partition size weights)))) = trace
  rw [gather_eq 0 size weights, gather_eq default size trace, hlen]
  unfold takeIdx
  rw [h.read, hσ, scatter_all _ _ _ (by rw [List.length_map, hGl]; exact (argsort_isArgsort weights).1),
    List.length_map, hGl, ← hlen]
  exact (list_eq_map_range default trace).symm

/-- **the gathered trace re-ordered by the argsort of the gathered sample indices is the trace in
    sample order — for every trace (weights play no role) and every number of ranks** -/
theorem derivedTraceGather_eq {β : Type} {size : ℕ} (hs : 0 < size) : ∀ trace : List β,
    derivedTraceGather size trace = trace
  | [] => by simp [derivedTraceGather, restoreOrder, takeIdx, gatherLists, partition, strided]
  | x :: xs => by
    show takeIdx (gatherLists (partition size (x :: xs))) (argsort (gidx size (x :: xs).length)) = x :: xs
    have h := argsort_isArgsort (gidx size (x :: xs).length)
    -- a non-empty trace has a default entry of its own: its head
    rw [gather_eq x]
    unfold takeIdx
    rw [h.restore (gidx_perm hs _)]
    exact (list_eq_map_range x (x :: xs)).symm

end Taurex.Variance
