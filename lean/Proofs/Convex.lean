/-
  Means stay between what they average, over an ordered field.  Two facts carry the "stays between" statements of the
  development: a point of a segment (`le_combo`, `combo_le`; an interpolant in any spelling is one by a `ring` identity,
  `mem_of_eq`, with the parameter `p / d`, `0 ≤ p ≤ d`, `div_mem_unit`), and a sum with non-negative weights
  (`wsum_le_wsum`, hence `wsum_between`, `wmean_mem`, and `zipWith_between` for values and weights in two lists;
  `wsum_const` needs no sign).  A weighted sum is asked about its entries of positive weight only.
  `x ∈ Set.Icc lo hi` unfolds to `lo ≤ x ∧ x ≤ hi`: the lemmas take and give either.  The parameter's range travels as
  one conjunction `0 ≤ s ∧ s ≤ 1` (what `div_mem_unit`, `unit_of_bracket` give and `combo_mem`, `mem_of_eq` take); the
  one-sided steps `le_combo`, `combo_le` take the two bounds.
-/
import Mathlib.Algebra.Order.BigOperators.Group.List
import Mathlib.Algebra.BigOperators.Ring.List
import Mathlib.Algebra.Order.Field.Basic
import Mathlib.Order.Interval.Set.Basic

namespace Taurex.Convex

variable {K : Type} [Field K] [LinearOrder K] [IsStrictOrderedRing K] {lo hi : K}

theorem le_combo {a b t : K} (ha : lo ≤ a) (hb : lo ≤ b) (h0 : 0 ≤ t) (h1 : t ≤ 1) : lo ≤ (1 - t) * a + t * b :=
  calc lo = (1 - t) * lo + t * lo := by rw [← add_mul, sub_add_cancel, one_mul]
    _ ≤ (1 - t) * a + t * b :=
      add_le_add (mul_le_mul_of_nonneg_left ha (sub_nonneg.2 h1)) (mul_le_mul_of_nonneg_left hb h0)

theorem combo_le {a b t : K} (ha : a ≤ hi) (hb : b ≤ hi) (h0 : 0 ≤ t) (h1 : t ≤ 1) : (1 - t) * a + t * b ≤ hi :=
  calc (1 - t) * a + t * b ≤ (1 - t) * hi + t * hi :=
      add_le_add (mul_le_mul_of_nonneg_left ha (sub_nonneg.2 h1)) (mul_le_mul_of_nonneg_left hb h0)
    _ = hi := by rw [← add_mul, sub_add_cancel, one_mul]

theorem combo_mem {x y s : K} (hs : 0 ≤ s ∧ s ≤ 1) (hx : x ∈ Set.Icc lo hi) (hy : y ∈ Set.Icc lo hi) :
    (1 - s) * x + s * y ∈ Set.Icc lo hi :=
  ⟨le_combo hx.1 hy.1 hs.1 hs.2, combo_le hx.2 hy.2 hs.1 hs.2⟩

/-- the form in which it is used: `v` is the point, by an identity the caller proves (usually `by ring`) -/
theorem mem_of_eq {v x y s : K} (e : v = (1 - s) * x + s * y) (hs : 0 ≤ s ∧ s ≤ 1) (hx : x ∈ Set.Icc lo hi)
    (hy : y ∈ Set.Icc lo hi) : v ∈ Set.Icc lo hi :=
  e ▸ combo_mem hs hx hy

/-- also for `d = 0` (`p / 0 = 0`): an interpolation bracket may be degenerate -/
theorem div_mem_unit {p d : K} (h0 : 0 ≤ p) (h1 : p ≤ d) : 0 ≤ p / d ∧ p / d ≤ 1 :=
  ⟨div_nonneg h0 (h0.trans h1), div_le_one_of_le₀ h1 (h0.trans h1)⟩

theorem unit_of_bracket {a t b : K} (h1 : a ≤ t) (h2 : t ≤ b) : 0 ≤ (t - a) / (b - a) ∧ (t - a) / (b - a) ≤ 1 :=
  div_mem_unit (sub_nonneg.2 h1) (sub_le_sub_right h2 a)

theorem wsum_const {R β : Type} [Semiring R] (l : List β) (w v : β → R) (b : R) (hv : ∀ x ∈ l, v x = b) :
    (l.map fun x => v x * w x).sum = b * (l.map w).sum := by
  rw [← List.sum_map_mul_left]
  exact congrArg List.sum (List.map_congr_left fun x hx => by rw [hv x hx])

section wsum
variable {β : Type} (l : List β) (w : β → K)

theorem sum_map_nonneg (h : ∀ x ∈ l, 0 ≤ w x) : 0 ≤ (l.map w).sum :=
  List.sum_nonneg (List.forall_mem_map.2 h)

theorem wsum_le_wsum {v v' : β → K} (hw : ∀ x ∈ l, 0 ≤ w x) (h : ∀ x ∈ l, 0 < w x → v x ≤ v' x) :
    (l.map fun x => v x * w x).sum ≤ (l.map fun x => v' x * w x).sum :=
  List.sum_le_sum fun x hx => (hw x hx).eq_or_lt.elim (fun e => by rw [← e, mul_zero, mul_zero]) fun hp =>
    mul_le_mul_of_nonneg_right (h x hx hp) hp.le

theorem wsum_between (v : β → K) (hw : ∀ x ∈ l, 0 ≤ w x) (hv : ∀ x ∈ l, 0 < w x → lo ≤ v x ∧ v x ≤ hi) :
    lo * (l.map w).sum ≤ (l.map fun x => v x * w x).sum ∧ (l.map fun x => v x * w x).sum ≤ hi * (l.map w).sum := by
  rw [← List.sum_map_mul_left, ← List.sum_map_mul_left]
  exact ⟨wsum_le_wsum l w hw fun x hx hp => (hv x hx hp).1, wsum_le_wsum l w hw fun x hx hp => (hv x hx hp).2⟩

theorem wmean_mem (v : β → K) (hw : ∀ x ∈ l, 0 ≤ w x) (hv : ∀ x ∈ l, 0 < w x → lo ≤ v x ∧ v x ≤ hi)
    (hpos : 0 < (l.map w).sum) : (l.map fun x => v x * w x).sum / (l.map w).sum ∈ Set.Icc lo hi :=
  have h := wsum_between l w v hw hv
  ⟨(le_div_iff₀ hpos).2 h.1, (div_le_iff₀ hpos).2 h.2⟩

end wsum

/-- values and weights in two lists: the pairs the `zip` keeps -/
theorem zipWith_between (x w : List K) (hw : ∀ b ∈ w, 0 ≤ b) (hx : ∀ a ∈ x, lo ≤ a ∧ a ≤ hi) :
    lo * ((x.zip w).map Prod.snd).sum ≤ (List.zipWith (fun a b => a * b) x w).sum ∧
      (List.zipWith (fun a b => a * b) x w).sum ≤ hi * ((x.zip w).map Prod.snd).sum := by
  rw [← List.map_uncurry_zip_eq_zipWith]
  exact wsum_between (x.zip w) Prod.snd Prod.fst (fun p hp => hw p.2 (List.of_mem_zip hp).2)
    fun p hp _ => hx p.1 (List.of_mem_zip hp).1

end Taurex.Convex
