/-
  Helper lemmas for the source ties of the chains-file readers of C09 (`Props/C09Src.lean`: `multinest_chains_*`,
  `polychord_chains`, dialect `seq`): the line loop of `store_nest_solutions` with its look-back at the two previous lines
  against the state machine `Posterior.splitStep`, and the row-by-row filling of a zero array against `Posterior.modeArray`.
  Core Lean only, every carrier.
-/
import Proofs.C09Chains
import Proofs.SeqSrc

namespace Taurex.C09Src
open Taurex.Posterior Taurex.Gen

section
variable {α : Type} [OfNat α 0]

/-- a line of `post_separate.dat` as the reader sees it: `line == '\n'`, `[float(x) for x in line.split()]` -/
def toPLine (splitWs : String → List String) (parseFloat : String → α) (s : String) : PLine α :=
  ⟨s == "\n", (splitWs s).map parseFloat⟩

/-- the body of `for idx, line in enumerate(lines)` as the translator emits it (state: modes, modes_weights, chains,
    chains_weights; the look-back reads `lines[idx-1]`, `lines[idx-2]`).  It meets the generated text in `hgen` of
    `C09Src.src_multinest_chains_modes` (`rfl`): when the emitted shape changes that `rfl` fails, and this body is copied
    anew from `Gen/SrcC09.lean`; only `lineStep_stages` unfolds it. -/
def lineStep (lines : List String) (splitWs : String → List String) (parseFloat : String → α)
    (st__ : List (List (List α)) × List (List α) × List (List α) × List α) (it__ : String × Nat) :
    List (List (List α)) × List (List α) × List (List α) × List α :=
      let modes := st__.1
      let modes_weights := st__.2.1
      let chains := st__.2.2.1
      let chains_weights := st__.2.2.2
      let idx := it__.2
      let line := it__.1
      let st__ := (if decide (2 < idx) then
          let st__ := (if (((Np.getInt "" lines ((Int.ofNat idx) - (1 : Int))) == "\n") && ((Np.getInt "" lines ((Int.ofNat idx) - (2 : Int))) == "\n")) then
              let modes := (modes ++ [chains])
              let modes_weights := (modes_weights ++ [chains_weights])
              let chains : List (List α) := []
              let chains_weights : List α := []
              (modes, modes_weights, chains, chains_weights)
            else
              (modes, modes_weights, chains, chains_weights)
            )
          let modes := st__.1
          let modes_weights := st__.2.1
          let chains := st__.2.2.1
          let chains_weights := st__.2.2.2
          (modes, modes_weights, chains, chains_weights)
        else
          (modes, modes_weights, chains, chains_weights)
        )
      let modes := st__.1
      let modes_weights := st__.2.1
      let chains := st__.2.2.1
      let chains_weights := st__.2.2.2
      let chain := (List.map (fun it__ => let x := it__; (parseFloat x)) (List.drop 2 (splitWs line)))
      let st__ := (if decide (0 < chain.length) then
          let chains := (chains ++ [chain])
          let chains_weights := (chains_weights ++ [(parseFloat (((splitWs line)).getD 0 ""))])
          (chains, chains_weights)
        else
          (chains, chains_weights)
        )
      let chains := st__.1
      let chains_weights := st__.2
      (modes, modes_weights, chains, chains_weights)

/-- what the model's look-back flags must hold at line `st.idx` of `lines` -/
def LookBack (lines : List String) (st : SplitState α) : Prop :=
  (1 ≤ st.idx → st.prev1 = (lines.getD (st.idx - 1) "" == "\n")) ∧
  (2 ≤ st.idx → st.prev2 = (lines.getD (st.idx - 2) "" == "\n"))

/-- the translated pass on ANY tuple of lists: close if the two previous lines are empty (from the fourth line on), then
    add the line's sample -/
theorem lineStep_stages (lines : List String) (splitWs : String → List String) (parseFloat : String → α)
    (s : Lists α) (line : String) (idx : Nat) :
    lineStep lines splitWs parseFloat s (line, idx)
      = addSample ((splitWs line).map parseFloat)
          (closeMode (decide (2 < idx) && (lines.getD (idx - 1) "" == "\n") && (lines.getD (idx - 2) "" == "\n")) s) := by
  have hw : 0 < ((splitWs line).drop 2).length →
      parseFloat ((splitWs line).getD 0 "") = ((splitWs line).map parseFloat).getD 0 0 := by
    intro hc
    cases h : splitWs line with
    | nil => simp [h] at hc
    | cons a t => simp
  have hadd : ∀ t : Lists α,
      (let chain := List.map (fun it__ => let x := it__; parseFloat x) (List.drop 2 (splitWs line))
       let st__ := if decide (0 < chain.length) then
           (t.2.2.1 ++ [chain], t.2.2.2 ++ [parseFloat ((splitWs line).getD 0 "")]) else (t.2.2.1, t.2.2.2)
       (t.1, t.2.1, st__.1, st__.2)) = addSample ((splitWs line).map parseFloat) t := by
    intro t
    unfold addSample
    rw [← List.map_drop, List.length_map]
    by_cases hc : 0 < ((splitWs line).drop 2).length
    · simp only [List.length_map, hc, decide_true, if_true, hw hc]
    · simp only [List.length_map, hc, decide_false, Bool.false_eq_true, if_false]
  rw [← hadd]
  unfold lineStep closeMode
  by_cases hi : 2 < idx
  · have e1 : (Int.ofNat idx) - (1 : Int) = Int.ofNat (idx - 1) := (Int.ofNat_sub (Nat.le_of_lt (Nat.lt_of_succ_lt hi))).symm
    have e2 : (Int.ofNat idx) - (2 : Int) = Int.ofNat (idx - 2) := (Int.ofNat_sub (Nat.le_of_lt hi)).symm
    simp only [e1, e2, SeqSrc.getInt_nat, hi, decide_true, if_true, Bool.true_and]
  · simp only [hi, decide_false, Bool.false_eq_true, if_false, Bool.false_and]

theorem lineStep_eq (lines : List String) (splitWs : String → List String) (parseFloat : String → α)
    (st : SplitState α) (hlb : LookBack lines st) (line : String) (hline : lines.getD st.idx "" = line) :
    lineStep lines splitWs parseFloat (listsOf st) (line, st.idx)
        = listsOf (splitStep st (toPLine splitWs parseFloat line)) ∧
      LookBack lines (splitStep st (toPLine splitWs parseFloat line)) ∧
      (splitStep st (toPLine splitWs parseFloat line)).idx = st.idx + 1 := by
  obtain ⟨h1, h2⟩ := hlb
  have hidx : (splitStep st (toPLine splitWs parseFloat line)).idx = st.idx + 1 := rfl
  refine ⟨?_, ⟨fun _ => ?_, fun h => ?_⟩, hidx⟩
  · rw [lineStep_stages, listsOf_splitStep]
    by_cases hi : 2 < st.idx
    · rw [← h1 (by omega), ← h2 (by omega)]; rfl
    · simp only [hi, decide_false, Bool.false_and]; rfl
  · show (line == "\n") = (lines.getD (st.idx + 1 - 1) "" == "\n")
    rw [Nat.add_sub_cancel, hline]
  · show st.prev1 = (lines.getD (st.idx + 1 - 2) "" == "\n")
    rw [show st.idx + 1 - 2 = st.idx - 1 by omega]; exact h1 (by rw [hidx] at h; omega)

theorem lineLoop_eq (lines : List String) (splitWs : String → List String) (parseFloat : String → α) :
    ∀ (suf pre : List String) (st : SplitState α), lines = pre ++ suf → st.idx = pre.length → LookBack lines st →
      List.foldl (lineStep lines splitWs parseFloat) (listsOf st) (List.zipIdx suf pre.length)
        = listsOf (List.foldl splitStep st (suf.map (toPLine splitWs parseFloat)))
  | [], _, _, _, _, _ => rfl
  | line :: suf, pre, st, hl, hi, hlb => by
    have hget : lines.getD st.idx "" = line := by
      rw [hl, hi]; simp [List.getD_eq_getElem?_getD]
    obtain ⟨e, hlb', hidx'⟩ := lineStep_eq lines splitWs parseFloat st hlb line hget
    rw [List.zipIdx_cons, List.foldl_cons, List.map_cons, List.foldl_cons, ← hi, e]
    have := lineLoop_eq lines splitWs parseFloat suf (pre ++ [line]) (splitStep st (toPLine splitWs parseFloat line))
      (by rw [hl]; simp) (by rw [hidx', hi]; simp) hlb'
    rw [List.length_append, List.length_singleton, ← hi] at this
    exact this

/-- `mode_array[idx, :] = line` for every row of `mode`, on the zero array of `mode`'s shape: every row fitted to the width -/
theorem fillRows_eq (n : Nat) : ∀ (done todo : List (List α)) (k : Nat), k = done.length →
    List.foldl (fun (M : List (List α)) (it : List α × Nat) => Np.setRow M it.2 it.1)
        (done ++ List.replicate todo.length (List.replicate n (0 : α))) (List.zipIdx todo k)
      = done ++ todo.map (fitRow n)
  | done, [], _, _ => by simp
  | done, row :: todo, k, hk => by
    rw [List.zipIdx_cons, List.foldl_cons]
    have hset : Np.setRow (done ++ List.replicate (row :: todo).length (List.replicate n (0 : α))) k row
        = (done ++ [fitRow n row]) ++ List.replicate todo.length (List.replicate n (0 : α)) := by
      unfold Np.setRow fitRow
      have hk' : (done ++ List.replicate (row :: todo).length (List.replicate n (0 : α)))[k]?
          = some (List.replicate n (0 : α)) := by
        rw [hk]; simp [List.replicate_succ]
      rw [hk']
      simp only [List.length_replicate]
      have hsetk : ∀ v : List α, (done ++ List.replicate (row :: todo).length (List.replicate n (0 : α))).set k v
          = (done ++ [v]) ++ List.replicate todo.length (List.replicate n (0 : α)) := by
        intro v
        rw [hk, List.length_cons, List.replicate_succ, List.set_append_right _ _ (Nat.le_refl _)]
        simp
      by_cases hl : row.length = n
      · simp only [hl, if_true, hsetk]
      · simp only [hl, if_false]
        match row, hl with
        | [], _ => simp [List.replicate_succ]
        | [x], _ => simp only [hsetk]
        | _ :: _ :: _, _ => simp [List.replicate_succ]
    rw [hset]
    have := fillRows_eq n (done ++ [fitRow n row]) todo (k + 1) (by simp [hk])
    rw [this]
    simp

theorem modeArray_src (mode : List (List α)) :
    List.foldl (fun (M : List (List α)) (it : List α × Nat) => Np.setRow M it.2 it.1)
        (List.replicate mode.length (List.replicate (List.length (mode.getD 0 [])) (0 : α))) (List.zipIdx mode)
      = modeArray mode := by
  have h := fillRows_eq (List.length (mode.getD 0 [])) [] mode 0 rfl
  simp only [List.nil_append] at h
  rw [h]
  unfold modeArray
  congr 2
  cases mode <;> rfl

omit [OfNat α 0] in
/-- `M[:, 2:n+2]` row by row -/
theorem slice_drop_take (n : Nat) (r : List α) : Np.slice r 2 (n + 2) = (r.drop 2).take n := by
  unfold Np.slice
  rw [Nat.add_sub_cancel]

/-- the loop over PolyChord's cluster files: `modes_array` / `modes_weights` grow by one table per file, whatever the
    table read last was -/
theorem cluster_fold (nfit : Nat) (cluster : Nat → List (List α)) :
    ∀ (ks : List Nat) (d : List (List α)) (A : List (List (List α))) (W : List (List α)),
      (List.foldl (fun (st : List (List α) × List (List (List α)) × List (List α)) (midx : Nat) =>
          (cluster midx,
           st.2.1 ++ [List.map (fun r => Np.slice r 2 (nfit + 2)) (cluster midx)],
           st.2.2 ++ [List.map (fun r => r.getD 0 (0 : α)) (cluster midx)])) (d, A, W) ks).2
        = (A ++ ks.map (fun k => tableSamplesN nfit (cluster k)), W ++ ks.map (fun k => tableWeights (cluster k)))
  | [], d, A, W => by rw [List.foldl_nil, List.map_nil, List.map_nil, List.append_nil, List.append_nil]
  | k :: ks, d, A, W => by
    rw [List.foldl_cons, cluster_fold nfit cluster ks]
    simp only [List.append_assoc, List.map_cons, List.singleton_append, tableSamplesN, tableWeights, slice_drop_take]

end

end Taurex.C09Src
