/-
  The opacity cache state machine (TaurexModel/CacheSM.lean): what a directory scan and an operation do to the dict and
  the settings, and the four things kept along a history: entries (`Ext`), the interpolation mode of loaded objects
  (`ModeInv`), at most one load per molecule (`pot`), and — under an unchanged path — that what is cached is the fresh load
  of the first matching file (`PathInv`).  Core tactics only.
-/
import TaurexModel.CacheSM
import Proofs.FoldCore
import Proofs.PyDict

namespace Taurex.CacheSM

open Taurex.Gen

/-! ### `opacity_dict` is a `py` dictionary: the model's `hasKey` / `lookup` are `k in d` / `d.get(k)` of Proofs/PyDict.lean -/

theorem hasKey_eq_dhas (d : List (String × Obj)) (m : String) : hasKey d m = Py.dhas d m := by
  unfold hasKey Py.dhas
  congr 1

theorem lookup_eq_dget (d : List (String × Obj)) (m : String) : lookup d m = Py.dget d m := Py.find?_map_eq_dget d m

theorem hasKey_eq_isSome (d : List (String × Obj)) (m : String) : hasKey d m = (lookup d m).isSome := by
  rw [hasKey_eq_dhas, lookup_eq_dget, Py.dhas_eq_isSome]

theorem lookup_append_new {d : List (String × Obj)} {m : String} (o : Obj) (h : lookup d m = none) :
    lookup (d ++ [(m, o)]) m = some o := by
  rw [lookup_eq_dget] at h ⊢
  rw [Py.dget_append_none _ _ _ h]
  simp [Py.dget]

theorem lookup_mem_key {d : List (String × Obj)} {m : String} {o : Obj} (h : lookup d m = some o) :
    (m, o) ∈ d := by
  unfold lookup at h
  cases hf : d.find? (fun e => e.1 == m) with
  | none => simp [hf] at h
  | some x =>
    simp only [hf, Option.map_some, Option.some.injEq] at h
    have hp := List.find?_some hf
    have hm := List.mem_of_find?_eq_some hf
    obtain ⟨k, o'⟩ := x
    simp only [beq_iff_eq] at hp
    simp only at h
    subst hp; subst h; exact hm

theorem lookup_none_of_hasKey {d : List (String × Obj)} {m : String} (h : hasKey d m = false) : lookup d m = none := by
  rw [hasKey_eq_isSome] at h
  cases hl : lookup d m with
  | none => rfl
  | some x => simp [hl] at h

theorem hasKey_false_of_lookup {d : List (String × Obj)} {m : String} (h : lookup d m = none) : hasKey d m = false := by
  rw [hasKey_eq_isSome, h]; rfl

/-- every entry of `d` is served unchanged by `d'` -/
def Ext (d d' : List (String × Obj)) : Prop := ∀ m o, lookup d m = some o → lookup d' m = some o

theorem Ext.refl (d : List (String × Obj)) : Ext d d := fun _ _ h => h
theorem Ext.trans {a b c : List (String × Obj)} (h1 : Ext a b) (h2 : Ext b c) : Ext a c :=
  fun m o h => h2 m o (h1 m o h)
theorem Ext.append (d e : List (String × Obj)) : Ext d (d ++ e) := fun m o h => by
  rw [lookup_eq_dget] at h ⊢
  exact Py.dget_append_left d e m o h

/-- what a constructor call followed by `add_opacity` does: settings kept, at most the entry `x` appended to the dict -/
structure Grow (x : String × Obj) (s s' : CSt) : Prop where
  path : s'.path = s.path
  interp : s'.interp = s.interp
  memMode : s'.memMode = s.memMode
  dict : s'.dict = s.dict ∨ s'.dict = s.dict ++ [x]

/-- what a scan does: entries kept, settings kept -/
structure Le (s s' : CSt) : Prop where
  ext : Ext s.dict s'.dict
  path : s'.path = s.path
  interp : s'.interp = s.interp
  memMode : s'.memMode = s.memMode

theorem Le.refl (s : CSt) : Le s s := ⟨Ext.refl _, rfl, rfl, rfl⟩

theorem Le.trans {a b c : CSt} (h1 : Le a b) (h2 : Le b c) : Le a c :=
  ⟨h1.ext.trans h2.ext, h2.path.trans h1.path, h2.interp.trans h1.interp, h2.memMode.trans h1.memMode⟩

theorem Grow.le {x : String × Obj} {s s' : CSt} (h : Grow x s s') : Le s s' := by
  refine ⟨?_, h.path, h.interp, h.memMode⟩
  rcases h.dict with hd | hd <;> rw [hd]
  · exact Ext.refl _
  · exact Ext.append _ _

theorem addOpacity_cases (s : CSt) (o : Obj) (f : Option String) :
    ((hasKey s.dict o.mol = true ∨ ∃ g, f = some g ∧ o.mol ≠ g) ∧ addOpacity s o f = s) ∨
      (hasKey s.dict o.mol = false ∧ (∀ g, f = some g → o.mol = g) ∧
        addOpacity s o f = { s with dict := s.dict ++ [(o.mol, o)] }) := by
  unfold addOpacity
  cases hk : hasKey s.dict o.mol
  · cases f with
    | none => right; simp
    | some g =>
      by_cases hg : (o.mol == g) = true
      · right
        refine ⟨rfl, ?_, by simp [hg]⟩
        intro g' hg'
        cases hg'
        simpa using hg
      · left
        refine ⟨Or.inr ⟨g, rfl, by simpa using hg⟩, by simp [hg]⟩
  · left; simp

theorem addOpacity_grow (s : CSt) (o : Obj) (f : Option String) : Grow (o.mol, o) s (addOpacity s o f) := by
  rcases addOpacity_cases s o f with ⟨_, h⟩ | ⟨_, _, h⟩ <;> rw [h]
  · exact ⟨rfl, rfl, rfl, Or.inl rfl⟩
  · exact ⟨rfl, rfl, rfl, Or.inr rfl⟩

theorem addOpacity_log (s : CSt) (o : Obj) (f : Option String) : (addOpacity s o f).log = s.log := by
  rcases addOpacity_cases s o f with ⟨_, h⟩ | ⟨_, _, h⟩ <;> rw [h]

/-- the object the constructor call builds -/
def loadObj (s : CSt) (e : FileEntry) : Obj :=
  { id := s.nextId, mol := e.obj, mode := interpOr s,
    inMem := if e.fmt = Fmt.hdf then some (memOrTrue s.memMode) else none, src := some e.fileId }

/-- the state after the constructor call -/
def loadS1 (s : CSt) (m : String) (e : FileEntry) : CSt :=
  { s with nextId := s.nextId + 1, log := s.log ++ [(m, e.fileId)] }

theorem loadStep_eq (m : String) (s : CSt) (e : FileEntry) :
    loadStep m s e =
      if (e.disc == m && !hasKey s.dict e.disc) = true then
        (if (!hasKey s.dict e.obj) = true then addOpacity (loadS1 s m e) (loadObj s e) (some m) else loadS1 s m e)
      else s := rfl

theorem loadObj_inMem (s : CSt) (e : FileEntry) : (loadObj s e).inMem = none ∨ (loadObj s e).inMem = some true := by
  unfold loadObj
  by_cases hf : e.fmt = Fmt.hdf
  · right
    simp only [hf, if_true]
    cases s.memMode with
    | none => rfl
    | some b => cases b <;> rfl
  · left; simp [hf]

theorem loadStepK_eq (m : String) (s : CSt) (e : FileEntry) :
    loadStepK m s e =
      if (e.disc == m) = true then
        (if (!hasKey s.dict e.obj) = true then addOpacity (loadS1 s m e) (loadObj s e) (some m) else loadS1 s m e)
      else s := rfl

/-- what both loading passes do with a file they construct: the constructor call (logged, next identity) touches neither
    the settings nor the dict, so what `add_opacity` does after it is what the pass does -/
theorem construct_grow (m : String) (s : CSt) (e : FileEntry) : Grow (e.obj, loadObj s e) s
    (if (!hasKey s.dict e.obj) = true then addOpacity (loadS1 s m e) (loadObj s e) (some m) else loadS1 s m e) := by
  split
  · have h := addOpacity_grow (loadS1 s m e) (loadObj s e) (some m)
    exact ⟨h.path, h.interp, h.memMode, h.dict⟩
  · exact ⟨rfl, rfl, rfl, Or.inl rfl⟩

theorem loadStep_grow (m : String) (s : CSt) (e : FileEntry) : Grow (e.obj, loadObj s e) s (loadStep m s e) := by
  rw [loadStep_eq]
  split
  · exact construct_grow m s e
  · exact ⟨rfl, rfl, rfl, Or.inl rfl⟩

theorem loadStepK_grow (m : String) (s : CSt) (e : FileEntry) : Grow (e.obj, loadObj s e) s (loadStepK m s e) := by
  rw [loadStepK_eq]
  split
  · exact construct_grow m s e
  · exact ⟨rfl, rfl, rfl, Or.inl rfl⟩

/-- on a file advertising a molecule not yet cached the k-table pass is the cross-section pass -/
theorem loadStepK_new (m : String) (s : CSt) (e : FileEntry) (hd : e.disc = m) (hk : hasKey s.dict m = false) :
    loadStepK m s e = loadStep m s e := by
  subst hd
  simp [loadStepK, loadStep, hk]

variable (fs : List Dir)

theorem loadFrom_le (m : String) (s : CSt) : Le s (loadFrom fs m s) :=
  foldl_along (loadStep m) Le Le.refl Le.trans _ s (fun s e _ => (loadStep_grow m s e).le)

/-! ### what one operation does to the state; entries survive what does not clear -/

theorem step_get (s : CSt) (m : String) :
    step fs s (.get m) =
      match lookup s.dict m with
      | some o => (s, .served o)
      | none =>
        match lookup (loadFrom fs m s).dict m with
        | some o => (loadFrom fs m s, .served o)
        | none => (loadFrom fs m s, .missing) := rfl

theorem step_setPath (s : CSt) (p : Nat) :
    (step fs s (.setPath p)).1 = { s with path := some p } := by
  simp only [step]
  cases fs[p]? with
  | none => rfl
  | some d => cases hd : d.isDir <;> simp [hd]

theorem step_get_nopath (s : CSt) (m : String) (hd : s.dict = []) (hp : s.path = none) :
    step fs s (.get m) = (s, .missing) := by
  have hl : loadFrom fs m s = s := by
    unfold loadFrom curFiles
    rw [hp]
    rfl
  rw [step_get, hl, hd]
  rfl

theorem step_clears (s : CSt) (c : COp) (h : c.clears = true) :
    (step fs s c).1.dict = [] ∧ (step fs s c).1.path = s.path := by
  cases c with
  | get m => cases h
  | setPath p => cases h
  | setInterp k => exact ⟨rfl, rfl⟩
  | setMem b => exact ⟨rfl, rfl⟩
  | clear => exact ⟨rfl, rfl⟩
  | add m k => cases h

theorem step_get_hit {fs : List Dir} {s : CSt} {m : String} {o : Obj} (h : lookup s.dict m = some o) :
    step fs s (.get m) = (s, .served o) := by
  rw [step_get]; simp only [h]

theorem step_get_state (s : CSt) (m : String) :
    (step fs s (.get m)).1 = s ∨ (step fs s (.get m)).1 = loadFrom fs m s := by
  rw [step_get]
  cases lookup s.dict m with
  | some o1 => left; rfl
  | none => right; cases lookup (loadFrom fs m s).dict m <;> rfl

theorem step_get_served {fs : List Dir} {s : CSt} {m : String} {o : Obj}
    (h : (step fs s (.get m)).2 = .served o) : lookup (step fs s (.get m)).1.dict m = some o := by
  rw [step_get] at *
  cases h1 : lookup s.dict m with
  | some o1 =>
    simp only [h1] at h ⊢
    cases h; rfl
  | none =>
    simp only [h1] at h ⊢
    cases h2 : lookup (loadFrom fs m s).dict m with
    | some o2 => simp only [h2] at h ⊢; cases h; rfl
    | none => simp only [h2] at h; cases h

/-- a history without clearing operations is made of scans, path changes and `add`s: a reflexive, transitive relation that
    holds across each of these holds across the history -/
theorem run_rel (R : CSt → CSt → Prop) (refl : ∀ s, R s s) (trans : ∀ {a b c}, R a b → R b c → R a c)
    (hscan : ∀ s m, R s (loadFrom fs m s)) (hpath : ∀ s p, R s { s with path := some p })
    (hadd : ∀ s o, R s (addOpacity { s with nextId := s.nextId + 1 } o none))
    (ops : List COp) (s : CSt) (h : ∀ op ∈ ops, op.clears = false) : R s (run fs s ops) := by
  refine foldl_along _ R refl trans ops s (fun s op hop => ?_)
  cases op with
  | get m =>
    rcases step_get_state fs s m with h' | h' <;> rw [h']
    · exact refl s
    · exact hscan s m
  | setPath p => rw [step_setPath]; exact hpath s p
  | add m k => exact hadd _ _
  | _ => cases h _ hop

theorem run_ext (ops : List COp) (s : CSt) (h : ∀ op ∈ ops, op.clears = false) :
    Ext s.dict (run fs s ops).dict :=
  run_rel fs (fun a b => Ext a.dict b.dict) (fun _ => Ext.refl _) Ext.trans (fun s m => (loadFrom_le fs m s).ext)
    (fun _ _ => Ext.refl _) (fun s o => (addOpacity_grow { s with nextId := s.nextId + 1 } o none).le.ext) ops s h

/-- every cached object that came from a file has the configured interpolation mode -/
def ModeInv (s : CSt) : Prop := ∀ e ∈ s.dict, e.2.src ≠ none → e.2.mode = interpOr s

theorem Grow.modeInv {x : String × Obj} {s s' : CSt} (h : Grow x s s') (hx : x.2.src ≠ none → x.2.mode = interpOr s)
    (hi : ModeInv s) : ModeInv s' := by
  intro e he
  show _ → _ = s'.interp.getD 0
  rw [h.interp]
  rcases h.dict with hd | hd <;> rw [hd] at he
  · exact hi e he
  · rcases List.mem_append.mp he with he | he
    · exact hi e he
    · rw [List.mem_singleton.mp he]; exact hx

theorem step_get_interp (s : CSt) (m : String) :
    (step fs s (.get m)).1.interp = s.interp := by
  rcases step_get_state fs s m with h | h <;> rw [h]
  exact (loadFrom_le fs m s).interp

theorem step_modeInv (s : CSt) (op : COp) (h : ModeInv s) : ModeInv (step fs s op).1 := by
  cases op with
  | get m =>
    rcases step_get_state fs s m with h' | h' <;> rw [h']
    · exact h
    · exact foldl_inv (loadStep m) ModeInv _ s (fun s e _ => (loadStep_grow m s e).modeInv (fun _ => rfl)) h
  | setPath p => rw [step_setPath]; exact h
  | add m k => exact (addOpacity_grow { s with nextId := s.nextId + 1 } _ none).modeInv (fun h => absurd rfl h) h
  | _ => intro e he; cases he

theorem step_get_mode {fs : List Dir} {s : CSt} {m : String} {o : Obj} (hinv : ModeInv s)
    (h : (step fs s (.get m)).2 = .served o) (hsrc : o.src ≠ none) : o.mode = s.interp.getD 0 := by
  rw [step_modeInv fs s (.get m) hinv (m, o) (lookup_mem_key (step_get_served h)) hsrc]
  unfold interpOr
  rw [step_get_interp]

theorem step_interp_of_not_setInterp (s : CSt) (op : COp) (h : ∀ k, op ≠ .setInterp k) :
    (step fs s op).1.interp = s.interp := by
  cases op with
  | get m => exact step_get_interp fs s m
  | setPath p => rw [step_setPath]
  | setInterp k => exact absurd rfl (h k)
  | setMem b => rfl
  | clear => rfl
  | add m k => exact (addOpacity_grow _ _ _).interp

theorem run_modeInv (ops : List COp) (s : CSt) (h : ModeInv s) : ModeInv (run fs s ops) :=
  foldl_inv _ ModeInv ops s (fun s op _ => step_modeInv fs s op) h

theorem run_interp (ops : List COp) (s : CSt) (h : ∀ op ∈ ops, ∀ k, op ≠ .setInterp k) :
    (run fs s ops).interp = s.interp :=
  foldl_keeps _ (·.interp) ops s (fun s op hop => step_interp_of_not_setInterp fs s op (h op hop))

/-! ### the directory scan under a consistent file system -/

theorem curFiles_consistent {fs : List Dir} (hc : consistent fs) (s : CSt) : ∀ e ∈ curFiles fs s, e.obj = e.disc := by
  intro e he
  unfold curFiles at he
  cases hp : s.path with
  | none => simp [hp] at he
  | some p =>
    simp only [hp] at he
    cases hd : fs[p]? with
    | none => simp [hd] at he
    | some d =>
      simp only [hd] at he
      have hmem : d ∈ fs := List.mem_of_getElem? hd
      by_cases hdir : d.isDir = true
      · simp only [hdir, if_true] at he
        exact hc d hmem e he
      · simp [hdir] at he

theorem foldl_loadStep_none (m : String) (fl : List FileEntry) (s : CSt) (h : ∀ e ∈ fl, e.disc ≠ m) :
    fl.foldl (loadStep m) s = s :=
  foldl_noop _ fl s (fun e he => by
    have : (e.disc == m) = false := by simpa using h e he
    simp [loadStep_eq, this])

theorem foldl_loadStep_hasKey (m : String) (fl : List FileEntry) (s : CSt) (h : hasKey s.dict m = true) :
    fl.foldl (loadStep m) s = s :=
  foldl_noop _ fl s (fun e _ => by
    rw [loadStep_eq]
    by_cases hd : e.disc = m
    · subst hd; simp [h]
    · have : (e.disc == m) = false := by simpa using hd
      simp [this])

theorem loadStep_insert (m : String) (s : CSt) (e : FileEntry) (hd : e.disc = m) (hobj : e.obj = e.disc)
    (hk : hasKey s.dict m = false) :
    loadStep m s e = { loadS1 s m e with dict := s.dict ++ [(m, loadObj s e)] } := by
  have hobj' : e.obj = m := hobj.trans hd
  rw [loadStep_eq]
  have hk1 : hasKey s.dict e.disc = false := by rw [hd]; exact hk
  have hk2 : hasKey s.dict e.obj = false := by rw [hobj']; exact hk
  have hk3 : hasKey (loadS1 s m e).dict (loadObj s e).mol = false := hk2
  have hmol : ((loadObj s e).mol == m) = true := by simp [loadObj, hobj']
  simp only [hd, hk, beq_self_eq_true, Bool.not_false, Bool.and_self, if_true, hk2, addOpacity, hk3, hmol]
  simp [loadObj, loadS1, hobj']

/-- the file a load of `m` picks in a directory listing: the first one advertising `m` -/
def firstMatch (fl : List FileEntry) (m : String) : Option FileEntry := fl.find? (fun e => e.disc == m)

theorem loadFrom_some (hc : consistent fs) (s : CSt) (m : String) (h1 : lookup s.dict m = none)
    (e : FileEntry) (hf : firstMatch (curFiles fs s) m = some e) :
    e.obj = m ∧ loadFrom fs m s = { loadS1 s m e with dict := s.dict ++ [(m, loadObj s e)] } ∧
      lookup (loadFrom fs m s).dict m = some (loadObj s e) := by
  obtain ⟨hp, pre, post, hfl, hpre⟩ := List.find?_eq_some_iff_append.mp hf
  have hd : e.disc = m := by simpa using hp
  have hobj : e.obj = e.disc := curFiles_consistent hc s e (List.mem_of_find?_eq_some hf)
  have hl : lookup (s.dict ++ [(m, loadObj s e)]) m = some (loadObj s e) := lookup_append_new _ h1
  have hs : loadFrom fs m s = { loadS1 s m e with dict := s.dict ++ [(m, loadObj s e)] } := by
    unfold loadFrom
    rw [hfl, List.foldl_append, List.foldl_cons, foldl_loadStep_none m pre s (fun x hx hdx => by simpa [hdx] using hpre x hx),
      loadStep_insert m s e hd hobj (hasKey_false_of_lookup h1)]
    apply foldl_loadStep_hasKey
    rw [hasKey_eq_isSome]
    show (lookup (s.dict ++ [(m, loadObj s e)]) m).isSome = true
    rw [hl]; rfl
  exact ⟨hobj.trans hd, hs, by rw [hs]; exact hl⟩

theorem loadFrom_cases (hc : consistent fs) (s : CSt) (m : String) :
    loadFrom fs m s = s ∨ ∃ e, lookup s.dict m = none ∧ firstMatch (curFiles fs s) m = some e ∧ e.obj = m ∧
      loadFrom fs m s = { loadS1 s m e with dict := s.dict ++ [(m, loadObj s e)] } ∧
      lookup (loadFrom fs m s).dict m = some (loadObj s e) := by
  cases hk : hasKey s.dict m
  · cases hf : firstMatch (curFiles fs s) m with
    | none =>
      exact Or.inl (foldl_loadStep_none m _ s (fun e he hd => by simpa [hd] using List.find?_eq_none.mp hf e he))
    | some e =>
      exact Or.inr ⟨e, lookup_none_of_hasKey hk, rfl, loadFrom_some fs hc s m (lookup_none_of_hasKey hk) e hf⟩
  · exact Or.inl (foldl_loadStep_hasKey m _ s hk)

/-- loads of `m` so far, plus one while `m` is not cached: never increases between clears -/
def pot (s : CSt) (m : String) : Nat := loadsOf s m + (if hasKey s.dict m then 0 else 1)

theorem hasKey_mono {d d' : List (String × Obj)} (h : Ext d d') {m : String} (hk : hasKey d m = true) :
    hasKey d' m = true := by
  rw [hasKey_eq_isSome] at *
  cases hl : lookup d m with
  | none => simp [hl] at hk
  | some o => simp [h m o hl]

theorem loadsOf_append (s s' : CSt) (m m' : String) (f : Nat) (hl : s'.log = s.log ++ [(m', f)]) :
    loadsOf s' m = loadsOf s m + (if m' == m then 1 else 0) := by
  unfold loadsOf
  rw [hl, List.filter_append, List.length_append]
  cases h : (m' == m) <;> simp [h]

theorem pot_le_of_ext {s s' : CSt} {m : String} (hl : s'.log = s.log) (he : Ext s.dict s'.dict) :
    pot s' m ≤ pot s m := by
  unfold pot loadsOf
  rw [hl]
  cases hk : hasKey s.dict m
  · cases hasKey s'.dict m <;> simp
  · rw [hasKey_mono he hk]; simp

theorem loadFrom_pot (hc : consistent fs) (m' m : String) (s : CSt) : pot (loadFrom fs m' s) m ≤ pot s m := by
  rcases loadFrom_cases fs hc s m' with h | ⟨e, h1, _, _, h, hl⟩
  · rw [h]; exact Nat.le_refl _
  · have hk' : hasKey (loadFrom fs m' s).dict m' = true := by rw [hasKey_eq_isSome, hl]; rfl
    rw [h] at hk' ⊢
    unfold pot
    show loadsOf { loadS1 s m' e with dict := s.dict ++ [(m', loadObj s e)] } m +
        (if hasKey (s.dict ++ [(m', loadObj s e)]) m = true then 0 else 1) ≤ _
    rw [loadsOf_append s { loadS1 s m' e with dict := s.dict ++ [(m', loadObj s e)] } m m' e.fileId rfl]
    by_cases hm : m' = m
    · subst hm
      simp [hk', hasKey_false_of_lookup h1]
    · have hne : (m' == m) = false := by simpa using hm
      simp only [hne]
      cases hkm : hasKey s.dict m
      · cases hasKey (s.dict ++ [(m', loadObj s e)]) m <;> simp
      · rw [hasKey_mono (Ext.append _ _) hkm]; simp

theorem run_pot (hc : consistent fs) (ops : List COp) (s : CSt)
    (h : ∀ op ∈ ops, op.clears = false) (m : String) : pot (run fs s ops) m ≤ pot s m :=
  run_rel fs (fun a b => pot b m ≤ pot a m) (fun _ => Nat.le_refl _) (fun h1 h2 => Nat.le_trans h2 h1)
    (fun s m' => loadFrom_pot fs hc m' m s) (fun _ _ => Nat.le_refl _)
    (fun s o => pot_le_of_ext (addOpacity_log _ o _) (addOpacity_grow { s with nextId := s.nextId + 1 } o none).le.ext) ops s h

/-! ### what is served is a fresh load of the configured directory (history freedom) -/

/-- `o` is, as a table, what loading file `e` under the configuration of `s` gives for molecule `k`:
    the file, the interpolation mode, the name and the memory flag (everything but the identity) -/
def FromFile (s : CSt) (e : FileEntry) (k : String) (o : Obj) : Prop :=
  o.src = some e.fileId ∧ o.mode = interpOr s ∧ o.mol = k ∧
    o.inMem = (if e.fmt = Fmt.hdf then some (memOrTrue s.memMode) else none)

/-- every cached object that came from a file is the fresh load of its molecule from the configured path -/
def PathInv (fs : List Dir) (s : CSt) : Prop :=
  ∀ x ∈ s.dict, x.2.src ≠ none → ∃ e, firstMatch (curFiles fs s) x.1 = some e ∧ FromFile s e x.1 x.2

theorem loadObj_fromFile (s : CSt) (e : FileEntry) : FromFile s e e.obj (loadObj s e) := ⟨rfl, rfl, rfl, rfl⟩

theorem Grow.pathInv {x : String × Obj} {s s' : CSt} (h : Grow x s s')
    (hx : x.2.src ≠ none → ∃ e, firstMatch (curFiles fs s) x.1 = some e ∧ FromFile s e x.1 x.2)
    (hi : PathInv fs s) : PathInv fs s' := by
  have key : ∀ y : String × Obj, (y.2.src ≠ none → ∃ e, firstMatch (curFiles fs s) y.1 = some e ∧ FromFile s e y.1 y.2) →
      y.2.src ≠ none → ∃ e, firstMatch (curFiles fs s') y.1 = some e ∧ FromFile s' e y.1 y.2 := by
    intro y hy hsrc
    obtain ⟨e, h1, h2⟩ := hy hsrc
    -- the files found depend on the path only, `FromFile` on the two settings only
    refine ⟨e, ?_, ?_⟩
    · unfold curFiles at h1 ⊢; rw [h.path]; exact h1
    · unfold FromFile interpOr at h2 ⊢; rw [h.interp, h.memMode]; exact h2
  intro y hy
  rcases h.dict with hd | hd <;> rw [hd] at hy
  · exact key y (hi y hy)
  · rcases List.mem_append.mp hy with hy | hy
    · exact key y (hi y hy)
    · rw [List.mem_singleton.mp hy]; exact key x hx

theorem step_get_fromFile (hc : consistent fs) (s : CSt) (hinv : PathInv fs s) (m : String) (o : Obj)
    (h : (step fs s (.get m)).2 = .served o) (hsrc : o.src ≠ none) :
    ∃ e, firstMatch (curFiles fs s) m = some e ∧ FromFile s e m o := by
  rw [step_get] at h
  cases h1 : lookup s.dict m with
  | some o1 =>
    simp only [h1] at h
    cases h
    exact hinv (m, o) (lookup_mem_key h1) hsrc
  | none =>
    simp only [h1] at h
    rcases loadFrom_cases fs hc s m with hs | ⟨e, _, hfm, hobj, _, hl⟩
    · rw [hs, h1] at h; cases h
    · rw [hl] at h
      cases h
      exact ⟨e, hfm, hobj ▸ loadObj_fromFile s e⟩

/-- after an operation that empties the dict and a history that leaves the path alone, what a request serves from a file is
    the fresh load of the first matching file of the configured directory: every such history keeps `PathInv` -/
theorem served_after_clear (hc : consistent fs) (s : CSt) (c : COp) (hcl : c.clears = true) (ops : List COp)
    (hops : ∀ op ∈ ops, ∀ p, op ≠ .setPath p) (m : String) (o : Obj)
    (h : (step fs (run fs (step fs s c).1 ops) (.get m)).2 = .served o) (hsrc : o.src ≠ none) :
    ∃ e, firstMatch (curFiles fs (run fs (step fs s c).1 ops)) m = some e ∧ FromFile (run fs (step fs s c).1 ops) e m o := by
  refine step_get_fromFile fs hc _ (foldl_inv _ (PathInv fs) ops _ (fun s op hop hinv => ?_) ?_) m o h hsrc
  · cases op with
    | get m =>
      rcases step_get_state fs s m with h | h <;> rw [h]
      · exact hinv
      · rcases loadFrom_cases fs hc s m with hs | ⟨e, _, hfm, hobj, hs, _⟩ <;> rw [hs]
        · exact hinv
        · exact Grow.pathInv fs (x := (m, loadObj s e)) (s := s) ⟨rfl, rfl, rfl, Or.inr rfl⟩
            (fun _ => ⟨e, hfm, hobj ▸ loadObj_fromFile s e⟩) hinv
    | setPath p => exact absurd rfl (hops _ hop p)
    | add m k => exact (addOpacity_grow { s with nextId := s.nextId + 1 } _ none).pathInv fs (fun h => absurd rfl h) hinv
    | _ => intro x hx; cases hx
  · intro x hx
    rw [(step_clears fs s c hcl).1] at hx
    cases hx

theorem step_get_fresh (hc : consistent fs) (s : CSt) (m : String) (h1 : lookup s.dict m = none) (e : FileEntry)
    (hfm : firstMatch (curFiles fs s) m = some e) : (step fs s (.get m)).2 = .served (loadObj s e) := by
  rw [step_get]
  simp only [h1, (loadFrom_some fs hc s m h1 e hfm).2.2]

end Taurex.CacheSM
