/-
  Helper lemmas of the source ties written in the dialect `seq` (Props/C12Src.lean: NPoint / TemperatureArray,
  Props/C10Src.lean: TwoLayerGas / ArrayGas): the primitives of TaurexModel/Gen/SeqPrelude.lean (Python slices with int
  bounds, checked slice stores) against `List.take` / `List.drop`, the outcome of a translated function that may raise
  against the model's `Outcome`, and the "odd window / keep the borders" assembly shared by `NPoint.profile` and
  `TwoLayerGas.initialize_profile` against `assembleSmoothed`.  Generic in the carrier (core only, no algebra).
-/
import Proofs.NpInterpCore
import TaurexModel.Gen.SeqPrelude

namespace Taurex.SeqSrc
open Taurex Taurex.NpInterp Taurex.Gen

/-- what a translated function that may raise ends in, read as the model's `Outcome`: the exception named `invalid`
    (an `InvalidModelException` subclass) is `invalid`, every other exception (numpy's ValueError …) is `error` -/
def outcomeOf {β : Type} (invalid : String) : Except String β → Outcome β
  | .ok v => .ok v
  | .error e => if e = invalid then .invalid else .error

@[simp] theorem outcomeOf_ok {β : Type} (s : String) (v : β) : outcomeOf s (Except.ok v) = Outcome.ok v := rfl

theorem outcomeOf_ok_iff {β : Type} (s : String) (x : Except String β) (v : β) :
    outcomeOf s x = Outcome.ok v ↔ x = Except.ok v := by
  cases x with
  | ok w => simp [outcomeOf]
  | error e => simp only [outcomeOf]; split <;> simp

/-! ### slice bounds -/

theorem sliceBound_nat (n k : Nat) : Np.sliceBound n (Int.ofNat k) = min k n := by
  unfold Np.sliceBound
  simp only [Int.ofNat_eq_natCast]
  have : ¬ ((k : Int) < 0) := by omega
  rw [if_neg this]
  simp

/-- a negative bound counts from the end; `-0` is `0`, the START of the sequence -/
theorem sliceBound_neg (n k : Nat) : Np.sliceBound n (-(Int.ofNat k)) = if k = 0 then 0 else n - k := by
  cases k with
  | zero => simp [Np.sliceBound]
  | succ k =>
    unfold Np.sliceBound
    simp only [Int.ofNat_eq_natCast]
    rw [if_pos (by omega), if_neg (Nat.succ_ne_zero k)]
    omega

section
variable {β : Type}

/-- `a[k:]` for a non-negative int `k` -/
theorem pySlice_from (l : List β) (k : Nat) : Np.pySlice l (some (Int.ofNat k)) none = l.drop k := by
  simp only [Np.pySlice, Np.sliceLen, Np.sliceStart, Np.sliceStop]
  rw [sliceBound_nat]
  by_cases h : k ≤ l.length
  · rw [Nat.min_eq_left h, List.take_of_length_le (by simp)]
  · have h' : l.length ≤ k := by omega
    rw [Nat.min_eq_right h', List.drop_eq_nil_of_le (Nat.le_refl _), List.drop_eq_nil_of_le h']
    simp

/-- `a[:-k]` for a positive int `k` -/
theorem pySlice_to_neg (l : List β) (k : Nat) (hk : 0 < k) :
    Np.pySlice l none (some (-(Int.ofNat k))) = l.take (l.length - k) := by
  simp only [Np.pySlice, Np.sliceLen, Np.sliceStart, Np.sliceStop]
  rw [sliceBound_neg, if_neg (by omega)]
  simp

theorem storeOk_from (n k m : Nat) :
    Np.storeOk n (some (Int.ofNat k)) none m = (m == n - k || m == 1) := by
  simp only [Np.storeOk, Np.sliceLen, Np.sliceStart, Np.sliceStop]
  rw [sliceBound_nat, show n - min k n = n - k by omega]

/-- `a[k:] = v` with as many values as entries from `k` on (none when `k` is beyond the end) -/
theorem storeSlice_from (l v : List β) (k : Nat) (hv : v.length = l.length - k) :
    Np.storeSlice l (some (Int.ofNat k)) none v = l.take k ++ v := by
  have hk : l.length - min k l.length = l.length - k := by omega
  simp only [Np.storeSlice, Np.sliceLen, Np.sliceStart, Np.sliceStop, sliceBound_nat, hk, hv, if_true]
  rw [List.drop_eq_nil_of_le (by omega), List.append_nil, ← List.take_eq_take_min]

/-- the number of entries of `a[b:-b]`: none for `b = 0` (the slice `a[0:0]`) -/
theorem sliceLen_mid (n b : Nat) :
    Np.sliceLen n (some (Int.ofNat b)) (some (-(Int.ofNat b))) = if b = 0 then 0 else n - b - b := by
  simp only [Np.sliceLen, Np.sliceStart, Np.sliceStop, sliceBound_nat, sliceBound_neg]
  split <;> omega

/-- `a[0:-0] = v` changes nothing, whatever `v` -/
theorem storeSlice_mid_zero (l v : List β) :
    Np.storeSlice l (some (Int.ofNat 0)) (some (-(Int.ofNat 0))) v = l := by
  have h0 : Np.sliceStart l.length (some (Int.ofNat 0)) = 0 := by
    simp only [Np.sliceStart, sliceBound_nat, Nat.zero_min]
  simp only [Np.storeSlice, sliceLen_mid, if_true, h0, List.take_zero, List.nil_append, Nat.add_zero, List.drop_zero]
  split
  · next hv => rw [List.eq_nil_of_length_eq_zero hv]; rfl
  · split <;> rfl

/-- `a[b:-b] = v` for a value that fits between two borders of `b > 0` entries -/
theorem storeSlice_mid (l v : List β) (b : Nat) (hb : 0 < b) (h : b + v.length + b = l.length) :
    Np.storeSlice l (some (Int.ofNat b)) (some (-(Int.ofNat b))) v = l.take b ++ v ++ l.drop (b + v.length) := by
  have hs : Np.sliceStart l.length (some (Int.ofNat b)) = b := by
    simp only [Np.sliceStart, sliceBound_nat]; omega
  have hv : v.length = l.length - b - b := by omega
  simp only [Np.storeSlice, sliceLen_mid, if_neg (Nat.pos_iff_ne_zero.1 hb), hs, ← hv, if_true]

/-! ### slices of an array given entry by entry -/

theorem drop_map_range (f : Nat → β) (n k : Nat) :
    ((List.range n).map f).drop k = (List.range (n - k)).map (fun i => f (i + k)) := by
  apply List.ext_getElem
  · simp only [List.length_drop, List.length_map, List.length_range]
  · intro i h1 h2
    simp only [List.getElem_drop, List.getElem_map, List.getElem_range, Nat.add_comm k i]

theorem take_map_range (f : Nat → β) (n k : Nat) :
    ((List.range n).map f).take k = (List.range (min k n)).map f := by
  rw [← List.map_take, List.take_range]

end

/-- `a[k]` for a non-negative int `k` -/
theorem getInt_nat {β : Type} (d : β) (l : List β) (k : Nat) : Np.getInt d l (Int.ofNat k) = l.getD k d := by
  unfold Np.getInt
  simp only [Int.ofNat_eq_natCast]
  have : ¬ ((k : Int) < 0) := by omega
  rw [if_neg this]
  simp

/-- `wsize = int(…); if wsize % 2 == 0: wsize += 1` on Python ints, for a non-negative truncation `t` -/
theorem odd_window_int (t : Nat) :
    (if decide ((Int.ofNat t) % 2 = (0 : Int)) then Int.ofNat t + (1 : Int) else Int.ofNat t)
      = Int.ofNat (if t % 2 = 0 then t + 1 else t) := by
  simp only [Int.ofNat_eq_natCast, decide_eq_true_eq]
  by_cases h : t % 2 = 0
  · have : ((t : Int) % 2 = 0) := by omega
    rw [if_pos this, if_pos h]; simp
  · have : ¬ ((t : Int) % 2 = 0) := by omega
    rw [if_neg this, if_neg h]

/-! ### argmin -/

section
variable {α : Type} [Sub α] [Neg α] [LT α] [DecidableLT α] [OfNat α 0]

theorem argminFrom_abs (target : α) : ∀ (l : List α) (i best : Nat) (bv : α),
    Np.argminFrom (l.map (fun v => absv (v - target))) i best bv = argminAbs.go target l i best bv
  | [], _, _, _ => rfl
  | v :: t, i, best, bv => by
    simp only [List.map_cons, Np.argminFrom, argminAbs.go]
    split
    · exact argminFrom_abs target t (i + 1) i _
    · exact argminFrom_abs target t (i + 1) best bv

/-- `np.abs(p - target).argmin()` is the model's `argminAbs` (the first minimum) -/
theorem argmin_abs (p : List α) (target : α) :
    Np.argmin (List.map (fun x => if x < (0 : α) then (-x) else x) (List.map (fun x => x - target) p))
      = argminAbs p target := by
  rw [List.map_map]
  cases p with
  | nil => rfl
  | cons v t =>
    simp only [List.map_cons, Np.argmin, argminAbs, Function.comp_def]
    exact argminFrom_abs target t 1 0 _

end

/-! ### the assembly after smoothing -/

section
variable {α : Type}

/-- **`foo = raw[::-1]; if len(sm) == len(foo): foo = sm[::-1] else: foo[border:-border] = sm[::-1]`** with
    `border = (len(raw) - len(sm)) // 2 ≥ 0` is `assembleSmoothed raw sm`.  The Python slice `foo[b:-b]` is empty for
    `b = 0`; numpy raises ValueError unless the value has as many entries as the slice, or exactly one.  (The model does
    not broadcast a single smoothed value into a longer slice; `hone` excludes that case: it does not arise for an odd
    window.) -/
theorem assemble_tie (inv : String) (hinv : "ValueError" ≠ inv) (raw sm : List α)
    (hone : sm.length = 1 → sm.length < raw.length → 2 * ((raw.length - sm.length) / 2) + 1 = raw.length) :
    outcomeOf inv
      (if decide (sm.length = (List.reverse raw).length) then (Except.ok (List.reverse sm) : Except String (List α))
       else
        if !(Np.storeOk (List.reverse raw).length (some (Int.ofNat ((raw.length - sm.length) / 2)))
              (some (-(Int.ofNat ((raw.length - sm.length) / 2)))) (List.reverse sm).length)
        then (Except.error "ValueError")
        else Except.ok (Np.storeSlice (List.reverse raw) (some (Int.ofNat ((raw.length - sm.length) / 2)))
              (some (-(Int.ofNat ((raw.length - sm.length) / 2)))) (List.reverse sm)))
      = assembleSmoothed raw sm := by
  have herr : outcomeOf inv (Except.error "ValueError" : Except String (List α)) = Outcome.error := by
    simp only [outcomeOf, if_neg hinv]
  unfold assembleSmoothed
  simp only [List.length_reverse, decide_eq_true_eq, Np.storeOk, sliceLen_mid]
  by_cases h1 : sm.length = raw.length
  · rw [if_pos h1, if_pos h1]; rfl
  rw [if_neg h1, if_neg h1]
  generalize hbdef : (raw.length - sm.length) / 2 = b
  by_cases hb : b = 0
  · -- border 0: the slice foo[0:-0] is empty, so the value has to be empty or a single entry
    subst hb
    simp only [if_true, storeSlice_mid_zero]
    by_cases hs : sm.length ≤ 1
    · have : (sm.length == 0 || sm.length == 1) = true := by
        rcases Nat.le_one_iff_eq_zero_or_eq_one.1 hs with h | h <;> rw [h] <;> rfl
      rw [this, if_pos hs]; rfl
    · have : (sm.length == 0 || sm.length == 1) = false := by
        rw [Bool.or_eq_false_iff, beq_eq_false_iff_ne, beq_eq_false_iff_ne]; omega
      rw [this, if_neg hs]; exact herr
  · simp only [if_neg hb]
    by_cases hok : b + sm.length + b = raw.length
    · have : (sm.length == raw.length - b - b || sm.length == 1) = true := by
        rw [Bool.or_eq_true, beq_iff_eq]; left; omega
      rw [this, if_pos hok, storeSlice_mid _ _ _ (Nat.pos_of_ne_zero hb) (by simpa only [List.length_reverse] using hok),
        List.length_reverse]
      rfl
    · have : (sm.length == raw.length - b - b || sm.length == 1) = false := by
        rw [Bool.or_eq_false_iff, beq_eq_false_iff_ne, beq_eq_false_iff_ne]
        have := hone
        omega
      rw [this, if_neg hok]; exact herr

section
variable [Add α] [Div α] [OfNat α 0] [NatConv α]

/-- the smoothed profile of the window `2k + 1` satisfies the side condition of `assemble_tie`: a single smoothed value
    means `len(a) = 2k + 1` -/
theorem assemble_side (a : List α) (k : Nat) :
    (movingAverage a (2 * k + 1)).length ≤ a.length ∧
    ((movingAverage a (2 * k + 1)).length = 1 → (movingAverage a (2 * k + 1)).length < a.length →
      2 * ((a.length - (movingAverage a (2 * k + 1)).length) / 2) + 1 = a.length) := by
  rw [movingAverage_length_odd]
  refine ⟨Nat.sub_le _ _, fun h1 _ => ?_⟩
  have hk : 2 * k ≤ a.length := Nat.le_of_lt (Nat.lt_of_sub_eq_succ h1)
  rw [Nat.sub_sub_self hk, Nat.mul_div_cancel_left k Nat.two_pos, ← h1, Nat.add_sub_cancel' hk]

/-- **what `NPoint.profile` and `TwoLayerGas.initialize_profile` do once `movingaverage` has returned** `sm` for the window
    `2k + 1` (`a` is the smoothed array: `raw` itself or its `log10`): `border = int((len(raw) - len(sm)) / 2)`, then the
    assembly of `assemble_tie`.  `hhalf`: `int(k / 2) = k // 2` for `k ≥ 0`. -/
theorem smooth_store_tie [OfNat α 2] (inv : String) (hinv : "ValueError" ≠ inv) (pyInt : α → Int)
    (toF : Int → α) (hhalf : ∀ k : Nat, pyInt (toF (Int.ofNat k) / 2) = Int.ofNat (k / 2))
    (a raw sm : List α) (k : Nat) (ha : a.length = raw.length) (hs : sm.length = (movingAverage a (2 * k + 1)).length) :
    outcomeOf inv
      (if decide (sm.length = (List.reverse raw).length) then (Except.ok (List.reverse sm) : Except String (List α))
       else
        if !(Np.storeOk (List.reverse raw).length
              (some (pyInt (toF (Int.ofNat raw.length - Int.ofNat sm.length) / 2)))
              (some (-(pyInt (toF (Int.ofNat raw.length - Int.ofNat sm.length) / 2)))) (List.reverse sm).length)
        then (Except.error "ValueError")
        else Except.ok (Np.storeSlice (List.reverse raw)
              (some (pyInt (toF (Int.ofNat raw.length - Int.ofNat sm.length) / 2)))
              (some (-(pyInt (toF (Int.ofNat raw.length - Int.ofNat sm.length) / 2)))) (List.reverse sm)))
      = assembleSmoothed raw sm := by
  obtain ⟨hle, hone⟩ := assemble_side a k
  rw [← hs, ha] at hle hone
  rw [show Int.ofNat raw.length - Int.ofNat sm.length = Int.ofNat (raw.length - sm.length) from (Int.ofNat_sub hle).symm,
    hhalf]
  exact assemble_tie inv hinv raw sm hone

end

end

end Taurex.SeqSrc
