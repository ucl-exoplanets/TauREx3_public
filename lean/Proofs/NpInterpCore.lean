/-
  Facts about the shared numpy model (TaurexModel/NpInterp.lean) that hold for every carrier.  Core only, no algebra.
-/
import TaurexModel.NpInterp

namespace Taurex.NpInterp

variable {α : Type}

section
variable [Add α] [Div α] [OfNat α 0] [NatConv α]

theorem movingAverage_length (a : List α) (n : Nat) (hn : 0 < n) :
    (movingAverage a n).length = a.length + 1 - n := by
  unfold movingAverage
  split <;> simp only [List.length_nil, List.length_map, List.length_range] <;> omega

theorem movingAverage_length_odd (a : List α) (k : Nat) : (movingAverage a (2 * k + 1)).length = a.length - 2 * k := by
  rw [movingAverage_length a _ (Nat.succ_pos _)]
  omega

end

section
variable [Mul α] [Div α] [NatConv α] [OfNat α 100]

/-- half of the smoothing window, rounded down -/
def halfWindow (nlayers : Nat) (window : α) : Nat := truncNat (ofNat' nlayers * (window / 100)) / 2

/-- the window is `2k + 1`: the moving average drops `2k` entries and the assembly keeps `k` raw entries on each side -/
theorem oddWindow_eq (n : Nat) (w : α) : oddWindow n w = 2 * halfWindow n w + 1 := by
  unfold oddWindow halfWindow
  dsimp only
  split <;> omega

theorem oddWindow_odd (n : Nat) (w : α) : oddWindow n w % 2 = 1 := by
  rw [oddWindow_eq, Nat.add_comm, Nat.add_mul_mod_self_left]

theorem one_le_oddWindow (n : Nat) (w : α) : 1 ≤ oddWindow n w :=
  oddWindow_eq n w ▸ Nat.le_add_left 1 _

end

/-- with `2k` entries fewer than `raw`, the smoothed values replace the middle and `k` raw entries stay on each side
    (`k = 0`: the smoothed profile itself) -/
theorem assembleSmoothed_half {β : Type} (raw sm : List β) (k : Nat) (hk : 2 * k ≤ raw.length)
    (hs : sm.length = raw.length - 2 * k) :
    assembleSmoothed raw sm = .ok (raw.reverse.take k ++ sm.reverse ++ raw.reverse.drop (k + sm.length)) := by
  unfold assembleSmoothed
  simp only [List.length_reverse]
  rw [hs, Nat.sub_sub_self hk, Nat.mul_div_cancel_left k Nat.two_pos, ← hs]
  cases k with
  | zero =>
    rw [if_pos (by omega), List.take_zero, List.nil_append,
      List.drop_eq_nil_of_le (by rw [List.length_reverse]; omega), List.append_nil]
  | succ k =>
    rw [if_neg (by omega), if_neg (Nat.succ_ne_zero k), if_pos (by omega)]

section
variable [Sub α] [Neg α] [LT α] [DecidableLT α] [OfNat α 0]

theorem argminAbs_go_lt (target : α) : ∀ (rest : List α) (i best : Nat) (bv : α), best < i →
    argminAbs.go target rest i best bv < i + rest.length
  | [], _, _, _, h => h
  | v :: rest, i, best, bv, h => by
    unfold argminAbs.go
    dsimp only
    rw [List.length_cons]
    split
    · have := argminAbs_go_lt target rest (i + 1) i (absv (v - target)) (by omega)
      omega
    · have := argminAbs_go_lt target rest (i + 1) best bv (by omega)
      omega

theorem argminAbs_lt (p : List α) (target : α) (hne : 0 < p.length) : argminAbs p target < p.length := by
  cases p with
  | nil => exact absurd hne (Nat.lt_irrefl 0)
  | cons v rest =>
    have := argminAbs_go_lt target rest 1 0 (absv (v - target)) (by omega)
    simp only [argminAbs, List.length_cons]
    omega

end

end Taurex.NpInterp
