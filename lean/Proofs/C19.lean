/-
  Lemmas for C19: the grey-haze window (searchsorted slice, overlap weights, their running maximum), levels of a sorted
  atmosphere (`maxTo`/`minTo` through `foldl_range_eq_seq`), the Lee law, the keyword arguments of a declared contribution
  (`lookup_map_declared`), and the data of the examples of `Props/C19.lean`.
-/
import Proofs.C01
import Proofs.C01Max
import Proofs.ListCore
import TaurexModel.Haze

namespace Taurex.Haze
open Taurex.Transmission

theorem fmax_eq (a b : ℝ) : fmax a b = max a b := by
  unfold fmax; split
  · exact (max_eq_right (le_of_lt ‹_›)).symm
  · exact (max_eq_left (not_lt.1 ‹_›)).symm

theorem fmin_eq (a b : ℝ) : fmin a b = min a b := by
  unfold fmin; split
  · exact (min_eq_right (le_of_lt ‹_›)).symm
  · exact (min_eq_left (not_lt.1 ‹_›)).symm

theorem overlap_eq (lev : ℕ → ℝ) (lo hi : ℝ) (i : ℕ) :
    flatOverlap lev lo hi i = max (min hi (lev (i + 1)) - max lo (lev i)) 0 := by
  unfold flatOverlap; rw [fmax_eq, fmin_eq, fmax_eq]

theorem overlap_nonneg (lev : ℕ → ℝ) (lo hi : ℝ) (i : ℕ) : 0 ≤ flatOverlap lev lo hi i := by
  rw [overlap_eq]; exact le_max_right _ _

/-- `np.searchsorted(…, side='right')` on the sorted values `f 0 ≤ … ≤ f (m-1)`: index `j` is below the result exactly when
    `f j ≤ v` -/
theorem lt_searchRight_range (m : ℕ) (f : ℕ → ℝ) (hf : ∀ a b, a ≤ b → b < m → f a ≤ f b) (v : ℝ) (j : ℕ) (hj : j < m) :
    j < Interp.searchRight ((List.range m).map f) v ↔ f j ≤ v := by
  have hs : ((List.range m).map f).Pairwise (· ≤ ·) :=
    List.pairwise_map.2 (List.pairwise_lt_range.imp_of_mem fun {a b} _ hb hab => hf a b hab.le (List.mem_range.1 hb))
  have h := lt_countP_iff (· ≤ ·) (fun x : ℝ => x ≤ v) (fun _ _ hxy hy => le_trans hxy hy) _ hs j
    (by rw [List.length_map, List.length_range]; exact hj)
  rwa [List.getElem_map, List.getElem_range] at h

/-- levels (log10 P, top of the atmosphere first) are non-decreasing in the index -/
def LevMono (n : ℕ) (lev : ℕ → ℝ) : Prop := ∀ a b, a ≤ b → b ≤ n → lev a ≤ lev b

theorem slice_contains (n : ℕ) (lev : ℕ → ℝ) (hm : LevMono n lev) (lo hi : ℝ) (i : ℕ) (hi_n : i < n)
    (hpos : 0 < flatOverlap lev lo hi i) : flatStart n lev lo ≤ i ∧ i ≤ flatStop n lev hi := by
  rw [overlap_eq] at hpos
  have hgt : max lo (lev i) < min hi (lev (i + 1)) :=
    sub_pos.1 ((lt_max_iff.1 hpos).resolve_right (lt_irrefl 0))
  have h1 : lo < lev (i + 1) := lt_of_le_of_lt (le_max_left _ _) (lt_of_lt_of_le hgt (min_le_right _ _))
  have h2 : lev i < hi := lt_of_le_of_lt (le_max_right _ _) (lt_of_lt_of_le hgt (min_le_left _ _))
  have hmono : ∀ m ≤ n, ∀ a b, a ≤ b → b < m → lev (a + 1) ≤ lev (b + 1) := fun m hmn a b hab hb =>
    hm (a + 1) (b + 1) (Nat.succ_le_succ hab) (Nat.le_trans hb hmn)
  -- `flatStart ≤ i` says `lev (i+1) ≤ lo` fails, `i ≤ flatStop` (for `i = j+1`) that `lev (j+1) ≤ hi` holds
  refine ⟨Nat.le_of_not_lt fun h => not_le.2 h1 ((lt_searchRight_range n _ (hmono n le_rfl) lo i hi_n).1 h), ?_⟩
  cases i with
  | zero => exact Nat.zero_le _
  | succ j =>
    exact (lt_searchRight_range (n - 1) _ (hmono (n - 1) (Nat.sub_le _ _)) hi j (Nat.lt_sub_of_add_lt hi_n)).2 h2.le

/-- `weight.max()` over the slice is the running maximum `Geometry.arrMax` of the slice's weights -/
theorem flatWmax_eq (lev : ℕ → ℝ) (lo hi : ℝ) (s t : ℕ) :
    flatWmax lev lo hi s t = Geometry.arrMax (t - s) fun j => flatOverlap lev lo hi (s + j) := rfl

theorem wmax_ge (lev : ℕ → ℝ) (lo hi : ℝ) (s t i : ℕ) (hs : s ≤ i) (ht : i ≤ t) :
    flatOverlap lev lo hi i ≤ flatWmax lev lo hi s t := by
  rw [flatWmax_eq]
  have := Geometry.arrMax_ge (t - s) (fun j => flatOverlap lev lo hi (s + j)) (i - s) (Nat.sub_le_sub_right ht s)
  rwa [Nat.add_sub_cancel' hs] at this

theorem wmax_attained (lev : ℕ → ℝ) (lo hi : ℝ) (s t : ℕ) (hst : s ≤ t) :
    ∃ i, s ≤ i ∧ i ≤ t ∧ flatWmax lev lo hi s t = flatOverlap lev lo hi i := by
  rw [flatWmax_eq]
  obtain ⟨j, hj, e⟩ := Geometry.arrMax_attained (t - s) fun j => flatOverlap lev lo hi (s + j)
  exact ⟨s + j, Nat.le_add_right _ _, by omega, e⟩

theorem flatStop_le (n : ℕ) (lev : ℕ → ℝ) (hi : ℝ) : flatStop n lev hi ≤ n - 1 := by
  rw [flatStop, Interp.searchRight_map]
  exact List.countP_le_length.trans (List.length_range).le

theorem flatSigmaRevW_in (n : ℕ) (lev : ℕ → ℝ) (lo hi mix : ℝ) (i : ℕ) (hs : flatStart n lev lo ≤ i)
    (ht : i ≤ flatStop n lev hi) (hin : i < n) (hw : 0 < flatWmax lev lo hi (flatStart n lev lo) (flatStop n lev hi)) :
    flatSigmaRevW n lev lo hi mix i
      = flatOverlap lev lo hi i / flatWmax lev lo hi (flatStart n lev lo) (flatStop n lev hi) * mix :=
  if_pos ⟨hs, ht, hin, hw⟩

theorem window_of_pos (n : ℕ) (lev : ℕ → ℝ) (hm : LevMono n lev) (lo hi : ℝ) (i : ℕ) (hin : i < n)
    (hpos : 0 < flatOverlap lev lo hi i) :
    flatStart n lev lo ≤ i ∧ i ≤ flatStop n lev hi ∧
      flatOverlap lev lo hi i ≤ flatWmax lev lo hi (flatStart n lev lo) (flatStop n lev hi) ∧
      0 < flatWmax lev lo hi (flatStart n lev lo) (flatStop n lev hi) := by
  obtain ⟨hs, ht⟩ := slice_contains n lev hm lo hi i hin hpos
  have hge := wmax_ge lev lo hi _ _ i hs ht
  exact ⟨hs, ht, hge, lt_of_lt_of_le hpos hge⟩

theorem foldl_range_eq_seq {β : Type} (g : β → ℕ → β) (a : ℕ → β) (n : ℕ) (h : ∀ k < n, g (a k) k = a (k + 1)) :
    (List.range n).foldl g (a 0) = a n := by
  induction n with
  | zero => rfl
  | succ n ih =>
    rw [List.range_succ, List.foldl_append, ih fun k hk => h k (Nat.lt_succ_of_lt hk)]
    exact h n (Nat.lt_succ_self n)

/-- `levels.max()` / `levels.min()` of sorted levels: the running maximum is the current level, the running minimum
    stays the first -/
theorem maxTo_of_mono (n : ℕ) (lev : ℕ → ℝ) (hm : LevMono n lev) : maxTo n lev = lev n :=
  foldl_range_eq_seq _ lev n fun k hk => by rw [fmax_eq, max_eq_right (hm k (k + 1) (Nat.le_succ k) hk)]

theorem minTo_of_mono (n : ℕ) (lev : ℕ → ℝ) (hm : LevMono n lev) : minTo n lev = lev 0 :=
  foldl_range_eq_seq _ (fun _ => lev 0) n fun k hk => by rw [fmin_eq, min_eq_left (hm 0 (k + 1) (Nat.zero_le _) hk)]

theorem powr_pos (x y : ℝ) : 0 < powr x y := by unfold powr; simp only [exp_real]; exact Real.exp_pos _

theorem leeLaw_pos (pi a q wn : ℝ) (hpi : 0 < pi) (ha : 0 < a) (hq : 0 ≤ q) :
    0 < leeLaw pi a q wn := by
  have ham : 0 < a * (1 / 1000000) := mul_pos ha (by norm_num)
  exact mul_pos (mul_pos (div_pos (by norm_num) (add_pos_of_nonneg_of_pos (mul_nonneg hq (powr_pos _ _).le) (powr_pos _ _)))
    hpi) (mul_pos ham ham)

/-! ### a contribution declared in an input file (`declaredArgs`) -/

theorem lookup_map_declared {β : Type} (config : List (String × β)) (k : String) (defaults : List (String × β)) (d : β)
    (h : defaults.lookup k = some d) :
    (defaults.map (fun kd => (kd.1, (config.lookup kd.1).getD kd.2))).lookup k = some ((config.lookup k).getD d) := by
  rw [lookup_map_val (fun k d => (config.lookup k).getD d) k defaults, h]
  rfl

/-! the levels 0, 1, 2, 3, 4 and the window `[1/2, 5/2]` of the examples of `Props/C19.lean` -/

theorem nv_levMono : LevMono 4 (fun i => (i : ℝ)) := fun _ _ h _ => Nat.cast_le.2 h

theorem nv_overlap_pos : 0 < flatOverlap (fun i => (i : ℝ)) (1 / 2) (5 / 2) 2 := by
  rw [overlap_eq]; norm_num

end Taurex.Haze
