/-
  Helper lemmas for the C17 source tie: strided slice stores (`e[0::2] = …`), reversal, `np.vstack((…)).T`, and
  the observation rows as the array the code sees (`encode`, `col0`).
-/
import TaurexModel.Gen.Prelude
import TaurexModel.Observation

namespace Taurex.Gen.Np
section
variable {β γ : Type}

theorem getElem?_pairs (f g : γ → β) (l : List γ) : ∀ (i : Nat),
    (l.flatMap (fun r => [f r, g r]))[i]? = if i % 2 = 0 then (l[i / 2]?).map f else (l[i / 2]?).map g := by
  induction l with
  | nil => intro i; simp
  | cons r t ih =>
    intro i
    match i with
    | 0 => simp
    | 1 => simp
    | i + 2 =>
      have := ih i
      simp only [List.flatMap_cons, List.cons_append, List.nil_append, List.getElem?_cons_succ, this]
      have h1 : (i + 2) % 2 = i % 2 := by omega
      have h2 : (i + 2) / 2 = i / 2 + 1 := by omega
      rw [h1, h2, List.getElem?_cons_succ]

theorem length_pairs (f g : γ → β) (l : List γ) : (l.flatMap (fun r => [f r, g r])).length = l.length * 2 := by
  induction l with
  | nil => rfl
  | cons r t ih => simp [List.flatMap_cons, ih]; omega

/-- `e = np.zeros(2n); e[0::2] = A; e[1::2] = B` interleaves `A` and `B` -/
theorem setStride_interleave (z : β) (f g : γ → β) (l : List γ) :
    setStride (setStride (List.replicate (l.length * 2) z) 0 2 (l.map f)) 1 2 (l.map g)
      = l.flatMap (fun r => [f r, g r]) := by
  apply List.ext_getElem?
  intro i
  rw [getElem?_pairs]
  simp only [setStride, List.getElem?_map, List.getElem?_zipIdx, List.getElem?_replicate, Nat.zero_add]
  by_cases hi : i < l.length * 2
  · have hj : i / 2 < l.length := by omega
    simp only [hi, if_true, Option.map_some, strideElem, Nat.zero_le, true_and, Nat.sub_zero, List.getD_eq_getElem?_getD,
      List.getElem?_map, List.getElem?_eq_getElem hj, Option.getD_some]
    by_cases he : i % 2 = 0
    · have : ¬ (1 ≤ i ∧ (i - 1) % 2 = 0) := by omega
      simp [he, this]
    · have h1 : (1 ≤ i ∧ (i - 1) % 2 = 0) := by omega
      have h2 : (i - 1) / 2 = i / 2 := by omega
      simp [he, h1, h2, hj]
  · have hj : ¬ i / 2 < l.length := by omega
    have : l[i / 2]? = none := by simp; omega
    simp [hi, this]

theorem take_reverse (d : β) (l : List β) (idx : List Nat) : take d l idx.reverse = (take d l idx).reverse := by
  simp [take]

/-- `np.vstack((l.map f, l.map g₁, …)).T`: row `i` of the transposed array holds `f lᵢ, g₁ lᵢ, …` -/
theorem transpose_maps (d : β) (f : γ → β) (fs : List (γ → β)) (l : List γ) :
    transpose d ((f :: fs).map (fun g => l.map g)) = l.map (fun r => (f :: fs).map (fun g => g r)) := by
  apply List.ext_getElem
  · simp [transpose]
  · intro i h1 h2
    simp only [transpose, List.map_cons, List.headD_cons, List.length_map] at h1 ⊢
    have hi : i < l.length := by simpa using h1
    simp [List.getD_eq_getElem?_getD, List.getElem?_eq_getElem hi]

end
end Taurex.Gen.Np

namespace Taurex.C17Src
open Taurex.Binning Taurex.Observation Taurex.Gen

section
variable {α : Type}

/-- one row of the observation array as the code sees it: 3 or 4 columns -/
def encode (fourCol : Bool) (r : ORow α) : List α := if fourCol then [r.wl, r.v, r.e, r.bw] else [r.wl, r.v, r.e]

/-- `rawData.shape[1]` -/
def ncols (fourCol : Bool) : Nat := if fourCol then 4 else 3

theorem col0 [OfNat α 0] (fc : Bool) (rows : List (ORow α)) :
    List.map (fun r__ : List α => r__.getD 0 0) (rows.map (encode fc)) = rows.map ORow.wl := by
  cases fc <;> simp [encode, List.map_map, Function.comp_def]

end
end Taurex.C17Src
