/-
  Lemmas about the vertical-structure model over ℝ (helper file of Props/C11.lean; the last section serves
  Props/C11SrcProps.lean).
-/
import Proofs.RealInst
import Proofs.C11Loop
import Proofs.C10Src
import Mathlib.Tactic.Ring
import Mathlib.Tactic.FieldSimp
import Mathlib.Tactic.Positivity

namespace Taurex.Structure
open Taurex

/-! ### the log-spaced pressure grid -/

theorem natTo_real (n : ℕ) : (natTo n : ℝ) = (n : ℝ) := by
  induction n with
  | zero => simp [natTo]
  | succ k ih => simp [natTo, ih]

/-- entry `i` of `np.linspace(a, b, n+1)` -/
noncomputable def linEntry (n : ℕ) (a b : ℝ) (i : ℕ) : ℝ :=
  if i = n then b else natTo i * ((b - a) / natTo n) + a

theorem linEntry_eq {n : ℕ} (hn : 1 ≤ n) (a b : ℝ) {i : ℕ} :
    linEntry n a b i = a + (i : ℝ) * ((b - a) / (n : ℝ)) := by
  unfold linEntry
  have hn0 : (n : ℝ) ≠ 0 := by exact_mod_cast (by omega : n ≠ 0)
  split
  · next h => subst h; field_simp; ring
  · rw [natTo_real, natTo_real]; ring

theorem linEntry_strictMono {n : ℕ} (hn : 1 ≤ n) {a b : ℝ} (hab : a < b) {i j : ℕ} (hij : i < j) :
    linEntry n a b i < linEntry n a b j := by
  rw [linEntry_eq hn, linEntry_eq hn]
  have hs : 0 < (b - a) / (n : ℝ) := div_pos (sub_pos.2 hab) (Nat.cast_pos.2 hn)
  exact add_lt_add_right (mul_lt_mul_of_pos_right (Nat.cast_lt.2 hij) hs) a

theorem logLevels_eq (n : ℕ) (pmin pmax : ℝ) :
    logLevels n pmin pmax =
      ((List.range (n + 1)).map (fun i => (pow10 (linEntry n (log10 pmin) (log10 pmax) i) : ℝ))).reverse := by
  rw [logLevels, linspace, List.map_map]
  rfl

theorem logLevels_pairwise {n : ℕ} (hn : 1 ≤ n) {pmin pmax : ℝ} (h0 : 0 < pmin) (h : pmin < pmax) :
    (logLevels n pmin pmax).Pairwise (· > ·) := by
  rw [logLevels_eq, List.pairwise_reverse, List.pairwise_map]
  refine (List.pairwise_lt_range (n := n + 1)).imp ?_
  intro i j hij
  exact pow10_lt_pow10 (linEntry_strictMono hn (log10_lt_log10 h0 h) hij)

theorem logLevels_pos {n : ℕ} {pmin pmax : ℝ} : ∀ p ∈ logLevels n pmin pmax, 0 < p := by
  intro p hp
  rw [logLevels_eq, List.mem_reverse, List.mem_map] at hp
  obtain ⟨i, _, rfl⟩ := hp
  exact pow10_pos _

theorem logLevels_head {n : ℕ} (pmin : ℝ) {pmax : ℝ} (h : 0 < pmax) :
    (logLevels n pmin pmax).head? = some pmax := by
  rw [logLevels_eq, List.head?_reverse, List.getLast?_map, List.getLast?_range, if_neg (Nat.succ_ne_zero n),
    Option.map_some, Nat.add_sub_cancel, linEntry, if_pos rfl, pow10_log10 h]

theorem logLevels_last {n : ℕ} (hn : 1 ≤ n) {pmin : ℝ} (pmax : ℝ) (h : 0 < pmin) :
    (logLevels n pmin pmax).getLast? = some pmin := by
  rw [logLevels_eq, List.getLast?_reverse, List.head?_map, List.head?_range, if_neg (Nat.succ_ne_zero n),
    Option.map_some, linEntry_eq hn, Nat.cast_zero, zero_mul, add_zero, pow10_log10 h]

/-- one layer: `p = P_lower * sqrt(P_upper / P_lower)` is the geometric mean, strictly between the two levels -/
theorem geomean_between {lo up : ℝ} (hup : 0 < up) (h : up < lo) :
    let p := lo * (sqrt (up / lo) : ℝ)
    p * p = lo * up ∧ up < p ∧ p < lo := by
  have hlo : 0 < lo := lt_trans hup h
  simp only [sqrt_real]
  -- `s = √(up/lo)` has `s² = up/lo` and `0 < s < 1`, hence `s² < s`
  have hr0 : 0 < up / lo := div_pos hup hlo
  have hs0 : 0 < √(up / lo) := Real.sqrt_pos.2 hr0
  have hss : √(up / lo) * √(up / lo) = up / lo := Real.mul_self_sqrt hr0.le
  have hs1 : √(up / lo) < 1 := (Real.sqrt_lt_sqrt hr0.le ((div_lt_one hlo).2 h)).trans_eq Real.sqrt_one
  refine ⟨?_, ?_, mul_lt_of_lt_one_right hlo hs1⟩
  · rw [mul_mul_mul_comm, hss, mul_assoc, mul_div_cancel₀ up hlo.ne']
  · exact (div_lt_iff₀' hlo).1 (hss.symm.trans_lt (mul_lt_of_lt_one_right hs0 hs1))

/-! ### the hydrostatic loop -/

theorem gravityAt_zero (gm r : ℝ) : gravityAt gm r 0 = surfaceGravity gm r := by
  simp [gravityAt, surfaceGravity]

/-- positivity and ordering, for any strictly decreasing positive levels: a layer that starts at a non-negative altitude
    with positive gravity has positive scale height, a positive thickness because the pressure falls across it, and the
    next layer starts higher, again with positive gravity -/
theorem scaleLoop_pos {kb gm r : ℝ} (hkb : 0 < kb) (hgm : 0 < gm) (hr : 0 < r) (z g : ℝ) (T mu pl : List ℝ) :
    0 ≤ z → 0 < g → (∀ t ∈ T, 0 < t) → (∀ m ∈ mu, 0 < m) → (∀ p ∈ pl, 0 < p) → pl.Pairwise (· > ·) →
      (∀ L ∈ (scaleLoop kb gm r z g T mu pl).1, 0 < L.dz ∧ 0 < L.H ∧ 0 < L.g ∧ 0 ≤ L.z) ∧
      (zsOf (scaleLoop kb gm r z g T mu pl)).Pairwise (· < ·) ∧
      ∀ x ∈ zsOf (scaleLoop kb gm r z g T mu pl), z ≤ x := by
  fun_induction scaleLoop kb gm r z g T mu pl with
  | case1 z g t ts m ms p0 p1 ps H dz z' rest ih =>
    intro hz hg hT hmu hpl hdec
    obtain ⟨ht, hts⟩ := List.forall_mem_cons.1 hT
    obtain ⟨hm, hms⟩ := List.forall_mem_cons.1 hmu
    obtain ⟨hp0, hps⟩ := List.forall_mem_cons.1 hpl
    obtain ⟨hp10, hdec'⟩ := List.pairwise_cons.1 hdec
    have hp1 : 0 < p1 := hps p1 List.mem_cons_self
    have hH : 0 < H := div_pos (mul_pos hkb ht) (mul_pos hm hg)
    have hlog : Real.log (p1 / p0) < 0 :=
      Real.log_neg (div_pos hp1 hp0) ((div_lt_one hp0).2 (hp10 p1 List.mem_cons_self))
    have hdz : 0 < dz := mul_pos_of_neg_of_neg (by rw [neg_one_mul]; exact neg_lt_zero.2 hH) hlog
    have hzz' : z < z' := lt_add_of_pos_right z hdz
    have hz' : 0 ≤ z' := hz.trans hzz'.le
    have hrz : 0 < r + z' := add_pos_of_pos_of_nonneg hr hz'
    obtain ⟨ihL, ihP, ihB⟩ := ih hz' (div_pos hgm (mul_pos hrz hrz)) hts hms hps hdec'
    rw [zsOf_cons]
    exact ⟨List.forall_mem_cons.2 ⟨⟨hdz, hH, hg, hz⟩, ihL⟩,
      List.pairwise_cons.2 ⟨fun x hx => hzz'.trans_le (ihB x hx), ihP⟩,
      List.forall_mem_cons.2 ⟨le_refl z, fun x hx => hzz'.le.trans (ihB x hx)⟩⟩
  | case2 T z g mu pl stop => intros; simp [zsOf]

theorem surfaceGravity_pos {gm r : ℝ} (hgm : 0 < gm) (hr : 0 < r) : 0 < surfaceGravity gm r := by
  unfold surfaceGravity; positivity

theorem scaleProps_z (kb bigG mass r : ℝ) (T pl mu : List ℝ) :
    (scaleProps kb bigG mass r T pl mu).z =
      zsOf (scaleLoop kb (bigG * mass) r 0 (surfaceGravity (bigG * mass) r) T mu pl) := rfl

theorem scaleProps_layers (kb bigG mass r : ℝ) (T pl mu : List ℝ) :
    let layers := (scaleLoop kb (bigG * mass) r 0 (surfaceGravity (bigG * mass) r) T mu pl).1
    (scaleProps kb bigG mass r T pl mu).H = layers.map (·.H) ∧
    (scaleProps kb bigG mass r T pl mu).g = layers.map (·.g) ∧
    (scaleProps kb bigG mass r T pl mu).dz = layers.map (·.dz) := ⟨rfl, rfl, rfl⟩

/-! ### length units -/

theorem metresPer_pos (u : String) (s : ℝ) (h : metresPer u = some s) : 0 < s := by
  unfold metresPer at h
  split at h <;> first | (cases h; norm_num) | cases h

/-! ### arrays of the source side, read on `n` entries, as the model's lists -/

theorem map_range_eq_of_getD {n : ℕ} {f : ℕ → ℝ} {l : List ℝ} (hl : l.length = n)
    (h : ∀ i, i < n → f i = l.getD i 0) : (List.range n).map f = l :=
  (C10Src.listOf_congr n f _ h).trans (C10Src.listOf_getD_self l n hl)

/-- the source array carries the unit factor `1` -/
theorem map_range_eq_of_mul_one {n : ℕ} {f : ℕ → ℝ} {l : List ℝ} (hl : l.length = n)
    (h : ∀ i, i < n → f i = l.getD i 0 * 1) : (List.range n).map f = l :=
  map_range_eq_of_getD hl fun i hi => (h i hi).trans (mul_one _)

end Taurex.Structure
