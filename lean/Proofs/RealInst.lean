/-
  The real-number carrier of the model: `Transc ℝ`, and the rewriting lemmas that turn the model's
  transcendental operations into Mathlib's.  Arithmetic and order need no bridge: the model uses the
  standard operator classes, so at `ℝ` they *are* Mathlib's instances.  Then what the clusters use of `log10` / `pow10`
  at `ℝ`: positivity, the two inverses, monotonicity; and `np.abs` spelt as a comparison (`ite_neg_eq_abs`).
-/
import Mathlib.Analysis.SpecialFunctions.Log.Basic
import Mathlib.Analysis.SpecialFunctions.Pow.Real
import Mathlib.Analysis.SpecialFunctions.Sqrt
import TaurexModel.Num

namespace Taurex

noncomputable instance : Transc ℝ where
  exp := Real.exp
  log := Real.log
  log10 := fun x => Real.log x / Real.log 10
  sqrt := Real.sqrt
  pow10 := fun x => (10 : ℝ) ^ x

@[simp] theorem exp_real (x : ℝ) : (Transc.exp x : ℝ) = Real.exp x := rfl
@[simp] theorem log_real (x : ℝ) : (Transc.log x : ℝ) = Real.log x := rfl
@[simp] theorem log10_real (x : ℝ) : (Transc.log10 x : ℝ) = Real.log x / Real.log 10 := rfl
@[simp] theorem sqrt_real (x : ℝ) : (Transc.sqrt x : ℝ) = Real.sqrt x := rfl
@[simp] theorem pow10_real (x : ℝ) : (Transc.pow10 x : ℝ) = (10 : ℝ) ^ x := rfl

theorem log_ten_pos : 0 < Real.log 10 := Real.log_pos (by norm_num)

theorem pow10_pos (x : ℝ) : 0 < (pow10 x : ℝ) := Real.rpow_pos_of_pos (by norm_num) x

theorem pow10_log10 {x : ℝ} (hx : 0 < x) : (pow10 (log10 x : ℝ) : ℝ) = x := by
  rw [pow10_real, log10_real, Real.rpow_def_of_pos (by norm_num), mul_div_cancel₀ _ log_ten_pos.ne', Real.exp_log hx]

theorem log10_pow10 (x : ℝ) : (log10 (pow10 x : ℝ) : ℝ) = x := by
  rw [pow10_real, log10_real, Real.log_rpow (by norm_num), mul_div_cancel_right₀ _ log_ten_pos.ne']

theorem pow10_strictMono : StrictMono (pow10 : ℝ → ℝ) :=
  fun _ _ h => Real.rpow_lt_rpow_of_exponent_lt (by norm_num) h

theorem log10_strictMonoOn : StrictMonoOn (log10 : ℝ → ℝ) (Set.Ioi 0) :=
  fun _ ha _ _ hab => div_lt_div_of_pos_right (Real.log_lt_log ha hab) log_ten_pos

theorem pow10_lt_pow10 {x y : ℝ} (h : x < y) : (pow10 x : ℝ) < pow10 y := pow10_strictMono h

theorem pow10_le_pow10 {x y : ℝ} (h : x ≤ y) : (pow10 x : ℝ) ≤ pow10 y := pow10_strictMono.monotone h

theorem log10_lt_log10 {a b : ℝ} (ha : 0 < a) (hab : a < b) : (log10 a : ℝ) < log10 b :=
  log10_strictMonoOn ha (ha.trans hab) hab

theorem log10_le_log10 {a b : ℝ} (ha : 0 < a) (hab : a ≤ b) : (log10 a : ℝ) ≤ log10 b :=
  log10_strictMonoOn.monotoneOn ha (ha.trans_le hab) hab

/-- `np.abs` written as a comparison with zero -/
theorem ite_neg_eq_abs (x : ℝ) : (if x < 0 then -x else x) = |x| := by
  split_ifs with h
  exacts [(abs_of_neg h).symm, (abs_of_nonneg (not_lt.1 h)).symm]

end Taurex
