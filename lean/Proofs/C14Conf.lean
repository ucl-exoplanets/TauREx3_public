/-
  Configuration events reaching the caches by other routes than their own setters (TaurexModel/CacheConf.lean): which
  events keep the interpolation-mode invariant and which set the mode.  Core tactics only.
-/
import Proofs.C14Cache
import TaurexModel.CacheConf

namespace Taurex.CacheSM

theorem parCalls_none_not_setInterp (mem : Option Bool) : ∀ op ∈ parCalls none mem, ∀ k, op ≠ .setInterp k := by
  intro op hop k hk
  subst hk
  cases mem <;> simp [parCalls] at hop

theorem modeInv_path (s : CSt) (p : Option Nat) (h : ModeInv s) : ModeInv { s with path := p } := h

theorem stepX_modeInv (fs : List Dir) (s : CSt) (op : XOp) (h : ModeInv s) (hm : op.modeAfter = none) :
    ModeInv (stepX fs s op).1 ∧ (stepX fs s op).1.interp = s.interp := by
  cases op with
  | base op =>
    refine ⟨step_modeInv fs s op h, step_interp_of_not_setInterp fs s op ?_⟩
    intro k hk
    subst hk
    cases hm
  | unsetInterp => cases hm
  | unsetPath => exact ⟨h, rfl⟩
  | parfile p k mem =>
    cases k with
    | some k => cases hm
    | none =>
      cases p with
      | none => exact ⟨run_modeInv fs _ s h, run_interp fs _ s (parCalls_none_not_setInterp mem)⟩
      | some p =>
        have hs : (step fs s (.setPath p)).1 = { s with path := some p } := step_setPath fs s p
        simp only [stepX]
        split
        · rw [hs]; exact ⟨h, rfl⟩
        · refine ⟨run_modeInv fs _ _ (by rw [hs]; exact h), ?_⟩
          rw [run_interp fs _ _ (parCalls_none_not_setInterp mem), hs]

theorem runX_modeInv (fs : List Dir) (ops : List XOp) (s : CSt) (h : ModeInv s)
    (hops : ∀ op ∈ ops, op.modeAfter = none) : ModeInv (runX fs s ops) ∧ (runX fs s ops).interp = s.interp :=
  foldl_inv _ (fun s' => ModeInv s' ∧ s'.interp = s.interp) ops s
    (fun s' op hop h' => ⟨(stepX_modeInv fs s' op h'.1 (hops op hop)).1,
      (stepX_modeInv fs s' op h'.1 (hops op hop)).2.trans h'.2⟩) ⟨h, rfl⟩

theorem stepX_sets_mode (fs : List Dir) (s : CSt) (c : XOp) (ki : Option Nat) (hc : c.modeAfter = some ki)
    (hok : (stepX fs s c).2 = .done) : (stepX fs s c).1.dict = [] ∧ (stepX fs s c).1.interp = ki := by
  cases c with
  | base op =>
    cases op with
    | setInterp k => cases hc; exact ⟨rfl, rfl⟩
    | _ => cases hc
  | unsetInterp => cases hc; exact ⟨rfl, rfl⟩
  | unsetPath => cases hc
  | parfile p k mem =>
    cases k with
    | none => cases hc
    | some k =>
      cases hc
      cases p with
      | none => cases mem <;> exact ⟨rfl, rfl⟩
      | some p =>
        simp only [stepX] at hok ⊢
        split at hok
        · rename_i hnd
          rw [hnd] at hok
          cases hok
        · rename_i hnd
          simp only [hnd, if_false]
          cases mem <;> exact ⟨rfl, rfl⟩

end Taurex.CacheSM
