/-
  C19 — the extended carrier `XR` at which the regenerated cloud code is run with `np.inf` as a VALUE.

  `XR` = what a numpy float can be when rounding is ignored: a real number, `+inf`, `-inf` or `nan`.  The operations follow
  numpy's (IEEE-754) rules for the three special values — `x + inf = inf`, `inf - inf = nan`, `0 * inf = nan`, the sign rules
  of products and quotients, comparisons with `nan` false, `-inf < x < inf`, `exp(-inf) = 0`, `exp(inf) = inf` — and on two
  finite arguments they are the operations of the real carrier (`Proofs/RealInst.lean`, including its totalisations `x / 0`,
  `log` of non-positives, `sqrt` of negatives; zeros are unsigned).  So `fin : ℝ → XR` commutes with every operation, and
  every carrier-polymorphic definition (model or regenerated source) evaluated at `XR` on finite inputs is `fin` of its value
  at `ℝ`, while the cloud's opacity `np.inf` is the value `pinf`: `0 + pinf = pinf`, `10 < pinf`, `exp (-pinf) = fin 0`.
-/
import Proofs.RealInst
import TaurexModel.Transmission
import TaurexModel.Haze

namespace Taurex.C19Ext
open Taurex Taurex.Transmission Taurex.Haze

inductive XR where
  | fin (x : ℝ)
  | pinf
  | ninf
  | nan

namespace XR

noncomputable section

/-- `a + b` (IEEE: `inf + (-inf) = nan`) -/
def add : XR → XR → XR
  | fin a, fin b => fin (a + b)
  | fin _, pinf => pinf
  | fin _, ninf => ninf
  | pinf, fin _ => pinf
  | pinf, pinf => pinf
  | pinf, ninf => nan
  | ninf, fin _ => ninf
  | ninf, ninf => ninf
  | ninf, pinf => nan
  | nan, _ => nan
  | fin _, nan => nan
  | pinf, nan => nan
  | ninf, nan => nan

def neg : XR → XR
  | fin a => fin (-a)
  | pinf => ninf
  | ninf => pinf
  | nan => nan

/-- an infinity of sign `pos` times the finite `b` (IEEE: `inf * 0 = nan`) -/
def infTimes (pos : Bool) (b : ℝ) : XR :=
  if 0 < b then (if pos then pinf else ninf) else if b < 0 then (if pos then ninf else pinf) else nan

def mul : XR → XR → XR
  | fin a, fin b => fin (a * b)
  | fin a, pinf => infTimes true a
  | fin a, ninf => infTimes false a
  | pinf, fin b => infTimes true b
  | ninf, fin b => infTimes false b
  | pinf, pinf => pinf
  | pinf, ninf => ninf
  | ninf, pinf => ninf
  | ninf, ninf => pinf
  | nan, _ => nan
  | fin _, nan => nan
  | pinf, nan => nan
  | ninf, nan => nan

/-- `a / b`; two finite arguments: the real carrier's quotient (its convention for `b = 0` included) -/
def div : XR → XR → XR
  | fin a, fin b => fin (a / b)
  | fin _, pinf => fin 0
  | fin _, ninf => fin 0
  | pinf, fin b => if b < 0 then ninf else pinf
  | ninf, fin b => if b < 0 then pinf else ninf
  | pinf, pinf => nan
  | pinf, ninf => nan
  | ninf, pinf => nan
  | ninf, ninf => nan
  | nan, _ => nan
  | fin _, nan => nan
  | pinf, nan => nan
  | ninf, nan => nan

/-- `a < b` (false when either is `nan`) -/
def lt : XR → XR → Prop
  | fin a, fin b => a < b
  | fin _, pinf => True
  | ninf, fin _ => True
  | ninf, pinf => True
  | _, _ => False

/-- `a ≤ b` (false when either is `nan`) -/
def le : XR → XR → Prop
  | fin a, fin b => a ≤ b
  | fin _, pinf => True
  | ninf, fin _ => True
  | ninf, pinf => True
  | pinf, pinf => True
  | ninf, ninf => True
  | _, _ => False

instance : Add XR := ⟨add⟩
instance : Neg XR := ⟨neg⟩
instance : Sub XR := ⟨fun a b => add a (neg b)⟩
instance : Mul XR := ⟨mul⟩
instance : Div XR := ⟨div⟩
instance : LT XR := ⟨lt⟩
instance : LE XR := ⟨le⟩
instance : DecidableLT XR := fun _ _ => Classical.propDecidable _
instance : DecidableLE XR := fun _ _ => Classical.propDecidable _
instance (n : Nat) : OfNat XR n := ⟨fin (n : ℝ)⟩

instance : Transc XR where
  exp := fun
    | fin x => fin (Real.exp x)
    | pinf => pinf
    | ninf => fin 0
    | nan => nan
  log := fun
    | fin x => fin (Real.log x)
    | pinf => pinf
    | _ => nan
  log10 := fun
    | fin x => fin (Real.log x / Real.log 10)
    | pinf => pinf
    | _ => nan
  sqrt := fun
    | fin x => fin (Real.sqrt x)
    | pinf => pinf
    | _ => nan
  pow10 := fun
    | fin x => fin ((10 : ℝ) ^ x)
    | pinf => pinf
    | ninf => fin 0
    | nan => nan

/-! ### `fin` commutes with the operations -/

@[simp] theorem fin_add (a b : ℝ) : (fin a + fin b : XR) = fin (a + b) := rfl
@[simp] theorem fin_sub (a b : ℝ) : (fin a - fin b : XR) = fin (a - b) := by
  show add (fin a) (neg (fin b)) = _
  simp [add, neg, sub_eq_add_neg]
@[simp] theorem fin_mul (a b : ℝ) : (fin a * fin b : XR) = fin (a * b) := rfl
@[simp] theorem fin_div (a b : ℝ) : (fin a / fin b : XR) = fin (a / b) := rfl
@[simp] theorem fin_neg (a : ℝ) : (-(fin a) : XR) = fin (-a) := rfl
@[simp] theorem fin_lt (a b : ℝ) : (fin a < fin b) ↔ a < b := Iff.rfl
@[simp] theorem fin_le (a b : ℝ) : (fin a ≤ fin b) ↔ a ≤ b := Iff.rfl
@[simp] theorem ofNat_fin (n : Nat) : (OfNat.ofNat n : XR) = fin (n : ℝ) := rfl
@[simp] theorem fin_exp (a : ℝ) : (exp (fin a) : XR) = fin (Real.exp a) := rfl
@[simp] theorem fin_sqrt (a : ℝ) : (sqrt (fin a) : XR) = fin (Real.sqrt a) := rfl
@[simp] theorem fin_log (a : ℝ) : (log (fin a) : XR) = fin (Real.log a) := rfl
@[simp] theorem fin_log10 (a : ℝ) : (log10 (fin a) : XR) = fin (Real.log a / Real.log 10) := rfl
@[simp] theorem fin_pow10 (a : ℝ) : (pow10 (fin a) : XR) = fin ((10 : ℝ) ^ a) := rfl
theorem fin_inj {a b : ℝ} : (fin a : XR) = fin b ↔ a = b := ⟨fun h => by injection h, fun h => by rw [h]⟩

/-! ### numpy's rules for `np.inf`, as far as the cloud deck meets them -/

/-- `x + np.inf = np.inf` for a finite `x` (the cloud's `tau[layer] += inf` on the zero row) -/
@[simp] theorem fin_add_pinf (a : ℝ) : (fin a + pinf : XR) = pinf := rfl
/-- `np.inf > x` for every finite `x` (the test `tau[layer].min() > 10`) -/
@[simp] theorem fin_lt_pinf (a : ℝ) : (fin a < pinf) := trivial
@[simp] theorem exp_neg_pinf : (exp (-(pinf)) : XR) = fin 0 := rfl
theorem add_fin_zero (x : XR) : x + fin 0 = x := by
  show add x (fin 0) = x
  cases x <;> simp [add]

def lift (f : Nat → ℝ) : Nat → XR := fun i => fin (f i)
def lift2 (f : Nat → Nat → ℝ) : Nat → Nat → XR := fun i j => fin (f i j)
def liftC (c : Contrib ℝ) : Contrib XR := ⟨c.kind, lift2 c.sigma⟩
/-- a model opacity that may be `np.inf` as a value of the carrier -/
def ofExt : Ext ℝ → XR
  | .fin x => fin x
  | .inf => pinf

@[simp] theorem lift_apply (f : Nat → ℝ) (i : Nat) : lift f i = fin (f i) := rfl
@[simp] theorem lift2_apply (f : Nat → Nat → ℝ) (i j : Nat) : lift2 f i j = fin (f i j) := rfl

end

end XR

open XR

/-! ### the model of the transmission run at `XR` on finite inputs is `fin` of the model at `ℝ` -/

theorem sq_fin (a : ℝ) : (Transmission.sq (fin a) : XR) = fin (Transmission.sq a) := by simp [Transmission.sq]

theorem accFrom_fin (a : ℝ) (n : Nat) (f : Nat → XR) (g : Nat → ℝ) (h : ∀ k < n, f k = fin (g k)) :
    accFrom (fin a) n f = fin (accFrom a n g) := by
  unfold accFrom
  induction n with
  | zero => rfl
  | succ n ih =>
    rw [List.range_succ, List.foldl_append, List.foldl_append, ih fun k hk => h k (Nat.lt_succ_of_lt hk)]
    simp only [List.foldl_cons, List.foldl_nil, h n (Nat.lt_succ_self n)]
    rfl

theorem chord_fin (newMethod : Bool) (rp : ℝ) (zb z dz : Nat → ℝ) (l : Nat) :
    chord newMethod (fin rp) (lift zb) (lift z) (lift dz) l = lift (chord newMethod rp zb z dz l) := by
  funext k
  rw [lift_apply]
  unfold chord
  cases newMethod
  · simp only [Bool.false_eq_true, if_false]
    unfold chordOld oldHalf oldMid oldP
    split <;> simp [Transmission.sq]
  · simp only [if_true]
    unfold chordNew newD newB
    split <;> simp [Transmission.sq]

theorem term_fin (c : Contrib ℝ) (path dens : Nat → ℝ) (l wn k : Nat) :
    term (liftC c) (lift path) (lift dens) l wn k = fin (term c path dens l wn k) := by
  obtain ⟨kind, sigma⟩ := c
  cases kind <;> simp [term, liftC]

theorem addContrib_fin (c : Contrib ℝ) (n : Nat) (path dens : Nat → ℝ) (l : Nat) (acc : Nat → ℝ) (wn : Nat) :
    addContrib (liftC c) n (lift path) (lift dens) l (lift acc) wn = fin (addContrib c n path dens l acc wn) := by
  unfold addContrib
  rw [show nTerms (liftC c) n l = nTerms c n l from rfl]
  exact accFrom_fin _ _ _ _ (fun k _ => term_fin c path dens l wn k)

theorem saturated_fin (nwn : Nat) (acc : Nat → ℝ) : saturated nwn (lift acc) = saturated nwn acc := by
  unfold saturated
  congr 1

theorem tauCutFrom_fin (n nwn : Nat) (path dens : Nat → ℝ) (l : Nat) (cs : List (Contrib ℝ)) (acc : Nat → ℝ) (wn : Nat) :
    tauCutFrom n nwn (lift path) (lift dens) l (cs.map liftC) (lift acc) wn
      = fin (tauCutFrom n nwn path dens l cs acc wn) := by
  induction cs generalizing acc with
  | nil => rfl
  | cons c cs ih =>
    simp only [List.map_cons, tauCutFrom, saturated_fin]
    by_cases hs : saturated nwn acc = true
    · simp only [hs, if_true]; rfl
    · simp only [hs, Bool.false_eq_true, if_false]
      have e : addContrib (liftC c) n (lift path) (lift dens) l (lift acc)
          = lift (addContrib c n path dens l acc) := by
        funext w; exact addContrib_fin c n path dens l acc w
      rw [e]
      exact ih _

theorem trans_fin (x : ℝ) : (Transmission.trans (fin x) : XR) = fin (Transmission.trans x) := by
  simp [Transmission.trans]

theorem trans_pinf : (Transmission.trans pinf : XR) = fin 0 := by simp [Transmission.trans]

theorem depth_fin (rp rs : ℝ) (n : Nat) (z dz tr : Nat → ℝ) :
    depth (fin rp) (fin rs) n (lift z) (lift dz) (lift tr) = fin (depth rp rs n z dz tr) := by
  unfold depth
  have h0 : (0 : XR) = fin 0 := by simp
  rw [h0, accFrom_fin 0 n _ (depthTerm rp z dz tr) (fun k _ => by simp [depthTerm])]
  simp [sq_fin]

theorem saturated_pinf (nwn : Nat) : saturated nwn (fun _ => (pinf : XR)) = true := by
  unfold saturated
  rw [List.all_eq_true]
  intro wn _
  simp

theorem saturated_zero (nwn : Nat) (h : 0 < nwn) : saturated nwn (fun _ => (0 : XR)) = false := by
  unfold saturated
  rw [Bool.eq_false_iff]
  intro hall
  rw [List.all_eq_true] at hall
  have := hall 0 (List.mem_range.2 h)
  simp only [decide_eq_true_eq, ofNat_fin, fin_lt] at this
  norm_num at this

/-- the loop over the contributions leaves a row of `np.inf` as it is (it breaks at once, or there is nothing to add) -/
theorem tauCutFrom_pinf (n nwn : Nat) (path dens : Nat → XR) (l : Nat) (cs : List (Contrib XR)) :
    tauCutFrom n nwn path dens l cs (fun _ => (pinf : XR)) = fun _ => pinf := by
  cases cs with
  | nil => rfl
  | cons c cs => simp only [tauCutFrom, saturated_pinf, if_true]

/-! ### the cloud deck first: the model `cloudyTau` / `cloudyTrans` is the run at `XR` -/

/-- the cloud deck as a prepared contribution at `XR`: kind `layerOnly`, opacity `np.inf` at and below the cloud top -/
noncomputable def cloudC (P : Nat → ℝ) (p0 : ℝ) : Contrib XR := ⟨.layerOnly, fun l _ => ofExt (cloudSigma P p0 l)⟩

/-- **the optical depth of a layer**, contributions `[cloud deck] ++ rest`, run at `XR` with the loop and the break of
    `path_integral` (`tauCut`): `np.inf` at and below the cloud top, the finite optical depth of the model above -/
theorem tauCut_cloudy (n nwn : Nat) (path dens : Nat → ℝ) (l : Nat) (P : Nat → ℝ) (p0 : ℝ) (rest : List (Contrib ℝ))
    (wn : Nat) (hn : 0 < nwn) :
    tauCut n nwn (lift path) (lift dens) l (cloudC P p0 :: rest.map liftC) wn
      = ofExt (cloudyTau n nwn path dens l P p0 rest wn) := by
  unfold tauCut cloudyTau
  simp only [tauCutFrom, saturated_zero nwn hn, Bool.false_eq_true, if_false]
  have hrow : addContrib (cloudC P p0) n (lift path) (lift dens) l (fun _ => (0 : XR))
      = fun _ => (0 : XR) + ofExt (cloudSigma P p0 l) := by
    funext w
    simp [addContrib, nTerms, cloudC, accFrom, term, List.range_succ]
  rw [hrow]
  unfold cloudSigma
  by_cases h : p0 ≤ P l
  · simp only [h, if_true, ofExt]
    have : (fun _ : Nat => (0 : XR) + pinf) = fun _ => pinf := by funext _; simp
    rw [this, tauCutFrom_pinf]
  · simp only [h, if_false, ofExt]
    have : (fun _ : Nat => (0 : XR) + fin 0) = lift (fun _ => 0 + 0) := by funext _; simp
    rw [this, tauCutFrom_fin]

/-- **the transmittance**: the run at `XR` returns the model's `cloudyTrans` -/
theorem modelTrans_cloudy (newMethod : Bool) (rp : ℝ) (n nwn : Nat) (zb z dz dens P : Nat → ℝ) (p0 : ℝ)
    (rest : List (Contrib ℝ)) (l wn : Nat) (hn : 0 < nwn) :
    modelTrans true newMethod (fin rp) n nwn (lift zb) (lift z) (lift dz) (lift dens) (cloudC P p0 :: rest.map liftC) l wn
      = fin (cloudyTrans newMethod rp n nwn zb z dz dens P p0 rest l wn) := by
  unfold modelTrans cloudyTrans
  simp only [if_true]
  rw [chord_fin, tauCut_cloudy n nwn _ dens l P p0 rest wn hn]
  cases cloudyTau n nwn (chord newMethod rp zb z dz l) dens l P p0 rest wn with
  | fin x => simp [ofExt, Ext.trans, trans_fin]
  | inf => simp [ofExt, Ext.trans, trans_pinf]

theorem modelDepth_cloudy (newMethod : Bool) (rp rs : ℝ) (n nwn : Nat) (zb z dz dens P : Nat → ℝ) (p0 : ℝ)
    (rest : List (Contrib ℝ)) (wn : Nat) (hn : 0 < nwn) :
    modelDepth true newMethod (fin rp) (fin rs) n nwn (lift zb) (lift z) (lift dz) (lift dens)
        (cloudC P p0 :: rest.map liftC) wn
      = fin (cloudyDepth newMethod rp rs n nwn zb z dz dens P p0 rest wn) := by
  unfold modelDepth cloudyDepth
  have : (fun l => modelTrans true newMethod (fin rp) n nwn (lift zb) (lift z) (lift dz) (lift dens)
      (cloudC P p0 :: rest.map liftC) l wn)
      = lift (fun l => cloudyTrans newMethod rp n nwn zb z dz dens P p0 rest l wn) := by
    funext l; exact modelTrans_cloudy newMethod rp n nwn zb z dz dens P p0 rest l wn hn
  rw [this, depth_fin]

theorem modelTrans_fin (newMethod : Bool) (rp : ℝ) (n nwn : Nat) (zb z dz dens : Nat → ℝ) (cs : List (Contrib ℝ))
    (l wn : Nat) :
    modelTrans true newMethod (fin rp) n nwn (lift zb) (lift z) (lift dz) (lift dens) (cs.map liftC) l wn
      = fin (modelTrans true newMethod rp n nwn zb z dz dens cs l wn) := by
  unfold modelTrans
  simp only [if_true]
  have h0 : (fun _ : Nat => (0 : XR)) = lift (fun _ => 0) := by funext _; simp
  rw [chord_fin]
  unfold tauCut
  rw [h0, tauCutFrom_fin, trans_fin]

end Taurex.C19Ext
