/-
  C15 — facts about the model of the factory (`TaurexModel/Factory.lean`): the look-up among classes with disjoint keywords,
  dictionaries as association lists (`dictSet`, `hasKey`), the strict key check `createKlass` in closed form
  (`createKlass_find`), typed numbers (`isNum`), `transform`, splitting at `+`, and the ways `determineKlass` succeeds.
-/
import TaurexModel.Factory

namespace Taurex.C15L
open Taurex.Factory

-- equalities between results `Except Err …` of the model are decided in the examples and table theorems of `Props/C15.lean`
deriving instance DecidableEq for Except

theorem lookup_eq_head_candidates (cls : List Klass) (kw : String) :
    lookup cls kw = (candidates cls kw).head? := by
  induction cls with
  | nil => rfl
  | cons k rest ih =>
    unfold lookup candidates at *
    by_cases h : claims k kw = true
    · rw [List.find?_cons_of_pos (by exact h), List.filter_cons_of_pos (by exact h)]
      rfl
    · rw [List.find?_cons_of_neg (by exact h), List.filter_cons_of_neg (by exact h)]
      exact ih

theorem disjoint_candidates_le_one (cls : List Klass) (kw : String) (h : pairwiseDisjoint cls = true) :
    (candidates cls kw).length ≤ 1 := by
  induction cls with
  | nil => simp [candidates]
  | cons k rest ih =>
    simp only [pairwiseDisjoint, Bool.and_eq_true] at h
    have ihr := ih h.2
    unfold candidates at *
    by_cases hk : claims k kw = true
    · -- nothing in `rest` claims kw
      have hnone : rest.filter (fun x => claims x kw) = [] := by
        rw [List.filter_eq_nil_iff]
        intro x hx
        have hd := h.1
        simp only [disjointFrom, List.all_eq_true] at hd
        have hkw : kw ∈ k.keywords := by
          simpa [claims, List.contains_iff_mem] using hk
        have := hd kw hkw x hx
        simpa using this
      rw [List.filter_cons_of_pos (by exact hk), hnone]
      simp
    · rw [List.filter_cons_of_neg (by exact hk)]
      exact ihr

theorem perm_length_le_one_eq {α : Type} {a b : List α} (h : a.Perm b) (hl : a.length ≤ 1) : a = b := by
  match a, h, hl with
  | [], h, _ => exact h.nil_eq
  | [_], h, _ => exact h.singleton_eq
  | _ :: _ :: _, _, hl => simp at hl

theorem dictSet_of_hasKey {c : Config} {k : String} (v : Value) (h : hasKey c k = true) :
    dictSet c k v = c.map (fun kv => if kv.1 == k then (k, v) else kv) := by
  simp [dictSet, h]

theorem keys_dictSet {c : Config} {k : String} (v : Value) (h : hasKey c k = true) :
    (dictSet c k v).map (·.1) = c.map (·.1) := by
  rw [dictSet_of_hasKey v h, List.map_map]
  apply List.map_congr_left
  intro kv _
  by_cases hk : kv.1 = k
  · simp [hk]
  · simp [hk]

theorem hasKey_iff_mem_keys (c : Config) (k : String) : hasKey c k = true ↔ k ∈ c.map (·.1) := by
  simp [hasKey, List.any_eq_true]

theorem hasKey_eq_isSome_lookup (c : Config) (k : String) : hasKey c k = (c.lookup k).isSome := by
  induction c with
  | nil => rfl
  | cons kv t ih =>
    rw [hasKey, List.any_cons, List.lookup_cons, BEq.comm]
    cases k == kv.1
    · exact ih
    · rfl

theorem hasKey_congr {c c' : Config} (h : c'.map (·.1) = c.map (·.1)) (k : String) : hasKey c' k = hasKey c k := by
  rw [Bool.eq_iff_iff, hasKey_iff_mem_keys, hasKey_iff_mem_keys, h]

theorem createKlass_find (d cfg : Config) :
    createKlass d cfg = match cfg.find? (fun kv => !hasKey d kv.1) with
      | some kv => .error (.keyError kv.1)
      | none => .ok (cfg.foldl (fun kw kv => dictSet kw kv.1 kv.2) d) := by
  unfold createKlass
  induction cfg generalizing d with
  | nil => rfl
  | cons kv rest ih =>
    rw [List.foldlM_cons, List.find?_cons, List.foldl_cons]
    cases hk : hasKey d kv.1 with
    | false => rfl
    | true =>
      have hkeys : (fun kv' : String × Value => !hasKey (dictSet d kv.1 kv.2) kv'.1) = fun kv' => !hasKey d kv'.1 :=
        funext fun kv' => by rw [hasKey_congr (keys_dictSet kv.2 hk)]
      simp only [if_true, Bool.not_true]
      rw [← hkeys]
      exact ih _

theorem createKlass_error (d cfg : Config) (e : Err) (h : createKlass d cfg = .error e) :
    ∃ kv ∈ cfg, hasKey d kv.1 = false ∧ e = .keyError kv.1 := by
  rw [createKlass_find] at h
  cases hf : cfg.find? (fun kv => !hasKey d kv.1) with
  | none => rw [hf] at h; cases h
  | some kv =>
    rw [hf] at h
    cases h
    exact ⟨kv, List.mem_of_find?_eq_some hf, by simpa using List.find?_some hf, rfl⟩

theorem createKlass_ok (d cfg : Config) (h : ∀ kv ∈ cfg, hasKey d kv.1 = true) :
    createKlass d cfg = .ok (cfg.foldl (fun kw kv => dictSet kw kv.1 kv.2) d) := by
  rw [createKlass_find, List.find?_eq_none.mpr (fun kv hm => by simp [h kv hm])]

theorem createKlass_unknown (d cfg : Config) (kv : String × Value) (hm : kv ∈ cfg)
    (hk : hasKey d kv.1 = false) : ∃ k, createKlass d cfg = .error (.keyError k) := by
  rw [createKlass_find]
  cases hf : cfg.find? (fun kv => !hasKey d kv.1) with
  | some kv' => exact ⟨kv'.1, rfl⟩
  | none => simpa [hk] using List.find?_eq_none.mp hf kv hm

theorem lookup_none_of_not_mem (c : Config) (k : String) (h : k ∉ c.map (·.1)) : c.lookup k = none :=
  List.lookup_eq_none_iff.mpr fun _ hp => bne_iff_ne.mpr fun e => h (e ▸ List.mem_map_of_mem (f := (·.1)) hp)

theorem fold_dictSet (d cfg : Config) (hall : ∀ kv ∈ cfg, hasKey d kv.1 = true)
    (hnd : (cfg.map (·.1)).Nodup) :
    cfg.foldl (fun kw kv => dictSet kw kv.1 kv.2) d = d.map (fun kv => (kv.1, (cfg.lookup kv.1).getD kv.2)) := by
  induction cfg generalizing d with
  | nil => simp
  | cons kv rest ih =>
    rw [List.foldl_cons]
    have hk := hall kv List.mem_cons_self
    simp only [List.map_cons, List.nodup_cons] at hnd
    have hrest : ∀ kv' ∈ rest, hasKey (dictSet d kv.1 kv.2) kv'.1 = true := by
      intro kv' hm
      rw [hasKey_congr (keys_dictSet kv.2 hk)]
      exact hall kv' (List.mem_cons_of_mem _ hm)
    rw [ih _ hrest hnd.2, dictSet_of_hasKey kv.2 hk, List.map_map]
    apply List.map_congr_left
    intro e _
    obtain ⟨k, v⟩ := kv
    simp only [Function.comp, List.lookup_cons]
    by_cases he : e.1 = k
    · have hn := lookup_none_of_not_mem rest k hnd.1
      simp [he, hn]
    · have : (e.1 == k) = false := by simpa using he
      simp [this]

/-- a typed number: what `float()` returns -/
def isNum : Scalar → Bool
  | .dec _ _ _ => true
  | .inf _ => true
  | .nan => true
  | _ => false

theorem parseNumberL_isNum (l : List Char) (n : Scalar) (h : parseNumberL l = some n) : isNum n = true := by
  unfold parseNumberL at h
  simp only at h
  split at h
  · cases h; rfl
  · split at h
    · cases h; rfl
    · split at h
      · cases h; rfl
      · cases h

theorem toFloat_isNum (s n : Scalar) (h : toFloat s = some n) : isNum n = true := by
  cases s with
  | str t => exact parseNumberL_isNum t.toList n h
  | none => cases h
  | _ => cases h; rfl

theorem toFloat_of_isNum (n : Scalar) (h : isNum n = true) : toFloat n = some n := by
  cases n <;> simp_all [isNum, toFloat]

theorem mapM_toFloat_isNum (l ns : List Scalar) (h : l.mapM toFloat = some ns) : ∀ n ∈ ns, isNum n = true := by
  induction l generalizing ns with
  | nil => simp at h; subst h; intro n hn; cases hn
  | cons x xs ih =>
    rw [List.mapM_cons] at h
    cases hx : toFloat x with
    | none => simp [hx] at h
    | some y =>
      cases hxs : xs.mapM toFloat with
      | none => simp [hx, hxs] at h
      | some ys =>
        simp [hx, hxs] at h
        subst h
        intro n hn
        rcases List.mem_cons.mp hn with rfl | hn
        · exact toFloat_isNum _ _ hx
        · exact ih ys hxs n hn

theorem mapM_toFloat_fix (ns : List Scalar) (h : ∀ n ∈ ns, isNum n = true) : ns.mapM toFloat = some ns := by
  induction ns with
  | nil => rfl
  | cons x xs ih =>
    rw [List.mapM_cons, toFloat_of_isNum x (h x List.mem_cons_self),
      ih (fun n hn => h n (List.mem_cons_of_mem _ hn))]
    rfl

theorem transform_str (s : String) : transform (.scalar (.str s)) =
    if trueWords.contains (lower s) then .scalar (.bool true)
    else if falseWords.contains (lower s) then .scalar (.bool false)
    else match parseNumber s with
      | some n => .scalar n
      | none => .scalar (.str s) := by
  -- `rfl` would unfold `parseNumber s` to compare the two `match`es; on a constructor they reduce at once
  simp only [transform]
  cases parseNumber s <;> rfl

theorem transform_list (l : List Scalar) : transform (.list l) =
    match l.mapM toFloat with
    | some ns => .list ns
    | none => .list l := rfl

/-- `c.join(parts)` -/
def joinWith (c : Char) : List (List Char) → List Char
  | [] => []
  | [p] => p
  | p :: q :: rest => p ++ c :: joinWith c (q :: rest)

theorem splitOnC_ne_nil (c : Char) (l : List Char) : splitOnC c l ≠ [] := by
  cases l with
  | nil => simp [splitOnC]
  | cons x xs =>
    unfold splitOnC
    split
    · simp
    · split <;> simp

theorem join_splitOnC (c : Char) (l : List Char) : joinWith c (splitOnC c l) = l := by
  induction l with
  | nil => rfl
  | cons x xs ih =>
    unfold splitOnC
    split
    · next hx =>
      cases hs : splitOnC c xs with
      | nil => exact absurd hs (splitOnC_ne_nil c xs)
      | cons h t => rw [hs] at ih; simp [joinWith, ih, hx]
    · cases hs : splitOnC c xs with
      | nil => exact absurd hs (splitOnC_ne_nil c xs)
      | cons h t =>
        rw [hs] at ih
        cases t with
        | nil => simp [joinWith] at ih ⊢; exact ih
        | cons q r => simp [joinWith] at ih ⊢; exact ih

theorem splitOnC_no_sep (c : Char) (l : List Char) : ∀ p ∈ splitOnC c l, c ∉ p := by
  induction l with
  | nil => intro p hp; simp [splitOnC] at hp; subst hp; simp
  | cons x xs ih =>
    intro p hp
    unfold splitOnC at hp
    split at hp
    · rcases List.mem_cons.mp hp with rfl | hp
      · simp
      · exact ih p hp
    · next hx =>
      cases hs : splitOnC c xs with
      | nil => exact absurd hs (splitOnC_ne_nil c xs)
      | cons h t =>
        rw [hs] at hp ih
        simp only at hp
        rcases List.mem_cons.mp hp with rfl | hp
        · intro hc
          rcases List.mem_cons.mp hc with rfl | hc
          · exact hx rfl
          · exact ih h List.mem_cons_self hc
        · exact ih p (List.mem_cons_of_mem _ hp)

theorem splitPlus_ne_nil (s : String) : splitPlus s ≠ [] := by
  simp only [splitPlus, ne_eq, List.map_eq_nil_iff]
  exact splitOnC_ne_nil _ _

theorem splitPlus_single (s one : String) (h : splitPlus s = [one]) : one = s := by
  have hj := join_splitOnC '+' s.toList
  simp only [splitPlus] at h
  cases hs : splitOnC '+' s.toList with
  | nil => exact absurd hs (splitOnC_ne_nil _ _)
  | cons y ys =>
    simp only [hs, List.map_cons, List.cons.injEq, List.map_eq_nil_iff] at h
    obtain ⟨h1, rfl⟩ := h
    rw [hs] at hj
    rw [← h1, show y = s.toList from hj]
    exact String.ofList_toList

theorem popKey_sublist (c : Config) (k : String) (v : Value) (c' : Config) (h : popKey c k = some (v, c')) :
    c'.Sublist c := by
  unfold popKey at h
  split at h
  · cases h; exact List.filter_sublist
  · cases h

/-- the three ways `determineKlass` succeeds: the class of a custom file, a single selector, a `+` composite -/
theorem determineKlass_ok {sr : SectionReg} {customs : Customs} {sec field : String} {cfg cfg1 : Config} {r : Resolved}
    (h : determineKlass sr customs sec field cfg = .ok (cfg1, r)) :
    ∃ sel c1, popKey cfg field = some (.scalar (.str sel), c1) ∧
      ((∃ file members k, popKey c1 "python_file" = some (.scalar (.str file), cfg1) ∧
          customs.lookup file = some members ∧ detectKlass members sec = .ok k ∧ r = .plain k) ∨
       (cfg1 = c1 ∧ ∃ one k, splitPlus (lower sel) = [one] ∧ factory sr one = .ok k ∧ r = .plain k) ∨
       (cfg1 = c1 ∧ ∃ base ms, (∀ one, splitPlus (lower sel) ≠ [one]) ∧
          factory sr (lastOf (splitPlus (lower sel))) = .ok base ∧
          (initOf (splitPlus (lower sel))).mapM (mixinFactory sr) = .ok ms ∧
          hasDup (ms.map (·.path)) = false ∧ r = .mixed ms base)) := by
  unfold determineKlass at h
  split at h
  · cases h
  · rename_i sel c1 hp
    refine ⟨sel, c1, hp, ?_⟩
    simp only at h
    split at h
    · left
      split at h
      · cases h
      · rename_i file c2 hp2
        split at h
        · cases h
        · rename_i members hm
          cases hd : detectKlass members sec with
          | error e => rw [hd] at h; cases h
          | ok k => rw [hd] at h; cases h; exact ⟨file, members, k, hp2, hm, hd, rfl⟩
      · cases h
    · right
      split at h
      · rename_i one hs
        left
        cases hf : factory sr one with
        | error e => rw [hf] at h; cases h
        | ok k => rw [hf] at h; cases h; exact ⟨rfl, one, k, hs, hf, rfl⟩
      · rename_i hne
        right
        simp only [bind, Except.bind] at h
        split at h
        · cases h
        · rename_i base hb
          split at h
          · cases h
          · rename_i ms hms
            split at h
            · cases h
            · rename_i hd
              cases h
              exact ⟨rfl, base, ms, hne, hb, hms, by simpa using hd, rfl⟩
  · cases h

theorem determineKlass_selector (sr : SectionReg) (customs : Customs) (sec field kw : String) (k : Klass)
    (hlow : lower kw = kw) (hcus : kw ≠ "custom") (hplus : splitPlus kw = [kw]) (hk : candidates sr.classes kw = [k]) :
    determineKlass sr customs sec field [(field, .scalar (.str kw))] = .ok ([], .plain k) := by
  have hpop : popKey [(field, Value.scalar (.str kw))] field = some (.scalar (.str kw), []) := by
    simp [popKey]
  have hf : factory sr kw = .ok k := by rw [factory, lookup_eq_head_candidates, hk]; rfl
  unfold determineKlass
  simp only [hpop, hlow, if_neg hcus, hplus, hf]
  rfl

end Taurex.C15L
