/-
  Facts about the primitives of the `dyn` dialect (`TaurexModel/Gen/DynPrelude.lean`) that hold whatever the float payload
  `φ`, the objects `ω` and the state `σ` are: the laws of the two monads the regenerated definitions are run in
  (`Except Exc` for code without side effects, `Eff σ` for code that acts on external objects); strings and tuple
  assignment; dictionaries whose keys are strings; the index arithmetic of slices; the loops `forM` / `mapM` and the
  `with` statement; and the programs that only append to a log (`emits`, `Emits`).  Core only.
-/
import TaurexModel.Gen.DynPrelude

namespace Taurex.Gen.Dyn

/- The equations that `simp only` rewrites with are closed by `(rfl)`, not `rfl`: `simp` uses a `rfl` lemma as a
   definitional step without a proof term, and checking such a step makes the kernel run the rest of the program; as
   `(rfl)` they are ordinary rewrite rules.  The oracles' answers of C16 and C02 are written the same way; those of C15
   (`Proofs/C15SrcOracle.lean`) and C07 (`Proofs/C07SrcFitting.lean`) are plain `:= rfl`. -/

section
variable {σ β γ δ : Type}

@[simp] theorem eff_pure (x : β) (s : σ) : (pure x : Eff σ β) s = (.ok x, s) := (rfl)
@[simp] theorem eff_throw (e : Exc) (s : σ) : (throw e : Eff σ β) s = (.error e, s) := (rfl)
theorem eff_bind (x : Eff σ β) (f : β → Eff σ γ) (s : σ) :
    (x >>= f) s = match x s with
      | (.ok a, s') => f a s'
      | (.error e, s') => (.error e, s') := (rfl)
theorem eff_bind_ok (x : Eff σ β) (f : β → Eff σ γ) (s s' : σ) (a : β) (h : x s = (.ok a, s')) :
    (x >>= f) s = f a s' := by rw [eff_bind, h]
theorem eff_bind_err (x : Eff σ β) (f : β → Eff σ γ) (s s' : σ) (e : Exc) (h : x s = (.error e, s')) :
    (x >>= f) s = (.error e, s') := by rw [eff_bind, h]
theorem eff_pure_bind (x : β) (f : β → Eff σ γ) : (pure x >>= f) = f x := (rfl)
theorem eff_throw_bind (e : Exc) (f : β → Eff σ γ) : ((throw e : Eff σ β) >>= f) = throw e := (rfl)
theorem eff_bind_pure (x : Eff σ β) : (x >>= fun a => pure a) = x := by
  funext s
  rw [eff_bind]
  rcases x s with ⟨_ | _, _⟩ <;> rfl
theorem eff_bind_assoc (x : Eff σ β) (f : β → Eff σ γ) (g : γ → Eff σ δ) :
    ((x >>= f) >>= g) = x >>= fun a => f a >>= g := by
  funext s
  rw [eff_bind, eff_bind, eff_bind]
  rcases x s with ⟨_ | a, s'⟩
  · rfl
  · simp only [eff_bind]
theorem eff_try (x : Eff σ β) (h : Exc → Eff σ β) (s : σ) :
    (tryCatch x h) s = match x s with
      | (.ok a, s') => (.ok a, s')
      | (.error e, s') => h e s' := (rfl)
theorem eff_try_pure (x : β) (h : Exc → Eff σ β) : tryCatch (pure x : Eff σ β) h = pure x := (rfl)
theorem eff_try_throw (e : Exc) (h : Exc → Eff σ β) : tryCatch (throw e : Eff σ β) h = h e := (rfl)
theorem eff_ite (c : Prop) [Decidable c] (x y : Eff σ β) (s : σ) :
    (if c then x else y) s = if c then x s else y s := by
  split <;> rfl

end

section
variable {β γ : Type}

@[simp] theorem pure_ok (x : β) : (pure x : Except Exc β) = .ok x := (rfl)
@[simp] theorem throw_err (e : Exc) : (throw e : Except Exc β) = .error e := (rfl)
@[simp] theorem bind_ok (x : β) (f : β → Except Exc γ) : ((Except.ok x : Except Exc β) >>= f) = f x := (rfl)
@[simp] theorem bind_err (e : Exc) (f : β → Except Exc γ) : ((Except.error e : Except Exc β) >>= f) = .error e := (rfl)
@[simp] theorem bind_ok_right (x : Except Exc β) : (x >>= fun a => Except.ok a) = x := by cases x <;> rfl
@[simp] theorem try_ok (x : β) (h : Exc → Except Exc β) : tryCatch (Except.ok x : Except Exc β) h = .ok x := (rfl)
@[simp] theorem try_err (e : Exc) (h : Exc → Except Exc β) : tryCatch (Except.error e : Except Exc β) h = h e := (rfl)

end

/-! ### strings and integers as values, tuple assignment -/

@[simp] theorem hashable_str {φ ω : Type} (a : String) : Val.hashable (Val.str a : Val φ ω) = true := by
  simp [Val.hashable]

section
variable {φ ω : Type} [FloatLike φ] [BEq ω]

@[simp] theorem beq_str (a b : String) : Val.beq (Val.str a : Val φ ω) (.str b) = (a == b) := by
  simp [Val.beq]

theorem eqB_str {m : Type → Type} [Monad m] (ext : Ext m φ ω) (a b : String) : eqB ext (.str a) (.str b) = pure (a == b) := by
  simp only [eqB, beq_str]

theorem beq_int (a b : Int) : Val.beq (Val.int a : Val φ ω) (.int b) = (a == b) := by simp only [Val.beq]

theorem eqB_int {m : Type → Type} [Monad m] (ext : Ext m φ ω) (a b : Int) : eqB ext (.int a) (.int b) = pure (a == b) := by
  simp only [eqB, beq_int]

end

theorem unpack2_tuple {φ ω : Type} (ext : Ext (Except Exc) φ ω) (a b : Val φ ω) :
    unpack2 ext (.tuple [a, b]) = .ok (a, b) := (rfl)

theorem unpack3_tuple {φ ω : Type} (ext : Ext (Except Exc) φ ω) (a b c : Val φ ω) :
    unpack3 ext (.tuple [a, b, c]) = .ok (a, b, c) := (rfl)

theorem unpack4_tuple {φ ω : Type} (ext : Ext (Except Exc) φ ω) (a b c d : Val φ ω) :
    unpack4 ext (.tuple [a, b, c, d]) = .ok (a, b, c, d) := (rfl)

theorem lowerChar_eq (c : Char) : lowerChar c = c.toLower := by
  unfold lowerChar Char.toLower
  have h1 : (65 ≤ c.toNat ∧ c.toNat ≤ 90) ↔ (c.val ≥ 'A'.val ∧ c.val ≤ 'Z'.val) := by
    simp only [Char.toNat, ge_iff_le, UInt32.le_iff_toNat_le]
    exact Iff.rfl
  by_cases h : 65 ≤ c.toNat ∧ c.toNat ≤ 90
  · have h' := h1.1 h
    simp only [h, h', and_self, if_true, dite_true]
    apply Char.ext
    have hv : (c.toNat + 32).isValidChar := by
      left; omega
    have h32 : ('a'.val - 'A'.val) = 32 := by decide
    show (Char.ofNat (c.toNat + 32)).val = c.val + ('a'.val - 'A'.val)
    rw [h32]
    have hof : Char.ofNat (c.toNat + 32) = Char.ofNatAux (c.toNat + 32) hv := by simp only [Char.ofNat, hv, dite_true]
    rw [hof]
    apply UInt32.toNat_inj.1
    rw [UInt32.toNat_add]
    have e1 : (Char.ofNatAux (c.toNat + 32) hv).val.toNat = c.toNat + 32 := by
      simp [Char.ofNatAux, UInt32.toNat]
      omega
    have e2 : c.val.toNat = c.toNat := rfl
    have e3 : (32 : UInt32).toNat = 32 := rfl
    rw [e1, e2, e3]
    omega
  · have h' : ¬ (c.val ≥ 'A'.val ∧ c.val ≤ 'Z'.val) := fun x => h (h1.2 x)
    simp only [h, h', if_false, dite_false]

theorem strLower_eq (s : String) : strLower s = s.toLower := by
  apply String.toList_inj.1
  rw [strLower, String.toList_ofList, String.toLower, String.toList_map]
  exact List.map_congr_left (fun c _ => lowerChar_eq c)

/-! ### index arithmetic of slices -/

/-- a negative bound `-k` of a sequence of length `n` is position `n - k` (`0` when `k` reaches beyond the start) -/
theorem clipIndex_neg (n k : Nat) (hk : 0 < k) : clipIndex n (-(k : Int)) = n - k := by
  unfold clipIndex
  have : ¬ (0 : Int) ≤ -(k : Int) := by omega
  simp only [this, if_false, Int.neg_neg, Int.toNat_natCast]
  omega

/-- `(pre + names)[-len(names):]` is `names` (at least one name) -/
theorem slice_tail {β : Type} (pre names : List β) (hn : names ≠ []) :
    sliceList (pre ++ names) (some (-(names.length : Int))) none = names := by
  have : 0 < names.length := List.length_pos_iff.2 hn
  simp only [sliceList, List.length_append, clipIndex_neg _ _ this, Nat.add_sub_cancel]
  simp

/-! ### dictionaries; those whose keys are strings -/

section
variable {φ ω : Type} [FloatLike φ] [BEq ω]

theorem dictHas_eq_isSome (d : List (Val φ ω × Val φ ω)) (k : Val φ ω) : dictHas d k = (dictGet? d k).isSome := by
  induction d with
  | nil => rfl
  | cons e t ih =>
    unfold dictHas at ih ⊢
    by_cases h : Val.beq e.1 k = true
    · simp [dictGet?, h]
    · simp [dictGet?, h, ih]

/-- `d[b] = v`, then `d[c]` -/
theorem dictGet_set_str (d : List (Val φ ω × Val φ ω)) (b c : String) (v : Val φ ω) :
    dictGet? (dictSet d (.str b) v) (.str c) = if b = c then some v else dictGet? d (.str c) := by
  induction d with
  | nil => by_cases h : b = c <;> simp [dictSet, dictGet?, beq_str, h]
  | cons e t ih =>
    obtain ⟨k, w⟩ := e
    by_cases hk : Val.beq k (.str b) = true
    · have hb : k = .str b := by
        cases k <;> simp [Val.beq] at hk
        exact congrArg _ hk
      subst hb
      by_cases h : b = c <;> simp [dictSet, dictGet?, beq_str, h]
    · by_cases hc : Val.beq k (.str c) = true
      · have hbc : ¬ b = c := fun e => hk (e ▸ hc)
        simp [dictSet, dictGet?, hk, hc, hbc]
      · simp [dictSet, dictGet?, hk, hc, ih]

/-- reading a dictionary laid out from an association list with string keys -/
theorem dictGet_map_str {β : Type} (f : β → Val φ ω) (k : String) :
    ∀ l : List (String × β), dictGet? (l.map fun kv => (.str kv.1, f kv.2)) (.str k) = (l.lookup k).map f
  | [] => rfl
  | (k', v) :: l => by
    rw [List.map_cons, dictGet?, beq_str, List.lookup_cons, BEq.comm, dictGet_map_str f k l]
    cases k == k' <;> rfl

/-- `d[k] = v` for a string `k` that is no key of `d` (all of whose keys are strings): the entry is appended -/
theorem dictSet_str_fresh (k : String) (v : Val φ ω) :
    ∀ d : List (Val φ ω × Val φ ω), (∀ e ∈ d, ∃ s, e.1 = .str s ∧ s ≠ k) → dictSet d (.str k) v = d ++ [(.str k, v)]
  | [], _ => rfl
  | (k', w) :: d, h => by
    obtain ⟨s, rfl, hs⟩ := h (k', w) List.mem_cons_self
    rw [dictSet, beq_str, if_neg (by simpa using hs), dictSet_str_fresh k v d fun e he => h e (List.mem_cons_of_mem _ he)]
    rfl

theorem dictSet_map_str_fresh {β : Type} (f : β → Val φ ω) (l : List (String × β)) (k : String) (v : Val φ ω)
    (hk : k ∉ l.map (·.1)) :
    dictSet (l.map fun kv => (.str kv.1, f kv.2)) (.str k) v = (l.map fun kv => (.str kv.1, f kv.2)) ++ [(.str k, v)] :=
  dictSet_str_fresh k v _ fun e he => by
    obtain ⟨kv, hkv, rfl⟩ := List.mem_map.1 he
    exact ⟨kv.1, rfl, fun e => hk (e ▸ List.mem_map_of_mem (f := (·.1)) hkv)⟩

end

section
variable {m : Type → Type} [Monad m] {σ ι κ : Type}

theorem forM_eq_foldlM (body : σ → ι → m σ) : ∀ (l : List ι) (s : σ), forM l s body = l.foldlM body s
  | [], _ => rfl
  | x :: xs, s => by simp only [forM, List.foldlM_cons, forM_eq_foldlM body xs]

theorem forM_congr (f g : σ → ι → m σ) :
    ∀ (l : List ι) (s : σ), (∀ x ∈ l, ∀ st, f st x = g st x) → forM l s f = forM l s g
  | [], _, _ => rfl
  | x :: xs, s, h => by
    simp only [forM, h x List.mem_cons_self]
    exact congrArg _ (funext fun s' => forM_congr f g xs s' fun y hy st => h y (List.mem_cons_of_mem _ hy) st)

theorem forM_map (g : ι → κ) (f : σ → κ → m σ) (l : List ι) (s : σ) :
    forM (l.map g) s f = forM l s (fun st x => f st (g x)) := by
  rw [forM_eq_foldlM, forM_eq_foldlM, List.foldlM_map]

theorem forM_map_congr (g : ι → κ) (f : σ → κ → m σ) (f' : σ → ι → m σ) (l : List ι) (s : σ)
    (h : ∀ x ∈ l, ∀ st, f st (g x) = f' st x) : forM (l.map g) s f = forM l s f' := by
  rw [forM_map]
  exact forM_congr _ _ l s h

theorem forM_append [LawfulMonad m] (l₁ l₂ : List ι) (s : σ) (body : σ → ι → m σ) :
    forM (l₁ ++ l₂) s body = forM l₁ s body >>= fun s' => forM l₂ s' body := by
  simp only [forM_eq_foldlM, List.foldlM_append]

end

section
variable {σ ι κ β γ : Type}

/-- `[f(y) for y in ys]` when `f` neither fails nor acts on the elements met: stated on runs, and between programs -/
theorem mapM_map_eff (f : κ → Eff σ β) (g : ι → κ) (h : ι → β) (hf : ∀ x s, f (g x) s = (.ok (h x), s)) :
    ∀ (l : List ι) (s : σ), mapM f (l.map g) s = (.ok (l.map h), s)
  | [], _ => rfl
  | x :: t, s => by simp only [List.map_cons, mapM, eff_bind, hf, mapM_map_eff f g h hf t, eff_pure]

theorem mapM_map_pure (f : κ → Eff σ β) (g : ι → κ) (h : ι → β) (hf : ∀ x, f (g x) = pure (h x)) (l : List ι) :
    mapM f (l.map g) = pure (l.map h) :=
  funext fun s => mapM_map_eff f g h (fun x s => by rw [hf]; rfl) l s

/-- a `with` block around `x` whose `__exit__` returns a false value: what follows (`K`) continues with the body's result -/
theorem with_noexit (x : Eff σ β) (K : Option β → Eff σ γ) :
    ((tryCatch (x >>= fun a => pure (some a)) (fun e => (throw e : Eff σ (Option β)))) >>= K)
      = x >>= fun a => K (some a) := by
  funext s
  simp only [eff_bind, eff_try]
  rcases x s with ⟨r, s'⟩
  cases r <;> rfl

end

/-! ### computations that append to a log

  Code whose only effect is to record events (calls made, entries written) runs in `Eff (List ε)`.  `emits l x` is the
  program that records `l` and returns `x`: the form for equations between programs (what a method call of the oracle
  is).  `Emits p l x` says of a program `p` that it is one (`emits_of`): the form for going through straight-line code
  statement by statement (`Emits.log`, `Emits.silent`, `Emits.bind`: each looks at the head of the block only). -/

section
variable {ε β γ : Type}

def emits (l : List ε) (x : β) : Eff (List ε) β := fun s => (.ok x, s ++ l)

theorem emits_run (l : List ε) (x : β) (s : List ε) : emits l x s = (.ok x, s ++ l) := (rfl)
theorem emits_bind (l : List ε) (x : β) (f : β → Eff (List ε) γ) (s : List ε) : (emits l x >>= f) s = f x (s ++ l) := (rfl)
theorem emits_then (l : List ε) (x : β) (y : γ) : (emits l x >>= fun _ => pure y) = emits l y := (rfl)
theorem emits_of {p : Eff (List ε) β} {l : List ε} {x : β} (h : ∀ s, p s = (.ok x, s ++ l)) : p = emits l x := funext h

/-- `p` succeeds from every log, returns `a` and appends `l` -/
def Emits (p : Eff (List ε) β) (l : List ε) (a : β) : Prop := ∀ s, p s = (.ok a, s ++ l)

theorem Emits.pure (a : β) : Emits (pure a : Eff (List ε) β) [] a := fun s => by rw [eff_pure, List.append_nil]

theorem Emits.bind {p : Eff (List ε) β} {f : β → Eff (List ε) γ} {l₁ l₂ : List ε} {a : β} {b : γ}
    (hp : Emits p l₁ a) (hf : Emits (f a) l₂ b) : Emits (p >>= f) (l₁ ++ l₂) b := fun s => by
  rw [eff_bind_ok p f s _ a (hp s), hf, List.append_assoc]

/-- the head leaves the log as it is -/
theorem Emits.silent {p : Eff (List ε) β} {f : β → Eff (List ε) γ} {l : List ε} {a : β} {b : γ}
    (hp : ∀ s, p s = (.ok a, s)) (hf : Emits (f a) l b) : Emits (p >>= f) l b := fun s => by
  rw [eff_bind_ok p f s _ a (hp s), hf]

/-- the head records one event -/
theorem Emits.log {p : Eff (List ε) β} {f : β → Eff (List ε) γ} {t : ε} {l : List ε} {a : β} {b : γ}
    (hp : ∀ s, p s = (.ok a, s ++ [t])) (hf : Emits (f a) l b) : Emits (p >>= f) (t :: l) b :=
  Emits.bind (l₁ := [t]) hp hf

theorem Emits.forM_map {ι κ : Type} (g : κ → ι) (body : Unit → ι → Eff (List ε) Unit) (L : κ → ε) (is : List κ)
    (h : ∀ i s, body () (g i) s = (.ok (), s ++ [L i])) : Emits (forM (is.map g) () body) (is.map L) () := by
  induction is with
  | nil => exact Emits.pure ()
  | cons i is ih => exact Emits.log (h i) ih

end

end Taurex.Gen.Dyn
