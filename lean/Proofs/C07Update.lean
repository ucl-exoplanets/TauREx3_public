/-
  `update_model` (what it leaves alone, what it sets) and the two invariants of the compiled view along a history:
  `Inv` (rows and priors pair up, rows are distinct and name existing parameters) and `Covered` (`fit_names` finds a prior
  for every row).
-/
import Proofs.C07

namespace Taurex.C07
open Taurex.Priors Taurex.OptimizerSM

section
variable {ν α : Type} [DecidableEq ν]

/-- everything an update must leave alone -/
def frame (s : St ν α) :=
  (s.model.map shape, s.obs.map shape, s.dmodel, s.dobs, s.userPriors, s.fitPriors, s.compiled, s.compiledPriors,
   s.derivedCompiled)

variable [Transc α]

theorem frame_applyUpdate (es : List (Entry ν α)) :
    ∀ (s : St ν α) (ps : List (Prior α)) (xs : List α), frame (applyUpdate s es ps xs) = frame s := by
  intro s ps xs
  obtain ⟨m, ob, hm, ho, h⟩ := applyUpdate_eq es s ps xs
  rw [h]
  simp only [frame, hm, ho]

theorem names_table_applyUpdate (es : List (Entry ν α)) (o : Owner) :
    ∀ (s : St ν α) (ps : List (Prior α)) (xs : List α),
      names (table (applyUpdate s es ps xs) o) = names (table s o) := by
  intro s ps xs
  obtain ⟨m, ob, hm, ho, h⟩ := applyUpdate_eq es s ps xs
  rw [h]
  cases o
  · exact names_of_shape hm
  · exact names_of_shape ho

theorem getValue_applyUpdate_untouched (o : Owner) (n : ν) (es : List (Entry ν α)) :
    ∀ (s : St ν α) (ps : List (Prior α)) (xs : List α), (∀ e ∈ es, ¬ (e.owner = o ∧ e.name = n)) →
      getValue (applyUpdate s es ps xs) o n = getValue s o n := by
  intro s ps xs h
  fun_induction applyUpdate s es ps xs with
  | case1 s e es p ps x xs ih =>
    rw [ih fun e' he' => h e' (List.mem_cons_of_mem _ he'), getValue_setValue, if_neg (h e List.mem_cons_self)]
  | case2 => rfl

/-- `update_model` writes parameter values only, and only those of compiled rows; a vector it refuses changes nothing -/
theorem updateModel_frame (s : St ν α) (v : List α) :
    frame (updateModel s v).1 = frame s ∧
    ∀ (o : Owner) (n : ν), (∀ e ∈ s.compiled, ¬ (e.owner = o ∧ e.name = n)) →
      getValue (updateModel s v).1 o n = getValue s o n := by
  unfold updateModel
  split
  · exact ⟨rfl, fun _ _ _ => rfl⟩
  · exact ⟨frame_applyUpdate _ _ _ _, fun o n h => getValue_applyUpdate_untouched o n _ _ _ _ h⟩

theorem getValue_applyUpdate_set (es : List (Entry ν α)) :
    ∀ (s : St ν α) (ps : List (Prior α)) (xs : List α), (keys es).Nodup →
      (∀ e ∈ es, e.name ∈ names (table s e.owner)) →
      ∀ epx ∈ es.zip (ps.zip xs),
        getValue (applyUpdate s es ps xs) epx.1.owner epx.1.name = some (epx.2.1.back epx.2.2) := by
  induction es with
  | nil => intro s ps xs _ _ epx h; simp at h
  | cons e es ih =>
    intro s ps xs hnd hex epx hmem
    cases ps with
    | nil => simp at hmem
    | cons p ps =>
      cases xs with
      | nil => simp at hmem
      | cons x xs =>
        simp only [keys, List.map_cons, List.nodup_cons] at hnd
        simp only [List.zip_cons_cons, List.mem_cons] at hmem
        rw [applyUpdate]
        rcases hmem with rfl | hmem
        · -- the row itself: no later row has its key, and its name is in the table
          rw [getValue_applyUpdate_untouched e.owner e.name es _ _ _
            (fun e' he' hk => hnd.1 (List.mem_map.2 ⟨e', he', by rw [hk.1, hk.2]⟩)), getValue_setValue,
            if_pos ⟨rfl, rfl⟩]
          obtain ⟨v, hv⟩ := Option.isSome_iff_exists.1 (getValue_isSome s _ _ (hex e List.mem_cons_self))
          rw [hv]; rfl
        · apply ih _ ps xs hnd.2 ?_ epx hmem
          intro e' he'
          obtain ⟨m, ob, hm, ho, h⟩ := setValue_eq s e.owner e.name (p.back x)
          rw [h, names_table_of_tableNames (s := s) (s' := { s with model := m, obs := ob })
            (Prod.ext (names_of_shape hm) (names_of_shape ho))]
          exact hex e' (List.mem_cons_of_mem _ he')

end

section
variable {ν α : Type} [DecidableEq ν] [LT α] [DecidableLT α] [OfNat α 0] [Mul α] [Transc α]

def Inv (s : St ν α) : Prop :=
  s.compiled.length = s.compiledPriors.length ∧ (keys s.compiled).Nodup ∧
  ∀ e ∈ s.compiled, e.name ∈ names (table s e.owner)

theorem Inv_step (s : St ν α) (op : Op ν α) (hw : WF s) (h : Inv s) : Inv (step s op).1 := by
  rcases step_writes s op with he | ⟨n, p, _, he⟩ | ⟨m, ob, dm, dob, hm, ho, he⟩
  · rw [he]
    obtain ⟨h1, h2, h3, _⟩ := compile_rows s hw
    refine ⟨h1, h2, fun e he => ?_⟩
    rw [names_table_of_tableNames (s' := (compile s).1) (tableNames_step s .compile)]
    exact h3 e he
  · rw [he]; exact h
  · rw [he]
    refine ⟨h.1, h.2.1, fun e hm' => ?_⟩
    rw [names_table_of_tableNames (s := s) (s' := { s with model := m, obs := ob, dmodel := dm, dobs := dob })
      (Prod.ext hm ho)]
    exact h.2.2 e hm'

theorem Inv_run (ops : List (Op ν α)) (s : St ν α) (hw : WF s) (h : Inv s) : Inv (run s ops) :=
  run_induction_wf Inv_step ops s hw h

/-- a vector of the right length is accepted: the update is the loop over the rows -/
theorem step_updateModel (s : St ν α) (v : List α) (hlen : v.length = s.compiled.length) :
    step s (.updateModel v) = (applyUpdate s s.compiled s.compiledPriors v, .ok) := by
  simp only [step, updateModel, hlen, ne_eq, not_true_eq_false, if_false]

/-- in a state with the compiled-view invariant a vector of the right length is accepted and row `i` receives `prior_i(v_i)` -/
theorem updateModel_sets (s : St ν α) (h : Inv s) (v : List α) (hlen : v.length = s.compiled.length) :
    (step s (.updateModel v)).2 = .ok ∧
    ∀ epx ∈ s.compiled.zip (s.compiledPriors.zip v),
      getValue (step s (.updateModel v)).1 epx.1.owner epx.1.name = some (epx.2.1.back epx.2.2) := by
  rw [step_updateModel s v hlen]
  exact ⟨rfl, getValue_applyUpdate_set s.compiled s s.compiledPriors v h.2.1 h.2.2⟩

theorem mem_zip_of_mem {β γ : Type} : ∀ (l₁ : List β) (l₂ : List γ), l₁.length = l₂.length → ∀ a ∈ l₁, ∃ b, (a, b) ∈ l₁.zip l₂ := by
  intro l₁
  induction l₁ with
  | nil => intro l₂ _ a ha; simp at ha
  | cons x xs ih =>
    intro l₂ hl a ha
    cases l₂ with
    | nil => simp at hl
    | cons y ys =>
      simp only [List.mem_cons] at ha
      rcases ha with rfl | ha
      · exact ⟨y, by simp⟩
      · obtain ⟨b, hb⟩ := ih ys (by simpa using hl) a ha
        exact ⟨b, by simp [hb]⟩

def Covered (s : St ν α) : Prop := ∀ e ∈ s.compiled, (tget s.fitPriors e.name).isSome = true

theorem Covered_step (s : St ν α) (op : Op ν α) (hw : WF s) (h : Covered s) : Covered (step s op).1 := by
  rcases step_writes s op with he | ⟨n, p, _, he⟩ | ⟨m, ob, dm, dob, _, _, he⟩
  · rw [he]
    obtain ⟨hl, _, _, hz⟩ := compile_rows s hw
    intro e he
    obtain ⟨p, hp⟩ := mem_zip_of_mem _ _ hl e he
    rw [hz (e, p) hp]; rfl
  · rw [he]
    intro e hm
    show (tget (tset s.fitPriors n p) e.name).isSome = true
    rw [tget_tset]
    split
    · rfl
    · exact h e hm
  · rw [he]; exact h

theorem Covered_run (ops : List (Op ν α)) (s : St ν α) (hw : WF s) (h : Covered s) : Covered (run s ops) :=
  run_induction_wf Covered_step ops s hw h

end

end Taurex.C07
