/-
  What the loaders need of the carrier's ORDER, not of its arithmetic: the model's `==`, `in`, `min` / `max`, `searchsorted`, the
  merge sorts and `argsort` on a carrier given by the model's own raw classes with core's `Std.IsLinearOrder` / `Std.LawfulOrderLT`
  (every `LinearOrder` of Mathlib is one), after the facts about `getD` / `range` / `gather` they are stated with.  Core only.
  `open Std`: in this file `le_refl`, `le_trans`, `le_antisymm`, `le_total`, `not_le`, `not_lt`, `le_of_lt`, `lt_irrefl`, `lt_trans`,
  `ne_of_lt` are core's `Std.*` (Init/Data/Order/Lemmas.lean), not Mathlib's root lemmas.
-/
import Proofs.ListCore
import Proofs.C14LoadersCore

namespace Taurex.Loaders
open Taurex.Interp Std

theorem range_map_getD {β γ : Type} (l : List β) (d : β) (F : β → γ) :
    (List.range l.length).map (fun k => F (l.getD k d)) = l.map F := by
  conv => rhs; rw [list_eq_map_range d l, List.map_map]
  rfl

theorem getD_append_length_succ {β : Type} (l : List β) (x : β) (r : List β) (d : β) :
    (l ++ x :: r).getD (l.length + 1) d = r.headD d := by
  rw [List.getD_eq_getElem?_getD, List.getElem?_append_right (Nat.le_add_right _ 1), Nat.add_sub_cancel_left]
  cases r <;> rfl

theorem getD_mem_of_lt {β : Type} (l : List β) (i : Nat) (d : β) (h : i < l.length) : l.getD i d ∈ l := by
  simp [List.getD_eq_getElem?_getD, h]

theorem range_reverse_map_getD {β γ : Type} (l : List β) (d : β) (F : β → γ) :
    (List.range l.length).reverse.map (fun k => F (l.getD k d)) = (l.map F).reverse := by
  rw [List.map_reverse, range_map_getD]

theorem forall_zipWith {β γ δ : Type} (f : β → γ → δ) (R : δ → Prop) :
    ∀ (l1 : List β) (l2 : List γ), (∀ x ∈ l1, ∀ y ∈ l2, R (f x y)) → ∀ v ∈ List.zipWith f l1 l2, R v
  | [], _, _, v, hv => by simp at hv
  | _ :: _, [], _, v, hv => by simp at hv
  | x :: l1, y :: l2, h, v, hv => by
    rw [List.zipWith_cons_cons, List.mem_cons] at hv
    rcases hv with rfl | hv
    · exact h x (by simp) y (by simp)
    · exact forall_zipWith f R l1 l2 (fun a ha b hb => h a (by simp [ha]) b (by simp [hb])) v hv

section
variable {α : Type} [OfNat α 0]

theorem gather_range (l : List α) : gather l (List.range l.length) = l := by
  unfold gather
  simpa using range_map_getD l 0 id

theorem gather_reverse_range (l : List α) : gather l.reverse (List.range l.length).reverse = l
    := by
  unfold gather
  have := range_reverse_map_getD l.reverse 0 (id : α → α)
  simpa using this

end

section
variable {α : Type} [LE α] [DecidableLE α] [IsLinearOrder α]

theorem eqv_iff (a b : α) : eqv a b = true ↔ a = b := by
  unfold eqv
  rw [Bool.and_eq_true, decide_eq_true_eq, decide_eq_true_eq]
  exact ⟨fun h => le_antisymm h.1 h.2, fun h => h ▸ ⟨le_refl a, le_refl a⟩⟩

theorem memv_iff (x : α) (l : List α) : memv x l = true ↔ x ∈ l := by
  simp [memv, List.any_eq_true, eqv_iff]

theorem keyEq_iff (a b : α × α) : keyEq a b = true ↔ a = b := by
  unfold keyEq
  rw [Bool.and_eq_true, eqv_iff, eqv_iff]
  exact Prod.ext_iff.symm

theorem pairwise_mergeSort_le {β : Type} (f : β → α) (l : List β) :
    (l.mergeSort (fun a b => decide (f a ≤ f b))).Pairwise (fun a b => f a ≤ f b) := by
  have := List.pairwise_mergeSort (le := fun (a b : β) => decide (f a ≤ f b))
    (by intro a b c hab hbc; simp only [decide_eq_true_eq] at *; exact le_trans hab hbc)
    (by intro a b; simp only [Bool.or_eq_true, decide_eq_true_eq]; exact le_total) l
  exact this.imp (by intro a b hab; simpa using hab)

omit [IsLinearOrder α] in
theorem argsort_of_sorted (l : List α) (h : l.Pairwise (· ≤ ·))
    : argsort l = List.range l.length := by
  unfold argsort
  rw [List.mergeSort_of_pairwise]
  · rw [List.zipIdx_map_snd, List.range_eq_range']
  · have : (List.map Prod.fst l.zipIdx).Pairwise (· ≤ ·) := by rw [List.zipIdx_map_fst]; exact h
    rw [List.pairwise_map] at this
    exact this.imp (by intro a b hab; simpa using hab)

omit [IsLinearOrder α] in
theorem sortTs_perm (ts : List (α × List α)) : (sortTs ts).Perm ts := List.mergeSort_perm _ _

theorem sortTs_sorted (ts : List (α × List α)) :
    (sortTs ts).Pairwise (fun a b => a.1 ≤ b.1) := pairwise_mergeSort_le (·.1) ts

variable [OfNat α 0]

omit [IsLinearOrder α] in
theorem gather_argsort (l : List α) :
    gather l (argsort l) = ((l.zipIdx).mergeSort (fun a b => decide (a.1 ≤ b.1))).map (·.1) := by
  unfold gather argsort
  rw [List.map_map]
  apply List.map_congr_left
  intro a ha
  have ha' : a ∈ l.zipIdx := (List.mergeSort_perm _ _).mem_iff.mp ha
  obtain ⟨x, i⟩ := a
  obtain ⟨_, hi, hx⟩ := List.mem_zipIdx ha'
  simp only [Nat.zero_add, Nat.sub_zero] at hi hx
  simp [List.getD_eq_getElem?_getD, hi, hx]

theorem gather_argsort_sorted (l : List α) : (gather l (argsort l)).Pairwise
    (· ≤ ·) := by
  rw [gather_argsort, List.pairwise_map]
  exact pairwise_mergeSort_le (·.1) l.zipIdx

omit [IsLinearOrder α] in
theorem gather_argsort_perm (l : List α) : (gather l (argsort l)).Perm l := by
  rw [gather_argsort]
  have h1 := (List.mergeSort_perm l.zipIdx (fun a b => decide (a.1 ≤ b.1))).map (·.1)
  rw [List.zipIdx_map_fst] at h1
  exact h1

end

section
variable {α : Type} [LT α] [LE α] [DecidableLT α] [DecidableLE α] [IsLinearOrder α] [LawfulOrderLT α]

omit [DecidableLT α] [DecidableLE α] in
/-- two strictly increasing lists with the same members are equal -/
theorem eq_of_strict_of_mem_iff {l₁ l₂ : List α} (h₁ : l₁.Pairwise (· < ·)) (h₂ : l₂.Pairwise (· < ·))
    (h : ∀ a, a ∈ l₁ ↔ a ∈ l₂) : l₁ = l₂ :=
  ((List.perm_ext_iff_of_nodup (h₁.imp ne_of_lt) (h₂.imp ne_of_lt)).mpr h).eq_of_pairwise
    (fun _ _ _ _ hab hba => absurd (lt_trans hab hba) lt_irrefl) h₁ h₂

omit [DecidableLT α] in
/-- the merge sort of the indexed keys and their reversal are both sorted permutations of them; the keys being pairwise
    distinct, two such lists are equal (`Perm.eq_of_pairwise`) -/
theorem argsort_reverse_of_strict (l : List α) (h : l.Pairwise (· < ·)) :
    argsort l.reverse = (List.range l.length).reverse := by
  unfold argsort
  have hz : (l.reverse.zipIdx).mergeSort (fun a b => decide (a.1 ≤ b.1)) = l.reverse.zipIdx.reverse := by
    apply List.Perm.eq_of_pairwise (le := fun a b => decide (a.1 ≤ b.1) = true)
    · intro a b ha hb hab hba
      have ha' : a ∈ l.reverse.zipIdx := (List.mergeSort_perm _ _).mem_iff.mp ha
      have hb' : b ∈ l.reverse.zipIdx := List.mem_reverse.mp hb
      have hkey : a.1 = b.1 := le_antisymm (by simpa using hab) (by simpa using hba)
      obtain ⟨x, i⟩ := a
      obtain ⟨y, j⟩ := b
      obtain ⟨_, hi, hx⟩ := List.mem_zipIdx ha'
      obtain ⟨_, hj, hy⟩ := List.mem_zipIdx hb'
      simp only [Nat.zero_add, Nat.sub_zero] at hi hj hx hy
      simp only at hkey
      have hdec : l.reverse.Pairwise (fun a b => b < a) := List.pairwise_reverse.mpr h
      rw [List.pairwise_iff_getElem] at hdec
      rcases Nat.lt_trichotomy i j with hij | hij | hij
      · have := hdec i j hi hj hij
        rw [← hx, ← hy, hkey] at this
        exact absurd this lt_irrefl
      · subst hij; rw [hkey]
      · have := hdec j i hj hi hij
        rw [← hx, ← hy, hkey] at this
        exact absurd this lt_irrefl
    · exact (pairwise_mergeSort_le (fun a : α × Nat => a.1) l.reverse.zipIdx).imp (by intro a b hab; simpa using hab)
    · rw [List.pairwise_reverse]
      have : (List.map Prod.fst l.reverse.zipIdx).Pairwise (fun a b => b ≤ a) := by
        rw [List.zipIdx_map_fst, List.pairwise_reverse]
        exact h.imp le_of_lt
      rw [List.pairwise_map] at this
      exact this.imp (by intro a b hab; simpa using hab)
    · exact (List.mergeSort_perm _ _).trans (List.reverse_perm _).symm
  rw [hz, List.map_reverse, List.zipIdx_map_snd, List.range_eq_range']
  simp

omit [DecidableLT α] in
theorem searchRight_split {β : Type} (f : β → α) (T : α) (ts : List β) (hs : ts.Pairwise (fun a b => f a ≤ f b)) :
    ∃ l r, ts = l ++ r ∧ Interp.searchRight (ts.map f) T = l.length ∧ (∀ e ∈ l, f e ≤ T) ∧ ∀ e ∈ r, T < f e := by
  obtain ⟨l, r, e, hc, hl, hr⟩ :=
    countP_split (fun a b => f a ≤ f b) (fun x => f x ≤ T) (fun _ _ h => le_trans h) ts hs
  exact ⟨l, r, e, by rw [← hc, Interp.searchRight_map], hl, fun x hx => not_le.mp (hr x hx)⟩

omit [DecidableLT α] in
/-- the two entries around `T` in a list sorted by the key `f`: the last with key `≤ T`, the first with key `> T` (the default if
    none), at the positions `fill_temperature` computes from `searchsorted` -/
theorem searchRight_neighbours {β : Type} (f : β → α) (ts : List β) (hs : ts.Pairwise (fun a b => f a ≤ f b)) (T : α)
    (e₁ : β) (h₁ : e₁ ∈ ts) (h₁T : f e₁ ≤ T) (d : β) :
    ∃ l lo r, ts = l ++ lo :: r ∧ (∀ e ∈ l, f e ≤ T) ∧ f lo ≤ T ∧ (∀ e ∈ r, T < f e) ∧
      Interp.searchRight (ts.map f) T = l.length + 1 ∧
      ts.getD (Interp.searchRight (ts.map f) T - 1) d = lo ∧
      ts.getD (Interp.searchRight (ts.map f) T - 1 + 1) d = r.headD d := by
  obtain ⟨l₀, r, rfl, hc, hl, hr⟩ := searchRight_split f T ts hs
  have h₁l : e₁ ∈ l₀ := (List.mem_append.mp h₁).resolve_right (fun h => absurd (hr e₁ h) (not_lt.mpr h₁T))
  rcases List.eq_nil_or_concat l₀ with rfl | ⟨l, lo, h⟩
  · cases h₁l
  · rw [List.concat_eq_append] at h
    subst h
    rw [hc, List.length_append, List.length_singleton, Nat.add_sub_cancel, List.append_assoc, List.singleton_append]
    exact ⟨l, lo, r, rfl, fun e he => hl e (List.mem_append_left _ he),
      hl lo (List.mem_append_right _ (List.mem_singleton_self _)), hr, rfl, getD_append_length l lo r d,
      getD_append_length_succ l lo r d⟩

theorem lmin_mem {α : Type} [LT α] [DecidableLT α] [OfNat α 0] (l : List α) (h : l ≠ []) : lmin l ∈ l := by
  obtain ⟨x, xs, rfl⟩ := List.exists_cons_of_ne_nil h
  rcases foldl_sel_mem (fun a b => b < a) (x :: xs) x with h1 | h1
  · rw [show lmin (x :: xs) = x from h1]; exact List.mem_cons_self ..
  · exact h1

theorem lmax_mem {α : Type} [LT α] [DecidableLT α] [OfNat α 0] (l : List α) (h : l ≠ []) : lmax l ∈ l := by
  obtain ⟨x, xs, rfl⟩ := List.exists_cons_of_ne_nil h
  rcases foldl_sel_mem (fun a b => a < b) (x :: xs) x with h1 | h1
  · rw [show lmax (x :: xs) = x from h1]; exact List.mem_cons_self ..
  · exact h1

variable [OfNat α 0]

omit [DecidableLE α] in
theorem lmin_le (l : List α) (x : α) (hx : x ∈ l) : lmin l ≤ x :=
  (foldl_sel_bound (fun a b => b < a) (· ≥ ·) le_refl (fun _ _ _ h1 h2 => le_trans h2 h1) (fun _ _ => le_of_lt)
    (fun _ _ => not_lt.mp) l _).2 x hx

end

end Taurex.Loaders
