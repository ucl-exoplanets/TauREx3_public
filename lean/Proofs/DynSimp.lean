/-
  The simp set `dyn_eval`: how a primitive of the `dyn` dialect runs on a value whose constructor is known, for the cases
  the source ties meet, with the laws of `Except Exc`.  The rules are in `Proofs/DynEval.lean`; a cluster adds its own
  about the embedding of its model data.
-/
import Lean.Meta.Tactic.Simp.RegisterCommand

/-- evaluation of `dyn` primitives on constructor forms; laws of `Except Exc` -/
register_simp_attr dyn_eval
