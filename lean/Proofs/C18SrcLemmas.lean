/-
  Helper definitions and lemmas for the C18 source tie of `OnlineVariance.combine_variance` (`Props/C18Src.lean`):
  * the carrier at which the translated code is compared with the model: Python float OBJECTS (`Variance.Obj`: value +
    "is the np.nan singleton"), with arithmetic that computes the value with NaN propagation and yields a fresh object, and
    IEEE comparisons (false as soon as a NaN is involved);
  * `loop1_gen` / `loop2_gen`: a fold whose step does what the model's step (`step1M` / `step2M`, `Proofs/C18Steps.lean`) does computes the
    model's loop.
  Core only (no Mathlib).
-/
import Proofs.C18Steps
import Proofs.FoldCore
set_option linter.unusedSectionVars false

namespace Taurex.C18Src
open Taurex.Variance

section
variable {α : Type} [Add α] [Sub α] [Mul α] [Div α] [LT α] [LE α] [DecidableLT α] [DecidableLE α] [BEq α] [OfNat α 0]

def Obj.op (f : Val α → Val α → Val α) (a b : Obj α) : Obj α := ⟨f a.val b.val, false⟩

instance objAdd : Add (Obj α) := ⟨Obj.op vadd⟩
instance objSub : Sub (Obj α) := ⟨Obj.op vsub⟩
instance objMul : Mul (Obj α) := ⟨Obj.op vmul⟩
instance objDiv : Div (Obj α) := ⟨Obj.op vdiv⟩
instance objZero : OfNat (Obj α) 0 := ⟨Obj.ofNum 0⟩

def Obj.leB (a b : Obj α) : Bool :=
  match a.val, b.val with
  | Val.fin x, Val.fin y => decide (x ≤ y)
  | Val.posInf, Val.posInf => true
  | _, _ => false

def Obj.ltB (a b : Obj α) : Bool :=
  match a.val, b.val with
  | Val.fin x, Val.fin y => decide (x < y)
  | _, _ => false

instance objLE : LE (Obj α) := ⟨fun a b => Obj.leB a b = true⟩
instance objLT : LT (Obj α) := ⟨fun a b => Obj.ltB a b = true⟩
instance objDLE : DecidableLE (Obj α) := fun a b => inferInstanceAs (Decidable (Obj.leB a b = true))
instance objDLT : DecidableLT (Obj α) := fun a b => inferInstanceAs (Decidable (Obj.ltB a b = true))

theorem decide_le (a b : Obj α) : decide (a ≤ b) = Obj.leB a b := by
  show decide (Obj.leB a b = true) = _
  simp

theorem decide_lt (a b : Obj α) : decide (a < b) = Obj.ltB a b := by
  show decide (Obj.ltB a b = true) = _
  simp

theorem sum_ofNum (l : List α) (a : α) :
    List.foldl (fun (acc x : Obj α) => acc + x) (Obj.ofNum a) (l.map Obj.ofNum) = Obj.ofNum (l.foldl (· + ·) a) := by
  rw [List.foldl_map]
  exact List.foldl_hom Obj.ofNum fun _ _ => rfl

theorem loop1_gen (f : Option (Obj α) → Obj α × Obj α → Option (Obj α))
    (hf : ∀ g avg cnt, (f g (avg, Obj.ofNum cnt)).map Obj.val = step1M (g.map Obj.val) (avg, cnt))
    (avgs : List (Obj α)) (counts : List α) (g : Option (Obj α)) :
    (List.foldl f g (List.zip avgs (counts.map Obj.ofNum))).map Obj.val = loop1 (avgs.zip counts) (g.map Obj.val) := by
  rw [loop1_fold, List.zip_map_right, List.foldl_map]
  exact (List.foldl_hom (Option.map Obj.val) fun g x => (hf g x.1 x.2).symm).symm

/-- the state is `none` once an iteration has raised -/
theorem loop2_gen (isNan : Obj α → Bool) (average : Val α)
    (f : Option (Option (Obj α)) → Obj α × Obj α × Obj α → Option (Option (Obj α)))
    (hnone : ∀ it, f none it = none)
    (hf : ∀ g avg cnt var, (f (some g) (avg, Obj.ofNum cnt, var)).map (Option.map Obj.val)
        = step2M isNan average (g.map Obj.val) (avg, cnt, var))
    (avgs vars : List (Obj α)) (counts : List α) (g : Option (Obj α)) :
    (List.foldl f (some g) (List.zip avgs (List.zip (counts.map Obj.ofNum) vars))).map (Option.map Obj.val)
      = loop2 isNan average (avgs.zip (counts.zip vars)) (g.map Obj.val) := by
  have hn : ∀ l, List.foldl f none l = none := fun l => foldl_noop f l none fun x _ => hnone x
  induction avgs generalizing counts vars g with
  | nil => simp [loop2]
  | cons a avgs ih =>
    cases counts with
    | nil => simp [loop2]
    | cons c counts =>
      cases vars with
      | nil => simp [loop2]
      | cons v vars =>
        simp only [List.map_cons, List.zip_cons_cons, List.foldl_cons]
        rw [loop2_cons, ← hf]
        cases hfg : f (some g) (a, Obj.ofNum c, v) with
        | none => simp [hn]
        | some g' => simpa using ih vars counts g'

theorem combine_tail (B : Option (Option (Obj α))) (av sz : Obj α) :
    Option.map (fun p : Obj α × Obj α => (p.1.val, p.2.val))
        (match B with
          | none => none
          | some squares =>
            match squares with
            | none => none
            | some squares => some (av, squares / sz))
      = match B.map (Option.map Obj.val) with
        | some (some sq) => some (av.val, vdiv sq sz.val)
        | _ => none := by
  cases B with
  | none => rfl
  | some sq => cases sq <;> rfl

end

end Taurex.C18Src
