/-
  Lemmas for Props/C08.lean, input-file route: a `[Fitting]` section applied by `ParameterParser.setup_optimizer`
  (TaurexModel/FittingSection.lean), then parameters switched on through `Optimizer.enable_fit`, then `compile_params`
  (TaurexModel/OptimizerSM.lean).  Built on the C07 lemmas about the same model.
-/
import Proofs.C07FittingOrder

namespace Taurex.C08
open Taurex.Priors Taurex.OptimizerSM Taurex.FittingSection Taurex.C07

section
variable {α : Type} [LT α] [DecidableLT α] [OfNat α 0] [Mul α] [Transc α]

/-- `optimizer.enable_fit(n)` for every name of `en`, in order -/
def enableOps (en : List String) : List (Op String α) := en.map Op.enableFit

/-- a parameter tuple with the fit flag set and nothing else changed (what `enable_fit` stores) -/
def switchedOn (p : Param String α) : Param String α := { p with fit := true }

/-- a table after `enable_fit` of every name of `en` -/
def enabled (en : List String) (ps : List (Param String α)) : List (Param String α) :=
  ps.map (fun p => if p.name ∈ en then switchedOn p else p)

end

section
variable {α : Type}

theorem enabled_modify (n : String) (en : List String) (ps : List (Param String α)) :
    enabled en (modifyParam ps n (fun p => { p with fit := true })) = enabled (n :: en) ps := by
  unfold enabled modifyParam switchedOn
  rw [List.map_map]
  apply List.map_congr_left
  intro p _
  by_cases h : p.name = n
  · simp [h]
  · by_cases h2 : p.name ∈ en <;> simp [h, h2]

end

section
variable {α : Type} [LT α] [DecidableLT α] [OfNat α 0] [Mul α] [Transc α]

/-- `enable_fit(n)` sets the fit flag of `n` wherever it is; an unknown name is in neither table -/
theorem step_enableFit (s : St String α) (hw : WF s) (n : String) :
    (step s (.enableFit n)).1 = applyEff s n (fun p => { p with fit := true }) := by
  by_cases hk : Known s n
  · exact congrArg Prod.fst (withParam_known s hw n _ hk)
  · rw [show step s (.enableFit n) = _ from withParam_unknown s n _ hk, applyEff,
      modifyParam_not_mem _ _ _ fun h => hk (Or.inl h), modifyParam_not_mem _ _ _ fun h => hk (Or.inr h)]

theorem settings_run_enable : ∀ (en : List String) (s : St String α), WF s →
    settings (run s (enableOps en)) = ⟨enabled en (settings s).model, enabled en (settings s).obs, (settings s).dmodel,
      (settings s).dobs, (settings s).userPriors⟩
  | [], s, _ => by simp [enableOps, run, enabled, settings]
  | n :: en, s, hw => by
    have hrun : run s (enableOps (n :: en)) = run (step s (.enableFit n)).1 (enableOps en) := rfl
    rw [hrun, step_enableFit s hw n, settings_run_enable en]
    · simp only [settings, applyEff, enabled_modify]
    · exact WF_of_tableNames (applyEff_names s n _ fun _ => rfl) hw

/-- the settings an input file describes, with the parameters of `en` switched on afterwards -/
def fileSettings (s : St String α) (grp : List (String × Rec α)) (drecs : List (String × Option (OptVal α)))
    (en : List String) : Settings String α :=
  ⟨enabled en (describeTable grp s.model), enabled en (describeTable grp s.obs), describeDerived drecs s.dmodel,
   describeDerived drecs s.dobs, describePriors grp⟩

theorem setup_enable_compile (mkPrior : OptVal α → Option (Prior α)) (s : St String α) (hw : WF s) (hd : DisjD s)
    (hu : s.userPriors = []) (fitting derive : List (String × OptVal α))
    (hok : (setupOptimizer mkPrior s fitting derive).2.1 = .ok) (en : List String) :
    ∃ grp dl, parseFitting mkPrior fitting [] = .ok grp ∧ splitAll derive = some dl ∧ (gkeys grp).Nodup ∧
      (view (step (run (setupOptimizer mkPrior s fitting derive).1 (enableOps en)) .compile).1,
       (step (run (setupOptimizer mkPrior s fitting derive).1 (enableOps en)) .compile).2) =
        implied (fileSettings s grp (deriveRecs dl []) en) := by
  obtain ⟨grp, dl, hp, hsd, hset, hw1⟩ := setup_ok_settings mkPrior s hw hd hu fitting derive hok
  refine ⟨grp, dl, hp, hsd, nodup_parseFitting mkPrior fitting [] grp (by simp [gkeys]) hp, ?_⟩
  have hc := compile_eq_implied (run (setupOptimizer mkPrior s fitting derive).1 (enableOps en))
    (WF_run _ _ hw1)
  rw [settings_run_enable en _ hw1, hset] at hc
  exact hc

theorem impliedRow_described (grp : List (String × Rec α)) (hnd : (gkeys grp).Nodup) (o : Owner) (p : Param String α)
    (r : Rec α) (hr : getRec grp p.name = some r) :
    (∀ pr, r.prior = some pr →
      impliedRow (describePriors grp) o (switchedOn (describeParam r p)) = some (entryOf o (describeParam r p), pr)) ∧
    (r.prior = none →
      impliedRow (describePriors grp) o (switchedOn (describeParam r p)) =
        (defaultPrior (describeParam r p).mode (describeParam r p).b0 (describeParam r p).b1).map
          (fun pr => (entryOf o (describeParam r p), pr))) := by
  unfold impliedRow switchedOn
  have hn : (describeParam r p).name = p.name := describeParam_name r p
  simp only [hn, tget_describePriors grp hnd p.name, hr, Option.bind_some]
  constructor
  · intro pr hpr; simp [hpr, entryOf, hn]
  · intro hpr; simp [hpr, entryOf, hn]

end

end Taurex.C08
