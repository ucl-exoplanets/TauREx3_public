/-
  The source tie of the grey haze: the regenerated `FlatMieContribution.prepare_each` (`Gen.SrcC19.flat_prepare_each`,
  whole-array numpy code) computes the model's `Haze.flatSigma`, for every carrier in which the code's `sorted([top, bottom])`
  and the model's `if top ≤ bottom` agree on the two computed bounds.
-/
import TaurexModel.Gen.SrcC19
import TaurexModel.Haze

namespace Taurex.C19Src
open Taurex.Transmission Taurex.Haze

variable {α : Type} [Sub α] [Mul α] [Div α] [LT α] [LE α] [DecidableLT α] [DecidableLE α] [OfNat α 0] [Transc α]

/-- `FlatMieContribution.prepare_each` on the layers of the atmosphere.  The one order fact used, `a ≤ b ↔ ¬ b < a`, is asked
    of the two window bounds the code sorts (in log10 Pa) only: it holds in ℝ, and in a carrier with NaN whenever neither
    bound is NaN.  The window search (`np.searchsorted`), the slice arithmetic, the normalisation by `weight.max()` and the
    final `[::-1]` are matched index by index. -/
theorem flat_prepare_each_of_bounds (n nW : Nat) (plev : Nat → α) (bottomRaw topRaw mix : α)
    (hord : flatBound topRaw (minTo n (flatLevel n plev)) ≤ flatBound bottomRaw (maxTo n (flatLevel n plev))
      ↔ ¬ flatBound bottomRaw (maxTo n (flatLevel n plev)) < flatBound topRaw (minTo n (flatLevel n plev)))
    (l wn : Nat) (hl : l < n) :
    Gen.SrcC19.flat_prepare_each nW bottomRaw mix n plev topRaw l wn = flatSigma n plev bottomRaw topRaw mix l := by
  generalize hf : Gen.SrcC19.flat_prepare_each nW bottomRaw mix n plev topRaw = f
  unfold Gen.SrcC19.flat_prepare_each at hf
  extract_lets nlayers ngrid lev br bmax blog bottom tr tmin tlog top Pl Pr a1 b1 lo hi s t Pmin Pmax a2 a3 w0 z w sig0 wnorm
    sig1 st wfin sig2 sigR at hf
  subst hf
  -- the values the code computes are the model's, one by one
  have hbottom : bottom = flatBound bottomRaw (maxTo n lev) := by
    simp only [bottom, decide_eq_true_eq]; rfl
  have htop : top = flatBound topRaw (minTo n lev) := by
    simp only [top, decide_eq_true_eq]; rfl
  have hord' : top ≤ bottom ↔ ¬ bottom < top := by rw [hbottom, htop]; exact hord
  have hlo : lo = if top ≤ bottom then top else bottom := by
    by_cases h : bottom < top <;> simp [lo, a1, b1, h, hord']
  have hhi : hi = if top ≤ bottom then bottom else top := by
    by_cases h : bottom < top <;> simp [hi, a1, b1, h, hord']
  have hPr : ∀ i, Pr i = lev (i + 1) := fun i => by simp only [Pr, Nat.add_comm 1]
  have hs : s = flatStart n lev lo := by
    simp only [s, hPr]; rfl
  have ht : t = flatStop n lev hi := by
    simp only [t, Pl, Nat.add_comm 1]; rfl
  have hw : ∀ i, w i = flatOverlap lev lo hi (s + i) := fun i => by
    simp only [w, w0, Pmax, Pmin, hPr]; rfl
  have hW : List.foldl (fun acc j => if acc < w (j + 1) then w (j + 1) else acc) (w 0) (List.range (t + 1 - s - 1))
      = flatWmax lev lo hi s t := by
    rw [Nat.sub_right_comm, Nat.add_sub_cancel]
    simp only [hw]; rfl
  have hmodel : flatSigma n plev bottomRaw topRaw mix l
      = if s ≤ n - 1 - l ∧ n - 1 - l ≤ t ∧ n - 1 - l < n ∧ 0 < flatWmax lev lo hi s t then
          flatOverlap lev lo hi (n - 1 - l) / flatWmax lev lo hi s t * mix else 0 := by
    rw [hs, ht, hlo, hhi, hbottom, htop]; rfl
  rw [hmodel]
  show st.2 (n - 1 - l) wn = _
  have hkn : n - 1 - l < n := Nat.lt_of_le_of_lt (Nat.sub_le _ _) (Nat.sub_lt (Nat.zero_lt_of_lt hl) Nat.one_pos)
  generalize n - 1 - l = k at hkn ⊢
  by_cases hc : 0 < t + 1 - s ∧ 0 < flatWmax lev lo hi s t
  · have hst : st = (wnorm, sig1) := if_pos (by rw [hW]; simp only [hc, decide_true, Bool.and_self])
    rw [hst]
    show (if s ≤ k ∧ k < t + 1 then w (k - s) / _ * mix else 0) = _
    rw [hW, hw]
    by_cases hr : s ≤ k ∧ k < t + 1
    · rw [if_pos hr, if_pos ⟨hr.1, Nat.le_of_lt_succ hr.2, hkn, hc.2⟩, Nat.add_sub_cancel' hr.1]
    · rw [if_neg hr, if_neg (fun h => hr ⟨h.1, Nat.lt_succ_of_le h.2.1⟩)]
  · -- the window is empty or the haze has no weight in it: nothing is written
    have hst : st = (w, sig0) := if_neg (by rw [hW]; simpa [Bool.and_eq_true] using hc)
    rw [hst, if_neg (fun h => hc ⟨Nat.sub_pos_of_lt (Nat.lt_succ_of_le (Nat.le_trans h.1 h.2.1)), h.2.2.2⟩)]

end Taurex.C19Src
