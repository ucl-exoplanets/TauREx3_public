/-
  C16 — source tie, spectrum dictionaries: the oracle for `generate_spectrum_output`.

  Objects the code touches: 1-D arrays (`vec`), 2-D optical depths (`mat`), the binner (`self`: its class decides what
  `bindown` does — the functions `bd`, `bdTau` of the world, exactly the parameters of `Output.baseOutput`; its attributes
  `_wngrid`, `_wngrid_width` / `_wn_width` are `grid`, `width`), the members of `OutputSize` (an IntEnum: `>` compares
  the values; heavy = 6, light = 3, lighter = 1), the module-level functions `compute_bin_edges` and `wnwidth_to_wlwidth`,
  which the oracle answers with the model functions `Output.computeBinEdges` and `Output.wnwidthToWlwidth` (functions of
  `TaurexModel/Output.lean` of their own: the C05 / C17 ties of these two Python functions are to
  `Binning.computeBinEdges` and `Observation.widthConv`, and nothing here equates those with the `Output` ones), the
  fourth entry of the model output (`extra`, never looked at).  numpy's `10000/array` is the element-wise quotient
  (`Output.wlOfWn`).
-/
import TaurexModel.Gen.SrcC16
import Proofs.C16Lemmas
import Proofs.DynEval

set_option linter.unusedSectionVars false

namespace Taurex.C16Src
open Taurex.Gen Taurex.Gen.Dyn
open Taurex.Output (Entry wlOfWn wnwidthToWlwidth computeBinEdges)

inductive GObj (α : Type) where
  | vec (v : List α)
  | mat (m : List (List α))
  /-- the binner: its own grid and widths -/
  | binner (grid width : List α)
  /-- a member of `OutputSize` -/
  | size (n : Nat)
  /-- the class `OutputSize` -/
  | sizeCls
  | fn (name : String)
  | extra
  deriving BEq

section
variable {α : Type} [Add α] [Sub α] [Mul α] [Div α] [Neg α] [LT α] [DecidableLT α]
  [OfNat α 0] [OfNat α 2] [OfNat α 10000] [BEq α] [FloatLike α]

abbrev GV (α : Type) := Dyn.Val α (GObj α)
abbrev GM := Except Exc

/-- what the model does not fix: what `self.bindown` returns besides the binned values -/
structure GWorld (α : Type) where
  bd : List α → List α → List α
  bdTau : List α → List (List α) → List (List α)
  /-- the other three components of the tuple `bindown` returns -/
  bdRest : GV α × GV α × GV α

def GWorld.ext (w : GWorld α) : Ext GM α (GObj α) where
  global name := if name = "OutputSize" then .ok (.obj .sizeCls) else .ok (.obj (.fn name))
  getattr o name :=
    match o with
    | .sizeCls =>
      if name = "heavy" then .ok (.obj (.size 6)) else if name = "light" then .ok (.obj (.size 3))
      else if name = "lighter" then .ok (.obj (.size 1)) else .error .AttributeError
    | .binner grid width =>
      if name = "_wngrid" then .ok (.obj (.vec grid))
      else if name = "_wngrid_width" ∨ name = "_wn_width" then .ok (.obj (.vec width))
      else .error .AttributeError
    | _ => .error .AttributeError
  call o args _ :=
    match o with
    | .fn name =>
      if name = "compute_bin_edges" then
        match args with
        | [.obj (.vec g)] => .ok (.tuple [.obj (.vec (computeBinEdges g).1), .obj (.vec (computeBinEdges g).2)])
        | _ => .error .TypeError
      else if name = "wnwidth_to_wlwidth" then
        match args with
        | [.obj (.vec g), .obj (.vec wd)] => .ok (.obj (.vec (wnwidthToWlwidth g wd)))
        | _ => .error .TypeError
      else .error .TypeError
    | _ => .error .TypeError
  method o name args _ :=
    match o with
    | .binner _ _ =>
      if name = "bindown" then
        match args with
        | [.obj (.vec wn), .obj (.vec f)] => .ok (.tuple [w.bdRest.1, .obj (.vec (w.bd wn f)), w.bdRest.2.1, w.bdRest.2.2])
        | [.obj (.vec wn), .obj (.mat t)] => .ok (.tuple [w.bdRest.1, .obj (.mat (w.bdTau wn t)), w.bdRest.2.1, w.bdRest.2.2])
        | _ => .error .TypeError
      else .error .AttributeError
    | _ => .error .AttributeError
  isinst _ _ := false
  iter _ := .error .TypeError
  truthy _ := .ok true
  op name args :=
    if name = "/" then
      match args with
      | [.int 10000, .obj (.vec v)] => .ok (.obj (.vec (wlOfWn v)))
      | _ => .error .TypeError
    else if name = ">" then
      match args with
      | [.obj (.size a), .obj (.size b)] => .ok (.bool (decide (a > b)))
      | _ => .error .TypeError
    else .error .TypeError
  parseFloat _ := none

def embEntry : Entry α → GV α
  | .vec v => .obj (.vec v)
  | .mat m => .obj (.mat m)

/-- a spectrum dictionary (`Output.baseOutput` / `spectrumOutput`) as a Python `dict` -/
def embOut (d : List (String × Entry α)) : GV α := .dict (d.map (fun kv => (.str kv.1, embEntry kv.2)))

/-- the forward-model result `(wngrid, flux, tau, extra)` -/
def modelOutput (wn flux : List α) (tau : List (List α)) : GV α :=
  .tuple [.obj (.vec wn), .obj (.vec flux), .obj (.mat tau), .obj .extra]

abbrev GM' := GM

/-! The laws of `Except Exc` from `Proofs/DynCore.lean` stated for `GM`.  The ties do not call them by these names: `GM` is an
    abbreviation and `Taurex.Gen.Dyn` is open, so they write `pure_ok`, `bind_ok`, … -/

@[simp] theorem g_pure_ok {β : Type} (x : β) : (pure x : GM β) = .ok x := pure_ok x
@[simp] theorem g_throw_err {β : Type} (e : Exc) : (throw e : GM β) = .error e := throw_err e
@[simp] theorem g_bind_ok {β γ : Type} (x : β) (f : β → GM γ) : ((Except.ok x : GM β) >>= f) = f x := bind_ok x f
@[simp] theorem g_bind_err {β γ : Type} (e : Exc) (f : β → GM γ) : ((Except.error e : GM β) >>= f) = .error e := bind_err e f

/-! ### what the code asks of the oracle -/

variable (w : GWorld α)

theorem g_div (v : List α) :
    Dyn.truediv w.ext (.int 10000) (.obj (.vec v)) = .ok (.obj (.vec (wlOfWn v))) := (rfl)
theorem g_bindown (g wd wn f : List α) :
    Dyn.callMethod w.ext (.obj (.binner g wd)) "bindown" [.obj (.vec wn), .obj (.vec f)] []
      = .ok (.tuple [w.bdRest.1, .obj (.vec (w.bd wn f)), w.bdRest.2.1, w.bdRest.2.2]) := (rfl)
theorem g_bindownTau (g wd wn : List α) (t : List (List α)) :
    Dyn.callMethod w.ext (.obj (.binner g wd)) "bindown" [.obj (.vec wn), .obj (.mat t)] []
      = .ok (.tuple [w.bdRest.1, .obj (.mat (w.bdTau wn t)), w.bdRest.2.1, w.bdRest.2.2]) := (rfl)
theorem g_second (a b c d : GV α) : Dyn.getItem w.ext (.tuple [a, b, c, d]) (.int 1) = .ok b := (rfl)
theorem g_last (a b : GV α) : Dyn.getItem w.ext (.tuple [a, b]) (.int (-1)) = .ok b := (rfl)
/-- a module-level name other than `OutputSize` is a function of that name -/
theorem g_fn {name : String} (h : name ≠ "OutputSize") : w.ext.global name = .ok (.obj (.fn name)) :=
  if_neg h
theorem g_edges (g : List α) :
    Dyn.call w.ext (.obj (.fn "compute_bin_edges")) [.obj (.vec g)] []
      = .ok (.tuple [.obj (.vec (computeBinEdges g).1), .obj (.vec (computeBinEdges g).2)]) := (rfl)
theorem g_wlwidth (g wd : List α) :
    Dyn.call w.ext (.obj (.fn "wnwidth_to_wlwidth")) [.obj (.vec g), .obj (.vec wd)] []
      = .ok (.obj (.vec (wnwidthToWlwidth g wd))) := (rfl)
theorem g_sizeCls : w.ext.global "OutputSize" = .ok (.obj .sizeCls) := (rfl)
theorem g_lighter : Dyn.getAttr w.ext (.obj .sizeCls) "lighter" = .ok (.obj (.size 1)) := (rfl)
theorem g_light : Dyn.getAttr w.ext (.obj .sizeCls) "light" = .ok (.obj (.size 3)) := (rfl)
theorem g_gt (a b : Nat) :
    Dyn.compare w.ext ">" (.obj (.size a)) (.obj (.size b)) = .ok (.bool (decide (a > b))) := (rfl)
theorem g_grid (g wd : List α) :
    Dyn.getAttr w.ext (.obj (.binner g wd)) "_wngrid" = .ok (.obj (.vec g)) := (rfl)
/-- the widths of the binner's own grid: `FluxBinner` keeps them in `_wngrid_width`, `SimpleBinner` in `_wn_width` -/
theorem g_width (g wd : List α) {name : String} (h : name = "_wngrid_width" ∨ name = "_wn_width") :
    Dyn.getAttr w.ext (.obj (.binner g wd)) name = .ok (.obj (.vec wd)) := by
  rcases h with rfl | rfl <;> rfl

/-! ### a spectrum dictionary grows by appending: every key the code sets is new -/

open Taurex.Output (baseOutput keysOf)

export Taurex.Output (keysOf_nil keysOf_cons keysOf_append)

theorem embOut_nil : (Dyn.Val.dict [] : GV α) = embOut [] := rfl

theorem setItem_fresh (d : List (String × Entry α)) (k : String) (e : Entry α) (hk : k ∉ keysOf d) :
    Dyn.setItem w.ext (embOut d) (.str k) (embEntry e) = .ok (embOut (d ++ [(k, e)])) := by
  simp only [embOut, setItem_dict, hashable_str, if_true, dictSet_map_str_fresh embEntry d k _ hk, List.map_append, List.map_cons,
    List.map_nil, pure_ok]

theorem setItem_vec (d : List (String × Entry α)) (k : String) (v : List α) (hk : k ∉ keysOf d) :
    Dyn.setItem w.ext (embOut d) (.str k) (.obj (.vec v)) = .ok (embOut (d ++ [(k, .vec v)])) :=
  setItem_fresh w d k (.vec v) hk

theorem setItem_mat (d : List (String × Entry α)) (k : String) (m : List (List α)) (hk : k ∉ keysOf d) :
    Dyn.setItem w.ext (embOut d) (.str k) (.obj (.mat m)) = .ok (embOut (d ++ [(k, .mat m)])) :=
  setItem_fresh w d k (.mat m) hk

theorem not_mem_keysOf_baseOutput (bd : List α → List α → List α) (bdTau : List α → List (List α) → List (List α))
    (n : Nat) (wn flux : List α) (tau : List (List α)) (k : String)
    (hk : k ∉ ["native_wngrid", "native_wlgrid", "native_spectrum", "binned_spectrum", "native_wnwidth",
      "native_wlwidth", "binned_tau", "native_tau"]) :
    (k ∈ keysOf (baseOutput bd bdTau n wn flux tau)) = False := by
  rw [eq_iff_iff, iff_false, Output.baseOutput_eq, keysOf_append, List.mem_append]
  exact fun h => hk (List.mem_append.2 (h.imp_right Output.mem_keysOf_tauPart))

end
end Taurex.C16Src
