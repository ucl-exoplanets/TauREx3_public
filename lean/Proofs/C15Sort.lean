/-
  C15 — `inspect.getmembers` returns the members of a module sorted by name (`Factory.sortByName`, an insertion sort):
  the result is sorted, has the same elements, and SELECTING (filtering) after sorting is sorting the selected — the code
  sorts all members and then selects the candidates, the model `Factory.detectKlass` selects and then sorts.  The sort is
  `Binning.sortBy` at the key `Klass.name` (`sortByName_eq`; `Proofs/SortCore.lean`).
-/
import TaurexModel.Factory
import Proofs.SortCore

namespace Taurex.C15L
open Taurex.Factory Taurex.Binning

theorem insertByName_eq (k : Klass) : ∀ l : List Klass, insertByName k l = insertBy Klass.name k l
  | [] => rfl
  | x :: t => by rw [insertByName, insertBy, insertByName_eq k t]

theorem sortByName_eq (l : List Klass) : sortByName l = sortBy Klass.name l :=
  congrArg (fun f => List.foldr f [] l) (funext fun k => funext (insertByName_eq k))

theorem sortByName_sorted (l : List Klass) : (sortByName l).Pairwise (fun a b => a.name ≤ b.name) := by
  rw [sortByName_eq]
  exact sortBy_pairwise Klass.name (fun _ _ _ => String.le_trans) String.le_total l

theorem filter_sortByName (p : Klass → Bool) (l : List Klass) : (sortByName l).filter p = sortByName (l.filter p) := by
  rw [sortByName_eq, sortByName_eq]
  exact filter_sortBy Klass.name (fun _ _ _ => String.le_trans) String.le_total p l

theorem mem_sortByName (y : Klass) (l : List Klass) : y ∈ sortByName l ↔ y ∈ l := by
  rw [sortByName_eq]
  exact Binning.mem_sortBy Klass.name y l

end Taurex.C15L
