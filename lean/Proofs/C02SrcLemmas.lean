/-
  Helper lemmas for the source ties `Props/C02Src.lean` and `Props/C20Src.lean`: how the folds the source translator
  generates (state = whole arrays `Nat → α`, tuples of them, loops over `List.range'`) relate to the `List` folds of the
  hand-written models.  Core only; no algebra on the carrier.
-/
import TaurexModel.Emission
import Proofs.ListCore
import Proofs.FoldCore

namespace Taurex.SrcLemmas

theorem foldl_range'_eq {β γ : Type} (f : γ → β → γ) (l : List β) (u : Nat → β) (s : Nat)
    (h : ∀ i (hi : i < l.length), u (s + i) = l[i]) (a : γ) :
    (List.range' s l.length).foldl (fun a i => f a (u i)) a = l.foldl f a := by
  -- `l` is the list that `u` tabulates from `s` on
  have : l = (List.range' s l.length).map u :=
    List.ext_getElem (by simp) fun i h1 _ => by simp [h i h1]
  rw [← List.foldl_map, ← this]

theorem foldl_range'_getD {β γ : Type} (f : γ → β → γ) (l : List β) (d : β) (a : γ) :
    (List.range' 0 l.length).foldl (fun a i => f a (l.getD i d)) a = l.foldl f a := by
  rw [← List.range_eq_range', ← List.foldl_map (f := fun i => l.getD i d), ← list_eq_map_range]

section
variable {α : Type} [Add α]

/-- `tau[layer] += g k` for `k` in a list: what the loop leaves in `tau[layer]` -/
theorem foldl_update_at (g : Nat → α) (layer : Nat) (ks : List Nat) (tau : Nat → α) :
    (ks.foldl (fun (tau : Nat → α) k => fun i => if i = layer then tau layer + g k else tau i) tau) layer
      = ks.foldl (fun a k => a + g k) (tau layer) :=
  (List.foldl_hom (fun tau : Nat → α => tau layer) fun _ _ => (if_pos rfl).symm).symm

/-- `for g in range(s, s+n): tt[g] += F g`: what the loop leaves at position `g0` -/
theorem foldl_update_each (F : Nat → α) (n s : Nat) (tt : Nat → α) (g0 : Nat) :
    ((List.range' s n).foldl (fun (tt : Nat → α) g => fun i => if i = g then tt g + F g else tt i) tt) g0
      = if s ≤ g0 ∧ g0 < s + n then tt g0 + F g0 else tt g0 :=
  foldl_range'_slots (fun t i => t i) _ tt (fun g => tt g + F g) (fun _ _ _ h => if_neg h)
    (fun _ i h => (if_pos rfl).trans (congrArg (· + F i) h)) g0 n s tt fun _ _ => rfl

/-- the k-loop around the g-loop (`tau_temp[g] += F k g`), observed at one `g0 < ng`: the sum over `k` alone -/
theorem foldl_nested (F : Nat → Nat → α) (ng : Nat) (ks : List Nat) (tt : Nat → α) (g0 : Nat) (hg : g0 < ng) :
    (ks.foldl (fun (tt : Nat → α) k =>
        (List.range' 0 ng).foldl (fun (tt : Nat → α) g => fun i => if i = g then tt g + F k g else tt i) tt) tt) g0
      = ks.foldl (fun a k => a + F k g0) (tt g0) := by
  refine (List.foldl_hom (fun tt : Nat → α => tt g0) fun tt k => Eq.symm ?_).symm
  show ((List.range' 0 ng).foldl (fun (tt : Nat → α) g => fun i => if i = g then tt g + F k g else tt i) tt) g0 = _
  rw [foldl_update_each (F k) ng 0 tt g0]
  have : 0 ≤ g0 ∧ g0 < 0 + ng := by omega
  simp only [this, if_true, and_self]

end

section
variable {α : Type} [Add α] [Sub α] [Mul α] [Div α] [Neg α] [LT α] [LE α]
  [DecidableLT α] [DecidableLE α] [OfNat α 0] [OfNat α 1] [OfNat α 2] [OfNat α 4] [OfNat α 10]

/-- arrays of the models (`List`, read with `getD · 0`) as the translator sees arrays -/
def fn (l : List α) : Nat → α := fun i => l.getD i 0

/-- the constants as the code has them: `PI, PLANCK, SPDLIGT, KBOLTZ` are the module constants of `taurex.constants`,
    `conv` is the product `10000*1e-6` of `_convert_lamb`, `scale` the literal `1e-6` of `_black_body_vec`
    (`lit` = the float literal `1e-6`, which occurs in both kernels) -/
def pcOf [OfNat α 10000] (pi h c kb lit : α) : Emission.PC α :=
  { pi := pi, h := h, c := c, kb := kb, conv := (10000 : α) * lit, scale := lit }

end

section
variable {α : Type} [Add α] [OfNat α 0]

theorem foldl_zip_range (φ : α → α → α) (T T' : Nat → α) (ws : List α) (h : ∀ g, g < ws.length → T g = T' g) (a0 : α) :
    (List.range' 0 ws.length).foldl (fun a g => a + φ (T g) (fn ws g)) a0
      = (((List.range ws.length).map T').zip ws).foldl (fun a p => a + φ p.1 p.2) a0 := by
  have hlen : (((List.range ws.length).map T').zip ws).length = ws.length := by simp
  have := foldl_range'_eq (fun a (p : α × α) => a + φ p.1 p.2) (((List.range ws.length).map T').zip ws)
    (fun g => (T g, fn ws g)) 0 (by
      intro i hi
      rw [hlen] at hi
      simp [fn, List.getD_eq_getElem?_getD, hi, h i hi]) a0
  rw [hlen] at this
  exact this

end

section
variable {α : Type} [LT α] [DecidableLT α] [OfNat α 0]

/-- `ndarray.min()` as the translator writes it -/
def foldMin (n : Nat) (v : Nat → α) : α :=
  (List.range' 1 (n - 1)).foldl (fun m r => if v r < m then v r else m) (v 0)

theorem foldMin_eq_vmin {β : Type} (cols : List β) (g : β → α) (v : Nat → α) (d : β)
    (h : ∀ j, j < cols.length → v j = g (cols.getD j d)) (hne : cols ≠ []) :
    foldMin cols.length v = Emission.vmin (cols.map g) := by
  cases cols with
  | nil => exact absurd rfl hne
  | cons c cs =>
    unfold foldMin Emission.vmin
    simp only [List.length_cons, Nat.add_sub_cancel, List.map_cons]
    have h0 := h 0 (by simp)
    simp only [List.getD_cons_zero] at h0
    rw [h0]
    have := foldl_range'_eq (fun m y => if y < m then y else m) (cs.map g) v 1 (by
      intro i hi
      simp only [List.length_map] at hi
      have := h (1 + i) (by simp; omega)
      rw [this]
      simp [List.getD_eq_getElem?_getD, Nat.add_comm 1 i, hi]) (g c)
    simp only [List.length_map] at this
    exact this

end

/-! ### the loop over `contribution_list` of `evaluate_emission`, for any method dispatch `D` that acts column by column as
`tauAcc` (`hD`) on columns that all list `nc` contributions (`hsig`) -/

section contribLoop
open Emission
variable {α : Type} [OfNat α 0]

/-- the `(1, nw)` buffer after `for contrib in self.contribution_list: contrib.contribute(self, lo, hi, 0, 0, density, buf,
    path_length=dz)` on a zeroed buffer -/
def allContrib (D : Nat → Nat → Nat → Nat → Nat → (Nat → α) → (Nat → α) → (Nat → α) → (Nat → α)) (dz dens : List α)
    (nc lo hi : Nat) : Nat → α :=
  (List.range' 0 nc).foldl (fun (b : Nat → α) ci => D ci lo hi 0 0 (fn dens) b (fn dz)) (fun _ => (0 : α))

variable {D : Nat → Nat → Nat → Nat → Nat → (Nat → α) → (Nat → α) → (Nat → α) → (Nat → α)}
  {cols : List (Col α)} {dz dens : List α} {nc : Nat}

/-- `layer_tau` and `dtau` are accumulated side by side -/
theorem allContrib_pair (lo1 hi1 lo2 hi2 : Nat) :
    (List.range' 0 nc).foldl (fun (st : (Nat → α) × (Nat → α)) ci =>
        (D ci lo1 hi1 0 0 (fn dens) st.1 (fn dz), D ci lo2 hi2 0 0 (fn dens) st.2 (fn dz)))
        (fun _ => (0 : α), fun _ => (0 : α))
      = (allContrib D dz dens nc lo1 hi1, allContrib D dz dens nc lo2 hi2) :=
  foldl_pair (fun (b : Nat → α) ci => D ci lo1 hi1 0 0 (fn dens) b (fn dz))
    (fun (b : Nat → α) ci => D ci lo2 hi2 0 0 (fn dens) b (fn dz)) _ _ _

variable [Add α] [Mul α]
variable (hD : ∀ ci lo hi j (buf : Nat → α), D ci lo hi 0 0 (fn dens) buf (fn dz) j
    = tauAcc ((cols.getD j ⟨0, []⟩).sig.getD ci (Kind.lin, [])) dz dens lo hi (buf j))
include hD

theorem contribLoop_eq (lo hi j : Nat) (buf : Nat → α) (hn : (cols.getD j ⟨0, []⟩).sig.length = nc) :
    ((List.range' 0 nc).foldl (fun (b : Nat → α) ci => D ci lo hi 0 0 (fn dens) b (fn dz)) buf) j
      = (cols.getD j ⟨0, []⟩).sig.foldl (fun a c => tauAcc c dz dens lo hi a) (buf j) := by
  refine (List.foldl_hom (fun b : Nat → α => b j)
    (g₂ := fun a ci => tauAcc ((cols.getD j ⟨0, []⟩).sig.getD ci (Kind.lin, [])) dz dens lo hi a)
    fun b ci => (hD ci lo hi j b).symm).symm.trans ?_
  rw [← hn]
  exact foldl_range'_getD (fun a c => tauAcc c dz dens lo hi a) _ _ _

variable (hsig : ∀ j, j < cols.length → (cols.getD j ⟨0, []⟩).sig.length = nc)
include hsig

theorem allContrib_eq (lo hi j : Nat) (hj : j < cols.length) :
    allContrib D dz dens nc lo hi j = tauRange (cols.getD j ⟨0, []⟩).sig dz dens lo hi :=
  contribLoop_eq hD lo hi j _ (hsig j hj)

variable [LT α] [DecidableLT α] [OfNat α 10]

theorem keepL_allContrib (hne : cols ≠ []) (n l : Nat) :
    decide (foldMin cols.length (allContrib D dz dens nc (l + 1) n) < (10 : α)) = keepLOf cols dz dens n l := by
  unfold keepLOf layerTau
  rw [foldMin_eq_vmin cols (fun c => tauRange c.sig dz dens (l + 1) n) _ ⟨0, []⟩
    (fun j hj => allContrib_eq hD hsig _ _ j hj) hne]

theorem keepD_allContrib (hne : cols ≠ []) (n l : Nat) :
    decide (foldMin cols.length (fun r => allContrib D dz dens nc l (l + 1) r + allContrib D dz dens nc (l + 1) n r)
      < (10 : α)) = keepDOf cols dz dens n l := by
  unfold keepDOf dTau layerTau
  rw [foldMin_eq_vmin cols (fun c => tauRange c.sig dz dens l (l + 1) + tauRange c.sig dz dens (l + 1) n) _ ⟨0, []⟩
    (fun j hj => by rw [allContrib_eq hD hsig _ _ j hj, allContrib_eq hD hsig _ _ j hj])
    hne]

variable [Sub α]

/-- `x_calc = 0.0; if x.min() < self._clamp: x_calc = E(x)` for `x = layer_tau` and `x = dtau` of layer `l`, read at column `j`
    (`E` is `exp(-x*_mu)` for the intensity, `exp(-x)` for the contribution function): the clamp decisions are the model's,
    the optical depths those of column `j` -/
theorem clamped_pair_at (E : α → α) (n l j : Nat) (hj : j < cols.length) :
    (if decide (foldMin cols.length (allContrib D dz dens nc (l + 1) n) < (10 : α)) = true
        then (fun j' => E (allContrib D dz dens nc (l + 1) n j')) else fun _ => (0 : α)) j
      - (if decide (foldMin cols.length (fun r => allContrib D dz dens nc l (l + 1) r + allContrib D dz dens nc (l + 1) n r)
            < (10 : α)) = true
          then (fun j' => E (allContrib D dz dens nc l (l + 1) j' + allContrib D dz dens nc (l + 1) n j'))
          else fun _ => (0 : α)) j
      = (if keepLOf cols dz dens n l = true then E (layerTau (cols.getD j ⟨0, []⟩).sig dz dens n l) else 0)
        - (if keepDOf cols dz dens n l = true then E (dTau (cols.getD j ⟨0, []⟩).sig dz dens n l) else 0) := by
  have hne : cols ≠ [] := by intro h0; subst h0; exact absurd hj (Nat.not_lt_zero _)
  rw [keepL_allContrib hD hsig hne, keepD_allContrib hD hsig hne]
  congr 1 <;> split <;> simp only [allContrib_eq hD hsig _ _ j hj, dTau, layerTau]

end contribLoop

/-! ### the same loop of `evaluate_emission_ktables`, one wavenumber at a time -/

section contribLoopK
open Emission
variable {α : Type} [Add α] [Mul α] [OfNat α 0]
  {D : Nat → Nat → Nat → Nat → Nat → (Nat → α) → α → (Nat → α) → α} {cs : List (Kind × List α)} {dz dens : List α}
  (hD : ∀ ci lo hi (buf : α), D ci lo hi 0 0 (fn dens) buf (fn dz) = tauAcc (cs.getD ci (Kind.lin, [])) dz dens lo hi buf)
include hD

theorem contribLoopK_eq (lo hi : Nat) (buf : α) :
    (List.range' 0 cs.length).foldl (fun b ci => D ci lo hi 0 0 (fn dens) b (fn dz)) buf
      = cs.foldl (fun a c => tauAcc c dz dens lo hi a) buf := by
  simp only [hD]
  exact foldl_range'_getD (fun a c => tauAcc c dz dens lo hi a) cs _ buf

theorem contribLoopK_pair (lo1 hi1 lo2 hi2 : Nat) :
    (List.range' 0 cs.length).foldl (fun (st : α × α) ci =>
        (D ci lo1 hi1 0 0 (fn dens) st.1 (fn dz), D ci lo2 hi2 0 0 (fn dens) st.2 (fn dz))) ((0 : α), (0 : α))
      = (tauRange cs dz dens lo1 hi1, tauRange cs dz dens lo2 hi2) := by
  rw [foldl_pair (fun (b : α) ci => D ci lo1 hi1 0 0 (fn dens) b (fn dz))
    (fun (b : α) ci => D ci lo2 hi2 0 0 (fn dens) b (fn dz)),
    contribLoopK_eq hD, contribLoopK_eq hD]
  rfl

end contribLoopK

end Taurex.SrcLemmas
