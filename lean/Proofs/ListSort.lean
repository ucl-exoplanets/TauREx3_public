/-
  Sorting with Mathlib at hand.  Insertion into a sorted list for any test (`pairwise_orderedInsert`: the insertion sorts of
  the models differ in where they put equal keys; each is Mathlib's `List.orderedInsert` for a suitable test, shown in
  the cluster's file), `Binning.insertBy` / `sortBy` as `orderedInsert` / `insertionSort`, and uniqueness of a list sorted
  by a key that tells its elements apart.  The clients without Mathlib (C15, the source ties) use
  `Proofs/SortCore.lean`, which proves that `Binning.sortBy` sorts, from an explicit transitive, total `≤` (the one
  sortedness lemma for it; the clients with Mathlib take it from there too).
-/
import Mathlib.Data.List.Sort
import TaurexModel.Binning

namespace Taurex

theorem pairwise_orderedInsert {β : Type} {r s : β → β → Prop} [DecidableRel r] (hr : ∀ a b, r a b → s a b)
    (hn : ∀ a b, ¬ r a b → s b a) (ht : ∀ a b c, s a b → s b c → s a c) (a : β) :
    ∀ l : List β, l.Pairwise s → (l.orderedInsert r a).Pairwise s
  | [], _ => List.pairwise_singleton _ _
  | b :: l, h => by
    obtain ⟨hb, hl⟩ := List.pairwise_cons.1 h
    rw [List.orderedInsert_cons]
    split
    · next hab =>
      refine List.pairwise_cons.2 ⟨fun c hc => ?_, h⟩
      rcases List.mem_cons.1 hc with rfl | hc
      · exact hr _ _ hab
      · exact ht _ _ _ (hr _ _ hab) (hb c hc)
    · next hab =>
      refine List.pairwise_cons.2 ⟨fun c hc => ?_, pairwise_orderedInsert hr hn ht a l hl⟩
      rcases (List.mem_orderedInsert r).1 hc with rfl | hc
      · exact hn _ _ hab
      · exact hb c hc

theorem Binning.insertBy_eq_orderedInsert {α β : Type} [LE α] [DecidableLE α] (key : β → α) (x : β) (l : List β) :
    Binning.insertBy key x l = l.orderedInsert (fun a b => key a ≤ key b) x := by
  induction l with
  | nil => rfl
  | cons y t ih => rw [Binning.insertBy, List.orderedInsert_cons, ih]

theorem Binning.sortBy_eq_insertionSort {α β : Type} [LE α] [DecidableLE α] (key : β → α) (l : List β) :
    Binning.sortBy key l = l.insertionSort (fun a b => key a ≤ key b) :=
  congrArg (fun f => List.foldr f [] l) (funext fun x => funext (Binning.insertBy_eq_orderedInsert key x))

/-- a list sorted by a key that tells its elements apart is determined by its elements -/
theorem eq_of_perm_of_sorted_key {β κ : Type} [PartialOrder κ] (key : β → κ) {l₁ l₂ : List β} (hp : l₁.Perm l₂)
    (h₁ : l₁.Pairwise (fun a b => key a ≤ key b)) (h₂ : l₂.Pairwise (fun a b => key a ≤ key b))
    (hinj : ∀ a ∈ l₁, ∀ b ∈ l₁, key a = key b → a = b) : l₁ = l₂ :=
  hp.eq_of_pairwise (fun a b ha hb hab hba => hinj a ha b (hp.mem_iff.2 hb) (le_antisymm hab hba)) h₁ h₂

end Taurex
