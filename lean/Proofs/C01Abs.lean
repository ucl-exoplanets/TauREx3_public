/-
  Lemmas about `AbsorptionGrid.absSigma` (the absorption cross-section of a run whose molecules are tabulated on their own
  wavenumber grids) over ℝ.
-/
import Proofs.C13Lemmas
import Proofs.C03
import TaurexModel.AbsorptionGrid

namespace Taurex.C01Abs
open Taurex.Grid Taurex.Sigma Taurex.AbsorptionGrid Taurex.NpInterp Taurex.C13L

theorem inRange_self (req : List ℝ) (x : ℝ) (hx : x ∈ req) : inRange req x = true := by
  unfold inRange
  simp only [Bool.and_eq_true, decide_eq_true_eq]
  exact ⟨minL_le req x hx, maxL_ge req x hx⟩

theorem opacityOnGrid_self (nw vals : List ℝ) (hlen : nw.length = vals.length) :
    opacityOnGrid nw vals nw = vals := by
  have hf : (nw.zip vals).filter (fun p => inRange nw p.1) = nw.zip vals := by
    apply List.filter_eq_self.2
    intro p hp
    exact inRange_self nw p.1 (List.of_mem_zip hp).1
  unfold opacityOnGrid
  simp only [hf]
  have h1 : (nw.zip vals).map (·.1) = nw := List.map_fst_zip (by omega)
  have h2 : (nw.zip vals).map (·.2) = vals := List.map_snd_zip (by omega)
  rw [if_pos ((eqL_iff _ _).2 h1), h2]

theorem absSigma_eq (gases : List (Gas ℝ)) (req : List ℝ) (l w : ℕ) :
    absSigma gases req l w = (gases.map fun g => gasOnGrid g req l w * g.mix l).sum := by
  unfold absSigma
  rw [sumComps_map]
  simp only [compAbs, zero_add]

/-- the request overlaps the table: the native points a request is interpolated from (from the last one `≤ min req` to the
    first one `≥ max req`) are at least one.  This is the hypothesis `hne` of `C13L.opacityOnGrid_between`; the statements of
    `Props/C01.lean` (`absSigma_nonneg`, `gasOnGrid_between`, `nv_selection`) spell it out. -/
def Overlaps (wn req : List ℝ) : Prop :=
  0 < ((wn.drop (Interp.searchRight wn (minL req) - 1)).take
    (min (Interp.searchLeft wn (maxL req)) (wn.length - 1) + 1 - (Interp.searchRight wn (minL req) - 1))).length

theorem gasOnGrid_nonneg (g : Gas ℝ) (req : List ℝ) (l w : ℕ) (hi : ℝ)
    (hlen : g.wn.length = (g.vals l).length) (hs : g.wn.Pairwise (· ≤ ·))
    (hv : ∀ v ∈ g.vals l, 0 ≤ v ∧ v ≤ hi) (hne : Overlaps g.wn req) :
    0 ≤ gasOnGrid g req l w := by
  unfold gasOnGrid
  by_cases h : w < (opacityOnGrid g.wn (g.vals l) req).length
  · rw [List.getD_eq_getElem _ _ h]
    exact (opacityOnGrid_between g.wn (g.vals l) req 0 hi hlen hs hv hne _ (List.getElem_mem _)).1
  · rw [List.getD_eq_default _ _ (not_lt.1 h)]

/-! the test vector of `Props/C01.lean`: a table on the points 1, 2, 4 requested on 1, 3, 4 -/

theorem nv_table_sorted : ([1, 2, 4] : List ℝ).Pairwise (· ≤ ·) := by norm_num

theorem nv_request_min : minL ([1, 3, 4] : List ℝ) = 1 := by norm_num [minL]

theorem nv_request_max : maxL ([1, 3, 4] : List ℝ) = 4 := by norm_num [maxL]

end Taurex.C01Abs
