/-
  What every `argsort` returns, whatever it does with ties: the positions `0 … n-1`, each once, in non-decreasing order of
  the key found there.  The re-ordering step of `compute_derived_trace` (`gathered[all_index.argsort()]`) needs no more
  than that, so it is shown once here (`IsArgsort.restore`); that the models' sorts return one is shown where they are
  used (C09, C18).
-/
import Proofs.ListCore
import Proofs.ListSort

namespace Taurex

/-- `σ` sorts the positions `0 … n-1` by `key` -/
def IsArgsort {κ : Type} [LE κ] (key : ℕ → κ) (n : ℕ) (σ : List ℕ) : Prop :=
  σ.Perm (List.range n) ∧ σ.Pairwise (fun a b => key a ≤ key b)

namespace IsArgsort

theorem lt {κ : Type} [LE κ] {key : ℕ → κ} {n : ℕ} {σ : List ℕ} (h : IsArgsort key n σ) : ∀ j ∈ σ, j < n :=
  fun _ hj => List.mem_range.1 (h.1.subset hj)

theorem congr {κ : Type} [LE κ] {key key' : ℕ → κ} {n : ℕ} {σ : List ℕ} (h : IsArgsort key n σ)
    (hk : ∀ j < n, key j = key' j) : IsArgsort key' n σ :=
  ⟨h.1, h.2.imp_of_mem fun {a b} ha hb hab => by rwa [← hk a (h.lt a ha), ← hk b (h.lt b hb)]⟩

/-- sorting the positions of a gathered list `G` (a permutation of `0 … n-1`) by the key of the sample found there, and
    reading `G` in that order, sorts the samples by their key -/
theorem comp {κ : Type} [LE κ] {key : ℕ → κ} {G σ : List ℕ} {n : ℕ} (hG : G.Perm (List.range n))
    (h : IsArgsort (fun j => key (G.getD j 0)) G.length σ) : IsArgsort key n (σ.map (fun j => G.getD j 0)) := by
  refine ⟨?_, List.pairwise_map.2 h.2⟩
  have := h.1.map (fun j => G.getD j 0)
  rw [← list_eq_map_range 0 G] at this
  exact this.trans hG

theorem eq_range {σ : List ℕ} {n : ℕ} (h : IsArgsort (fun j => j) n σ) : σ = List.range n :=
  h.1.eq_of_pairwise (fun _ _ _ _ hab hba => Nat.le_antisymm hab hba) h.2 (List.pairwise_lt_range.imp Nat.le_of_lt)

/-- reading `G.map g` at valid positions `σ` is reading `G` there, then applying `g` -/
theorem read {β κ : Type} [LE κ] {key : ℕ → κ} {G σ : List ℕ} (h : IsArgsort key G.length σ) (g : ℕ → β) :
    σ.filterMap (fun j => (G.map g)[j]?) = (σ.map (fun j => G.getD j 0)).map g := by
  rw [filterMap_getElem?_eq_map_getD (g 0) _ _ fun j hj => (List.length_map g).symm ▸ h.lt j hj, List.map_map]
  exact List.map_congr_left fun j _ => getD_map g G j 0

/-- reading a gathered list `G.map g` in the order of an argsort of its index list `G` gives sample order -/
theorem restore {β : Type} {G σ : List ℕ} {n : ℕ} (hG : G.Perm (List.range n))
    (h : IsArgsort (fun j => G.getD j 0) G.length σ) (g : ℕ → β) :
    σ.filterMap (fun j => (G.map g)[j]?) = (List.range n).map g :=
  (h.read g).trans (congrArg _ (h.comp (key := fun j => j) hG).eq_range)

/-- for pairwise distinct keys there is one argsort only -/
theorem unique {κ : Type} [PartialOrder κ] {key : ℕ → κ} {n : ℕ} {σ τ : List ℕ} (hσ : IsArgsort key n σ)
    (hτ : IsArgsort key n τ) (hinj : ∀ a < n, ∀ b < n, key a = key b → a = b) : σ = τ :=
  eq_of_perm_of_sorted_key key (hσ.1.trans hτ.1.symm) hσ.2 hτ.2 fun a ha b hb => hinj a (hσ.lt a ha) b (hσ.lt b hb)

end IsArgsort

end Taurex
