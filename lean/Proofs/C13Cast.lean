/-
  C13: the clip predicate on rows commutes with the embedding `ℚ → ℝ` (`Proofs/C05Cast.lean` has the binning model), and
  the rational tables of the concrete examples of Props/C13.lean.
-/
import Proofs.C05Cast
import Proofs.C13Cond

namespace Taurex.C13L
open Taurex.Binning List

theorem filter_inside_cast (L U : ℚ) (rows : List (Row ℚ)) :
    (rows.map Row.toReal).filter (inside (L : ℝ) (U : ℝ)) =
      (rows.filter fun r => decide (L ≤ r.c) && decide (r.c ≤ U)).map Row.toReal := by
  rw [List.filter_map]
  congr 2
  funext r
  simp only [Function.comp, inside, Row.toReal, Rat.cast_le]

/-- a log-spaced native grid `1024·(5/4)^k`, `k = 0 … 5`, over `ℚ` -/
def log6Q : List (Row ℚ) := [⟨1024, 0, 10, 0⟩, ⟨1280, 0, 20, 0⟩, ⟨1600, 0, 30, 0⟩, ⟨2000, 0, 40, 0⟩,
  ⟨2500, 0, 50, 0⟩, ⟨3125, 0, 60, 0⟩]

noncomputable def log6 : List (Row ℝ) := [⟨1024, 0, 10, 0⟩, ⟨1280, 0, 20, 0⟩, ⟨1600, 0, 30, 0⟩, ⟨2000, 0, 40, 0⟩,
  ⟨2500, 0, 50, 0⟩, ⟨3125, 0, 60, 0⟩]

theorem log6_eq : log6 = log6Q.map Row.toReal := by
  simp [log6, log6Q, Row.toReal]

/-- the widest spacing is the last one, `3125 - 2500` -/
theorem log6_spacing_le : ∀ j, j + 1 < (log6.map Row.c).length → spacing (log6.map Row.c) j ≤ 625 := by
  rw [log6_eq, map_c_toReal, List.length_map]
  intro j hj
  rw [spacing_cast]
  exact_mod_cast (by decide +kernel : ∀ j < 5, (log6Q.map Row.c).getD (j + 1) 0 - (log6Q.map Row.c).getD j 0 ≤ 625) j
    (Nat.lt_of_add_lt_add_right hj)

end Taurex.C13L
