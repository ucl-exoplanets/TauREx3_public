/-
  List facts that several translated sources and their models share: reading by index, `range`, `map`, `zipWith` that ignores one side, association
  lists read with `List.lookup`, appending an element that may be there already (`nodup_ite_append`), and
  `np.searchsorted` on a sorted array as a count (`TaurexModel/Interp.lean`, imported for `searchRight_map` alone).
  Core Lean only.
-/
import TaurexModel.Interp

namespace Taurex

theorem filterMap_eq_map {β γ : Type} {l : List β} {g : β → Option γ} {f : β → γ} (h : ∀ j ∈ l, g j = some (f j)) :
    l.filterMap g = l.map f := by
  induction l with
  | nil => rfl
  | cons a l ih =>
    rw [List.filterMap_cons, h a List.mem_cons_self, List.map_cons, ih fun j hj => h j (List.mem_cons_of_mem a hj)]

/-- numpy's `a[idx]` when every index is a position of `a`: reading with `[i]?` and dropping the failures is reading
    with a default -/
theorem filterMap_getElem?_eq_map_getD {β : Type} (d : β) (a : List β) (idx : List Nat) (h : ∀ i ∈ idx, i < a.length) :
    idx.filterMap (fun i => a[i]?) = idx.map (fun i => a.getD i d) :=
  filterMap_eq_map fun i hi => by rw [List.getD_eq_getElem?_getD, List.getElem?_eq_getElem (h i hi), Option.getD_some]

/-- reading with a default yields a member or the default: what holds of both holds of what is read -/
theorem getD_of_forall {β : Type} {P : β → Prop} (l : List β) (d : β) (hd : P d) (h : ∀ x ∈ l, P x) (k : Nat) :
    P (l.getD k d) := by
  rw [List.getD_eq_getElem?_getD]
  cases hk : l[k]? with
  | none => exact hd
  | some x => exact h x (List.mem_of_getElem? hk)

/-- `[F(i) for i in range(n)][i]` is `F(i)` -/
theorem getD_map_range {γ : Type} (F : Nat → γ) {n i : Nat} (h : i < n) {d : γ} :
    ((List.range n).map F).getD i d = F i := by
  rw [List.getD_eq_getElem?_getD, List.getElem?_map, List.getElem?_range h, Option.map_some, Option.getD_some]

/-- `[f(x) for x in l][i]` is `f(l[i])` at a position of `l` -/
theorem getD_map_getElem {β γ : Type} (f : β → γ) {l : List β} {i : Nat} (h : i < l.length) {d : γ} :
    (l.map f).getD i d = f l[i] := by
  rw [List.getD_eq_getElem?_getD, List.getElem?_map, List.getElem?_eq_getElem h, Option.map_some, Option.getD_some]

theorem getD_map {β γ : Type} (f : β → γ) (l : List β) (i : Nat) (d : β) : (l.map f).getD i (f d) = f (l.getD i d) := by
  rw [List.getD_eq_getElem?_getD, List.getD_eq_getElem?_getD, List.getElem?_map, Option.getD_map]

/-- `[l[i] for i in range(n)]` (with the total `getD`) is `l[:n]` when `n ≤ len(l)` -/
theorem map_getD_range {β : Type} (d : β) (l : List β) {n : Nat} (h : n ≤ l.length) :
    (List.range n).map (fun i => l.getD i d) = l.take n := by
  apply List.ext_getElem?
  intro i
  by_cases hi : i < n
  · simp [hi, List.getD_eq_getElem?_getD, List.getElem?_eq_getElem (Nat.lt_of_lt_of_le hi h)]
  · simp [hi, Nat.min_eq_left h]

theorem list_eq_map_range {β : Type} (d : β) (xs : List β) :
    xs = (List.range xs.length).map (fun i => xs.getD i d) := by
  rw [map_getD_range d xs (Nat.le_refl _), List.take_length]

theorem zipWith_left {β γ δ : Type} (f : β → δ) : ∀ (l : List β) (l' : List γ), l.length ≤ l'.length →
    List.zipWith (fun a _ => f a) l l' = l.map f
  | [], _, _ => by simp
  | _ :: _, [], h => by simp at h
  | a :: t, b :: t', h => by
    rw [List.zipWith_cons_cons, List.map_cons, zipWith_left f t t' (by simpa using h)]

theorem zipWith_right {β γ δ : Type} (f : γ → δ) (l : List β) (l' : List γ) (h : l'.length ≤ l.length) :
    List.zipWith (fun _ b => f b) l l' = l'.map f := by
  rw [List.zipWith_comm]
  exact zipWith_left f l' l h

/-! ### association lists read with `List.lookup` (dictionaries in insertion order) -/

section
variable {κ β γ : Type} [BEq κ] [LawfulBEq κ]

theorem mem_of_lookup {l : List (κ × β)} {k : κ} {v : β} (h : l.lookup k = some v) : (k, v) ∈ l := by
  obtain ⟨l₁, l₂, rfl, _⟩ := List.lookup_eq_some_iff.1 h
  simp

/-- with distinct keys, an entry is what its key finds -/
theorem lookup_of_mem_nodup : ∀ {l : List (κ × β)} {k : κ} {v : β},
    (l.map (·.1)).Nodup → (k, v) ∈ l → l.lookup k = some v
  | [], _, _, _, h => by cases h
  | (k', v') :: t, k, v, hn, h => by
    rw [List.map_cons, List.nodup_cons] at hn
    rcases List.mem_cons.1 h with h | h
    · obtain ⟨rfl, rfl⟩ := Prod.mk.inj h
      rw [List.lookup_cons, beq_self_eq_true]
    · have hne : (k == k') = false :=
        beq_eq_false_iff_ne.2 fun e => hn.1 (e ▸ List.mem_map_of_mem (f := (·.1)) h)
      rw [List.lookup_cons, hne]
      exact lookup_of_mem_nodup hn.2 h

/-- a map that keeps the keys and changes each value by a function of its key (defaults overridden by a section) -/
theorem lookup_map_val (f : κ → β → γ) (k : κ) :
    ∀ l : List (κ × β), (l.map fun kd => (kd.1, f kd.1 kd.2)).lookup k = (l.lookup k).map (f k)
  | [] => rfl
  | (k', d) :: t => by
    rw [List.map_cons, List.lookup_cons, List.lookup_cons]
    cases h : k == k'
    · exact lookup_map_val f k t
    · rw [eq_of_beq h]; rfl

end

theorem nodup_append_singleton {β : Type} {l : List β} {a : β} (h : l.Nodup) (ha : a ∉ l) : (l ++ [a]).Nodup :=
  List.nodup_append.2 ⟨h, List.nodup_cons.2 ⟨List.not_mem_nil, List.nodup_nil⟩, fun _ hx _ hy e =>
    ha (List.mem_singleton.1 hy ▸ e ▸ hx)⟩

/-- `if a in l: l else: l + [a]` keeps the elements distinct (`c` is the membership test as computed) -/
theorem nodup_ite_append {β : Type} (l : List β) (a : β) (c : Bool) (hc : c = true ↔ a ∈ l) (h : l.Nodup) :
    (if c then l else l ++ [a]).Nodup := by
  split
  · exact h
  · next hn => exact nodup_append_singleton h fun ha => hn (hc.2 ha)

/-! ### `np.searchsorted` on a sorted array is a count: along a list sorted by `R`, a property that is downward closed
    along `R` holds exactly on a prefix, whose length is `countP` -/

theorem countP_prefix {β : Type} (R : β → β → Prop) (P : β → Prop) [DecidablePred P]
    (hmono : ∀ x y, R x y → P y → P x) (l : List β) (hs : l.Pairwise R) :
    (∀ x ∈ l.take (l.countP (fun x => decide (P x))), P x) ∧
      (∀ x ∈ l.drop (l.countP (fun x => decide (P x))), ¬ P x) := by
  induction l with
  | nil => simp
  | cons x t ih =>
    rw [List.pairwise_cons] at hs
    obtain ⟨ih1, ih2⟩ := ih hs.2
    by_cases hx : P x
    · simp only [List.countP_cons_of_pos (p := fun x => decide (P x)) (decide_eq_true hx), List.take_succ_cons, List.drop_succ_cons,
        List.mem_cons, forall_eq_or_imp]
      exact ⟨⟨hx, ih1⟩, ih2⟩
    · -- nothing after `x` satisfies `P` either: the count is 0
      have hall : ∀ y ∈ t, ¬ P y := fun y hy hpy => hx (hmono x y (hs.1 y hy) hpy)
      have h0 : t.countP (fun x => decide (P x)) = 0 :=
        List.countP_eq_zero.2 fun y hy => by rw [decide_eq_false (hall y hy)]; exact Bool.false_ne_true
      simp only [List.countP_cons_of_neg (p := fun x => decide (P x)) (decide_eq_false hx ▸ Bool.false_ne_true), h0, List.take_zero,
        List.drop_zero, List.mem_cons, forall_eq_or_imp, List.not_mem_nil, false_imp_iff, implies_true, true_and]
      exact ⟨hx, hall⟩

theorem lt_countP_iff {β : Type} (R : β → β → Prop) (P : β → Prop) [DecidablePred P]
    (hmono : ∀ x y, R x y → P y → P x) (l : List β) (hs : l.Pairwise R) (i : Nat) (hi : i < l.length) :
    i < l.countP (fun x => decide (P x)) ↔ P l[i] := by
  obtain ⟨h1, h2⟩ := countP_prefix R P hmono l hs
  refine ⟨fun h => h1 _ (List.mem_take_iff_getElem.2 ⟨i, Nat.lt_min.2 ⟨h, hi⟩, rfl⟩), fun h => ?_⟩
  refine Nat.lt_of_not_le fun hc => h2 _ (List.mem_drop_iff_getElem.2
    ⟨i - l.countP (fun x => decide (P x)), ?_, ?_⟩) h
  · omega
  · congr 1; omega

theorem countP_split {β : Type} (R : β → β → Prop) (P : β → Prop) [DecidablePred P]
    (hmono : ∀ x y, R x y → P y → P x) (l : List β) (hs : l.Pairwise R) :
    ∃ a b, l = a ++ b ∧ l.countP (fun x => decide (P x)) = a.length ∧ (∀ x ∈ a, P x) ∧ ∀ x ∈ b, ¬ P x :=
  ⟨_, _, (List.take_append_drop _ l).symm, (List.length_take_of_le List.countP_le_length).symm,
    (countP_prefix R P hmono l hs).1, (countP_prefix R P hmono l hs).2⟩

end Taurex

namespace Taurex.Interp

theorem searchRight_map {β K : Type} [LE K] [DecidableLE K] (f : β → K) (l : List β) (v : K) :
    searchRight (l.map f) v = l.countP (fun r => decide (f r ≤ v)) := by
  rw [searchRight, List.countP_map]
  rfl

end Taurex.Interp
