/-
  C16 — source tie, `HDF5OutputGroup.write_array` / `write_string_array`: the oracle for h5py as these two methods use it.

  Objects: the output group `grp p` (its attribute `_entry` is the h5py group `entry p`), a numeric array `nd a` (with
  `.shape`, `.dtype`), the `bytes` a string encodes to (`bytes cps`: `len` is the UTF-8 size `Output.utf8Size`), the created
  dataset.  The state is the log of created datasets (`Proofs/C16SrcStore.lean`).  `entry.create_dataset(name, data=array,
  shape=…, dtype=…)` creates the numeric dataset; `entry.create_dataset(name, (n, 1), 'S<w>', cells)` creates the fixed-width
  string dataset `Output.stringNode` — the oracle only accepts the shape `(len(cells), 1)` and the format `S<w>` for
  `w = Output.cellWidth` of the cells (h5py would truncate / pad for any other width: outside the model).
-/
import Proofs.C16SrcStore

set_option linter.unusedSectionVars false

namespace Taurex.C16Src
open Taurex.Gen Taurex.Gen.Dyn
open Taurex.Output (Value Node Arr ArrData Err OfInt stringNode cellWidth utf8Size sCell writeArray subKey)

inductive HObj (α : Type) where
  | grp (path : List String)
  | entry (path : List String)
  | nd (a : Arr α)
  | bytes (cps : List Nat)
  | shape
  | dtype
  | ds

/-- the two group methods never compare two of these objects -/
instance {α : Type} : BEq (HObj α) := ⟨fun _ _ => false⟩

abbrev HV (α : Type) := Dyn.Val α (HObj α)

section
variable {α : Type}

/-- all the oracle for h5py depends on: how code-point lists are represented as `String`s -/
structure HWorld (α : Type) where
  enc : List Nat → String
  dec : String → List Nat

def HWorldOK (w : HWorld α) : Prop := ∀ s, w.dec (w.enc s) = s

def unBytes : HV α → Option (List Nat)
  | .obj (.bytes c) => some c
  | _ => none

def HWorld.ext (w : HWorld α) : Ext (SM α) α (HObj α) where
  global _ := throw .NameError
  getattr o name :=
    match o with
    | .grp p => if name = "_entry" then pure (.obj (.entry p)) else throw .AttributeError
    | .nd _ => if name = "shape" then pure (.obj .shape) else if name = "dtype" then pure (.obj .dtype)
               else throw .AttributeError
    | _ => throw .AttributeError
  call _ _ _ := throw .TypeError
  method o name args kw :=
    match o with
    | .entry p =>
      if name = "create_dataset" then
        match args, kw with
        | [.str nm], [(k1, .obj (.nd a)), (k2, .obj .shape), (k3, .obj .dtype)] =>
          if k1 = "data" ∧ k2 = "shape" ∧ k3 = "dtype" then fun s => (.ok (.obj .ds), s ++ [(p, nm, .num a)])
          else throw .TypeError
        | [.str nm, .tuple [.int n, .int 1], .str fmt, .list cells], [] =>
          match cells.mapM unBytes with
          | some strs =>
            if n = (strs.length : Int) ∧ fmt = "S" ++ toString (cellWidth strs) then
              fun s => (.ok (.obj .ds), s ++ [(p, nm, stringNode strs)])
            else throw .TypeError
          | none => throw .TypeError
        | _, _ => throw .TypeError
      else throw .AttributeError
    | _ => throw .AttributeError
  isinst _ _ := false
  iter _ := throw .TypeError
  truthy _ := pure true
  op name args :=
    if name = "method:encode" then
      match args with
      | [.str s, .str "utf-8"] => pure (.obj (.bytes (w.dec s)))
      | _ => throw .AttributeError
    else if name = "len" then
      match args with
      | [.obj (.bytes c)] => pure (.int (utf8Size c))
      | _ => throw .TypeError
    else throw .TypeError
  parseFloat _ := none

/-- an element of the list handed to `write_array` -/
def arrVal : Value α → HV α
  | .array a => .obj (.nd a)
  | _ => .none

/-- an array / a list of arrays as the value handed to `write_array` -/
def embA : Value α → HV α
  | .array a => .obj (.nd a)
  | .list l => .list (l.map arrVal)
  | _ => .none

section
variable [FloatLike α]

theorem h_entry (w : HWorld α) (p : List String) (s : Log α) :
    w.ext.getattr (.grp p) "_entry" s = (.ok (.obj (.entry p)), s) := (rfl)
theorem h_shape (w : HWorld α) (a : Arr α) (s : Log α) :
    w.ext.getattr (.nd a) "shape" s = (.ok (.obj .shape), s) := (rfl)
theorem h_dtype (w : HWorld α) (a : Arr α) (s : Log α) :
    w.ext.getattr (.nd a) "dtype" s = (.ok (.obj .dtype), s) := (rfl)
theorem h_create (w : HWorld α) (p : List String) (nm : String) (a : Arr α) (s : Log α) :
    w.ext.method (.entry p) "create_dataset" [.str nm]
        [("data", .obj (.nd a)), ("shape", .obj .shape), ("dtype", .obj .dtype)] s
      = (.ok (.obj .ds), s ++ [(p, nm, .num a)]) := by
  show (if "data" = "data" ∧ "shape" = "shape" ∧ "dtype" = "dtype" then
      (fun s => (Except.ok (Dyn.Val.obj HObj.ds), s ++ [(p, nm, Node.num a)]) : SM α (HV α))
    else (throw Exc.TypeError : SM α (HV α))) s = _
  exact congrFun (if_pos ⟨rfl, rfl, rfl⟩) s

/-- one array: `self._entry.create_dataset(str(name), data=array, shape=array.shape, dtype=array.dtype)` -/
theorem write_array_leaf (w : HWorld α) (fuel : Nat) (p : List String) (name : String) (a : Arr α) (s : Log α) :
    SrcC16.write_array w.ext (fuel + 1) (.obj (.grp p)) (.str name) (.obj (.nd a)) .none s
      = (.ok .none, s ++ [(p, name, .num a)]) := by
  unfold SrcC16.write_array
  simp only [Dyn.Val.isTy, Bool.false_eq_true, getAttr_obj, Dyn.str_, truthy_none]
  rfl

/-- the element loop of `write_array` on a list of arrays: `Output.writeArray.go` -/
theorem forM_arrays (w : HWorld α) (fuel : Nat) (p : List String) (name : String) (body : Unit → HV α → SM α Unit)
    (hb : ∀ (i : Nat) (x : HV α) (s : Log α), body () (.tuple [.int (i : Int), x]) s
        = (SrcC16.write_array w.ext (fuel + 1) (.obj (.grp p)) (.str (subKey name i)) x .none >>= fun _ => pure ()) s) :
    ∀ (l : List (Value α)) (i : Nat) (s : Log α) (es : List (String × Node α)), writeArray.go name i l = some es →
      Dyn.forM (enumFrom i (l.map arrVal)) () body s
        = (.ok (), s ++ es.map (fun e => (p, e.1, e.2)))
  | [], i, s, es, h => by
    simp only [writeArray.go, Option.some.injEq] at h
    subst h
    simp [enumFrom, Dyn.forM]
  | v :: vs, i, s, es, h => by
    cases v with
    | array a =>
      simp only [writeArray.go, Option.map_eq_some_iff] at h
      obtain ⟨r, hr, he⟩ := h
      subst he
      have ih := forM_arrays w fuel p name body hb vs (i + 1) (s ++ [(p, subKey name i, .num a)]) r hr
      simp only [List.map_cons, enumFrom, Dyn.forM, arrVal]
      rw [eff_bind, hb, eff_bind, write_array_leaf]
      simp only [eff_pure, ih, List.append_assoc, List.cons_append, List.nil_append]
    | _ => simp [writeArray.go] at h

theorem foldl_max_comm (l : List Nat) (a m : Nat) : max (l.foldl max a) m = l.foldl max (max m a) := by
  induction l generalizing a m with
  | nil => simp [Nat.max_comm]
  | cons x t ih =>
    simp only [List.foldl_cons]
    rw [ih (max a x) m, Nat.max_assoc]

/-- `max([w0] + sizes)` of non-negative ints -/
theorem maxInts_fold (l : List Nat) (m : Nat) :
    maxInts ((m :: l).map (fun n : Nat => (Dyn.Val.int (n : Int) : HV α))) = some ((l.foldl max m : Nat) : Int) := by
  induction l generalizing m with
  | nil => rfl
  | cons a t ih =>
    have h1 := ih a
    simp only [List.map_cons] at h1 ⊢
    simp only [maxInts, h1, Option.map_some, List.foldl_cons]
    congr 1
    -- `if j > i then j else i` is `max`
    rw [← foldl_max_comm t a m]
    split <;> omega

/-! ### `write_string_array`: what it asks of the oracle -/

variable (w : HWorld α)

theorem h_encode (hw : HWorldOK w) (c : List Nat) (s : Log α) :
    Dyn.callMethodB w.ext (.str (w.enc c)) "encode" [.str "utf-8"] [] s = (.ok (.obj (.bytes c)), s) := by
  show (pure (Dyn.Val.obj (HObj.bytes (w.dec (w.enc c)))) : SM α (HV α)) s = _
  rw [hw c]; rfl

theorem h_len_bytes (c : List Nat) (s : Log α) :
    Dyn.len w.ext (.obj (.bytes c)) s = (.ok (.int (utf8Size c : Nat)), s) := (rfl)

theorem h_len_list (l : List (HV α)) (s : Log α) :
    Dyn.len w.ext (.list l) s = (.ok (.int (l.length : Nat)), s) := (rfl)

theorem unBytes_bytes : ∀ l : List (List Nat), (l.map (fun c => (Dyn.Val.obj (HObj.bytes c) : HV α))).mapM unBytes = some l
  | [] => rfl
  | c :: t => by simp only [List.map_cons, List.mapM_cons, unBytes, unBytes_bytes t]; rfl

theorem h_create_strings (p : List String) (name : String) (strs : List (List Nat)) (s : Log α) :
    w.ext.method (.entry p) "create_dataset"
        [.str name, .tuple [.int (strs.length : Nat), .int 1], .str ("S" ++ toString (cellWidth strs)),
          .list (strs.map (fun c => .obj (.bytes c)))] [] s
      = (.ok (.obj .ds), s ++ [(p, name, stringNode strs)]) := by
  show (match (strs.map (fun c => (Dyn.Val.obj (HObj.bytes c) : HV α))).mapM unBytes with
    | some strs' =>
      if ((strs.length : Nat) : Int) = (strs'.length : Int) ∧ "S" ++ toString (cellWidth strs) = "S" ++ toString (cellWidth strs')
      then (fun s => (Except.ok (Dyn.Val.obj HObj.ds), s ++ [(p, name, stringNode strs')]) : SM α (HV α))
      else (throw Exc.TypeError : SM α (HV α))
    | none => (throw Exc.TypeError : SM α (HV α))) s = _
  rw [unBytes_bytes]
  exact congrFun (if_pos ⟨rfl, rfl⟩) s

/-- `max([64] + [len(cell) …])` -/
theorem h_width (strs : List (List Nat)) (s : Log α) :
    Dyn.max_ w.ext (.list (.int 64 :: strs.map (fun c => (Dyn.Val.int (utf8Size c : Nat) : HV α)))) s
      = (.ok (.int ((cellWidth strs : Nat) : Int)), s) := by
  have hm := maxInts_fold (α := α) (strs.map utf8Size) 64
  simp only [List.map_cons, List.map_map, Function.comp_def] at hm
  have hm' : maxInts ((Dyn.Val.int 64 : HV α) :: strs.map (fun c => (Dyn.Val.int (utf8Size c : Nat) : HV α)))
      = some ((cellWidth strs : Nat) : Int) := by
    simpa [cellWidth] using hm
  simp only [Dyn.max_, hm', eff_pure]

theorem h_format_width (n : Nat) (s : Log α) :
    Dyn.m_format w.ext ["S", ""] [(Dyn.Val.int (n : Int) : HV α)] s = (.ok (.str ("S" ++ toString n)), s) := by
  simp [Dyn.m_format, Dyn.mapM, Dyn.str_, eff_bind, Dyn.formatParts, Dyn.intStr]
  rfl

end

end
end Taurex.C16Src
