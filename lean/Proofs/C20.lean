/-
  The correlated-k kernels over the real carrier: the g-weighted transmittance `Σ_g w_g exp(-τ_g)`, Jensen's inequality
  for it, what a degenerate k-distribution (the same coefficient at every g) reduces to, and the interchange of the sums
  over g and over layers behind the weight-averaged coefficient.  Then `emissionK` and `emissionKNoMol` in the level form
  `Emission.layered B T n` of `Proofs/C02.lean`, so that what a k-distribution or a missing molecule changes is a statement
  about the transmittance profile `T`.
-/
import Proofs.C02
import TaurexModel.KTau

namespace Taurex.KTau
open Taurex.Emission

theorem forall_mem_map_range {β : Type} {f : ℕ → β} {n : ℕ} {P : β → Prop} (h : ∀ g < n, P (f g)) :
    ∀ t ∈ (List.range n).map f, P t :=
  List.forall_mem_map.2 fun g hg => h g (List.mem_range.1 hg)

section
variable (taus ws : List ℝ)

theorem transKmu_eq (m : ℝ) :
    transKmu taus ws m = ((taus.zip ws).map (fun p => Real.exp ((-p.1) * m) * p.2)).sum := by
  unfold transKmu
  rw [foldl_add_sum]; simp

theorem transKmu_one : transKmu taus ws 1 = transK taus ws := by
  unfold transKmu transK
  simp only [mul_one]

theorem transK_eq :
    transK taus ws = ((taus.zip ws).map (fun p => Real.exp (-p.1) * p.2)).sum := by
  rw [← transKmu_one, transKmu_eq]
  simp only [mul_one]

theorem transKmu_const (τ m : ℝ) (hlen : taus.length = ws.length) (hall : ∀ t ∈ taus, t = τ) :
    transKmu taus ws m = Real.exp ((-τ) * m) * ws.sum := by
  rw [transKmu_eq, ← sum_snd_zip taus ws hlen]
  exact Convex.wsum_const _ _ _ _ fun p hp => by rw [hall p.1 (List.of_mem_zip hp).1]

end

theorem exp_tangent (a x : ℝ) : Real.exp a * (1 + (x - a)) ≤ Real.exp x :=
  calc Real.exp a * (1 + (x - a)) ≤ Real.exp a * Real.exp (x - a) :=
        mul_le_mul_of_nonneg_left (by linarith [Real.add_one_le_exp (x - a)]) (Real.exp_pos a).le
    _ = Real.exp x := by rw [← Real.exp_add, add_sub_cancel]

theorem tangent_sum (l : List (ℝ × ℝ)) (a : ℝ) (hw : ∀ p ∈ l, 0 ≤ p.2) :
    Real.exp a * ((1 - a) * (l.map (fun p => p.2)).sum - (l.map (fun p => p.1 * p.2)).sum)
      ≤ (l.map (fun p => Real.exp (-p.1) * p.2)).sum := by
  induction l with
  | nil => simp
  | cons p ps ih =>
    have ih' := ih fun q hq => hw q (List.mem_cons_of_mem _ hq)
    have ht := mul_le_mul_of_nonneg_right (exp_tangent a (-p.1)) (hw p List.mem_cons_self)
    simp only [List.map_cons, List.sum_cons]
    linarith

theorem jensen_exp (l : List (ℝ × ℝ)) (hw : ∀ p ∈ l, 0 ≤ p.2) (h1 : (l.map (fun p => p.2)).sum = 1) :
    Real.exp (-(l.map (fun p => p.1 * p.2)).sum) ≤ (l.map (fun p => Real.exp (-p.1) * p.2)).sum := by
  have h := tangent_sum l (-(l.map (fun p => p.1 * p.2)).sum) hw
  rw [h1, mul_one, sub_neg_eq_add, add_sub_cancel_right, mul_one] at h
  exact h

/-- over the reals the g-weighted transmittance never vanishes, however opaque the column -/
theorem transK_pos {taus ws : List ℝ} (hlen : taus.length = ws.length) (hw0 : ∀ w ∈ ws, 0 ≤ w) (hw : ws.sum = 1) :
    0 < transK taus ws := by
  rw [transK_eq]
  exact (Real.exp_pos _).trans_le (jensen_exp (taus.zip ws) (fun p hp => hw0 p.2 (List.of_mem_zip hp).2)
    (by rw [sum_snd_zip taus ws hlen, hw]))

theorem transK_scaled (taus ws : List ℝ) (m : ℝ) :
    transK (taus.map (fun t => t * m)) ws = transKmu taus ws m := by
  rw [transK_eq, transKmu_eq, List.zip_map_left, List.map_map]
  refine congrArg List.sum (List.map_congr_left fun p _ => ?_)
  simp only [Function.comp_apply, Prod.map_fst, Prod.map_snd, id_eq, neg_mul]

theorem transKmu_pos {taus ws : List ℝ} (m : ℝ) (hlen : taus.length = ws.length) (hw0 : ∀ w ∈ ws, 0 ≤ w)
    (hw : ws.sum = 1) : 0 < transKmu taus ws m := by
  rw [← transK_scaled]
  exact transK_pos (by rw [List.length_map, hlen]) hw0 hw

theorem transKmu_nonneg (taus ws : List ℝ) (m : ℝ) (hw0 : ∀ w ∈ ws, 0 ≤ w) : 0 ≤ transKmu taus ws m := by
  rw [transKmu_eq]
  exact Convex.sum_map_nonneg _ _ fun p hp => mul_nonneg (Real.exp_pos _).le (hw0 p.2 (List.of_mem_zip hp).2)

section
variable (sigma3 : List (List ℝ)) (dz dens : List ℝ)

theorem kRange_eq (lo hi g : Nat) :
    kRange sigma3 dz dens lo hi g = rangeSum (fun k => at3 sigma3 k g * dz.getD k 0 * dens.getD k 0) lo hi :=
  (foldl_range'_add _ lo hi 0).trans (zero_add _)

theorem kRangeScaled_eq (m : ℝ) (lo hi g : Nat) :
    kRangeScaled sigma3 dz dens m lo hi g = kRange sigma3 dz dens lo hi g * m := by
  rw [kRange_eq, ← rangeSum_mul_right]
  refine ((foldl_range'_add _ lo hi 0).trans (zero_add _)).trans (congrArg (rangeSum · lo hi) ?_)
  funext k
  ring

theorem kRange_split (l n g : Nat) (h : l < n) :
    kRange sigma3 dz dens l (l + 1) g + kRange sigma3 dz dens (l + 1) n g = kRange sigma3 dz dens l n g := by
  simp only [kRange_eq]
  exact rangeSum_split _ l n h

theorem kRange_empty (n g : Nat) :
    kRange sigma3 dz dens n n g = 0 := by
  rw [kRange_eq, rangeSum_self]

theorem kRange_deg (sigma : List ℝ) (lo hi g : Nat) (hdeg : ∀ j, at3 sigma3 j g = sigma.getD j 0) :
    kRange sigma3 dz dens lo hi g = colSum (Kind.lin, sigma) dz dens lo hi := by
  rw [kRange_eq]
  simp only [colSum, elem, hdeg]

end

theorem at3_nonneg (sigma3 : List (List ℝ)) (h : ∀ row ∈ sigma3, ∀ x ∈ row, 0 ≤ x) (j g : Nat) :
    0 ≤ at3 sigma3 j g :=
  getD_nonneg _ (getD_of_forall (P := fun row => ∀ x ∈ row, 0 ≤ x) sigma3 [] (fun _ hx => nomatch hx) h j) g

/-- a table whose rows are constant over `G` g-points is degenerate -/
theorem at3_replicate (sigma : List ℝ) (G j g : Nat) (hg : g < G) :
    at3 (sigma.map (List.replicate G)) j g = sigma.getD j 0 := by
  unfold at3
  by_cases hj : j < sigma.length
  · simp [List.getD_eq_getElem?_getD, List.getElem?_eq_getElem hj, hg]
  · simp [List.getD_eq_getElem?_getD, List.getElem?_eq_none (not_lt.1 hj)]

theorem tauRowX_acc (sigma path dens : List ℝ) (n l : Nat) (acc : ℝ) :
    tauRowX sigma path dens n l acc = acc + tauRowX sigma path dens n l 0 := by
  unfold tauRowX
  rw [foldl_add_sum, foldl_add_sum, zero_add]

theorem transKmu_deg (f : Nat → ℝ) (ws : List ℝ) (τ m : ℝ) (hf : ∀ g, g < ws.length → f g = τ) (hw : ws.sum = 1) :
    transKmu ((List.range ws.length).map f) ws m = Real.exp ((-τ) * m) := by
  rw [transKmu_const _ ws τ m (by simp) (forall_mem_map_range hf), hw, mul_one]

theorem ktau_const (taus ws : List ℝ) (τ : ℝ) (hlen : taus.length = ws.length) (hall : ∀ t ∈ taus, t = τ)
    (hw : ws.sum = 1) : ktau taus ws = τ := by
  unfold ktau
  rw [log_real, ← transKmu_one, transKmu_const taus ws τ 1 hlen hall, hw, mul_one, mul_one, Real.log_exp, neg_neg]

/-- the weight-averaged coefficient of layer `k`: `Σ_g sigma[k, wn, g] · w_g` -/
noncomputable def avgSigma (sigma3 : List (List ℝ)) (ws : List ℝ) (k : Nat) : ℝ :=
  ((List.range ws.length).map (fun g => at3 sigma3 k g * ws.getD g 0)).sum

theorem zip_range_map (F : Nat → ℝ) (ws : List ℝ) :
    (((List.range ws.length).map F).zip ws).map (fun p => p.1 * p.2)
      = (List.range ws.length).map (fun g => F g * ws.getD g 0) := by
  apply List.ext_getElem
  · simp
  · intro i h1 h2
    simp at h1 h2
    simp [List.getElem_zip, List.getD_eq_getElem?_getD, List.getElem?_eq_getElem h1]

theorem sum_comm_range (a : Nat → Nat → ℝ) (c : Nat → ℝ) (w : Nat → ℝ) (m G : Nat) :
    ((List.range G).map (fun g => ((List.range m).map (fun k => a k g * c k)).sum * w g)).sum
      = ((List.range m).map (fun k => ((List.range G).map (fun g => a k g * w g)).sum * c k)).sum := by
  induction m with
  | zero => simp
  | succ m ih =>
    simp only [List.range_succ, List.map_append, List.sum_append, List.map_cons, List.map_nil, List.sum_cons,
      List.sum_nil, add_zero]
    rw [← ih]
    have : ∀ g, (((List.range m).map (fun k => a k g * c k)).sum + a m g * c m) * w g
        = ((List.range m).map (fun k => a k g * c k)).sum * w g + a m g * w g * c m := by
      intro g; ring
    simp only [this]
    rw [List.sum_map_add, List.sum_map_mul_right]

/-! ### `emissionK`: surface term plus, per layer, the source function times the increase of the transmittance to space
across the layer; these weights are non-negative and sum to one -/

/-- transmittance from level `l` to space at the angle `m = 1/μ`: the other contributions times the g-weighted mean of the
    molecular absorption -/
noncomputable def levelTrans (nonmol : List (Kind × List ℝ)) (sigma3 : List (List ℝ)) (ws dz dens : List ℝ) (n : ℕ)
    (m : ℝ) (l : ℕ) : ℝ :=
  Real.exp ((-(tauRange nonmol dz dens l n)) * m)
    * transKmu ((List.range ws.length).map (kRange sigma3 dz dens l n)) ws m

/-- the intensity of `evaluate_emission_ktables` in level form: surface term plus, per layer, `B(T_l)/π` times the difference of
    the level transmittances above and below it.  `hpos`: the g-weighted transmittance of the whole column is positive (weights
    `≥ 0` summing to one, or a degenerate distribution), so that the surface term's `exp(-(-log ·))` gives it back -/
theorem emissionK_layered (k : PC ℝ) (nonmol : List (Kind × List ℝ)) (sigma3 : List (List ℝ))
    (ws dz dens temps : List ℝ) (nu m : ℝ)
    (hpos : 0 < transKmu ((List.range ws.length).map (kRange sigma3 dz dens 0 temps.length)) ws m) :
    emissionK k nonmol sigma3 ws dz dens temps nu m
      = layered (fun l => planck k nu (temps.getD l 0) / k.pi) (levelTrans nonmol sigma3 ws dz dens temps.length m)
          temps.length := by
  have hX : transK ((List.range ws.length).map (kRangeScaled sigma3 dz dens m 0 temps.length)) ws
      = transKmu ((List.range ws.length).map (kRange sigma3 dz dens 0 temps.length)) ws m := by
    rw [← transK_scaled, List.map_map]
    exact congrArg (transK · ws) (List.map_congr_left fun g _ => kRangeScaled_eq ..)
  rw [← foldl_layered]
  unfold emissionK levelTrans ktau
  simp only [exp_real, log_real]
  rw [hX, neg_add, neg_neg, Real.exp_add, Real.exp_log hpos, neg_mul]
  refine List.foldl_ext _ _ _ fun i l hl => ?_
  have hl' : l < temps.length := List.mem_range.1 hl
  simp only [tauRange_split hl', kRange_split sigma3 dz dens l temps.length _ hl']

theorem emissionKNoMol_levels (k : PC ℝ) (cs : List (Kind × List ℝ)) (dz dens temps : List ℝ) (nu m : ℝ) :
    emissionKNoMol k cs dz dens temps nu m
      = layered (fun l => planck k nu (temps.getD l 0) / k.pi) (xTrans cs dz dens temps.length m) temps.length := by
  rw [← foldl_layered]
  unfold emissionKNoMol
  simp only [exp_real, xTrans, neg_mul]
  refine List.foldl_ext _ _ _ fun i l hl => ?_
  rw [tauRange_split (List.mem_range.1 hl)]

section
variable {nonmol : List (Kind × List ℝ)} {sigma3 : List (List ℝ)} {ws dz dens : List ℝ} {n : ℕ} {m : ℝ}

theorem levelTrans_top (hw : ws.sum = 1) : levelTrans nonmol sigma3 ws dz dens n m n = 1 := by
  unfold levelTrans
  rw [tauRange_empty, transKmu_deg _ ws 0 m (fun g _ => kRange_empty sigma3 dz dens n g) hw]
  simp

/-- a degenerate k-distribution is one more `σ·dz·ρ` contribution -/
theorem levelTrans_deg {sigma : List ℝ} (hdeg : ∀ j g, g < ws.length → at3 sigma3 j g = sigma.getD j 0)
    (hw : ws.sum = 1) (n : ℕ) :
    levelTrans nonmol sigma3 ws dz dens n m = xTrans ((Kind.lin, sigma) :: nonmol) dz dens n m := by
  funext l
  unfold levelTrans xTrans
  rw [transKmu_deg _ ws _ m (fun g hg => kRange_deg sigma3 dz dens sigma l n g fun j => hdeg j g hg) hw,
    ← Real.exp_add, tauRange_cons]
  congr 1
  ring

theorem kRange_nonneg (lo hi g : Nat) (hs : ∀ j g, 0 ≤ at3 sigma3 j g) (hdz : ∀ x ∈ dz, 0 ≤ x)
    (hd : ∀ x ∈ dens, 0 ≤ x) : 0 ≤ kRange sigma3 dz dens lo hi g := by
  rw [kRange_eq]
  exact rangeSum_nonneg _ lo hi fun j => mul_nonneg (mul_nonneg (hs j g) (getD_nonneg dz hdz j)) (getD_nonneg dens hd j)

theorem transKmu_map_mono {f f' : ℕ → ℝ} (hm : 0 ≤ m) (h : ∀ g, f' g ≤ f g) (hw0 : ∀ w ∈ ws, 0 ≤ w) :
    transKmu ((List.range ws.length).map f) ws m ≤ transKmu ((List.range ws.length).map f') ws m := by
  rw [transKmu_eq, transKmu_eq, List.zip_map_left, List.zip_map_left, List.map_map, List.map_map]
  exact Convex.wsum_le_wsum _ (fun p => p.2) (fun p hp => hw0 p.2 (List.of_mem_zip hp).2) fun p _ _ =>
    Real.exp_le_exp.2 (mul_le_mul_of_nonneg_right (neg_le_neg (h p.1)) hm)

theorem levelTrans_mono (hm : 0 ≤ m) (hnn : InputsNonneg nonmol dz dens) (hs : ∀ j g, 0 ≤ at3 sigma3 j g)
    (hw0 : ∀ w ∈ ws, 0 ≤ w) {l : ℕ} (hl : l < n) :
    levelTrans nonmol sigma3 ws dz dens n m l ≤ levelTrans nonmol sigma3 ws dz dens n m (l + 1) := by
  unfold levelTrans
  have hA : tauRange nonmol dz dens (l + 1) n ≤ tauRange nonmol dz dens l n := by
    rw [← tauRange_split hl]
    exact le_add_of_nonneg_left (tauRange_nonneg hnn l (l + 1))
  have hK : transKmu _ ws m ≤ transKmu _ ws m :=
    transKmu_map_mono (f := kRange sigma3 dz dens l n) (f' := kRange sigma3 dz dens (l + 1) n) hm (fun g => by
      rw [← kRange_split sigma3 dz dens l n g hl]
      exact le_add_of_nonneg_left (kRange_nonneg l (l + 1) g hs hnn.2.1 hnn.2.2)) hw0
  exact mul_le_mul (Real.exp_le_exp.2 (mul_le_mul_of_nonneg_right (neg_le_neg hA) hm)) hK
    (transKmu_nonneg _ ws m hw0) (Real.exp_pos _).le

theorem levelTrans_nonneg (hw0 : ∀ w ∈ ws, 0 ≤ w) (l : ℕ) : 0 ≤ levelTrans nonmol sigma3 ws dz dens n m l :=
  mul_nonneg (Real.exp_pos _).le (transKmu_nonneg _ ws m hw0)

end

/-! the two weight vectors that the `example`s of `Props/C20.lean` and `Props/C02.lean` instantiate the theorems with -/

theorem nv_w2 : (∀ w ∈ [(1/4 : ℝ), 3/4], 0 ≤ w) ∧ [(1/4 : ℝ), 3/4].sum = 1 := by
  constructor
  · simp only [List.forall_mem_cons, List.not_mem_nil, false_imp_iff, implies_true, and_true]; norm_num
  · norm_num

theorem nv_w3 : (∀ w ∈ [(1/2 : ℝ), 1/3, 1/6], 0 ≤ w) ∧ [(1/2 : ℝ), 1/3, 1/6].sum = 1 := by
  constructor
  · simp only [List.forall_mem_cons, List.not_mem_nil, false_imp_iff, implies_true, and_true]; norm_num
  · norm_num

end Taurex.KTau
