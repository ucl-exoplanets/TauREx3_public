/-
  Helper lemmas for C05 / C17 over the real carrier: the insertion sort (`argsort`), sums, min/max.
-/
import Mathlib.Algebra.Order.BigOperators.Group.List
import Mathlib.Algebra.BigOperators.Group.List.Basic
import Mathlib.Data.List.Nodup
import Proofs.RealInst
import Proofs.SortCore
import Proofs.ListSort
import TaurexModel.Binning

namespace Taurex.Binning
open List

theorem sumL_eq_sum (l : List ℝ) : sumL l = l.sum := List.sum_eq_foldr.symm

theorem mn_eq_min (a b : ℝ) : mn a b = min a b := (min_def a b).symm

theorem mx_eq_max (a b : ℝ) : mx a b = max a b := (max_def a b).symm

theorem absv_eq_abs (x : ℝ) : absv x = |x| := ite_neg_eq_abs x

/-- the widths `compute_bin_edges` returns are absolute values -/
theorem widths_nonneg (g : List ℝ) : ∀ w ∈ (computeBinEdges g).2, 0 ≤ w := fun w hw => by
  obtain ⟨y, _, rfl⟩ := List.mem_map.1 (show w ∈ List.map absv _ from hw)
  exact absv_eq_abs y ▸ abs_nonneg y

section
variable {α β : Type} [LE α] [DecidableLE α] (key : β → α)

theorem insertBy_perm (x : β) (l : List β) : insertBy key x l ~ x :: l :=
  insertBy_eq_orderedInsert key x l ▸ List.perm_orderedInsert _ x l

theorem sortBy_perm (l : List β) : sortBy key l ~ l :=
  sortBy_eq_insertionSort key l ▸ List.perm_insertionSort _ l

theorem sortBy_of_sorted (l : List β) (h : l.Pairwise (fun u v => key u ≤ key v)) : sortBy key l = l :=
  sortBy_eq_insertionSort key l ▸ List.Pairwise.insertionSort_eq h

end

section sort
variable {β : Type} (key : β → ℝ)

theorem insertBy_sorted (x : β) (l : List β) (h : l.Pairwise (fun u v => key u ≤ key v)) :
    (insertBy key x l).Pairwise (fun u v => key u ≤ key v) :=
  insertBy_pairwise key (fun _ _ _ => le_trans) le_total x l h

theorem sortBy_sorted (l : List β) : (sortBy key l).Pairwise (fun u v => key u ≤ key v) :=
  sortBy_pairwise key (fun _ _ _ => le_trans) le_total l

theorem sortBy_eq_of_perm {l₁ l₂ : List β} (hp : l₁ ~ l₂) (hd : (l₁.map key).Nodup) :
    sortBy key l₁ = sortBy key l₂ :=
  eq_of_perm_of_sorted_key key (((sortBy_perm key l₁).trans hp).trans (sortBy_perm key l₂).symm) (sortBy_sorted key l₁)
    (sortBy_sorted key l₂) fun _ ha _ hb =>
      List.inj_on_of_nodup_map hd ((sortBy_perm key l₁).mem_iff.1 ha) ((sortBy_perm key l₁).mem_iff.1 hb)

theorem sortBy_strict (l : List β) (hd : (l.map key).Nodup) :
    (sortBy key l).Pairwise (fun u v => key u < key v) := by
  have hs := sortBy_sorted key l
  have hd' : ((sortBy key l).map key).Nodup := ((sortBy_perm key l).map key).nodup_iff.2 hd
  rw [List.nodup_iff_pairwise_ne, List.pairwise_map] at hd'
  exact (hs.and hd').imp (fun h => lt_of_le_of_ne h.1 h.2)

end sort

end Taurex.Binning
