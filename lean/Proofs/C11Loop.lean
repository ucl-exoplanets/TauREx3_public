/-
  Facts about `TaurexModel/Structure.lean` that hold on any carrier (no algebra is used): the layer pressures and the
  hydrostatic loop `scaleLoop`.  The loop stops as soon as one of its three input lists runs out, so `scaleLoop_length`
  and `scaleLoop_layer` need no hypothesis on the lengths; the statements in terms of the layer count (`scaleLoop_length_of`,
  `scaleProps_lengths`, `scaleLoop_eq_of_rec`) take `len mu = len T`, `len pl = len T + 1`.
-/
import TaurexModel.Structure

namespace Taurex.Structure

section
variable {α : Type}

section
variable [Mul α] [Div α] [Transc α]

theorem logLevels_length [Add α] [Sub α] [OfNat α 0] [OfNat α 1] (n : Nat) (pmin pmax : α) : (logLevels n pmin pmax).length = n + 1 := by
  simp [logLevels, linspace]

theorem layerPressures_getElem? (lv : List α) (l : Nat) :
    (layerPressures lv)[l]? = (lv[l]?).bind (fun lo => (lv[l + 1]?).map (fun up => lo * sqrt (up / lo))) := by
  unfold layerPressures
  rw [List.getElem?_zipWith, List.getElem?_tail]
  cases lv[l]? <;> cases lv[l + 1]? <;> rfl

theorem layerPressures_length (lv : List α) : (layerPressures lv).length = lv.length - 1 := by
  rw [layerPressures, List.length_zipWith, List.length_tail]
  exact Nat.min_eq_right (Nat.sub_le _ _)

end

/-- the boundary altitudes of a loop result: the bottom of every layer, then the top of the last -/
def zsOf (res : List (Layer α) × α) : List α := res.1.map (·.z) ++ [res.2]

theorem zsOf_cons (L : Layer α) (ls : List (Layer α)) (top : α) : zsOf (L :: ls, top) = L.z :: zsOf (ls, top) := rfl

variable [Add α] [Mul α] [Div α] [Neg α] [OfNat α 1] [Transc α] (kb gm r z g : α) (T mu pl : List α)

theorem zsOf_scaleLoop :
    ∃ tl, zsOf (scaleLoop kb gm r z g T mu pl) = z :: tl := by
  fun_cases scaleLoop kb gm r z g T mu pl with
  | case1 => exact ⟨_, rfl⟩
  | case2 => exact ⟨[], rfl⟩

theorem scaleLoop_length :
    (scaleLoop kb gm r z g T mu pl).1.length = min T.length (min mu.length (pl.length - 1)) := by
  fun_induction scaleLoop kb gm r z g T mu pl with
  | case1 z g t ts m ms p0 p1 ps h dz z' rest ih =>
    simp only [rest, List.length_cons, ih, Nat.add_sub_cancel, Nat.succ_min_succ]
  | case2 T z g mu pl stop =>
    -- the loop stops only when one of the lists has run out
    rcases T with _ | ⟨t, ts⟩
    · simp
    rcases mu with _ | ⟨m, ms⟩
    · simp
    rcases pl with _ | ⟨p0, _ | ⟨p1, ps⟩⟩
    · simp
    · simp
    · exact (stop _ _ _ _ _ _ _ rfl rfl rfl).elim

variable {kb gm r z g T mu pl} in
theorem scaleLoop_length_of (hmu : mu.length = T.length) (hpl : pl.length = T.length + 1) :
    (scaleLoop kb gm r z g T mu pl).1.length = T.length := by
  rw [scaleLoop_length, hmu, hpl, Nat.add_sub_cancel, Nat.min_self, Nat.min_self]

variable {T mu pl} in
/-- one value per layer, one boundary more -/
theorem scaleProps_lengths [OfNat α 0] (kb bigG mass r : α) (hmu : mu.length = T.length) (hpl : pl.length = T.length + 1) :
    (scaleProps kb bigG mass r T pl mu).z.length = T.length + 1 ∧ (scaleProps kb bigG mass r T pl mu).H.length = T.length ∧
    (scaleProps kb bigG mass r T pl mu).g.length = T.length ∧ (scaleProps kb bigG mass r T pl mu).dz.length = T.length := by
  simp only [scaleProps, List.length_append, List.length_map, List.length_singleton, scaleLoop_length_of hmu hpl,
    and_self]

/-- layer `l` of the loop; the gravity of the first layer is the argument `g`, hence the hypothesis of the last conjunct -/
theorem scaleLoop_layer [OfNat α 0] (l : Nat) {L : Layer α}
    (hL : (scaleLoop kb gm r z g T mu pl).1[l]? = some L) :
    L.H = kb * T.getD l 0 / (mu.getD l 0 * L.g) ∧
    L.dz = -1 * L.H * log (pl.getD (l + 1) 0 / pl.getD l 0) ∧
    (zsOf (scaleLoop kb gm r z g T mu pl)).getD l 0 = L.z ∧
    (zsOf (scaleLoop kb gm r z g T mu pl)).getD (l + 1) 0 = L.z + L.dz ∧
    (g = gravityAt gm r z → L.g = gravityAt gm r L.z) := by
  fun_induction scaleLoop kb gm r z g T mu pl generalizing l with
  | case1 z g t ts m ms p0 p1 ps h dz z' rest ih =>
    cases l with
    | zero =>
      obtain rfl : _ = L := Option.some.inj hL
      obtain ⟨tl, htl⟩ := zsOf_scaleLoop kb gm r z' (gravityAt gm r z') ts ms (p1 :: ps)
      exact ⟨rfl, rfl, rfl, by rw [zsOf_cons, htl]; rfl, id⟩
    | succ k =>
      obtain ⟨h1, h2, h3, h4, h5⟩ := ih k hL
      exact ⟨h1, h2, h3, h4, fun _ => h5 rfl⟩
  | case2 T z g mu pl stop => cases hL

/-- **the loop is determined by its recurrences**: sequences `Z H G D` (boundary altitude, scale height, gravity,
    thickness by layer index) that satisfy the equations of the loop body on `n` layers are what the loop returns.
    `G` is not constrained at index `n` (the code does not compute a gravity at the top boundary). -/
theorem scaleLoop_eq_of_rec [OfNat α 0] (kb gm r : α) (T : List α) : ∀ (Z H G D : Nat → α) (g : α) (mu pl : List α),
    mu.length = T.length → pl.length = T.length + 1 → (0 < T.length → g = G 0) →
    (∀ i, i < T.length → H i = kb * T.getD i 0 / (mu.getD i 0 * G i)) →
    (∀ i, i < T.length → D i = -1 * H i * log (pl.getD (i + 1) 0 / pl.getD i 0)) →
    (∀ i, i < T.length → Z (i + 1) = Z i + D i) →
    (∀ i, i + 1 < T.length → G (i + 1) = gravityAt gm r (Z (i + 1))) →
    scaleLoop kb gm r (Z 0) g T mu pl = ((List.range T.length).map fun i => ⟨Z i, H i, G i, D i⟩, Z T.length) := by
  induction T with
  | nil => intros; simp [scaleLoop]
  | cons t ts ih =>
    intro Z H G D g mu pl hmu hpl hg hH hD hZ hG
    obtain ⟨m, ms, rfl⟩ := List.exists_cons_of_length_eq_add_one hmu
    obtain ⟨p0, pl', rfl⟩ := List.exists_cons_of_length_eq_add_one hpl
    obtain ⟨p1, ps, rfl⟩ := List.exists_cons_of_length_eq_add_one (Nat.succ.inj hpl)
    have h0 := hH 0 (Nat.succ_pos _)
    have d0 := hD 0 (Nat.succ_pos _)
    simp only [List.getD_cons_zero, List.getD_cons_succ, Nat.zero_add] at h0 d0
    rw [scaleLoop, hg (Nat.succ_pos _), ← h0, ← d0, ← hZ 0 (Nat.succ_pos _)]
    -- the rest of the loop is the loop of the sequences shifted by one layer
    rw [ih (fun i => Z (i + 1)) (fun i => H (i + 1)) (fun i => G (i + 1)) (fun i => D (i + 1)) _ ms (p1 :: ps)
      (Nat.succ.inj hmu) (Nat.succ.inj hpl) (fun h => (hG 0 (Nat.succ_lt_succ h)).symm)
      (fun i hi => hH (i + 1) (Nat.succ_lt_succ hi)) (fun i hi => hD (i + 1) (Nat.succ_lt_succ hi))
      (fun i hi => hZ (i + 1) (Nat.succ_lt_succ hi)) (fun i hi => hG (i + 1) (Nat.succ_lt_succ hi))]
    simp [List.range_succ_eq_map, Function.comp_def]

end

end Taurex.Structure
