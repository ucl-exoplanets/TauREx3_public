/-
  C16 — source tie, the loader: the oracle for `load_generic_profile_from_hdf5`, `get_klass_args`, `decode_string_array`
  and the per-component loaders (`load_temperature_from_hdf5`, …, `load_chemistry_from_hdf5`, `load_model_from_hdf5`).

  Objects: an open HDF5 group `h5 ch` (`ch` = its entries as `Output.Node`s; `loc[name]` of a sub-group is again such a
  group object, of a dataset a dataset handle `node n`), what `ds[()]` returns — a number / numeric array for a numeric
  dataset (`Output.load`), a `bytes` object for a variable-length string (`bytes s`, `.decode()` gives the string back), an
  array of fixed-width byte strings (`sarr rows`: `isinstance(·, np.ndarray)`, `dtype.type is np.bytes_`, iterating gives
  its rows `srow r`, `row[0]` the cell `bytes r`) —, the class `class_for_name` finds for a type string (`klass nm kws`:
  name and constructor keywords; the string may be the stored `bytes` or a `str` the caller passes) with `klass.__init__` /
  its argspec, the modules `np` and `inspect`, the class `h5py.Group`, and the objects the constructor calls return
  (`inst i`).  What the model leaves open (what calling a class returns, the parameters without default, which classes
  an object is an instance of, the data attributes of a constructed object) is the `LWorld`.
  The monad is `Dyn.Eff (LLog α)`: the state is the log of the method calls the loader makes ON the objects it constructed
  (`chemistry.addGas(gas)`, `model.add_contribution(c)`): `(object, method, arguments)` in call order.
  `gasCall`, `contribCall`, `chemistrySpec`, `modelSpec` are what the ties of `load_chemistry_from_hdf5` and
  `load_model_from_hdf5` in `Props/C16Src.lean` state: programs in this monad that say which class is called with which
  `Output.loadKwargs` and what is added in which order, given a file as `ModelFile` describes it.  They are specifications
  written here, not functions of `TaurexModel/Output.lean`; nothing else is proved about them.
-/
import TaurexModel.Gen.SrcC16
import Proofs.C16Lemmas
import Proofs.DynEval
import Proofs.ListCore

set_option linter.unusedSectionVars false

namespace Taurex.C16Src
open Taurex.Gen Taurex.Gen.Dyn
open Taurex.Output (Value Node Arr ArrData Err OfInt load loadKwargs scalarOf)

inductive LObj (α : Type) where
  | h5 (ch : List (String × Node α))
  | node (n : Node α)
  | bytes (s : List Nat)
  | sarr (rows : List (List Nat))
  | srow (r : List Nat)
  | nd (a : Arr α)
  | dtype (isBytes : Bool)
  | np
  | npNdarray
  | npBytes
  | npOther
  | inspect
  | klass (name : List Nat) (kws : List String)
  | init (kws : List String)
  | argspec (kws : List String)
  | fn (name : String)
  /-- an object a constructor call returned (identified by a number the world chooses) -/
  | inst (id : Nat)
  /-- the class `h5py.Group` -/
  | h5Group
  /-- an open `h5py.File` (its root group's entries); entering it gives the root group -/
  | file (root : List (String × Node α))
  /-- a 1-D float array (what `dataset[...]` returns for a 1-D float dataset), a stack of rows (`np.vstack`) and its
      transpose (`.T`) -/
  | vec (l : List α)
  | mat (rows : List (List α))
  | matT (rows : List (List α))

/-- identity of the singletons the code compares with `is` -/
instance {α : Type} : BEq (LObj α) where
  beq a b :=
    match a, b with
    | .npBytes, .npBytes => true
    | .npNdarray, .npNdarray => true
    | .npOther, .npOther => true
    | .np, .np => true
    | _, _ => false

abbrev LV (α : Type) := Dyn.Val α (LObj α)
abbrev LLog (α : Type) := List (Nat × String × List (LV α))
abbrev LM (α : Type) := Dyn.Eff (LLog α)

section
variable {α : Type}

/-- a loaded value (`Output.load n`) as the Python value; `enc` represents code-point lists as `String`s -/
def embLV (enc : List Nat → String) : Value α → LV α
  | .int i => .int i
  | .float x => .float x
  | .bool b => .bool b
  | .array a => .obj (.nd a)
  | .str s => .str (enc s)
  | .list l => .list (l.map (fun v => match v with | .str s => .str (enc s) | _ => .none))
  | _ => .none

/-- `ds[()]`: what h5py hands back for a dataset, before the loader decodes it -/
def rawOf (enc : List Nat → String) : Node α → LV α
  | .num a => embLV enc (load (.num a))
  | .vstr s => .obj (.bytes s)
  | .sfix _ rows => .obj (.sarr rows)
  | .group ch => .obj (.h5 ch)

def isGroup : Node α → Bool
  | .group _ => true
  | _ => false

def nodeObj : Node α → LObj α
  | .group ch => .h5 ch
  | n => .node n

structure LWorld (α : Type) where
  enc : List Nat → String
  dec : String → List Nat
  /-- the class of a stored type string: its constructor keywords -/
  klassOf : List Nat → Option (List String)
  /-- the leading entries of an argspec's `args` -/
  argsPre : List String → List (LV α)
  /-- constructing the component -/
  call : LObj α → List (LV α) → List (String × LV α) → LM α (LV α)
  /-- `isinstance(v, C)` for the class the code imports under the name `C` -/
  isA : LV α → String → Bool
  /-- a data attribute of a constructed object -/
  attrOf : Nat → String → Option (LV α)
  /-- the file a path names (`h5py.File(path, 'r')`); `none`: it cannot be opened -/
  fileOf : String → Option (List (String × Node α))
  /-- what numpy returns for `10000/array` and the module function `wnwidth_to_wlwidth` for two arrays -/
  div10000 : List α → List α
  wlwidth : List α → List α → List α

def LWorld.ext (w : LWorld α) : Ext (LM α) α (LObj α) where
  global name :=
    if name = "np" then pure (.obj .np) else if name = "inspect" then pure (.obj .inspect) else pure (.obj (.fn name))
  getattr o name :=
    match o with
    | .np =>
      if name = "ndarray" then pure (.obj .npNdarray) else if name = "bytes_" then pure (.obj .npBytes)
      else throw .AttributeError
    | .sarr _ => if name = "dtype" then pure (.obj (.dtype true)) else throw .AttributeError
    | .nd _ => if name = "dtype" then pure (.obj (.dtype false)) else throw .AttributeError
    | .dtype b => if name = "type" then pure (.obj (if b then .npBytes else .npOther)) else throw .AttributeError
    | .klass _ kws => if name = "__init__" then pure (.obj (.init kws)) else throw .AttributeError
    | .fn m => if m = "h5py" ∧ name = "Group" then pure (.obj .h5Group) else throw .AttributeError
    | .mat rows => if name = "T" then pure (.obj (.matT rows)) else throw .AttributeError
    | .inst i =>
      match w.attrOf i name with
      | some v => pure v
      | none => throw .AttributeError
    | _ => throw .AttributeError
  call o args kw :=
    match o with
    | .fn name =>
      if name = "class_for_name" then
        match args with
        | [.obj (.bytes nm)] =>
          match w.klassOf nm with
          | some kws => pure (.obj (.klass nm kws))
          | none => throw .Exception
        | [.str s] =>
          match w.klassOf (w.dec s) with
          | some kws => pure (.obj (.klass (w.dec s) kws))
          | none => throw .Exception
        | _ => throw .Exception
      else if name = "wnwidth_to_wlwidth" then
        match args with
        | [.obj (.vec wn), .obj (.vec wd)] => pure (.obj (.vec (w.wlwidth wn wd)))
        | _ => throw .TypeError
      else w.call o args kw
    | _ => w.call o args kw
  method o name args _ :=
    match o with
    | .h5 ch => if name = "keys" then pure (.list (ch.map (fun e => .str e.1))) else throw .AttributeError
    | .bytes s => if name = "decode" then pure (.str (w.enc s)) else throw .AttributeError
    | .inspect =>
      if name = "getfullargspec" then
        match args with
        | [.obj (.init kws)] => pure (.obj (.argspec kws))
        | _ => throw .TypeError
      else throw .AttributeError
    | .inst i => fun s => (.ok .none, s ++ [(i, name, args)])
    | .fn m =>
      if m = "h5py" ∧ name = "File" then
        match args with
        | [.str path, .str "r"] =>
          match w.fileOf path with
          | some root => pure (.obj (.file root))
          | none => throw .OSError
        | _ => throw .TypeError
      else throw .AttributeError
    | .file root =>
      if name = "__enter__" then pure (.obj (.h5 root))
      else if name = "__exit__" then pure .none          -- closes the file; never suppresses an exception
      else throw .AttributeError
    | .np =>
      if name = "vstack" then
        match args with
        | [.list [.obj (.vec a), .obj (.vec b), .obj (.vec c), .obj (.vec d)]] => pure (.obj (.mat [a, b, c, d]))
        | _ => throw .ValueError
      else throw .AttributeError
    | _ => throw .AttributeError
  isinst v o :=
    match o, v with
    | .npNdarray, .obj (.nd _) => true
    | .npNdarray, .obj (.sarr _) => true
    | .h5Group, .obj (.h5 _) => true
    | .fn name, v => w.isA v name
    | _, _ => false
  iter o :=
    match o with
    | .sarr rows => pure (rows.map (fun r => .obj (.srow r)))
    | .node (.sfix _ rows) => pure (rows.map (fun r => .obj (.srow r)))      -- iterating the h5py dataset itself
    | _ => throw .TypeError
  truthy _ := pure true
  op name args :=
    if name = "getitem" then
      match args with
      | [.obj (.h5 ch), .str k] =>
        match ch.lookup k with
        | some n => pure (.obj (nodeObj n))
        | none => throw .KeyError
      | [.obj (.node n), .tuple []] => pure (rawOf w.enc n)
      | [.obj (.srow r), .int 0] => pure (.obj (.bytes r))
      | _ => throw .TypeError
    else if name = "getslice" then
      match args with
      | [.obj (.argspec kws), .none, .int 4] =>
        pure (.tuple [.list (w.argsPre kws ++ kws.map .str), .none, .none,
                     if kws.isEmpty then .none else .tuple (kws.map (fun _ => .none))])
      | _ => throw .TypeError
    else if name = "method:decode" then throw .AttributeError     -- no built-in value but `bytes` has `.decode`
    else if name = "getitem[...]" then
      match args with
      | [.obj (.node (.num ⟨[_], .floats l⟩))] => pure (.obj (.vec l))
      | _ => throw .TypeError
    else if name = "/" then
      match args with
      | [.int 10000, .obj (.vec l)] => pure (.obj (.vec (w.div10000 l)))
      | _ => throw .TypeError
    else throw .TypeError
  parseFloat _ := none

def embKwL (enc : List Nat → String) (c : List (String × Value α)) : List (String × LV α) :=
  c.map (fun kv => (kv.1, embLV enc kv.2))

/-! Four laws of `Eff` from `Proofs/DynCore.lean` stated for `LM α`.  The ties do not call them by these names: `LM α` is an
    abbreviation and `Taurex.Gen.Dyn` is open, so they write `eff_pure_bind`, `eff_throw_bind`, `eff_try_pure`, `eff_try_throw`. -/

@[simp] theorem l_bind_ok {β γ : Type} (x : β) (f : β → LM α γ) : ((pure x : LM α β) >>= f) = f x := eff_pure_bind x f
@[simp] theorem l_bind_err {β γ : Type} (e : Exc) (f : β → LM α γ) : ((throw e : LM α β) >>= f) = throw e := eff_throw_bind e f
@[simp] theorem l_try_ok {β : Type} (x : β) (h : Exc → LM α β) : tryCatch (pure x : LM α β) h = pure x := eff_try_pure x h
@[simp] theorem l_try_err {β : Type} (e : Exc) (h : Exc → LM α β) : tryCatch (throw e : LM α β) h = h e := eff_try_throw e h

section
variable [FloatLike α]

/-- the pre-made keyword arguments (`premade_dict`: objects) as dictionary entries -/
def preD (pre : List (String × LV α)) : List (LV α × LV α) := pre.map (fun kv => (.str kv.1, kv.2))

/-- the dictionary of keyword arguments built so far: the pre-made ones, then the loaded ones -/
def encD (w : LWorld α) (pre : List (String × LV α)) (acc : List (String × Value α)) : LV α :=
  .dict (preD pre ++ acc.map (fun kv => (.str kv.1, embLV w.enc kv.2)))

theorem dictSet_fresh (w : LWorld α) (pre : List (String × LV α)) (acc : List (String × Value α)) (k : String)
    (v : LV α) (hp : k ∉ pre.map (·.1)) (h : k ∉ acc.map (·.1)) :
    Dyn.dictSet (preD pre ++ acc.map (fun kv => ((Dyn.Val.str kv.1 : LV α), embLV w.enc kv.2))) (.str k) v
      = preD pre ++ acc.map (fun kv => ((Dyn.Val.str kv.1 : LV α), embLV w.enc kv.2)) ++ [(.str k, v)] :=
  dictSet_str_fresh k v _ fun e he => by
    rcases List.mem_append.1 he with he | he <;> obtain ⟨kv, hkv, rfl⟩ := List.mem_map.1 he
    · exact ⟨kv.1, rfl, fun e => hp (e ▸ List.mem_map_of_mem (f := (·.1)) hkv)⟩
    · exact ⟨kv.1, rfl, fun e => h (e ▸ List.mem_map_of_mem (f := (·.1)) hkv)⟩

/-- the keyword-collecting loop of the loader, given what one pass does -/
theorem forM_load (w : LWorld α) (ch : List (String × Node α)) (all : List String) (pre : List (String × LV α))
    (body : LV α → LV α → LM α (LV α))
    (hb : ∀ acc kw, kw ∈ all → body (encD w pre acc) (.str kw) =
      match ch.lookup kw with
      | some n => Dyn.setItem w.ext (encD w pre acc) (.str kw) (embLV w.enc (load n))
      | none => pure (encD w pre acc))
    (hpk : ∀ kw ∈ all, (ch.lookup kw).isSome = true → kw ∉ pre.map (·.1)) :
    ∀ (rest : List String) (acc : List (String × Value α)), rest.Nodup → (∀ k ∈ rest, k ∈ all) →
      (∀ k ∈ acc.map (·.1), k ∉ rest) →
      Dyn.forM (rest.map (fun k => (Dyn.Val.str k : LV α))) (encD w pre acc) body
        = pure (encD w pre (acc ++ loadKwargs ch rest))
  | [], acc, _, _, _ => by simp [Dyn.forM, loadKwargs]
  | kw :: rest, acc, hn, hall, hfresh => by
    have hn' : rest.Nodup := (List.nodup_cons.mp hn).2
    have hkw : kw ∉ rest := (List.nodup_cons.mp hn).1
    simp only [List.map_cons, Dyn.forM, hb acc kw (hall kw List.mem_cons_self), loadKwargs]
    cases hl : ch.lookup kw with
    | none =>
      simp only [eff_pure_bind]
      exact forM_load w ch all pre body hb hpk rest acc hn' (fun k hk => hall k (List.mem_cons_of_mem _ hk))
        (fun k hk hr => hfresh k hk (List.mem_cons_of_mem _ hr))
    | some n =>
      have hk : kw ∉ acc.map (·.1) := fun hm => hfresh kw hm List.mem_cons_self
      have hp : kw ∉ pre.map (·.1) := hpk kw (hall kw List.mem_cons_self) (by rw [hl]; rfl)
      simp only [encD, setItem_dict, hashable_str, if_true, eff_pure_bind, dictSet_fresh w pre acc kw _ hp hk]
      have := forM_load w ch all pre body hb hpk rest (acc ++ [(kw, load n)]) hn'
        (fun k hk => hall k (List.mem_cons_of_mem _ hk))
        (by
          intro k hk hr
          simp only [List.map_append, List.map_cons, List.map_nil, List.mem_append, List.mem_singleton] at hk
          rcases hk with hk | hk
          · exact hfresh k hk (List.mem_cons_of_mem _ hr)
          · subst hk; exact hkw hr)
      simp only [encD, List.map_append, List.map_cons, List.map_nil, List.append_assoc, List.cons_append,
        List.nil_append] at this ⊢
      exact this

theorem contains_keys (w : LWorld α) (ch : List (String × Node α)) (kw : String) :
    Dyn.contains w.ext (Dyn.Val.str kw) (Dyn.Val.list (ch.map (fun e => (Dyn.Val.str e.1 : LV α))))
      = pure (ch.lookup kw).isSome := by
  simp only [Dyn.contains, List.any_map, Function.comp_def, Dyn.Val.beq]
  congr 1
  induction ch with
  | nil => rfl
  | cons x t ih =>
    obtain ⟨k, n⟩ := x
    simp only [List.any_cons, List.lookup_cons, ih]
    by_cases h : k = kw
    · subst h; simp
    · have h1 : (k == kw) = false := by simp [h]
      have h2 : (kw == k) = false := by simp [Ne.symm h]
      simp [h1, h2]

theorem starStar_pre (w : LWorld α) (pre : List (String × LV α)) (c : List (String × Value α)) :
    (Dyn.starStar (Dyn.Val.dict (preD pre ++ c.map (fun kv => ((Dyn.Val.str kv.1 : LV α), embLV w.enc kv.2)))) : LM α _)
      = pure (pre ++ embKwL w.enc c) := by
  simp only [Dyn.starStar, embKwL, preD]
  induction pre with
  | nil =>
    simp only [List.map_nil, List.nil_append]
    induction c with
    | nil => rfl
    | cons kv t ih =>
      simp only [List.map_cons, Dyn.mapM, eff_pure_bind] at ih ⊢
      rw [ih]; rfl
  | cons kv t ih =>
    simp only [List.map_cons, List.cons_append, Dyn.mapM, eff_pure_bind] at ih ⊢
    rw [ih]; rfl

/-- how `load_generic_profile_from_hdf5` finds the class name: `profile_type=None` — the stored string under
    `identifier` —, or the `profile_type` the caller passes -/
def TypeFrom (w : LWorld α) (ch : List (String × Node α)) (identifier pt : LV α) (nm : List Nat) : Prop :=
  (pt = .none ∧ ∃ k, identifier = .str k ∧ ch.lookup k = some (.vstr nm)) ∨ (∃ s, pt = .str s ∧ w.dec s = nm)

/-- the `premade_dict` argument: `None`, or a non-empty dictionary of string-keyed entries -/
def Premade (premade : LV α) (pre : List (String × LV α)) : Prop :=
  (premade = .none ∧ pre = []) ∨ (premade = .dict (preD pre) ∧ pre ≠ [])

/-! ### `loc[name]` on a group: the oracle's answer as an equation in the stored entries -/

theorem getItem_h5 (w : LWorld α) (ch : List (String × Node α)) (k : String) :
    Dyn.getItem w.ext (Dyn.Val.obj (LObj.h5 ch)) (Dyn.Val.str k)
      = match ch.lookup k with | some n => pure (.obj (nodeObj n)) | none => throw .KeyError := (rfl)

theorem getItem_group (w : LWorld α) (top ch : List (String × Node α)) (k : String)
    (h : top.lookup k = some (.group ch)) :
    Dyn.getItem w.ext (Dyn.Val.obj (LObj.h5 top)) (Dyn.Val.str k) = pure (.obj (.h5 ch)) := by
  rw [getItem_h5, h]
  rfl

/-- a component group as `load_generic_profile_from_hdf5` needs it: the type string names a class whose constructor
    keywords are distinct and none of them is stored as a sub-group -/
structure Reloadable (w : LWorld α) (ch : List (String × Node α)) (nm : List Nat) (kws : List String) : Prop where
  klass : w.klassOf nm = some kws
  nodup : kws.Nodup
  flat : ∀ kw ∈ kws, ∀ n, ch.lookup kw = some n → isGroup n = false

/-- the reload of the gas profile stored in the group `mol` of the chemistry group: the class of its stored `gas_type`
    called with `Output.loadKwargs` (what `load_generic_profile_from_hdf5` collects); `KeyError` when there is no such
    entry (`loc[molecule]`) -/
def gasCall (w : LWorld α) (chem : List (String × Node α)) (mol : String) : LM α (LV α) :=
  match chem.lookup mol with
  | some (.group gch) =>
    match gch.lookup "gas_type" with
    | some (.vstr gnm) =>
      match w.klassOf gnm with
      | some gkws => w.call (.klass gnm gkws) [] (embKwL w.enc (loadKwargs gch gkws))
      | none => throw .Exception
    | _ => throw .KeyError
  | _ => throw .KeyError

/-- the entry `mol` of the chemistry group is absent, or a gas group the loader accepts -/
def GasGood (w : LWorld α) (chem : List (String × Node α)) (mol : String) : Prop :=
  chem.lookup mol = none ∨ ∃ gch gnm gkws, chem.lookup mol = some (.group gch) ∧
    gch.lookup "gas_type" = some (.vstr gnm) ∧ Reloadable w gch gnm gkws

/-- one pass of the loops of `load_chemistry_from_hdf5`: a stored gas name that is not one of the fill gases of the
    reloaded chemistry is reloaded from its group and added -/
def addGasStep (w : LWorld α) (chem : List (String × Node α)) (chemistry : LV α) (mol : String) : LM α Unit := do
  let fill ← Dyn.getAttr w.ext chemistry "_fill_gases"
  let c ← Dyn.contains w.ext (.str mol) fill
  if !c then do
    let g ← gasCall w chem mol
    let _ ← Dyn.callMethod w.ext chemistry "addGas" [g] []
    pure ()
  else pure ()

/-- `for mol in names: …` -/
def addGases (w : LWorld α) (chem : List (String × Node α)) (chemistry : LV α) (rows : List (List Nat)) : LM α Unit :=
  Dyn.forM (rows.map w.enc) () (fun _ mol => addGasStep w chem chemistry mol)

/-- what `load_chemistry_from_hdf5` does with the group `Chemistry` (`chem`): reload the chemistry itself, then — for a
    `TaurexChemistry` — every stored active and inactive gas that is not a fill gas -/
def chemistrySpec (w : LWorld α) (chem : List (String × Node α)) (nm : List Nat) (kws : List String)
    (act inact : List (List Nat)) : LM α (LV α) := do
  let chemistry ← w.call (.klass nm kws) [] (embKwL w.enc (loadKwargs chem kws))
  if w.isA chemistry "TaurexChemistry" then do
    addGases w chem chemistry act
    addGases w chem chemistry inact
    pure chemistry
  else pure chemistry

/-- the reload of the contribution stored in the group `key` of `Contributions`: the class NAMED LIKE THE GROUP called with
    `Output.loadKwargs` of the group -/
def contribCall (w : LWorld α) (contribs : List (String × Node α)) (key : String) : LM α (LV α) :=
  match contribs.lookup key with
  | some (.group cch) =>
    match w.klassOf (w.dec key) with
    | some ckws => w.call (.klass (w.dec key) ckws) [] (embKwL w.enc (loadKwargs cch ckws))
    | none => throw .Exception
  | _ => throw .KeyError

/-- one pass of the contribution loop of `load_model_from_hdf5`: an entry of `Contributions` that is a group is reloaded and
    added to the model; a dataset is skipped -/
def contribStep (w : LWorld α) (contribs : List (String × Node α)) (model : LV α) (e : String × Node α) : LM α Unit :=
  match e.2 with
  | .group _ => do
    let c ← contribCall w contribs e.1
    let _ ← Dyn.callMethod w.ext model "add_contribution" [c] []
    pure ()
  | _ => pure ()

/-- the groups of a stored model that `load_model_from_hdf5` reads: the entries of `ModelParameters` -/
structure ModelFile (w : LWorld α) (mp : List (String × Node α)) where
  chem : List (String × Node α)
  cnm : List Nat
  ckws : List String
  wa : Nat
  wi : Nat
  act : List (List Nat)
  inact : List (List Nat)
  press : List (String × Node α)
  pnm : List Nat
  pkws : List String
  temp : List (String × Node α)
  tnm : List Nat
  tkws : List String
  planet : List (String × Node α)
  plnm : List Nat
  plkws : List String
  star : List (String × Node α)
  snm : List Nat
  skws : List String
  mnm : List Nat
  mkws : List String
  contribs : List (String × Node α)
  hchem : mp.lookup "Chemistry" = some (.group chem)
  hctype : chem.lookup "chemistry_type" = some (.vstr cnm)
  hcr : Reloadable w chem cnm ckws
  hact : chem.lookup "active_gases" = some (.sfix wa act)
  hinact : chem.lookup "inactive_gases" = some (.sfix wi inact)
  hgas : ∀ r ∈ act ++ inact, GasGood w chem (w.enc r)
  hpress : mp.lookup "Pressure" = some (.group press)
  hptype : press.lookup "pressure_type" = some (.vstr pnm)
  hpr : Reloadable w press pnm pkws
  htemp : mp.lookup "Temperature" = some (.group temp)
  httype : temp.lookup "temperature_type" = some (.vstr tnm)
  htr : Reloadable w temp tnm tkws
  hplanet : mp.lookup "Planet" = some (.group planet)
  hplnm : w.dec "Planet" = plnm
  hplr : Reloadable w planet plnm plkws
  hstar : mp.lookup "Star" = some (.group star)
  hstype : star.lookup "star_type" = some (.vstr snm)
  hsr : Reloadable w star snm skws
  hmtype : mp.lookup "model_type" = some (.vstr mnm)
  hmr : Reloadable w mp mnm mkws
  hmpk : ∀ kw ∈ mkws, (mp.lookup kw).isSome = true →
    kw ∉ ["planet", "star", "chemistry", "temperature_profile", "pressure_profile"]
  hcontribs : mp.lookup "Contributions" = some (.group contribs)
  hcnodup : (contribs.map (·.1)).Nodup
  hcgood : ∀ key cch, (key, Node.group cch) ∈ contribs → ∃ kws, Reloadable w cch (w.dec key) kws

/-- what `load_model_from_hdf5` does with the group `ModelParameters`: the five components reloaded (chemistry with its
    gases, pressure, temperature, planet, star), the model class of the stored `model_type` called with them under the
    keywords `planet, star, chemistry, temperature_profile, pressure_profile` followed by its own stored keywords, then
    every sub-group of `Contributions` reloaded by the class named like it and added, in file order -/
def modelSpec (w : LWorld α) (mp : List (String × Node α)) (f : ModelFile w mp) : LM α (LV α) := do
  let chemistry ← chemistrySpec w f.chem f.cnm f.ckws f.act f.inact
  let pressure ← w.call (.klass f.pnm f.pkws) [] (embKwL w.enc (loadKwargs f.press f.pkws))
  let temperature ← w.call (.klass f.tnm f.tkws) [] (embKwL w.enc (loadKwargs f.temp f.tkws))
  let planet ← w.call (.klass f.plnm f.plkws) [] (embKwL w.enc (loadKwargs f.planet f.plkws))
  let star ← w.call (.klass f.snm f.skws) [] (embKwL w.enc (loadKwargs f.star f.skws))
  let model ← w.call (.klass f.mnm f.mkws) []
    ([("planet", planet), ("star", star), ("chemistry", chemistry), ("temperature_profile", temperature),
      ("pressure_profile", pressure)] ++ embKwL w.enc (loadKwargs mp f.mkws))
  let _ ← Dyn.forM f.contribs () (fun _ e => contribStep w f.contribs model e)
  pure model

/-! ### what the loaders ask of the oracle -/

variable (w : LWorld α)
theorem l_np : w.ext.global "np" = pure (.obj .np) := (rfl)
theorem l_inspect : w.ext.global "inspect" = pure (.obj .inspect) := (rfl)
theorem l_init (nm : List Nat) (kws : List String) :
    Dyn.getAttr w.ext (.obj (.klass nm kws)) "__init__" = pure (.obj (.init kws)) := (rfl)
theorem l_argspec (kws : List String) :
    Dyn.callMethod w.ext (.obj .inspect) "getfullargspec" [.obj (.init kws)] [] = pure (.obj (.argspec kws)) := (rfl)
theorem l_argspec4 (kws : List String) :
    Dyn.getSlice w.ext (.obj (.argspec kws)) .none (.int 4)
      = pure (.tuple [.list (w.argsPre kws ++ kws.map .str), .none, .none,
          if kws.isEmpty then .none else .tuple (kws.map (fun _ => .none))]) := (rfl)
theorem l_unpack4 (a b c d : LV α) : Dyn.unpack4 w.ext (.tuple [a, b, c, d]) = pure (a, b, c, d) := (rfl)
theorem l_ellipsis (n : Nat) (l : List α) :
    Dyn.getItemEllipsis w.ext (.obj (.node (.num ⟨[n], .floats l⟩))) = pure (.obj (.vec l)) := (rfl)
theorem l_div10000 (l : List α) :
    Dyn.truediv w.ext (.int 10000) (.obj (.vec l)) = pure (.obj (.vec (w.div10000 l))) := (rfl)
theorem l_wlwidth (a b : List α) :
    Dyn.call w.ext (.obj (.fn "wnwidth_to_wlwidth")) [.obj (.vec a), .obj (.vec b)] []
      = pure (.obj (.vec (w.wlwidth a b))) := (rfl)
theorem l_vstack (a b c d : List α) :
    Dyn.callMethod w.ext (.obj .np) "vstack" [.list [.obj (.vec a), .obj (.vec b), .obj (.vec c), .obj (.vec d)]] []
      = pure (.obj (.mat [a, b, c, d])) := (rfl)
theorem l_T (rows : List (List α)) : Dyn.getAttr w.ext (.obj (.mat rows)) "T" = pure (.obj (.matT rows)) := (rfl)
theorem l_arraySpectrum (x : LV α) :
    Dyn.call w.ext (.obj (.fn "ArraySpectrum")) [x] [] = w.call (.fn "ArraySpectrum") [x] [] := (rfl)

theorem decode_string_array_rows (o : LObj α) (rows : List (List Nat))
    (hi : w.ext.iter o = pure (rows.map (fun r => .obj (.srow r)))) :
    SrcC16.decode_string_array w.ext (.obj o) = pure (.list (rows.map (fun r => .str (w.enc r)))) := by
  unfold SrcC16.decode_string_array
  simp only [Dyn.iter, hi, eff_pure_bind]
  rw [mapM_map_pure _ (fun r => (Dyn.Val.obj (LObj.srow r) : LV α)) (fun r => Dyn.Val.str (w.enc r)) fun r => (rfl)]
  rfl

theorem decode_string_array_sarr (wd : Nat) (rows : List (List Nat)) :
    SrcC16.decode_string_array w.ext (.obj (.sarr rows)) = pure (embLV w.enc (load (.sfix wd rows))) := by
  rw [decode_string_array_rows w _ rows (rfl)]
  simp only [load, embLV, List.map_map, Function.comp_def]

theorem get_klass_args_eq (nm : List Nat) (kws : List String) :
    SrcC16.get_klass_args w.ext (.obj (.klass nm kws)) = pure (.list (kws.map .str)) := by
  unfold SrcC16.get_klass_args
  simp only [l_inspect, l_init, l_argspec, l_argspec4, l_unpack4, eff_pure_bind]
  cases kws with
  | nil => rfl
  | cons k t =>
    have hs := slice_tail (w.argsPre (k :: t)) ((k :: t).map (fun s => (Dyn.Val.str s : LV α))) (by simp)
    simp only [List.length_map] at hs
    simp only [List.isEmpty_cons, Bool.false_eq_true, if_false, isNone_tuple, len_tuple, neg_int, getSlice_list,
      sliceBound_int, sliceBound_none, eff_pure_bind, List.length_map, hs]

theorem l_getraw (n : Node α) :
    Dyn.getItem w.ext (.obj (.node n)) (.tuple []) = pure (rawOf w.enc n) := (rfl)
theorem l_ndarray : Dyn.getAttr w.ext (.obj .np) "ndarray" = pure (.obj .npNdarray) := (rfl)
theorem l_bytes_ : Dyn.getAttr w.ext (.obj .np) "bytes_" = pure (.obj .npBytes) := (rfl)
theorem l_keys (ch : List (String × Node α)) :
    Dyn.m_keys w.ext (.obj (.h5 ch)) = pure (ch.map (fun e => (Dyn.Val.str e.1 : LV α))) := (rfl)
theorem l_global (name : String) (h1 : name ≠ "np") (h2 : name ≠ "inspect") :
    w.ext.global name = pure (.obj (.fn name)) := by
  show (if name = "np" then _ else if name = "inspect" then _ else _) = _
  rw [if_neg h1, if_neg h2]
theorem l_dtype_sarr (rows : List (List Nat)) :
    Dyn.getAttr w.ext (.obj (.sarr rows)) "dtype" = pure (.obj (.dtype true)) := (rfl)
theorem l_dtype_nd (a : Arr α) : Dyn.getAttr w.ext (.obj (.nd a)) "dtype" = pure (.obj (.dtype false)) := (rfl)
theorem l_dtype_type (b : Bool) :
    Dyn.getAttr w.ext (.obj (.dtype b)) "type" = pure (.obj (if b then .npBytes else .npOther)) := (rfl)
theorem l_decode_bytes (t : List Nat) :
    Dyn.callMethodB w.ext (.obj (.bytes t)) "decode" [] [] = pure (.str (w.enc t)) := (rfl)
theorem l_decode_loaded (v : Value α) :
    Dyn.callMethodB w.ext (embLV w.enc v) "decode" [] [] = throw .AttributeError := by
  have hop : ∀ args, w.ext.op ("method:" ++ "decode") args = throw .AttributeError := fun _ => rfl
  cases v <;> first | exact hop _ | rfl
theorem l_isinst_ndarray (v : Value α) :
    w.ext.isinst (embLV w.enc v) .npNdarray = (match v with | .array _ => true | _ => false) := by
  cases v <;> rfl

theorem load_num_cases (a : Arr α) :
    (∃ a', load (Node.num a) = Value.array a') ∨ (∃ b, load (Node.num a) = Value.bool b) ∨
      (∃ i, load (Node.num a) = Value.int i) ∨ (∃ x, load (Node.num a) = Value.float x) := by
  simp only [load]
  cases a.shape with
  | cons _ _ => exact Or.inl ⟨_, rfl⟩
  | nil =>
    cases hsc : scalarOf a.data with
    | none => exact Or.inl ⟨_, rfl⟩
    | some v =>
      unfold scalarOf at hsc
      split at hsc <;> cases hsc
      · exact Or.inr (Or.inl ⟨_, rfl⟩)
      · exact Or.inr (Or.inr (Or.inl ⟨_, rfl⟩))
      · exact Or.inr (Or.inr (Or.inr ⟨_, rfl⟩))

/-- `load_generic_profile_from_hdf5` once the type `ptv` is found (`hpre`: the first statement) and names the class
    `nm` (`hcall`) -/
theorem load_generic_profile_typed (ch : List (String × Node α)) (identifier pt premade ptv : LV α)
    (nm : List Nat) (kws : List String) (module : LV α) (pre : List (String × LV α))
    (hpre : (if Dyn.Val.isNone pt then do
        let t1 ← Dyn.getItem w.ext (.obj (.h5 ch)) identifier
        let t2 ← Dyn.getItem w.ext t1 (.tuple [])
        pure t2
      else pure pt : LM α (LV α)) = pure ptv)
    (hcall : Dyn.call w.ext (.obj (.fn "class_for_name")) [ptv] [] = pure (.obj (.klass nm kws)))
    (hpm : Premade premade pre)
    (hn : kws.Nodup) (hds : ∀ kw ∈ kws, ∀ n, ch.lookup kw = some n → isGroup n = false)
    (hpk : ∀ kw ∈ kws, (ch.lookup kw).isSome = true → kw ∉ pre.map (·.1)) :
    SrcC16.load_generic_profile w.ext (.obj (.h5 ch)) module identifier pt premade .none
      = w.call (.klass nm kws) [] (pre ++ embKwL w.enc (loadKwargs ch kws)) := by
  unfold SrcC16.load_generic_profile
  have hpmK : ∀ K : LV α → LM α (LV α),
      (Dyn.truthy w.ext premade >>= fun t => (if t = true then pure premade else pure (Dyn.Val.dict [])) >>= K)
        = K (encD w pre []) := by
    intro K
    rcases hpm with ⟨rfl, rfl⟩ | ⟨rfl, hne⟩
    · rfl
    · cases pre with
      | nil => exact absurd rfl hne
      | cons a t =>
        simp only [Dyn.truthy, preD, List.map_cons, List.isEmpty_cons, Bool.not_false, eff_pure_bind, if_true, encD,
          List.map_nil, List.append_nil]
  simp only [eff_bind_pure, hpre, eff_pure_bind, l_keys, l_global, ne_eq, String.reduceEq, not_false_eq_true, hcall, get_klass_args_eq, hpmK]
  simp only [truthy_none, Bool.false_eq_true, if_false, eff_pure_bind, iter_list]
  rw [forM_load w ch kws pre _ ?hb hpk kws [] hn (fun _ h => h) (by simp)]
  case hb =>
    intro acc kw hkw
    simp only [contains_keys]
    cases hl : ch.lookup kw with
    | none => simp only [Option.isSome_none, eff_pure_bind, Bool.false_eq_true, if_false]
    | some n =>
      have hrepl : Dyn.contains w.ext (Dyn.Val.str kw) (Dyn.Val.dict ([] : List (LV α × LV α))) = pure false := rfl
      simp only [Option.isSome_some, if_true, eff_pure_bind, getItem_h5, hl, l_np, l_ndarray, l_bytes_, hrepl,
        Bool.false_eq_true, if_false]
      cases n with
      | group c => exact absurd (hds kw hkw _ hl) (by simp [isGroup])
      | vstr t =>
        simp only [nodeObj, l_getraw, rawOf, eff_pure_bind, Dyn.isinstObj, show w.ext.isinst (Dyn.Val.obj (LObj.bytes t)) LObj.npNdarray = false from rfl, Bool.false_eq_true, if_false, l_decode_bytes, eff_try_pure, load, embLV]
      | sfix wd rows =>
        have his : Dyn.is_ w.ext (Dyn.Val.obj (LObj.npBytes : LObj α)) (Dyn.Val.obj LObj.npBytes) = pure true := rfl
        have hcatch : Exc.AttributeError.isaAny [Exc.AttributeError, Exc.UnicodeDecodeError] = true := rfl
        simp only [nodeObj, l_getraw, rawOf, eff_pure_bind, Dyn.isinstObj,
          show w.ext.isinst (Dyn.Val.obj (LObj.sarr rows)) LObj.npNdarray = true from rfl, if_true, l_dtype_sarr,
          l_dtype_type, his, decode_string_array_sarr w wd rows, l_decode_loaded, eff_try_throw, hcatch]
      | num a =>
        have hcatch : Exc.AttributeError.isaAny [Exc.AttributeError, Exc.UnicodeDecodeError] = true := rfl
        have his : Dyn.is_ w.ext (Dyn.Val.obj (LObj.npOther : LObj α)) (Dyn.Val.obj LObj.npBytes) = pure false := rfl
        simp only [nodeObj, l_getraw, rawOf, eff_pure_bind, Dyn.isinstObj, l_isinst_ndarray]
        rcases load_num_cases a with ⟨a', hv⟩ | ⟨b, hv⟩ | ⟨i, hv⟩ | ⟨x, hv⟩ <;> rw [hv]
        · simp only [embLV, if_true, l_dtype_nd, l_dtype_type, his, eff_pure_bind, Bool.false_eq_true, if_false]
          have hd := l_decode_loaded w (.array a')
          simp only [embLV] at hd
          simp only [hd, eff_try_throw, hcatch, if_true, eff_pure_bind]
        all_goals simp only [Bool.false_eq_true, if_false, eff_pure_bind, l_decode_loaded, eff_try_throw, hcatch, if_true]
  · simp only [List.nil_append, eff_pure_bind, encD, starStar_pre, call_obj]
    rfl

/-! ### `class_for_name` on the stored bytes and on a `str` -/

theorem l_class_bytes (nm : List Nat) (kws : List String) (hk : w.klassOf nm = some kws) :
    Dyn.call w.ext (.obj (.fn "class_for_name")) [.obj (.bytes nm)] [] = pure (.obj (.klass nm kws)) := by
  show (match w.klassOf nm with | some kws => pure (.obj (.klass nm kws)) | none => throw .Exception : LM α (LV α)) = _
  rw [hk]
theorem l_class_str (s : String) (kws : List String) (hk : w.klassOf (w.dec s) = some kws) :
    Dyn.call w.ext (.obj (.fn "class_for_name")) [.str s] [] = pure (.obj (.klass (w.dec s) kws)) := by
  show (match w.klassOf (w.dec s) with
    | some kws => pure (.obj (.klass (w.dec s) kws)) | none => throw .Exception : LM α (LV α)) = _
  rw [hk]

/-- `load_generic_profile_from_hdf5(loc, module, identifier, profile_type, premade_dict)` with no replacement dictionary on
    a group the loader accepts; `hpk`: no stored constructor keyword is also pre-made -/
theorem load_generic_profile_gen (ch : List (String × Node α)) (identifier pt premade : LV α) (nm : List Nat)
    (kws : List String) (module : LV α) (pre : List (String × LV α)) (hpt : TypeFrom w ch identifier pt nm)
    (hpm : Premade premade pre) (hr : Reloadable w ch nm kws)
    (hpk : ∀ kw ∈ kws, (ch.lookup kw).isSome = true → kw ∉ pre.map (·.1)) :
    SrcC16.load_generic_profile w.ext (.obj (.h5 ch)) module identifier pt premade .none
      = w.call (.klass nm kws) [] (pre ++ embKwL w.enc (loadKwargs ch kws)) := by
  rcases hpt with ⟨rfl, k, rfl, htype⟩ | ⟨s, rfl, hs⟩
  · refine load_generic_profile_typed w ch _ _ premade (.obj (.bytes nm)) nm kws module pre ?_ ?_ hpm hr.nodup hr.flat hpk
    · simp only [isNone_none, if_true, getItem_h5, htype, nodeObj, l_getraw, rawOf, eff_pure_bind]
    · exact l_class_bytes w nm kws hr.klass
  · subst hs
    exact load_generic_profile_typed w ch _ _ premade (.str s) _ kws module pre rfl (l_class_str w s kws hr.klass) hpm
      hr.nodup hr.flat hpk

/-- the per-component loaders (`load_temperature_from_hdf5`, …, `load_contrib_from_hdf5`) are all
    `load_generic_profile_from_hdf5(loc[key], module, identifier, profile_type)` -/
theorem load_in_group (top ch : List (String × Node α)) (key : String) (module identifier pt : LV α) (nm : List Nat)
    (kws : List String) (htop : top.lookup key = some (.group ch)) (hpt : TypeFrom w ch identifier pt nm)
    (hr : Reloadable w ch nm kws) :
    (do let t1 ← Dyn.getItem w.ext (.obj (.h5 top)) (.str key)
        let t2 ← SrcC16.load_generic_profile w.ext t1 module identifier pt .none .none
        pure t2) = w.call (.klass nm kws) [] (embKwL w.enc (loadKwargs ch kws)) := by
  rw [getItem_group w top ch _ htop, eff_pure_bind,
    load_generic_profile_gen w ch identifier pt .none nm kws module [] hpt (Or.inl ⟨rfl, rfl⟩) hr (by simp)]
  rfl

/-! ### what a written group looks like to the loader -/

theorem node_of_load_str {n : Node α} {t : List Nat} (h : load n = Value.str t) : n = .vstr t := by
  cases n with
  | num a => rcases load_num_cases a with ⟨_, hv⟩ | ⟨_, hv⟩ | ⟨_, hv⟩ | ⟨_, hv⟩ <;> rw [hv] at h <;> cases h
  | vstr u => rw [Value.str.inj h]
  | sfix wd rows => cases h
  | group ch => cases h

theorem lookup_vstr_of_load {ch : List (String × Node α)} {k : String} {t : List Nat}
    (h : (ch.lookup k).map load = some (.str t)) : ch.lookup k = some (.vstr t) := by
  cases hl : ch.lookup k with
  | none => rw [hl] at h; cases h
  | some n =>
    rw [hl] at h
    rw [node_of_load_str (Option.some.inj h)]

theorem no_group_of_loadEntries {ch : List (String × Node α)} {entries : List (String × Value α)}
    (hl : Output.loadEntries ch = entries) (hnd : ∀ e ∈ entries, Output.isDict e.2 = false) (kw : String) (n : Node α)
    (h : ch.lookup kw = some n) : isGroup n = false := by
  cases n with
  | group g =>
    have h3 : entries.lookup kw = some (.dict (Output.loadEntries g)) := by
      rw [← hl, Output.lookup_loadEntries, h]; rfl
    cases (hnd _ (mem_of_lookup h3)).symm.trans rfl
  | _ => rfl

/-! ### what `load_model_from_hdf5` and the file-level functions ask of the oracle -/

theorem l_h5Group : Dyn.getAttr w.ext (.obj (.fn "h5py")) "Group" = pure (.obj .h5Group) := (rfl)
theorem l_isGroup (n : Node α) :
    Dyn.isinstObj w.ext (.obj (nodeObj n)) (.obj .h5Group) = isGroup n := by
  cases n <;> rfl
theorem l_isinst_fn (v : LV α) (name : String) : w.ext.isinst v (.fn name) = w.isA v name := by
  cases v <;> rfl

theorem l_h5py : w.ext.global "h5py" = pure (.obj (.fn "h5py")) := (rfl)
theorem l_open (path : String) :
    Dyn.callMethod w.ext (.obj (.fn "h5py")) "File" [.str path, .str "r"] []
      = match w.fileOf path with | some root => pure (.obj (.file root)) | none => throw .OSError := (rfl)
theorem l_enter (root : List (String × Node α)) :
    Dyn.callMethod w.ext (.obj (.file root)) "__enter__" [] [] = pure (.obj (.h5 root)) := (rfl)
theorem l_exit (root : List (String × Node α)) (a : List (LV α)) :
    Dyn.callMethod w.ext (.obj (.file root)) "__exit__" a [] = pure .none := (rfl)

end

end
end Taurex.C16Src
