/-
  The stable insertion sort by a key (`sortG`), of which the model's `sortPairs` and `sortKeys` are instances (that it
  sorts and permutes is shown in `Proofs/C09Lemmas.lean`).  For the C09 source tie (`Props/C09Src.lean`): the documented
  behaviour of `np.argsort` as a stable sorting permutation (`argsortStable`), and the fact that gathering `x` and `w`
  through it is the model's sort of the pairs `(x[i], w[i])` (`Posterior.sortPairs`).  Core only (no Mathlib).
-/
import TaurexModel.Posterior

namespace Taurex.C09Src
open Taurex.Posterior

section
variable {α : Type} [LT α] [DecidableLT α]
variable {β γ : Type}

/-- stable insertion by a key (the scheme of `Posterior.insertBy`, for any element type) -/
def insertG (key : β → α) (p : β) : List β → List β
  | [] => [p]
  | q :: qs => if key q < key p then q :: insertG key p qs else p :: q :: qs

def sortG (key : β → α) : List β → List β
  | [] => []
  | p :: ps => insertG key p (sortG key ps)

/-- `np.argsort(x)`: the positions of `x` in the order of the values found there (ties keep their input order) -/
def argsortStable (x : List α) : List Nat := (sortG Prod.fst x.zipIdx).map Prod.snd

theorem insertBy_eq (p : α × α) (l : List (α × α)) : insertBy p l = insertG Prod.fst p l := by
  induction l with
  | nil => rfl
  | cons q qs ih => simp only [insertBy, insertG, ih]

theorem sortPairs_eq (l : List (α × α)) : sortPairs l = sortG Prod.fst l := by
  induction l with
  | nil => rfl
  | cons p ps ih => simp only [sortPairs, sortG, ih, insertBy_eq]

theorem sortKeys_eq (l : List (Nat × Nat)) : sortKeys l = sortG Prod.fst l := by
  have hi : ∀ (p : Nat × Nat) (l : List (Nat × Nat)), insertKey p l = insertG Prod.fst p l := by
    intro p l
    induction l with
    | nil => rfl
    | cons q qs ih => simp only [insertKey, insertG, ih]
  induction l with
  | nil => rfl
  | cons p ps ih => simp only [sortKeys, sortG, ih, hi]

theorem insertG_map (key : β → α) (key' : γ → α) (f : β → γ) (h : ∀ b, key' (f b) = key b) (p : β) (l : List β) :
    (insertG key p l).map f = insertG key' (f p) (l.map f) := by
  induction l with
  | nil => rfl
  | cons q qs ih =>
    simp only [insertG, List.map_cons, h]
    split
    · simp only [List.map_cons, ih]
    · rfl

theorem sortG_map (key : β → α) (key' : γ → α) (f : β → γ) (h : ∀ b, key' (f b) = key b) (l : List β) :
    (sortG key l).map f = sortG key' (l.map f) := by
  induction l with
  | nil => rfl
  | cons p ps ih => simp only [sortG, List.map_cons, insertG_map key key' f h, ih]

theorem zipIdx_map_getD (d : γ) (x : List β) (w : List γ) (k : Nat) (h : k + x.length ≤ w.length) :
    (x.zipIdx k).map (fun p => (p.1, w.getD p.2 d)) = x.zip (w.drop k) := by
  induction x generalizing k with
  | nil => simp
  | cons a x ih =>
    have hk : k < w.length := by simp at h; omega
    rw [List.drop_eq_getElem_cons hk]
    simp only [List.zipIdx_cons, List.map_cons, List.zip_cons_cons]
    rw [ih (k + 1) (by simp at h ⊢; omega)]
    simp [List.getD, List.getElem?_eq_getElem hk]

theorem zipIdx_map_getD_self (d : γ) (names : List β) (row : List γ) (h : row.length = names.length) :
    names.zipIdx.map (fun it => row.getD it.2 d) = row := by
  have h1 := zipIdx_map_getD d names row 0 (by omega)
  rw [List.drop_zero] at h1
  have h2 := congrArg (List.map Prod.snd) h1
  rwa [List.map_map, List.map_snd_zip (by omega)] at h2

theorem gather_snd (d : α) (x w : List α) (h : x.length ≤ w.length) :
    (argsortStable x).map (fun i => w.getD i d) = (sortPairs (x.zip w)).map Prod.snd := by
  unfold argsortStable
  rw [sortPairs_eq, List.map_map]
  have h1 := sortG_map (α := α) Prod.fst Prod.fst (fun p : α × Nat => (p.1, w.getD p.2 d)) (fun _ => rfl) x.zipIdx
  have h2 := zipIdx_map_getD d x w 0 (by omega)
  rw [List.drop_zero] at h2
  rw [← h2, ← h1, List.map_map]
  rfl

theorem gather_fst (d : α) (x w : List α) (h : x.length ≤ w.length) :
    (argsortStable x).map (fun i => x.getD i d) = (sortPairs (x.zip w)).map Prod.fst := by
  have e1 : (sortPairs (x.zip w)).map Prod.fst = sortG id x := by
    rw [sortPairs_eq, sortG_map (α := α) Prod.fst id Prod.fst (fun _ => rfl)]
    congr 1
    exact List.map_fst_zip (by omega)
  have e3 : x.zip x = x.map (fun v => (v, v)) := List.zipWith_self ..
  rw [gather_snd d x x (Nat.le_refl _), e1, sortPairs_eq, e3,
    ← sortG_map (α := α) id Prod.fst (fun v : α => (v, v)) (fun _ => rfl), List.map_map]
  exact List.map_id _

end

section
variable {α : Type} [Add α] [Sub α] [Mul α] [Div α] [LT α] [LE α] [DecidableLT α] [DecidableLE α] [OfNat α 0]
  [OfNat α 16] [OfNat α 50] [OfNat α 84] [OfNat α 100]

/-- `q_16, q_50, q_84 = quantile_corner(trace, [0.16, 0.5, 0.84], weights)` as every store function unpacks it: the
    entries of the model's `summary` read off the list of the three quantiles -/
theorem summary_of_triple (x w : List α) :
    (summary x w).value = ([q16, q50, q84].map (quantileCorner x w)).getD 1 0 ∧
    (summary x w).sigmaM = ([q16, q50, q84].map (quantileCorner x w)).getD 1 0
      - ([q16, q50, q84].map (quantileCorner x w)).getD 0 0 ∧
    (summary x w).sigmaP = ([q16, q50, q84].map (quantileCorner x w)).getD 2 0
      - ([q16, q50, q84].map (quantileCorner x w)).getD 1 0 ∧
    (summary x w).mean = wmean x w := ⟨rfl, rfl, rfl, rfl⟩

end

end Taurex.C09Src
