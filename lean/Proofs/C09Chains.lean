/-
  C09 — the chains files: the line loop of `store_nest_solutions` over `<base>post_separate.dat`
  (`Posterior.splitStep` / `splitModes`) on a file in MultiNest's layout — before every mode two empty lines, then one line
  per sample — returns the modes of the file, sample by sample; and the per-mode array (`Posterior.modeArray`) is the list
  of samples itself when all samples have the same number of entries.  Core Lean only, every carrier.
-/
import Proofs.ListCore
import TaurexModel.Posterior
import Proofs.FoldCore

namespace Taurex.Posterior

section
variable {α : Type} [OfNat α 0]

/-- an empty line (`"\n"`) -/
def blankLine : PLine α := ⟨true, []⟩
/-- a line holding the numbers `r` (weight, -2 logL, parameter values …) -/
def rowLine (r : List α) : PLine α := ⟨false, r⟩

/-- `post_separate.dat` for the modes `blocks` (each a list of rows): before every mode two empty lines, then its rows -/
def fileOf (blocks : List (List (List α))) : List (PLine α) :=
  blocks.flatMap (fun b => [blankLine, blankLine] ++ b.map rowLine)

/-! ### one pass of the line loop: close the open mode if the look-back says so, then add the line's sample

  The loop's lists (`modes`, `modes_weights`, `chains`, `chains_weights`) as one tuple, the state of the translated loop;
  `SplitState` carries the two look-back flags and the line index beside them. -/

abbrev Lists (α : Type) := List (List (List α)) × List (List α) × List (List α) × List α

def listsOf (st : SplitState α) : Lists α := (st.modes, st.weights, st.chains, st.cw)

/-- when `b`: the open mode joins the finished ones and a new one is opened -/
def closeMode (b : Bool) (s : Lists α) : Lists α := if b then (s.1 ++ [s.2.2.1], s.2.1 ++ [s.2.2.2], [], []) else s

/-- a line with more than two numbers is a sample: weight = number 0, values = the numbers from 2 on -/
def addSample (toks : List α) (s : Lists α) : Lists α :=
  if 0 < (toks.drop 2).length then (s.1, s.2.1, s.2.2.1 ++ [toks.drop 2], s.2.2.2 ++ [toks.getD 0 0]) else s

/-- the samples of `rows` (each with more than two numbers) added to the open mode -/
def addRows (rows : List (List α)) (s : Lists α) : Lists α :=
  (s.1, s.2.1, s.2.2.1 ++ rows.map (fun r => r.drop 2), s.2.2.2 ++ rows.map (fun r => r.getD 0 0))

/-- what `splitModes` returns if the file ends here -/
def modesOut (s : Lists α) : List (List (List α)) × List (List α) := (s.1 ++ [s.2.2.1], s.2.1 ++ [s.2.2.2])

theorem listsOf_splitStep (st : SplitState α) (l : PLine α) :
    listsOf (splitStep st l)
      = addSample l.toks (closeMode (decide (2 < st.idx) && st.prev1 && st.prev2) (listsOf st)) := by
  unfold splitStep listsOf closeMode addSample
  dsimp only
  by_cases hi : 2 < st.idx ∧ st.prev1 = true ∧ st.prev2 = true
  · have hb : (decide (2 < st.idx) && st.prev1 && st.prev2) = true := by simp [hi]
    rw [if_pos hi, hb, if_pos rfl]
    split <;> rfl
  · have hb : (decide (2 < st.idx) && st.prev1 && st.prev2) = false := by
      rw [Bool.eq_false_iff]; intro h; simp at h; exact hi ⟨h.1.1, h.1.2, h.2⟩
    rw [if_neg hi, hb, if_neg Bool.false_ne_true]
    split <;> rfl

theorem addRows_cons (r : List α) (rows : List (List α)) (s : Lists α) :
    addRows rows (addRows [r] s) = addRows (r :: rows) s := by
  simp [addRows]

theorem step_blank (st : SplitState α) (h : (decide (2 < st.idx) && st.prev1 && st.prev2) = false) :
    listsOf (splitStep st blankLine) = listsOf st := by
  rw [listsOf_splitStep, h]; rfl

theorem step_row (st : SplitState α) {r : List α} (hr : 2 < r.length) :
    listsOf (splitStep st (rowLine r))
      = addRows [r] (closeMode (decide (2 < st.idx) && st.prev1 && st.prev2) (listsOf st)) := by
  rw [listsOf_splitStep]
  exact if_pos (show 0 < (r.drop 2).length by rw [List.length_drop]; omega)

theorem fold_rows (rows : List (List α)) : ∀ (st : SplitState α), st.prev1 = false → (∀ r ∈ rows, 2 < r.length) →
    let st' := (rows.map rowLine).foldl splitStep st
    listsOf st' = addRows rows (listsOf st) ∧ st'.prev1 = false ∧ st'.idx = st.idx + rows.length := by
  induction rows with
  | nil => intro st h _; exact ⟨by simp [addRows], h, rfl⟩
  | cons r rows ih =>
    intro st h hr
    dsimp only
    obtain ⟨a, b, c⟩ := ih (splitStep st (rowLine r)) rfl fun r' hr' => hr r' (List.mem_cons_of_mem _ hr')
    rw [List.map_cons, List.foldl_cons, a, b, c, step_row st (hr r List.mem_cons_self), h, Bool.and_false,
      Bool.false_and, addRows_cons]
    exact ⟨rfl, rfl, by show st.idx + 1 + rows.length = _; rw [List.length_cons]; omega⟩

/-- one mode of the file: two empty lines, then its rows.  The first row closes the open mode unless the two empty lines
    were the first two lines of the file (`st.idx = 0`: the look-back only starts at the fourth line). -/
theorem fold_block (b : List (List α)) (hb : b ≠ []) (hrows : ∀ r ∈ b, 2 < r.length) (st : SplitState α)
    (hp : st.prev1 = false) :
    let st' := ([blankLine, blankLine] ++ b.map rowLine : List (PLine α)).foldl splitStep st
    listsOf st' = addRows b (closeMode (decide (1 ≤ st.idx)) (listsOf st)) ∧ st'.prev1 = false ∧ 1 ≤ st'.idx := by
  cases b with
  | nil => exact absurd rfl hb
  | cons r rows =>
    dsimp only
    obtain ⟨a, b', c⟩ := fold_rows rows (splitStep (splitStep (splitStep st blankLine) blankLine) (rowLine r)) rfl
      fun r' hr' => hrows r' (List.mem_cons_of_mem _ hr')
    have h1 : listsOf (splitStep st blankLine) = listsOf st := step_blank st (by rw [hp, Bool.and_false, Bool.false_and])
    have h2 : listsOf (splitStep (splitStep st blankLine) blankLine) = listsOf st :=
      (step_blank _ (by show (decide _ && true && st.prev1) = false; rw [hp, Bool.and_false])).trans h1
    have hc : (decide (2 < st.idx + 1 + 1) && true && true) = decide (1 ≤ st.idx) := by
      rw [Bool.and_true, Bool.and_true]; exact decide_eq_decide.2 (by omega)
    rw [List.cons_append, List.cons_append, List.nil_append, List.map_cons, List.foldl_cons, List.foldl_cons,
      List.foldl_cons, a, b', c, step_row _ (hrows r List.mem_cons_self), h2, addRows_cons]
    exact ⟨congrArg (fun t => addRows (r :: rows) (closeMode t (listsOf st))) hc, rfl,
      by show 1 ≤ st.idx + 1 + 1 + 1 + rows.length; omega⟩

theorem fold_blocks (blocks : List (List (List α))) : ∀ (st : SplitState α), st.prev1 = false → 1 ≤ st.idx →
    (∀ b ∈ blocks, b ≠ []) → (∀ b ∈ blocks, ∀ r ∈ b, 2 < r.length) →
    modesOut (listsOf ((fileOf blocks).foldl splitStep st))
      = ((modesOut (listsOf st)).1 ++ blocks.map (fun b => b.map (fun r => r.drop 2)),
         (modesOut (listsOf st)).2 ++ blocks.map (fun b => b.map (fun r => r.getD 0 0))) := by
  induction blocks with
  | nil => intro st _ _ _ _; simp [fileOf]
  | cons b blocks ih =>
    intro st hp hidx hne hrows
    obtain ⟨a, b', c⟩ := fold_block b (hne b List.mem_cons_self) (hrows b List.mem_cons_self) st hp
    rw [fileOf, List.flatMap_cons, List.foldl_append, ← fileOf,
      ih _ b' c (fun b2 h2 => hne b2 (List.mem_cons_of_mem _ h2)) (fun b2 h2 => hrows b2 (List.mem_cons_of_mem _ h2)),
      a, decide_eq_true hidx]
    simp [modesOut, addRows, closeMode]

/-- **the modes of a file in MultiNest's layout**: one mode per block, its samples the columns `2:` and its weights column
    `0` of the block's rows, in file order -/
theorem splitModes_fileOf (blocks : List (List (List α))) (hne : blocks ≠ []) (hb : ∀ b ∈ blocks, b ≠ [])
    (hrows : ∀ b ∈ blocks, ∀ r ∈ b, 2 < r.length) :
    splitModes (fileOf blocks)
      = (blocks.map (fun b => b.map (fun r => r.drop 2)), blocks.map (fun b => b.map (fun r => r.getD 0 0))) := by
  cases blocks with
  | nil => exact absurd rfl hne
  | cons b blocks =>
    obtain ⟨a, b', c⟩ := fold_block b (hb b List.mem_cons_self) (hrows b List.mem_cons_self)
      { modes := [], weights := [], chains := [], cw := [], prev1 := false, prev2 := false, idx := 0 } rfl
    show modesOut (listsOf ((fileOf (b :: blocks)).foldl splitStep _)) = _
    rw [fileOf, List.flatMap_cons, List.foldl_append, ← fileOf,
      fold_blocks blocks _ b' c (fun b2 h2 => hb b2 (List.mem_cons_of_mem _ h2))
        (fun b2 h2 => hrows b2 (List.mem_cons_of_mem _ h2)), a]
    simp [modesOut, addRows, closeMode, listsOf]

theorem modeArray_rect (mode : List (List α)) (n : Nat) (h : ∀ r ∈ mode, r.length = n) : modeArray mode = mode := by
  unfold modeArray
  cases mode with
  | nil => rfl
  | cons r rows =>
    have hr : r.length = n := h r (by simp)
    simp only [List.headD_cons, hr]
    have : List.map (fitRow n) (r :: rows) = List.map id (r :: rows) := by
      apply List.map_congr_left
      intro x hx
      simp [fitRow, h x hx]
    rw [this, List.map_id]

/-! ### every stored mode has as many weights as samples

  Stated on the lists of lengths, so that closing a mode (`modes ++ [chains]`, `weights ++ [cw]`) is `List.map_append`. -/

theorem length_getD {β : Type} (A : List (List β)) (k : Nat) : (A.getD k []).length = (A.map List.length).getD k 0 :=
  (getD_map List.length A k []).symm

theorem getD_map_map {β γ : Type} (f : β → γ) (A : List (List β)) (k : Nat) :
    (A.map (List.map f)).getD k [] = (A.getD k []).map f :=
  getD_map (List.map f) A k []

theorem lens_iff {β γ : Type} (A : List (List β)) (B : List (List γ)) :
    A.map List.length = B.map List.length ↔
      A.length = B.length ∧ ∀ k, (A.getD k []).length = (B.getD k []).length := by
  constructor
  · intro h
    exact ⟨by simpa using congrArg List.length h, fun k => by rw [length_getD, length_getD, h]⟩
  · rintro ⟨hl, hk⟩
    apply List.ext_getElem (by simpa using hl)
    intro k h1 h2
    have := hk k
    rw [List.length_map] at h1 h2
    rwa [List.getD_eq_getElem?_getD, List.getD_eq_getElem?_getD, List.getElem?_eq_getElem h1,
      List.getElem?_eq_getElem h2, Option.getD_some, Option.getD_some, ← List.getElem_map List.length,
      ← List.getElem_map List.length] at this

theorem splitStep_lens (st : SplitState α) (l : PLine α)
    (h : st.chains.length = st.cw.length ∧ st.modes.map List.length = st.weights.map List.length) :
    (splitStep st l).chains.length = (splitStep st l).cw.length ∧
      (splitStep st l).modes.map List.length = (splitStep st l).weights.map List.length := by
  obtain ⟨h1, h2⟩ := h
  unfold splitStep
  dsimp only
  split <;> split <;> simp [h1, h2]

theorem splitModes_lens (lines : List (PLine α)) :
    (splitModes lines).1.map List.length = (splitModes lines).2.map List.length := by
  obtain ⟨h1, h2⟩ := foldl_inv splitStep
    (fun st => st.chains.length = st.cw.length ∧ st.modes.map List.length = st.weights.map List.length) lines
    { modes := [], weights := [], chains := [], cw := [], prev1 := false, prev2 := false, idx := 0 }
    (fun st l _ => splitStep_lens st l) ⟨rfl, rfl⟩
  unfold splitModes
  simp only [List.map_append, List.map_cons, List.map_nil, h1, h2]

/-- PolyChord's solutions, all cases at once: the cluster files when clustering found several clusters, else the one
    table `1-.txt` -/
theorem polyChains_eq (nfit : Nat) (dc : Bool) (nc : Nat) (data : List (List α)) (cluster : Nat → List (List α)) :
    polyChains nfit dc nc data cluster
      = ((List.range (if dc = true ∧ nc ≠ 1 then nc else 1)).map
            (fun k => tableSamplesN nfit (if dc = true ∧ nc ≠ 1 then cluster k else data)),
         (List.range (if dc = true ∧ nc ≠ 1 then nc else 1)).map
            (fun k => tableWeights (if dc = true ∧ nc ≠ 1 then cluster k else data)),
         if dc = true ∧ nc ≠ 1 then nc else 1) := by
  by_cases h : dc = true ∧ nc ≠ 1
  · obtain ⟨rfl, h1⟩ := h
    simp only [h1, and_self, if_true, ne_eq, not_false_eq_true]
    rw [polyChains, if_pos rfl, if_neg h1]
  · simp only [h, if_false]
    unfold polyChains
    by_cases hd : dc = true
    · rw [if_pos hd, if_pos (Classical.not_not.1 fun h1 => h ⟨hd, h1⟩)]; rfl
    · rw [if_neg hd]; rfl

theorem polyChains_lens (nfit : Nat) (dc : Bool) (nc : Nat) (data : List (List α)) (cluster : Nat → List (List α)) :
    (polyChains nfit dc nc data cluster).1.map List.length = (polyChains nfit dc nc data cluster).2.1.map List.length := by
  rw [polyChains_eq, List.map_map, List.map_map]
  exact List.map_congr_left fun k _ => by simp [tableSamplesN, tableWeights]

end

end Taurex.Posterior
