/-
  C05: mid-point widths (`compute_bin_edges`) of a strictly increasing grid, in closed form, and the
  condition on successive spacings under which the symmetrised bins `centre ∓ width/2` are "ordered bins".
-/
import Mathlib.Data.List.GetD
import Proofs.C05Flux
import Proofs.C05SrcNp

namespace Taurex.Binning
open List Taurex.Gen

/-- spacing `d_i = g[i+1] - g[i]` -/
noncomputable def spacing (g : List ℝ) (i : Nat) : ℝ := g.getD (i + 1) 0 - g.getD i 0

/-- the spacing on the left of interval `i` (the first interval is its own left neighbour: this is how
    `compute_bin_edges` extrapolates the first edge) -/
noncomputable def spacingL (g : List ℝ) (i : Nat) : ℝ := if i = 0 then spacing g i else spacing g (i - 1)

/-- the spacing on the right of interval `i` (the last interval is its own right neighbour) -/
noncomputable def spacingR (g : List ℝ) (i : Nat) : ℝ :=
  if i + 2 < g.length then spacing g (i + 1) else spacing g i

/-- the spacing on the right of point `i` as `compute_bin_edges` uses it (the last point takes the last spacing) -/
noncomputable def spacingE (g : List ℝ) (i : Nat) : ℝ :=
  if i + 1 = g.length then spacing g (g.length - 2) else spacing g i

/-- local condition on successive spacings: neighbouring spacings differ by at most four times the spacing
    between them (`d_{i+1} ≤ 4 d_i + d_{i-1}` and `d_{i-1} ≤ 4 d_i + d_{i+1}`, with `d_{-1} := d_0`,
    `d_{n-1} := d_{n-2}` at the two ends) -/
def MidpointSpacingOK (g : List ℝ) : Prop :=
  ∀ i, i + 1 < g.length →
    spacingR g i ≤ 4 * spacing g i + spacingL g i ∧ spacingL g i ≤ 4 * spacing g i + spacingR g i

theorem getD_midEdges : ∀ (g : List ℝ) (i : Nat), i + 1 < g.length →
    (midEdges g).getD i 0 = g.getD i 0 + (g.getD (i + 1) 0 - g.getD i 0) / 2
  | [], _, h | [_], _, h => by simp at h
  | _ :: _ :: _, 0, _ => rfl
  | _ :: b :: t, i + 1, h => getD_midEdges (b :: t) i (by simpa using h)

theorem getD_diffs : ∀ (e : List ℝ) (i : Nat), i + 1 < e.length →
    (diffs e).getD i 0 = e.getD (i + 1) 0 - e.getD i 0
  | [], _, h | [_], _, h => by simp at h
  | _ :: _ :: _, 0, _ => rfl
  | _ :: b :: t, i + 1, h => getD_diffs (b :: t) i (by simpa using h)

theorem spacing_pos (g : List ℝ) (hg : g.Pairwise (· < ·)) (i : Nat) (hi : i + 1 < g.length) :
    0 < spacing g i := by
  unfold spacing
  rw [List.getD_eq_getElem _ _ hi, List.getD_eq_getElem _ _ (by omega : i < g.length)]
  exact sub_pos.2 (List.pairwise_iff_getElem.1 hg i (i + 1) (by omega) hi (by omega))

theorem edge_right (g : List ℝ) (hn : 2 ≤ g.length) (i : Nat) (hi : i < g.length) :
    (computeBinEdges g).1.getD (i + 1) 0 = g.getD i 0 + spacingE g i / 2 := by
  unfold computeBinEdges spacingE spacing
  simp only
  rw [List.getD_cons_succ]
  have hlen := Np.length_midEdges g
  by_cases h : i + 1 = g.length
  · rw [if_pos h, List.getD_append_right _ _ _ _ (by omega), show i - (midEdges g).length = 0 by omega,
      List.getD_cons_zero, show g.length - 2 + 1 = g.length - 1 by omega, show g.length - 1 = i by omega]
    ring
  · rw [if_neg h, List.getD_append _ _ _ _ (by omega), getD_midEdges g i (by omega)]

theorem edge_left (g : List ℝ) (hn : 2 ≤ g.length) (i : Nat) (hi : i < g.length) :
    (computeBinEdges g).1.getD i 0 = g.getD i 0 - spacingL g i / 2 := by
  cases i with
  | zero => rfl
  | succ k =>
    rw [edge_right g hn k (by omega), spacingE, if_neg (show ¬k + 1 = g.length by omega), spacingL,
      if_neg (show ¬k + 1 = 0 by omega), Nat.add_sub_cancel]
    unfold spacing
    ring

/-- what holds of every spacing holds of the two spacings next to a grid point -/
theorem spacings_of_all {Q : ℝ → Prop} {g : List ℝ} (h : ∀ j, j + 1 < g.length → Q (spacing g j)) {i : Nat}
    (hi : i < g.length) (hn : 2 ≤ g.length) : Q (spacingL g i) ∧ Q (spacingE g i) := by
  unfold spacingL spacingE
  constructor <;> split <;> exact h _ (by omega)

theorem spacingE_succ (g : List ℝ) (i : Nat) (hi : i + 1 < g.length) : spacingE g (i + 1) = spacingR g i := by
  unfold spacingE spacingR
  by_cases h : i + 2 < g.length
  · rw [if_pos h, if_neg (Nat.ne_of_lt h)]
  · rw [if_neg h, if_pos (by omega), show g.length - 2 = i by omega]

/-- `w_0 = d_0`, `w_{n-1} = d_{n-2}`, `w_i = (d_{i-1} + d_i)/2` in between -/
theorem getD_widths (g : List ℝ) (hn : 2 ≤ g.length) (hg : g.Pairwise (· < ·)) (i : Nat) (hi : i < g.length) :
    (computeBinEdges g).2.getD i 0 = (spacingL g i + spacingE g i) / 2 := by
  have hW : (computeBinEdges g).2 = (diffs (computeBinEdges g).1).map absv := rfl
  have h0 : (0 : ℝ) = absv 0 := by rw [absv_eq_abs, abs_zero]
  rw [hW]
  conv_lhs => rw [h0, List.getD_map]
  rw [getD_diffs _ i (by rw [Np.length_edges]; omega), edge_right g hn i hi, edge_left g hn i hi, absv_eq_abs]
  rw [show g.getD i 0 + spacingE g i / 2 - (g.getD i 0 - spacingL g i / 2) = (spacingL g i + spacingE g i) / 2 by ring]
  obtain ⟨hL, hE⟩ := spacings_of_all (Q := (0 < ·)) (spacing_pos g hg) hi hn
  exact abs_of_pos (half_pos (add_pos hL hE))

theorem midpoint_adjacent (g : List ℝ) (hn : 2 ≤ g.length) (hg : g.Pairwise (· < ·))
    (hok : MidpointSpacingOK g) (i : Nat) (hi : i + 1 < g.length) :
    g.getD i 0 - (computeBinEdges g).2.getD i 0 / 2 ≤ g.getD (i + 1) 0 - (computeBinEdges g).2.getD (i + 1) 0 / 2 ∧
    g.getD i 0 + (computeBinEdges g).2.getD i 0 / 2 ≤ g.getD (i + 1) 0 + (computeBinEdges g).2.getD (i + 1) 0 / 2 := by
  obtain ⟨h1, h2⟩ := hok i hi
  rw [getD_widths g hn hg i (Nat.lt_of_succ_lt hi), getD_widths g hn hg (i + 1) hi, spacingE_succ g i hi,
    spacingE, if_neg (Nat.ne_of_lt hi)]
  have hL : spacingL g (i + 1) = spacing g i := by
    rw [spacingL, if_neg (Nat.succ_ne_zero i), Nat.add_sub_cancel]
  rw [hL, show g.getD (i + 1) 0 = g.getD i 0 + spacing g i by unfold spacing; ring]
  exact ⟨by linarith only [h1], by linarith only [h2]⟩

theorem nativeBins_false_of_sorted (rows : List (Row ℝ)) (hg : (rows.map Row.c).Pairwise (· < ·)) :
    nativeBins false rows = withWidths rows (computeBinEdges (rows.map Row.c)).2 := by
  have hs : rows.Pairwise (fun u v => u.c ≤ v.c) := by
    rw [List.pairwise_map] at hg
    exact hg.imp le_of_lt
  unfold nativeBins
  simp only [Bool.false_eq_true, if_false]
  rw [sortBy_of_sorted Row.c rows hs]

theorem length_nativeBins_false (rows : List (Row ℝ)) (hn : 1 ≤ rows.length) :
    (nativeBins false rows).length = rows.length := by
  simp only [nativeBins, withWidths, Bool.false_eq_true, if_false, List.length_zipWith, Np.length_widths,
    List.length_map, Binning.length_sortBy]
  omega

theorem pairwise_le_zipWith (f : ℝ → ℝ → ℝ) (g ws : List ℝ) (hl : ws.length = g.length)
    (h : ∀ i, i + 1 < g.length → f (g.getD i 0) (ws.getD i 0) ≤ f (g.getD (i + 1) 0) (ws.getD (i + 1) 0)) :
    (List.zipWith f g ws).Pairwise (· ≤ ·) := by
  apply List.isChain_iff_pairwise.1
  rw [List.isChain_iff_getElem]
  intro i hi
  have hlen : (List.zipWith f g ws).length = g.length := by rw [List.length_zipWith, hl]; omega
  rw [hlen] at hi
  rw [List.getElem_zipWith, List.getElem_zipWith]
  have := h i hi
  rw [List.getD_eq_getElem _ _ (by omega : i < g.length), List.getD_eq_getElem _ _ (by omega : i < ws.length),
    List.getD_eq_getElem _ _ hi, List.getD_eq_getElem _ _ (by omega : i + 1 < ws.length)] at this
  exact this

theorem midpoint_ordered (rows : List (Row ℝ)) (hn : 2 ≤ rows.length)
    (hg : (rows.map Row.c).Pairwise (· < ·)) (hok : MidpointSpacingOK (rows.map Row.c)) :
    OrderedBins (nativeBins false rows) := by
  rw [nativeBins_false_of_sorted rows hg]
  set g := rows.map Row.c with hgdef
  have hn' : 2 ≤ g.length := by rw [hgdef, List.length_map]; exact hn
  have hadj := midpoint_adjacent g hn' hg hok
  -- `Row.lo`, `Row.hi` are functions `f` of centre and width; the list of their values is a `zipWith f` of the two columns
  have key : ∀ f : ℝ → ℝ → ℝ,
      (∀ i, i + 1 < g.length → f (g.getD i 0) ((computeBinEdges g).2.getD i 0)
        ≤ f (g.getD (i + 1) 0) ((computeBinEdges g).2.getD (i + 1) 0)) →
      (withWidths rows (computeBinEdges g).2).Pairwise (fun r r' => f r.c r.w ≤ f r'.c r'.w) := fun f h =>
    List.pairwise_map.1 (by
      rw [Np.map_withWidths]
      exact pairwise_le_zipWith f g _ (by rw [Np.length_widths]; omega) h)
  exact ⟨key (fun c w => c - w / 2) (fun i hi => (hadj i hi).1), key (fun c w => c + w / 2) (fun i hi => (hadj i hi).2)⟩

theorem midpoint_lo_le_hi (rows : List (Row ℝ)) : ∀ r ∈ nativeBins false rows, r.lo ≤ r.hi := by
  intro r hr
  unfold nativeBins at hr
  simp only [Bool.false_eq_true, if_false] at hr
  unfold withWidths at hr
  obtain ⟨i, hi, rfl⟩ := List.mem_iff_getElem.1 hr
  rw [List.getElem_zipWith]
  have hi' : i < (computeBinEdges ((sortBy Row.c rows).map Row.c)).2.length := by
    rw [List.length_zipWith] at hi; omega
  have := widths_nonneg _ _ (List.getElem_mem hi')
  simp only [Row.lo, Row.hi]
  linarith

/-! ### grid families that satisfy the condition -/

theorem spacing_ratio_ok (g : List ℝ) (h0 : ∀ i, i + 1 < g.length → 0 ≤ spacing g i)
    (h4 : ∀ i, i + 2 < g.length → spacing g (i + 1) ≤ 4 * spacing g i ∧ spacing g i ≤ 4 * spacing g (i + 1)) :
    MidpointSpacingOK g := by
  intro i hi
  have hd := h0 i hi
  have h4d : spacing g i ≤ 4 * spacing g i := le_mul_of_one_le_left hd (by norm_num)
  have hL : 0 ≤ spacingL g i ∧ spacingL g i ≤ 4 * spacing g i := by
    unfold spacingL
    split
    · exact ⟨hd, h4d⟩
    · have := h4 (i - 1) (by omega)
      rw [show i - 1 + 1 = i by omega] at this
      exact ⟨h0 (i - 1) (by omega), this.2⟩
  have hR : 0 ≤ spacingR g i ∧ spacingR g i ≤ 4 * spacing g i := by
    unfold spacingR
    split
    · exact ⟨h0 (i + 1) (by omega), (h4 i (by omega)).1⟩
    · exact ⟨hd, h4d⟩
  exact ⟨by linarith only [hR.2, hL.1], by linarith only [hL.2, hR.1]⟩

theorem linear_spacing_ok (g : List ℝ) (d : ℝ) (hd0 : 0 ≤ d) (hd : ∀ i, i + 1 < g.length → spacing g i = d) :
    MidpointSpacingOK g :=
  spacing_ratio_ok g (fun i hi => by rw [hd i hi]; exact hd0)
    (fun i hi => by rw [hd i (by omega), hd (i + 1) (by omega)]; constructor <;> linarith)

theorem geometric_pos (g : List ℝ) (r : ℝ) (h0 : 0 < g.getD 0 0) (hr : 0 < r)
    (hgeo : ∀ i, i + 1 < g.length → g.getD (i + 1) 0 = r * g.getD i 0) :
    ∀ i, i < g.length → 0 < g.getD i 0 := by
  intro i
  induction i with
  | zero => intro _; exact h0
  | succ k ih =>
    intro hk
    rw [hgeo k hk]
    exact mul_pos hr (ih (by omega))

theorem geometric_spacing_nonneg (g : List ℝ) (r : ℝ) (h0 : 0 < g.getD 0 0) (hr1 : 1 < r)
    (hgeo : ∀ i, i + 1 < g.length → g.getD (i + 1) 0 = r * g.getD i 0) (i : Nat) (hi : i + 1 < g.length) :
    0 ≤ spacing g i := by
  unfold spacing
  rw [hgeo i hi, show r * g.getD i 0 - g.getD i 0 = (r - 1) * g.getD i 0 by ring]
  exact mul_nonneg (by linarith) (geometric_pos g r h0 (by linarith) hgeo i (by omega)).le

/-- geometric spacing `g[i+1] = r·g[i]` with `1 < r ≤ 4` (logarithmic grids; constant resolving power `R`:
    `r = 1 + 1/R`): each spacing is `r` times the one before, so neighbouring spacings are within a factor 4 -/
theorem geometric_ratio (g : List ℝ) (r : ℝ) (h0 : 0 < g.getD 0 0) (hr1 : 1 < r) (hr4 : r ≤ 4)
    (hgeo : ∀ i, i + 1 < g.length → g.getD (i + 1) 0 = r * g.getD i 0) (i : Nat) (hi : i + 2 < g.length) :
    spacing g (i + 1) ≤ 4 * spacing g i ∧ spacing g i ≤ 4 * spacing g (i + 1) := by
  have hi0 := geometric_spacing_nonneg g r h0 hr1 hgeo i (by omega)
  have hstep : spacing g (i + 1) = r * spacing g i := by
    unfold spacing; rw [hgeo (i + 1) hi, hgeo i (by omega)]; ring
  have h1 : spacing g i ≤ r * spacing g i := le_mul_of_one_le_left hi0 hr1.le
  rw [hstep]
  exact ⟨mul_le_mul_of_nonneg_right hr4 hi0, by linarith⟩

theorem geometric_spacing_ok (g : List ℝ) (r : ℝ) (h0 : 0 < g.getD 0 0) (hr1 : 1 < r) (hr4 : r ≤ 4)
    (hgeo : ∀ i, i + 1 < g.length → g.getD (i + 1) 0 = r * g.getD i 0) : MidpointSpacingOK g :=
  spacing_ratio_ok g (geometric_spacing_nonneg g r h0 hr1 hgeo) (geometric_ratio g r h0 hr1 hr4 hgeo)

theorem pairwise_lt_of_adjacent (g : List ℝ) (h : ∀ i, i + 1 < g.length → g.getD i 0 < g.getD (i + 1) 0) :
    g.Pairwise (· < ·) := by
  apply List.isChain_iff_pairwise.1
  rw [List.isChain_iff_getElem]
  intro i hi
  have := h i hi
  rw [List.getD_eq_getElem _ _ (by omega : i < g.length), List.getD_eq_getElem _ _ hi] at this
  exact this

theorem linear_increasing (g : List ℝ) (d : ℝ) (hd0 : 0 < d) (hd : ∀ i, i + 1 < g.length → spacing g i = d) :
    g.Pairwise (· < ·) :=
  pairwise_lt_of_adjacent g (fun i hi => sub_pos.1 (by rw [← spacing, hd i hi]; exact hd0))

theorem geometric_increasing (g : List ℝ) (r : ℝ) (h0 : 0 < g.getD 0 0) (hr1 : 1 < r)
    (hgeo : ∀ i, i + 1 < g.length → g.getD (i + 1) 0 = r * g.getD i 0) : g.Pairwise (· < ·) :=
  pairwise_lt_of_adjacent g (fun i hi => by
    rw [hgeo i hi]
    exact lt_mul_of_one_lt_left (geometric_pos g r h0 (by linarith) hgeo i (by omega)) hr1)

theorem linear_widths (g : List ℝ) (hn : 2 ≤ g.length) (d : ℝ) (hd0 : 0 < d)
    (hd : ∀ j, j + 1 < g.length → spacing g j = d) (k : Nat) (hk : k < g.length) :
    (computeBinEdges g).2.getD k 0 = d := by
  obtain ⟨hL, hE⟩ := spacings_of_all (Q := (· = d)) hd hk hn
  rw [getD_widths g hn (linear_increasing g d hd0 hd) k hk, hL, hE, add_self_div_two]

theorem linear_contiguous (g : List ℝ) (hn : 2 ≤ g.length) (d : ℝ) (hd0 : 0 < d)
    (hd : ∀ i, i + 1 < g.length → spacing g i = d) (i : Nat) (hi : i + 1 < g.length) :
    g.getD i 0 + (computeBinEdges g).2.getD i 0 / 2 = g.getD (i + 1) 0 - (computeBinEdges g).2.getD (i + 1) 0 / 2 := by
  rw [linear_widths g hn d hd0 hd i (by omega), linear_widths g hn d hd0 hd (i + 1) hi, ← hd i hi]
  unfold spacing
  ring

theorem flux_midpoint_eq_spec (val : Row ℝ → ℝ) (rows : List (Row ℝ)) (a b : ℝ) (hn : 2 ≤ rows.length)
    (hg : (rows.map Row.c).Pairwise (· < ·)) (hok : MidpointSpacingOK (rows.map Row.c))
    (hpos : 0 < sumL ((nativeBins false rows).map (overlap a b))) :
    fluxBinVal val (nativeBins false rows) a b = overlapMeanSpec val (nativeBins false rows) a b :=
  flux_eq_spec val _ a b (midpoint_ordered rows hn hg hok) (midpoint_lo_le_hi rows) hpos

end Taurex.Binning
