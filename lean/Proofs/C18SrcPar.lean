/-
  Helper lemmas for the C18 source ties of the PARALLEL code (`Props/C18Src.lean`, second half):
  * Python's `range(r, n, size)` / `l[r::size]` (`List.range' r ((n - r + size - 1) / size) size`, the translator's reading)
    is the model's `strided r size`;
  * the MPI collectives as the translated code sees them on one rank (`gatherAt`, `concatAt`);
  * the evaluation loops of `sample_iter` / `compute_derived_trace` as folds over the rank's indices.
-/
import Proofs.C18SrcLemmas
import Proofs.C18Derived
import TaurexModel.Gen.SrcC18

namespace Taurex.C18Src
open Taurex.Variance

/-- the number of elements of Python's `range(r, n, size)` -/
def rangeCount (r n size : ℕ) : ℕ := (n - r + size - 1) / size

theorem lt_rangeCount {r n size k : ℕ} (hs : 0 < size) : k < rangeCount r n size ↔ r + size * k < n := by
  rw [rangeCount, Nat.lt_div_iff_mul_lt hs, Nat.mul_comm k size]
  generalize size * k = m
  omega

theorem mem_range'_strided {r n size i : ℕ} (hr : r < size) :
    i ∈ List.range' r (rangeCount r n size) size ↔ i < n ∧ i % size = r := by
  have hs : 0 < size := by omega
  rw [List.mem_range']
  constructor
  · rintro ⟨k, hk, rfl⟩
    refine ⟨(lt_rangeCount hs).1 hk, ?_⟩
    rw [Nat.add_mul_mod_self_left, Nat.mod_eq_of_lt hr]
  · rintro ⟨hi, hm⟩
    refine ⟨i / size, (lt_rangeCount hs).2 ?_, ?_⟩
    · have := Nat.div_add_mod i size; omega
    · have := Nat.div_add_mod i size; omega

theorem strided_range_pairwise (r size n : ℕ) : (strided r size (List.range n)).Pairwise (· < ·) := by
  unfold strided
  have hsub : ((List.range n).zipIdx.filter (fun p => decide (r ≤ p.2) && (p.2 - r) % size == 0)).map (·.1) |>.Sublist
      (List.range n) := by
    have h1 := (List.filter_sublist (l := (List.range n).zipIdx)
      (p := fun p => decide (r ≤ p.2) && (p.2 - r) % size == 0)).map (·.1)
    rwa [List.zipIdx_map_fst] at h1
  exact List.Pairwise.sublist hsub List.pairwise_lt_range

theorem strided_range_eq {r size : ℕ} (hr : r < size) (n : ℕ) :
    strided r size (List.range n) = List.range' r (rangeCount r n size) size := by
  have hs : 0 < size := by omega
  refine List.Pairwise.eq_of_mem_iff (strided_range_pairwise r size n) (List.pairwise_lt_range' size hs) ?_
  intro i
  rw [mem_strided_range hr, mem_range'_strided hr]

/-- `l[r::size]` (the elements at the indices `range(r, len(l), size)`) is the model's rank slice -/
theorem slice_eq_strided {β : Type} {r size : ℕ} (hr : r < size) (l : List β) :
    List.filterMap (fun i => l[i]?) (List.range' r (rangeCount r l.length size) size) = strided r size l := by
  cases l with
  | nil => simp [strided]
  | cons d t =>
    set l := d :: t with hl
    have h1 : strided r size l = (strided r size (List.range l.length)).map (fun i => l.getD i d) := by
      conv_lhs => rw [list_eq_map_range d l]
      exact strided_map _ r size _
    rw [h1, strided_range_eq hr]
    apply filterMap_eq_map
    intro j hj
    have hj' : j < l.length := ((mem_range'_strided hr).1 hj).1
    simp [List.getD_eq_getElem?_getD, hj']

section
variable {α : Type} [Add α] [Sub α] [Mul α] [Div α] [LT α] [LE α] [DecidableLT α] [DecidableLE α] [BEq α] [OfNat α 0]

instance objTwo [OfNat α 2] : OfNat (Obj α) 2 := ⟨Obj.ofNum 2⟩

/-- what a rank whose accumulator is `a` contributes to the k-th `mpi.allgather` of `parallelVariance`
    (`cnt n` = the Python float `self.count` after n updates) -/
def sentBy (cnt : ℕ → α) (k : ℕ) (a : Acc α) : Obj α :=
  match k with
  | 0 => variance a
  | 1 => meanObj a
  | 2 => Obj.ofNum a.wcount
  | _ => Obj.ofNum (cnt a.count)

/-- the k-th `mpi.allgather(x)` of `parallelVariance` as it returns on rank `r`: in rank order, what every rank contributed
    (the calling rank: `x`), each through one exchange -/
def gatherAt (exch : Obj α → Obj α) (cnt : ℕ → α) (ranks : List (Acc α)) (r k : ℕ) (x : Obj α) : List (Obj α) :=
  ranks.zipIdx.map (fun p => exch (if p.2 = r then x else sentBy cnt k p.1))

theorem gatherAt_eq {α : Type} [Div α] (exch : Obj α → Obj α) (cnt : ℕ → α) (ranks : List (Acc α)) (r k : ℕ) (a : Acc α) (x : Obj α)
    (hr : ranks[r]? = some a) (hx : x = sentBy cnt k a) :
    gatherAt exch cnt ranks r k x = ranks.map (fun b => exch (sentBy cnt k b)) := by
  unfold gatherAt
  have h : ∀ p ∈ ranks.zipIdx, exch (if p.2 = r then x else sentBy cnt k p.1)
      = ((fun b => exch (sentBy cnt k b)) ∘ Prod.fst) p := by
    intro p hp
    by_cases h : p.2 = r
    · have h1 := List.mem_zipIdx_iff_getElem?.1 hp
      rw [h, hr] at h1
      have h2 : a = p.1 := by simpa using h1
      simp [h, hx, h2]
    · simp [h]
  rw [List.map_congr_left h, ← List.map_map, List.zipIdx_map_fst]

end

/-- the k-th `mpi.allreduce(x, op='SUM')` of lists as it returns on rank `r` of `size`: the concatenation, in rank order, of
    what every rank contributed (`contrib j`; the calling rank: `x`) -/
def concatAt {β : Type} (size r : ℕ) (contrib : ℕ → List β) (x : List β) : List β :=
  ((List.range size).map (fun j => if j = r then x else contrib j)).flatten

theorem concatAt_eq {β : Type} (size r : ℕ) (contrib : ℕ → List β) (x : List β) (hx : x = contrib r) :
    concatAt size r contrib x = ((List.range size).map contrib).flatten := by
  unfold concatAt
  congr 1
  apply List.map_congr_left
  intro j _
  by_cases h : j = r
  · simp [h, hx]
  · simp [h]

/-- the events of the generator `sample_iter` on a block of samples: `update_model(parameters)`, then the weight is yielded
    (with the state of the forward model at that moment) -/
def walk {P W α : Type} (um : W → P → W) : W → List (P × α) → List (W × α)
  | _, [] => []
  | w, (p, wt) :: rest => (um w p, wt) :: walk um (um w p) rest

theorem walk_fold {P W α : Type} (um : W → P → W) (L : List (P × α)) (w : W) (ys : List (W × α)) (c : ℕ) :
    (List.foldl (fun (st : W × List (W × α) × ℕ) (it : P × α) =>
        (um st.1 it.1, st.2.1 ++ [(um st.1 it.1, it.2)], st.2.2 + 1)) (w, ys, c) L).2.1 = ys ++ walk um w L := by
  induction L generalizing w ys c with
  | nil => simp [walk]
  | cons x L ih =>
    obtain ⟨p, wt⟩ := x
    simp only [List.foldl_cons, walk]
    rw [ih]
    simp

theorem walk_snd {P W α : Type} (um : W → P → W) (L : List (P × α)) (w : W) :
    (walk um w L).map Prod.snd = L.map Prod.snd := by
  induction L generalizing w with
  | nil => rfl
  | cons x L ih => obtain ⟨p, wt⟩ := x; simp [walk, ih]

/-- with the state of the forward model read as "the parameters last written", the states at the yields are the parameters
    of the visited samples -/
theorem walk_fst {P α : Type} (L : List (P × α)) (w : P) :
    (walk (fun _ p => p) w L).map Prod.fst = L.map Prod.fst := by
  induction L generalizing w with
  | nil => rfl
  | cons x L ih => obtain ⟨p, wt⟩ := x; simp [walk, ih]

/-- the evaluation loop of `compute_derived_trace`: when the derived value read after `update_model(p)`,
    `initialize_profiles()` depends on `p` only (`value p`), the rank's trace is `value` of its samples in order -/
theorem trace_fold {P W α : Type} (um : W → P → W) (ip : W → W) (dv : W → α) (value : P → α)
    (hdv : ∀ w p, dv (ip (um w p)) = value p) (samples : ℕ → P) (weights : ℕ → α) (L : List ℕ) (w : W)
    (t ws : List α) :
    (List.foldl (fun (st : W × List α × List α) (idx : ℕ) =>
        (ip (um st.1 (samples idx)), st.2.1 ++ [dv (ip (um st.1 (samples idx)))], st.2.2 ++ [weights idx])) (w, t, ws) L).2.1
      = t ++ L.map (fun i => value (samples i)) := by
  induction L generalizing w t ws with
  | nil => simp
  | cons x L ih =>
    simp only [List.foldl_cons, List.map_cons]
    rw [ih, hdv]
    simp

/-- `Optimizer.compute_derived_trace` for one derived parameter on rank `r` of `size`, for EVERY `argsort` (stable or not: the
    gathered sample indices are distinct): the stored trace is the trace in sample order.  `contrib k j` is what rank `j`
    contributes to the k-th `mpi.allreduce(…, op='SUM')`; only the trace (k = 1) matters. -/
theorem compute_derived_trace_any {α P W : Type} [OfNat α 0] (n size r : ℕ) (hr : r < size) (samples : ℕ → P)
    (weights : ℕ → α) (um : W → P → W) (ip : W → W) (dv : W → α) (value : P → α) (hdv : ∀ w p, dv (ip (um w p)) = value p)
    (w0 : W) (average : List α → List α → α) (quantile_corner : List α → List α → List α → List α) (q16 q50 q84 : α)
    (contrib : ℕ → ℕ → List α)
    (hc : ∀ j, contrib 1 j = strided j size ((List.range n).map (fun i => value (samples i))))
    (argsort_nat : List ℕ → List ℕ) (hsort : ∀ l : List ℕ, IsArgsort (fun j => l.getD j 0) l.length (argsort_nat l)) :
    Gen.SrcC18.compute_derived_trace n (allreduce := fun k => concatAt size r (contrib k))
        (allreduce_nat := fun _ => concatAt size r (fun j => strided j size (List.range n)))
        (argsort_nat := argsort_nat) (average := average) (c0p16 := q16) (c0p5 := q50) (c0p84 := q84) (derived_values := dv)
        (initialize_profiles := ip) (mpi_rank := r) (mpi_size := size) (quantile_corner := quantile_corner)
        (samples := samples) (update_model := um) (w__ := w0) (weights := weights)
      = (List.range n).map (fun i => value (samples i)) := by
  have hs : 0 < size := by omega
  unfold Gen.SrcC18.compute_derived_trace
  dsimp only
  rw [show (n - r + size - 1) / size = rangeCount r n size from rfl,
    trace_fold um ip dv value hdv samples weights _ w0 [] [], List.nil_append, ← strided_range_eq hr, ← strided_map,
    concatAt_eq size r (fun j => strided j size (List.range n)) _ rfl,
    concatAt_eq size r (contrib 1) _ (hc r).symm]
  set trace := (List.range n).map (fun i => value (samples i)) with htr
  have hgi : ((List.range size).map (fun j => strided j size (List.range n))).flatten = gidx size trace.length := by
    simp [gidx, gatherLists, partition, htr]
  have hgt : ((List.range size).map (contrib 1)).flatten = (gidx size trace.length).map (fun i => trace.getD i 0) := by
    rw [← gather_eq 0 size trace, funext hc]; rfl
  have h := hsort (gidx size trace.length)
  rw [hgi, hgt, ← filterMap_getElem?_eq_map_getD 0 _ _ (fun i hi => by rw [List.length_map]; exact h.lt i hi),
    h.restore (gidx_perm hs _)]
  exact (list_eq_map_range 0 trace).symm

end Taurex.C18Src
