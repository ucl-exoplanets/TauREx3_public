/-
  The rules of the simp set `dyn_eval`: what a primitive of `TaurexModel/Gen/DynPrelude.lean` does on a value whose
  constructor is known, for any monad and oracle, with the laws of `Except Exc` (`Proofs/DynCore.lean`) and what `if`
  does on a decided test.  A source tie unfolds the regenerated function and runs
  `simp only [dyn_eval, <the oracle's answers>]`: what is left in the list is what is particular to the function.
  The ties of C15 (`Proofs/C15SrcLemmas.lean`, `Props/C15Src.lean`) are written this way; they run in `Except Exc`, so
  the laws of `Eff σ` are not in the set.

  The set holds the cases the ties meet, not every primitive on every constructor.  To add one: an equation whose left
  side shows the constructor, closed by `(rfl)` where unfolding proves it (`compare_gt_int` needs two string comparisons
  evaluated), so that it fires only where the primitive can run (a primitive that is a `do` block of others, like
  `zip_`, has its one-step unfolding instead).  Never give the attribute to a primitive
  itself (they are non-recursive, a `match` on the value): `simp` would unfold it on variables, also under binders, and
  leave the `match` stuck.  Only the loops `forM`, `mapM`, `forIn` are tagged as definitions: their equations show `[]` /
  `_ :: _` (also the `x :: xs` of an induction over the list, where one pass is wanted).  `dictGet?`, `dictSet`
  (recursive on the entries) and `dictHas`, `dictDel` (an `any` and a `filter` over them) are left out on purpose: they
  would run on symbolic tails; name them in the list when a literal dictionary is meant.

  Priorities.  The rules here have the default priority.  A cluster's more specific rule about a primitive on the
  embedding of its model data (`Dyn.contains w.ext (.str k) (.dict (embCfg c)) = …`), tagged `@[dyn_eval high]`, is tried
  first within the same `simp` call and once the arguments are values.  Inside a loop body it does not help: there the
  dialect rule already matches under the binder (`setItem_dict` in `getItem … >>= fun t => setItem … t`) while the
  specific rule still sees the bound variable; name the cluster rule in the list there.
-/
import Proofs.DynSimp
import Proofs.DynCore
set_option linter.unusedSectionVars false

namespace Taurex.Gen.Dyn

attribute [dyn_eval] pure_ok throw_err bind_ok bind_err bind_ok_right try_ok try_err
  hashable_str beq_str eqB_str beq_int eqB_int unpack2_tuple unpack3_tuple unpack4_tuple
  if_true if_false Bool.false_eq_true Bool.not_false Bool.not_true
  List.length_cons List.length_nil

attribute [dyn_eval] forM mapM forIn

section
variable {m : Type → Type} [Monad m] [MonadExceptOf Exc m] {φ ω : Type} (ext : Ext m φ ω)

@[dyn_eval] theorem isNone_none : (Val.none : Val φ ω).isNone = true := (rfl)
@[dyn_eval] theorem isNone_tuple (l : List (Val φ ω)) : (Val.tuple l).isNone = false := (rfl)
@[dyn_eval] theorem len_list (l : List (Val φ ω)) : len ext (.list l) = pure (.int l.length) := (rfl)
@[dyn_eval] theorem len_tuple (l : List (Val φ ω)) : len ext (.tuple l) = pure (.int l.length) := (rfl)
@[dyn_eval] theorem len_dict (d : List (Val φ ω × Val φ ω)) : len ext (.dict d) = pure (.int d.length) := (rfl)
@[dyn_eval] theorem iter_list (l : List (Val φ ω)) : iter ext (.list l) = pure l := (rfl)
@[dyn_eval] theorem iter_tuple (l : List (Val φ ω)) : iter ext (.tuple l) = pure l := (rfl)
@[dyn_eval] theorem iter_dict (d : List (Val φ ω × Val φ ω)) : iter ext (.dict d) = pure (d.map (·.1)) := (rfl)

@[dyn_eval] theorem sliceBound_none : sliceBound (m := m) (.none : Val φ ω) = pure none := (rfl)
@[dyn_eval] theorem sliceBound_int (i : Int) : sliceBound (m := m) (.int i : Val φ ω) = pure (some i) := (rfl)
@[dyn_eval] theorem getSlice_list (l : List (Val φ ω)) (lo hi : Val φ ω) :
    getSlice ext (.list l) lo hi = (do pure (.list (sliceList l (← sliceBound lo) (← sliceBound hi)))) := (rfl)
@[dyn_eval] theorem getSlice_obj (o : ω) (lo hi : Val φ ω) :
    getSlice ext (.obj o) lo hi = ext.op "getslice" [.obj o, lo, hi] := (rfl)

@[dyn_eval] theorem getAttr_obj (o : ω) (n : String) : getAttr ext (.obj o) n = ext.getattr o n := (rfl)
@[dyn_eval] theorem getattrDyn_str (v : Val φ ω) (n : String) : getattrDyn ext v (.str n) = getAttr ext v n := (rfl)
@[dyn_eval] theorem call_obj (o : ω) (a : List (Val φ ω)) (kw : List (String × Val φ ω)) :
    call ext (.obj o) a kw = ext.call o a kw := (rfl)
@[dyn_eval] theorem callMethod_obj (o : ω) (n : String) (a : List (Val φ ω)) (kw : List (String × Val φ ω)) :
    callMethod ext (.obj o) n a kw = ext.method o n a kw := (rfl)
@[dyn_eval] theorem zip_eq (a b : Val φ ω) :
    zip_ ext a b = (iter ext a >>= fun la => iter ext b >>= fun lb =>
      pure (List.zipWith (fun x y => Val.tuple [x, y]) la lb)) := (rfl)

@[dyn_eval] theorem add_tuple (x y : List (Val φ ω)) : add ext (.tuple x) (.tuple y) = pure (.tuple (x ++ y)) := (rfl)
@[dyn_eval] theorem compare_gt_int (a b : Int) : compare ext ">" (.int a) (.int b) = pure (.bool (decide (b < a))) := by
  have h1 : (">" == "<") = false := by simp only [beq_eq_false_iff_ne, ne_eq, String.reduceEq, not_false_eq_true]
  have h2 : (">" == "<=") = false := by simp only [beq_eq_false_iff_ne, ne_eq, String.reduceEq, not_false_eq_true]
  simp only [compare, indexOf, h1, h2, beq_self_eq_true, Bool.false_eq_true, if_false, if_true, gt_iff_lt]
@[dyn_eval] theorem neg_int (x : Int) : neg ext (.int x) = pure (.int (-x)) := (rfl)
@[dyn_eval] theorem m_lower_str (s : String) : m_lower ext (.str s) = pure (.str (strLower s)) := (rfl)
@[dyn_eval] theorem m_upper_str (s : String) : m_upper ext (.str s) = pure (.str (strUpper s)) := (rfl)
@[dyn_eval] theorem m_split_str (s t : String) :
    m_split ext (.str s) (.str t) = if t == "" then throw Exc.ValueError else pure (.list ((strSplit s t).map .str)) := (rfl)
@[dyn_eval] theorem m_join_str (sep : String) (l : Val φ ω) :
    m_join ext (.str sep) l = (iter ext l >>= fun xs =>
      mapM (fun x => match x with | .str s => pure s | _ => throw Exc.TypeError) xs >>= fun parts =>
      pure (.str (sep.intercalate parts))) := (rfl)
@[dyn_eval] theorem m_items_dict (d : List (Val φ ω × Val φ ω)) :
    m_items ext (.dict d) = pure (d.map (fun e => .tuple [e.1, e.2])) := (rfl)
@[dyn_eval] theorem m_keys_dict (d : List (Val φ ω × Val φ ω)) : m_keys ext (.dict d) = pure (d.map (·.1)) := (rfl)
@[dyn_eval] theorem m_append_list (l : List (Val φ ω)) (x : Val φ ω) : m_append ext (.list l) x = pure (.list (l ++ [x])) :=
  (rfl)
@[dyn_eval] theorem m_extend_list (l : List (Val φ ω)) (xs : Val φ ω) :
    m_extend ext (.list l) xs = (iter ext xs >>= fun ys => pure (.list (l ++ ys))) := (rfl)

@[dyn_eval] theorem starStar_dict (d : List (Val φ ω × Val φ ω)) :
    starStar (m := m) (.dict d)
      = mapM (fun e => match e.1 with | .str s => pure (s, e.2) | _ => throw Exc.TypeError) d := (rfl)
variable [FloatLike φ]

@[dyn_eval] theorem float_str (s : String) :
    float_ ext (.str s) = match ext.parseFloat s with | some x => pure (.float x) | none => throw Exc.ValueError := (rfl)

@[dyn_eval] theorem truthy_none : truthy ext .none = pure false := (rfl)
@[dyn_eval] theorem truthy_bool (b : Bool) : truthy ext (.bool b) = pure b := (rfl)
@[dyn_eval] theorem truthy_tuple (l : List (Val φ ω)) : truthy ext (.tuple l) = pure (!l.isEmpty) := (rfl)

variable [BEq ω]

@[dyn_eval] theorem getItem_dict (d : List (Val φ ω × Val φ ω)) (k : Val φ ω) :
    getItem ext (.dict d) k = if k.hashable then (match dictGet? d k with | some v => pure v | none => throw Exc.KeyError)
      else throw Exc.TypeError := (rfl)
@[dyn_eval] theorem setItem_dict (d : List (Val φ ω × Val φ ω)) (k v : Val φ ω) :
    setItem ext (.dict d) k v = if k.hashable then pure (.dict (dictSet d k v)) else throw Exc.TypeError := (rfl)
@[dyn_eval] theorem delItem_dict (d : List (Val φ ω × Val φ ω)) (k : Val φ ω) :
    delItem ext (.dict d) k = if k.hashable then (if dictHas d k then pure (.dict (dictDel d k)) else throw Exc.KeyError)
      else throw Exc.TypeError := (rfl)
@[dyn_eval] theorem contains_dict (x : Val φ ω) (d : List (Val φ ω × Val φ ω)) :
    contains ext x (.dict d) = if x.hashable then pure (dictHas d x) else throw Exc.TypeError := (rfl)
@[dyn_eval] theorem getItem_list (l : List (Val φ ω)) (k : Val φ ω) :
    getItem ext (.list l) k = match indexOf k with
      | some i => (match (normIndex l.length i).bind (l[·]?) with | some v => pure v | none => throw Exc.IndexError)
      | none => throw Exc.TypeError := (rfl)
@[dyn_eval] theorem contains_list (x : Val φ ω) (l : List (Val φ ω)) :
    contains ext x (.list l) = pure (l.any (fun y => Val.beq y x)) := (rfl)
@[dyn_eval] theorem contains_tuple (x : Val φ ω) (l : List (Val φ ω)) :
    contains ext x (.tuple l) = pure (l.any (fun y => Val.beq y x)) := (rfl)
@[dyn_eval] theorem m_pop_dict (d : List (Val φ ω × Val φ ω)) (k : Val φ ω) :
    m_pop ext (.dict d) k = if k.hashable then
        (match dictGet? d k with | some v => pure (v, .dict (dictDel d k)) | none => throw Exc.KeyError)
      else throw Exc.TypeError := (rfl)
@[dyn_eval] theorem m_pop_list (l : List (Val φ ω)) (i : Int) :
    m_pop ext (.list l) (.int i) = match normIndex l.length i with
      | some n => (match l[n]? with | some v => pure (v, .list (l.eraseIdx n)) | none => throw Exc.IndexError)
      | none => throw Exc.IndexError := (rfl)
@[dyn_eval] theorem m_index_list (l : List (Val φ ω)) (x : Val φ ω) :
    m_index ext (.list l) x = match l.findIdx? (fun y => Val.beq y x) with
      | some i => pure (.int i)
      | none => throw Exc.ValueError := (rfl)
@[dyn_eval] theorem m_update_dict (d e : List (Val φ ω × Val φ ω)) :
    m_update ext (.dict d) (.dict e) = pure (.dict (e.foldl (fun acc kv => dictSet acc kv.1 kv.2) d)) := (rfl)

end

end Taurex.Gen.Dyn
