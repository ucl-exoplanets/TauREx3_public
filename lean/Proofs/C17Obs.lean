/-
  Lemmas over the reals about loading an observation (`TaurexModel/Observation.lean`, C17), about the target bins a binner
  gets from the rows of an observation / instrument file (`TaurexModel/ObsTargets.lean`, the observation route of C05: row by
  row the bins those rows declare), about the holder of an observation (`Held`), and the rows `nvA`, `nvB` the examples of
  Props/C17.lean use.
-/
import Mathlib.Tactic.FieldSimp
import Proofs.C05Basic
import TaurexModel.Observation
import TaurexModel.ObsTargets
import TaurexModel.ObsHolder
import Proofs.C05SrcNp

namespace Taurex.Observation
open List Taurex.Binning

theorem sortRowsDesc_perm (rows : List (ORow ℝ)) : sortRowsDesc rows ~ rows :=
  (List.reverse_perm _).trans (sortBy_perm ORow.wl rows)

theorem sortRowsDesc_eq_of_perm {r₁ r₂ : List (ORow ℝ)} (hp : r₁ ~ r₂) (hd : (r₁.map ORow.wl).Nodup) :
    sortRowsDesc r₁ = sortRowsDesc r₂ := by
  unfold sortRowsDesc
  rw [sortBy_eq_of_perm ORow.wl hp hd]

theorem sortRowsDesc_strict (rows : List (ORow ℝ)) (hd : (rows.map ORow.wl).Nodup) :
    (sortRowsDesc rows).Pairwise (fun r r' => r'.wl < r.wl) := by
  unfold sortRowsDesc
  rw [List.pairwise_reverse]
  exact sortBy_strict ORow.wl rows hd

theorem mem_sortRowsDesc {rows : List (ORow ℝ)} {r : ORow ℝ} : r ∈ sortRowsDesc rows ↔ r ∈ rows :=
  (sortRowsDesc_perm rows).mem_iff

theorem wn_strict (rows : List (ORow ℝ)) (hd : (rows.map ORow.wl).Nodup) (hpos : ∀ r ∈ rows, 0 < r.wl) :
    ((sortRowsDesc rows).map (fun r => (10000 : ℝ) / r.wl)).Pairwise (· < ·) := by
  rw [List.pairwise_map]
  have h := sortRowsDesc_strict rows hd
  have hmem : ∀ r ∈ sortRowsDesc rows, 0 < r.wl := fun r hr => hpos r (mem_sortRowsDesc.1 hr)
  refine (List.Pairwise.and_mem.1 h).imp ?_
  rintro r r' ⟨hr, hr', hlt⟩
  exact div_lt_div_of_pos_left (by norm_num) (hmem r' hr') hlt

theorem taurex_wl_nodup (rows : List (ORow ℝ)) (hd : (rows.map ORow.wl).Nodup) (hpos : ∀ r ∈ rows, 0 < r.wl) :
    ((rows.map fromTaurex).map ORow.wl).Nodup := by
  rw [List.map_map]
  have : (rows.map (ORow.wl ∘ fromTaurex)) = (rows.map ORow.wl).map (fun x => (10000 : ℝ) / x) := by
    rw [List.map_map]; rfl
  rw [this]
  refine List.Nodup.map_on ?_ hd
  intro a ha b hb hab
  rw [List.mem_map] at ha hb
  obtain ⟨ra, hra, rfl⟩ := ha
  obtain ⟨rb, hrb, rfl⟩ := hb
  have pa := hpos ra hra
  have pb := hpos rb hrb
  field_simp at hab
  linarith

theorem taurex_wl_pos (rows : List (ORow ℝ)) (hpos : ∀ r ∈ rows, 0 < r.wl) : ∀ r ∈ rows.map fromTaurex, 0 < r.wl := by
  intro r hr
  obtain ⟨r0, hr0, rfl⟩ := List.mem_map.1 hr
  exact div_pos (by norm_num) (hpos r0 hr0)

theorem load_true_wnWidths (rows : List (ORow ℝ)) :
    (load true rows).wnWidths = (sortRowsDesc rows).map (fun r => widthConv r.wl r.bw) := by
  unfold load
  simp only [if_true]
  rw [Gen.Np.zipWith_map_map]

theorem length_bw (fourCol : Bool) (rows : List (ORow ℝ)) (h : 1 ≤ rows.length) :
    (load fourCol rows).bw.length = rows.length := by
  have hl : (sortRowsDesc rows).length = rows.length := (sortRowsDesc_perm rows).length_eq
  unfold load
  cases fourCol
  · simp only [Bool.false_eq_true, if_false]
    rw [Gen.Np.length_widths, List.length_map, hl]
    omega
  · simp only [if_true, List.length_map, hl]

/-- one wavenumber width per stored row (the empty 3-column file has one width and no row: `zip` drops it) -/
theorem length_wnWidths (fourCol : Bool) (rows : List (ORow ℝ)) :
    (load fourCol rows).wnWidths.length = (load fourCol rows).rows.length := by
  simp only [load]
  cases fourCol
  · simp only [Bool.false_eq_true, if_false, List.length_zipWith, List.length_map, Gen.Np.length_widths]
    omega
  · simp

theorem wavenumberGrid_length (fourCol : Bool) (rows : List (ORow ℝ)) :
    (load fourCol rows).wavenumberGrid.length = (load fourCol rows).binWidths.length := by
  rw [Obs.wavenumberGrid, List.length_map]
  exact (length_wnWidths fourCol rows).symm

/-- the binner created from a loaded observation holds the observation's centres and widths in the observation's order: the
    wavenumbers ascend, so the binner's own re-sort is the identity (no row count is asked: one width per stored row) -/
theorem createBinner_load (fourCol : Bool) (rows : List (ORow ℝ)) (hd : (rows.map ORow.wl).Nodup)
    (hpos : ∀ r ∈ rows, 0 < r.wl) :
    (load fourCol rows).createBinner =
      List.zipWith (fun c w => ({ c := c, w := w } : TBin ℝ)) (load fourCol rows).wavenumberGrid
        (load fourCol rows).binWidths := by
  have hz := Gen.Np.zipWith_mk_map _ _ (wavenumberGrid_length fourCol rows)
  have hs : (load fourCol rows).wavenumberGrid.Pairwise (· < ·) := wn_strict rows hd hpos
  rw [← hz.1, List.pairwise_map] at hs
  exact sortBy_of_sorted TBin.c _ (hs.imp le_of_lt)

end Taurex.Observation

namespace Taurex.ObsTargets
open List Taurex.Binning Taurex.Observation

/-- `FluxBinner.__init__` is handed one `rowBin` per stored row of the 4-column observation -/
theorem array4_targets (rows : List (ORow ℝ)) : routeTargets Route.array4 rows = sortBy TBin.c ((sortRowsDesc rows).map rowBin) := by
  show sortBy TBin.c (List.zipWith _ ((sortRowsDesc rows).map _) (load true rows).wnWidths) = _
  rw [load_true_wnWidths, Gen.Np.zipWith_map_map]
  rfl

/-- the instrument section of a TauREx output file is read as a 4-column observation of the converted rows -/
theorem taurex_targets (rows : List (ORow ℝ)) :
    routeTargets Route.taurex rows = sortBy TBin.c ((sortRowsDesc (rows.map fromTaurex)).map rowBin) :=
  array4_targets (rows.map fromTaurex)

theorem instrument_targets (rows : List (ORow ℝ)) :
    routeTargets Route.instrument rows = sortBy TBin.c ((sortRowsDesc rows).map rowBin) := by
  unfold routeTargets instrumentBinner targetBins
  simp only
  rw [Gen.Np.zipWith_map_map widthConv, List.zipWith_map_left, List.zipWith_map_left, List.zipWith_map_right, List.zipWith_self]
  rfl

theorem sorted_rowBins_perm (rows : List (ORow ℝ)) : sortBy TBin.c ((sortRowsDesc rows).map rowBin) ~ rows.map rowBin :=
  (sortBy_perm TBin.c _).trans ((sortRowsDesc_perm rows).map rowBin)

theorem rowBin_fromTaurex (r : ORow ℝ) (h : r.wl ≠ 0) : rowBin (fromTaurex r) = { c := r.wl, w := r.bw } := by
  unfold rowBin fromTaurex widthConv
  simp only
  congr 1
  · field_simp
  · field_simp

end Taurex.ObsTargets

namespace Taurex.Observation

/-- the held binner is the one created from the held observation -/
def Held (hd : Holder ℝ) : Prop := ∀ o, hd.observed = some o → hd.binner = some o.createBinner

/-- every `set_observed` call leaves the holder coherent, whatever it held before: `None` leaves no observation to speak
    of, an observation brings its own binner -/
theorem held_setObserved (hd : Holder ℝ) (x : Option (Obs ℝ)) : Held (hd.setObserved x) := by
  intro o ho
  cases x with
  | none => cases ho
  | some ob => cases ho; rfl

end Taurex.Observation

namespace Taurex.C17
open Taurex.Observation Taurex.Binning List

/-- three rows (wavelength, value, error, width), given in two different orders -/
noncomputable def nvA : List (ORow ℝ) := [⟨2, 20, 2, 1⟩, ⟨4, 40, 4, 2⟩, ⟨1, 10, 1, 1 / 2⟩]
noncomputable def nvB : List (ORow ℝ) := [⟨1, 10, 1, 1 / 2⟩, ⟨2, 20, 2, 1⟩, ⟨4, 40, 4, 2⟩]

theorem nv_perm : nvA ~ nvB := by
  show ([(⟨2, 20, 2, 1⟩ : ORow ℝ), ⟨4, 40, 4, 2⟩] ++ [⟨1, 10, 1, 1 / 2⟩]) ~
    ([(⟨1, 10, 1, 1 / 2⟩ : ORow ℝ)] ++ [⟨2, 20, 2, 1⟩, ⟨4, 40, 4, 2⟩])
  exact List.perm_append_comm

theorem nv_len : 1 ≤ nvA.length := by decide

theorem nv_nodup : (nvA.map ORow.wl).Nodup := by norm_num [nvA]
theorem nv_pos : ∀ r ∈ nvA, 0 < r.wl := by
  intro r hr
  simp only [nvA, List.mem_cons, List.not_mem_nil, or_false] at hr
  rcases hr with rfl | rfl | rfl <;> norm_num

end Taurex.C17
