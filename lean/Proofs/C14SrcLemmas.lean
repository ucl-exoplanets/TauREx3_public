/-
  The `Py` primitives of the regenerated C14 source against the helpers of the models (TaurexModel/Loaders.lean,
  CacheSM.lean, Sanitize.lean), and how a state of the opacity cache (`CacheSM.CSt`) is laid out as the Python objects
  (`World`, `discoverM`, `constructM`, `encS`).  Core only; generic in the carrier.
-/
import TaurexModel.Gen.SrcC14
import Proofs.C14Cache
import TaurexModel.Sanitize
import Proofs.PyDict
import Proofs.C14LoadersCore

set_option linter.unusedSectionVars false

namespace Taurex.C14Src

section
open Taurex.Loaders Taurex.Interp Taurex.Gen
variable {α : Type} [Add α] [Sub α] [Mul α] [Div α] [Neg α] [LT α] [LE α] [DecidableLT α] [DecidableLE α] [OfNat α 0]

theorem maxE_eq {α : Type} [LT α] [DecidableLT α] [OfNat α 0] (l : List α) (h : l ≠ []) : Py.maxE l = .ok (lmax l) := by
  cases l with
  | nil => exact absurd rfl h
  | cons a t => simp [Py.maxE, lmax, List.foldl_cons]

theorem minE_eq {α : Type} [LT α] [DecidableLT α] [OfNat α 0] (l : List α) (h : l ≠ []) : Py.minE l = .ok (lmin l) := by
  cases l with
  | nil => exact absurd rfl h
  | cons a t => simp [Py.minE, lmin, List.foldl_cons]

theorem any_eq_memv (l : List α) (t : α) :
    List.any l (fun y => (decide (t ≤ y) && decide (y ≤ t))) = memv t l := rfl

/-- Python's stable sort by a key with `<` is the merge sort by `≤` on the key when `¬ b < a ↔ a ≤ b` on the carrier (any
    linear order; `Float` without NaN) -/
theorem sortOn_eq_mergeSort {α : Type} [LT α] [LE α] [DecidableLT α] [DecidableLE α] {β : Type} (hlt : ∀ a b : α, ¬ b < a ↔ a ≤ b) (key : β → α) (l : List β) :
    Py.sortOn (fun a b => decide (a < b)) key l = l.mergeSort (fun a b => decide (key a ≤ key b)) := by
  unfold Py.sortOn
  congr 1
  funext a b
  by_cases h : key b < key a
  · have : ¬ key a ≤ key b := fun h' => ((hlt (key a) (key b)).2 h') h
    simp [h, this]
  · have : key a ≤ key b := (hlt (key a) (key b)).1 h
    simp [h, this]

theorem getD_map_fst {α : Type} [OfNat α 0] (ts : List (α × List α)) (i : Nat) : (ts.map (·.1)).getD i 0 = (ts.getD i (0, [])).1 :=
  getD_map (·.1) ts i (0, [])

theorem getD_map_snd {α : Type} [OfNat α 0] (ts : List (α × List α)) (i : Nat) : (ts.map (·.2)).getD i [] = (ts.getD i (0, [])).2 :=
  getD_map (·.2) ts i (0, [])

theorem getD_zero_eq_headD {β : Type} (l : List β) (d : β) : l.getD 0 d = l.headD d := by
  cases l <;> rfl

end

/-! ### the opacity cache: how a state of `TaurexModel/CacheSM.lean` is laid out as the Python objects -/

section
open Taurex.CacheSM Taurex.Gen

/-- the part of the program state only constructors change: the constructor-call log and the next object identity -/
abbrev World := List (String × Nat) × Nat

/-- the argument pack `discover()` yields for a file: the file, the interpolation mode and the in-memory flag read from the
    GlobalCache at discovery time -/
abbrev Args := FileEntry × Nat × Bool

def worldOf (s : CSt) : World := (s.log, s.nextId)

/-- `c.discover()` of the class `c` under the configured path: its files in glob order, each with the molecule name it
    advertises and the constructor arguments -/
def discoverM (fs : List Dir) (_w : World) (path : Option Nat) (interp : Option Nat) (mem : Option Bool) (c : Fmt) :
    List (String × Args) :=
  ((curFiles fs { CacheSM.init with path := path }).filter (fun e => decide (e.fmt = c))).map
    (fun e => (e.disc, (e, interp.getD 0, memOrTrue mem)))

/-- `c(*args)`: the constructor call is logged, the object gets the next identity -/
def constructM (w : World) (_c : Fmt) (a : Args) : World × Obj :=
  ((w.1 ++ [(a.1.disc, a.1.fileId)], w.2 + 1),
   { id := w.2, mol := a.1.obj, mode := a.2.1, inMem := if a.1.fmt = Fmt.hdf then some a.2.2 else none,
     src := some a.1.fileId })

/-- `os.path.isdir(path)` -/
def isdirM (fs : List Dir) (_w : World) (p : Nat) : Bool :=
  match fs[p]? with
  | some d => d.isDir
  | none => false

/-- the Python-side state a loading loop carries: `opacity_dict` and the world -/
def encS (s : CSt) : List (String × Obj) × World := (s.dict, worldOf s)

/-- the GlobalCache settings are those of `s` -/
def Same (s' s : CSt) : Prop := s'.path = s.path ∧ s'.interp = s.interp ∧ s'.memMode = s.memMode

/-- what `discover()` yields for the file `e` under the settings of `s` -/
def argsOf (s : CSt) (e : FileEntry) : String × Args := (e.disc, (e, s.interp.getD 0, memOrTrue s.memMode))

/-- `OpacityCache.add_opacity(opacity, molecule_filter)`; a filter list `[f]` is the model's `some f` -/
theorem encS_addOpacity (s : CSt) (o : Obj) (filter : Option String) :
    (Gen.SrcC14.OpacityCache_add_opacity o (filter.map (fun f => [f])) (fun o => o.mol) s.dict, worldOf s)
      = encS (addOpacity s o filter) := by
  unfold Gen.SrcC14.OpacityCache_add_opacity addOpacity
  rw [hasKey_eq_dhas]
  cases hk : Py.dhas s.dict o.mol with
  | true => simp [encS]
  | false =>
    cases filter with
    | none => simp [encS, worldOf, Py.dset_new _ _ _ (Py.dget_eq_none_iff_dhas.2 hk)]
    | some f =>
      by_cases hf : o.mol = f
      · simp [encS, worldOf, Py.lhas, hf, Py.dset_new _ _ _ (Py.dget_eq_none_iff_dhas.2 (hf ▸ hk))]
      · simp [encS, worldOf, Py.lhas, hf]

theorem curFiles_path (fs : List Dir) (s : CSt) : curFiles fs { CacheSM.init with path := s.path } = curFiles fs s := rfl

theorem discoverM_eq (fs : List Dir) (w : World) (s : CSt) (c : Fmt) :
    discoverM fs w s.path s.interp s.memMode c
      = ((curFiles fs s).filter (fun e => decide (e.fmt = c))).map (argsOf s) := rfl

/-- a pass that only grows the dict keeps the GlobalCache settings -/
theorem same_of_grow {x : String × Obj} {s s' s0 : CSt} (h : Grow x s s') (h0 : Same s s0) : Same s' s0 :=
  ⟨h.path.trans h0.1, h.interp.trans h0.2.1, h.memMode.trans h0.2.2⟩

theorem loadStep_same (m : String) (s s0 : CSt) (e : FileEntry) (h : Same s s0) : Same (loadStep m s e) s0 :=
  same_of_grow (loadStep_grow m s e) h

theorem loadStepK_same (m : String) (s s0 : CSt) (e : FileEntry) (h : Same s s0) : Same (loadStepK m s e) s0 :=
  same_of_grow (loadStepK_grow m s e) h

/-- one pass of the inner loop of `load_opacity_from_path(path, molecule_filter=[m])` on the file `e` (constructor of any
    class `c`), `g` being what the loop tests beside `mol in molecule_filter`: `mol not in self.opacity_dict` in OpacityCache,
    nothing in KTableCache -/
theorem file_pass (m : String) (t s : CSt) (h : Same t s) (e : FileEntry) (c : Fmt) (g : Bool) :
    -- `(op, w)` after the guarded constructor call
    let r : Option Obj × World := if (Py.lhas [m] e.disc && g) = true then
        (some (constructM (worldOf t) c (argsOf s e).2).2, (constructM (worldOf t) c (argsOf s e).2).1)
      else (none, worldOf t)
    (Option.elim r.1 t.dict (fun op => if (!Py.dhas t.dict op.mol) = true then
        Gen.SrcC14.OpacityCache_add_opacity op (some [m]) (fun o => o.mol) t.dict else t.dict), r.2)
      = encS (if (e.disc == m && g) = true then
          (if (!hasKey t.dict e.obj) = true then addOpacity (loadS1 t m e) (loadObj t e) (some m) else loadS1 t m e)
        else t) := by
  intro r
  obtain ⟨_, hi, hm⟩ := h
  simp only [r, argsOf, worldOf, constructM, Py.lhas, List.any_cons, List.any_nil, Bool.or_false, hasKey_eq_dhas]
  by_cases hd : e.disc = m
  · subst hd
    cases g with
    | false => simp [encS, worldOf]
    | true =>
      simp only [decide_true, beq_self_eq_true, Bool.and_self, if_true, Option.elim_some]
      by_cases hk2 : Py.dhas t.dict e.obj = true
      · simp [hk2, encS, worldOf, loadS1]
      · simp only [hk2, Bool.not_false, if_true]
        rw [← hi, ← hm]
        exact encS_addOpacity (loadS1 t e.disc e) (loadObj t e) (some e.disc)
  · have : (e.disc == m) = false := by simpa using hd
    simp [hd, this, encS, worldOf]

theorem foldl_same (step : CSt → FileEntry → CSt) (hstep : ∀ s s0 e, Same s s0 → Same (step s e) s0) (fl : List FileEntry)
    (s s0 : CSt) (h : Same s s0) : Same (fl.foldl step s) s0 :=
  foldl_inv step (fun s => Same s s0) fl s (fun s e _ => hstep s s0 e) h

end

section
open Taurex.Gen
variable {κ β γ : Type}

theorem map_fst_enumerate (g : Nat → γ) (l : List β) :
    (Py.enumerate l).map (fun p => g p.1) = (List.range l.length).map g := by
  have : (Py.enumerate l).map (fun p => g p.1) = ((Py.enumerate l).map Prod.fst).map g := (List.map_map ..).symm
  rw [this, Py.enumerate, List.map_fst_zip (by simp)]

theorem setVal_append (pre : List (κ × β)) (kv : κ × β) (post : List (κ × β)) (v : β) :
    Py.setVal (pre ++ kv :: post) pre.length v = pre ++ (kv.1, v) :: post := by
  induction pre with
  | nil => simp [Py.setVal, List.modify_cons]
  | cons a pre ih =>
    simp only [Py.setVal, List.cons_append, List.length_cons, List.modify_cons, Nat.add_one_ne_zero, if_false,
      Nat.add_sub_cancel] at ih ⊢
    rw [ih]

/-- `for x in D.values(): <mutate x>` where the body turns the object `x` into `f x` as long as `x` satisfies `P` (e.g. is
    non-empty, so that the body does not raise) -/
theorem forE_inplace (dflt : κ × β) (P : β → Prop) (f : β → β)
    (F : List (κ × β) → Nat → List (κ × β) × Option Py.Err)
    (hF : ∀ (st : List (κ × β)) (i : Nat), P (st.getD i dflt).2 → F st i = (Py.setVal st i (f (st.getD i dflt).2), none))
    (d : List (κ × β)) (hP : ∀ kv ∈ d, P kv.2) :
    Py.forE (List.range d.length) d F = (d.map (fun kv => (kv.1, f kv.2)), none) := by
  have key : ∀ (post pre : List (κ × β)), (∀ kv ∈ post, P kv.2) →
      Py.forE (List.range' pre.length post.length) (pre ++ post) F = (pre ++ post.map (fun kv => (kv.1, f kv.2)), none) := by
    intro post
    induction post with
    | nil => intro pre _; simp
    | cons kv post ih =>
      intro pre h
      simp only [List.length_cons, List.range'_succ, Py.forE_cons]
      have hg := Loaders.getD_append_length pre kv post dflt
      rw [hF (pre ++ kv :: post) pre.length (by rw [hg]; exact h kv (by simp)), hg, setVal_append]
      simp only []
      have := ih (pre ++ [(kv.1, f kv.2)]) (fun kv' hm => h kv' (by simp [hm]))
      simpa [List.append_assoc] using this
  have := key d [] hP
  simpa [List.range_eq_range'] using this

end

section
open Taurex.Sanitize Taurex.Gen

/-- `pathlib.Path(name).stem` on strings -/
def stemS (s : String) : String := String.ofList (stem s.toList)

theorem splitChars_ne_nil (c : Char) (l : List Char) : Py.splitChars c l ≠ [] := by
  cases l with
  | nil => simp [Py.splitChars]
  | cons a l =>
    unfold Py.splitChars
    by_cases h : a = c
    · simp [h]
    · simp only [h, if_false]
      cases Py.splitChars c l <;> simp

theorem splitChars_head (c : Char) (l : List Char) : (Py.splitChars c l).getD 0 [] = firstPart c l := by
  induction l with
  | nil => rfl
  | cons a l ih =>
    unfold Py.splitChars firstPart
    by_cases h : a = c
    · simp [h]
    · have hne : (a != c) = true := by simpa using h
      simp only [h, if_false, List.takeWhile_cons, hne, if_true]
      cases hs : Py.splitChars c l with
      | nil => exact absurd hs (splitChars_ne_nil c l)
      | cons hd tl =>
        rw [hs] at ih
        simp only [List.getD_cons_zero] at ih ⊢
        rw [ih]; rfl

theorem split1_head (c : Char) (s : String) : (Py.split1 c s).getD 0 "" = String.ofList (firstPart c s.toList) := by
  unfold Py.split1
  rw [← splitChars_head]
  cases hs : Py.splitChars c s.toList with
  | nil => exact absurd hs (splitChars_ne_nil c _)
  | cons hd tl => simp

end

end Taurex.C14Src
