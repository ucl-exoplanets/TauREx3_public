/-
  Lemmas about the shared numpy model (TaurexModel/NpInterp.lean) over the real carrier.
-/
import Mathlib.Tactic.Linarith
import Mathlib.Tactic.Ring
import Mathlib.Data.List.GetD
import Proofs.RealInst
import Proofs.NpInterpCore
import Proofs.ListCore
import Proofs.Convex

namespace Taurex.NpInterp

noncomputable instance : NatConv ℝ where
  ofNat' := fun n => (n : ℝ)
  truncNat := fun x => ⌊x⌋₊

@[simp] theorem ofNat'_real (n : Nat) : (NatConv.ofNat' n : ℝ) = (n : ℝ) := rfl
@[simp] theorem truncNat_real (x : ℝ) : (NatConv.truncNat x : Nat) = ⌊x⌋₊ := rfl

def Within (lo hi : ℝ) (l : List ℝ) : Prop := ∀ v ∈ l, lo ≤ v ∧ v ≤ hi

/-- the segment as `np.interp` writes it -/
theorem lerp_between {lo hi f0 f1 x0 x1 x : ℝ} (h0 : lo ≤ f0 ∧ f0 ≤ hi) (h1 : lo ≤ f1 ∧ f1 ≤ hi)
    (hx0 : x0 ≤ x) (hx1 : x ≤ x1) :
    lo ≤ (f1 - f0) / (x1 - x0) * (x - x0) + f0 ∧ (f1 - f0) / (x1 - x0) * (x - x0) + f0 ≤ hi :=
  Convex.mem_of_eq (by ring) (Convex.unit_of_bracket hx0 hx1) h0 h1

/-- the same segment in the slope–intercept form of `TwoPointGas` (intercept from the right end) -/
theorem line_between {lo hi f0 f1 x0 x1 x : ℝ} (h0 : lo ≤ f0 ∧ f0 ≤ hi) (h1 : lo ≤ f1 ∧ f1 ≤ hi)
    (hx0 : x0 ≤ x) (hx1 : x ≤ x1) :
    lo ≤ (f1 - f0) / (x1 - x0) * x + (f1 - (f1 - f0) / (x1 - x0) * x1) ∧
      (f1 - f0) / (x1 - x0) * x + (f1 - (f1 - f0) / (x1 - x0) * x1) ≤ hi :=
  Convex.mem_of_eq (by ring) (Convex.div_mem_unit (sub_nonneg.2 hx1) (sub_le_sub_left hx0 x1)) h1 h0

theorem lt_countP_of_le (x : ℝ) (l : List ℝ) (hs : l.Pairwise (· ≤ ·)) (i : Nat) (hi : i < l.length)
    (h : l[i] ≤ x) : i < l.countP (fun a => decide (a ≤ x)) :=
  (lt_countP_iff (· ≤ ·) (· ≤ x) (fun _ _ hxy hy => le_trans hxy hy) l hs i hi).2 h

theorem getD_within {lo hi : ℝ} {l : List ℝ} (h : Within lo hi l) {i : Nat} (hi' : i < l.length) :
    lo ≤ l.getD i 0 ∧ l.getD i 0 ≤ hi := by
  rw [List.getD_eq_getElem _ _ hi']
  exact h _ (List.getElem_mem _)

/-- **np.interp never leaves the range of its ordinates** (non-decreasing abscissae) -/
theorem npInterp_between {lo hi : ℝ} (xp fp : List ℝ) (x : ℝ) (hlen : xp.length = fp.length)
    (hne : 0 < xp.length) (hs : xp.Pairwise (· ≤ ·)) (hf : Within lo hi fp) :
    lo ≤ npInterp xp fp x ∧ npInterp xp fp x ≤ hi := by
  have hget : ∀ i, i < xp.length → lo ≤ fp.getD i 0 ∧ fp.getD i 0 ≤ hi := fun i hi' => getD_within hf (hlen ▸ hi')
  unfold npInterp
  dsimp only
  generalize hk : xp.countP (fun a => decide (a ≤ x)) = k
  have hkle : k ≤ xp.length := hk ▸ List.countP_le_length
  by_cases h1 : x < xp.getD 0 0
  · rw [if_pos h1]; exact hget 0 hne
  by_cases h2 : xp.getD (xp.length - 1) 0 < x
  · rw [if_neg h1, if_pos h2]; exact hget _ (by omega)
  by_cases h3 : k - 1 = xp.length - 1
  · rw [if_neg h1, if_neg h2, if_pos h3]; exact hget _ (by omega)
  by_cases h4 : xp.getD (k - 1) 0 < x
  · -- `x` lies strictly between node `k − 1` and node `k`: the count stops before a node `≤ x`
    rw [if_neg h1, if_neg h2, if_neg h3, if_neg (not_not.2 h4)]
    have hkpos : 0 < k := hk ▸ lt_countP_of_le x xp hs 0 hne (by rw [← List.getD_eq_getElem _ 0 hne]; exact not_lt.1 h1)
    have hj1 : k - 1 + 1 < xp.length := by omega
    have hub : x < xp.getD (k - 1 + 1) 0 := by
      rw [List.getD_eq_getElem _ _ hj1]
      exact lt_of_not_ge fun h => absurd (hk ▸ lt_countP_of_le x xp hs _ hj1 h) (by omega)
    exact lerp_between (hget _ (by omega)) (hget _ hj1) h4.le hub.le
  · rw [if_neg h1, if_neg h2, if_neg h3, if_pos h4]; exact hget _ (by omega)

theorem npInterp_const {c : ℝ} (xp fp : List ℝ) (x : ℝ) (hlen : xp.length = fp.length)
    (hne : 0 < xp.length) (hs : xp.Pairwise (· ≤ ·)) (hf : ∀ v ∈ fp, v = c) : npInterp xp fp x = c := by
  have := npInterp_between (lo := c) (hi := c) xp fp x hlen hne hs
    (fun v hv => by rw [hf v hv]; exact ⟨le_refl _, le_refl _⟩)
  linarith [this.1, this.2]

/-! ### Python `sum` and the window means of `movingaverage` -/

theorem sumL_eq_sum (l : List ℝ) : sumL l = l.sum := List.sum_eq_foldl.symm

@[simp] theorem sumL_nil : sumL ([] : List ℝ) = 0 := rfl

theorem sumL_cons (a : ℝ) (t : List ℝ) : sumL (a :: t) = a + sumL t := by
  simp only [sumL_eq_sum, List.sum_cons]

theorem sumL_append (a b : List ℝ) : sumL (a ++ b) = sumL a + sumL b := by
  simp only [sumL_eq_sum, List.sum_append]

theorem sumL_map_mul_right (c : ℝ) (l : List ℝ) : sumL (l.map (fun x => x * c)) = sumL l * c := by
  simpa only [sumL_eq_sum, List.map_id'] using List.sum_map_mul_right l (fun x => x) c

theorem sumL_nonneg (l : List ℝ) (h : ∀ x ∈ l, 0 ≤ x) : 0 ≤ sumL l :=
  sumL_eq_sum l ▸ List.sum_nonneg h

theorem sumL_pos (l : List ℝ) (hne : l ≠ []) (hp : ∀ c ∈ l, 0 < c) : 0 < sumL l :=
  sumL_eq_sum l ▸ List.sum_pos l hp hne

theorem sumL_bounds {lo hi : ℝ} (l : List ℝ) (h : Within lo hi l) :
    lo * l.length ≤ sumL l ∧ sumL l ≤ hi * l.length := by
  rw [sumL_eq_sum]
  exact ⟨by simpa only [nsmul_eq_mul, mul_comm] using List.card_nsmul_le_sum l lo fun x hx => (h x hx).1,
    by simpa only [nsmul_eq_mul, mul_comm] using List.sum_le_card_nsmul l hi fun x hx => (h x hx).2⟩

theorem windowMean_between {lo hi : ℝ} (a : List ℝ) (n i : Nat) (h : Within lo hi a) (hn : 0 < n)
    (hin : i + n ≤ a.length) : lo ≤ windowMean a n i ∧ windowMean a n i ≤ hi := by
  have hl : ((a.drop i).take n).length = n := by rw [List.length_take, List.length_drop]; omega
  have hb := sumL_bounds ((a.drop i).take n)
    (fun v hv => h v (List.mem_of_mem_drop (List.mem_of_mem_take hv)))
  rw [hl] at hb
  have hnp : (0 : ℝ) < (n : ℝ) := Nat.cast_pos.2 hn
  exact ⟨(le_div_iff₀ hnp).2 hb.1, (div_le_iff₀ hnp).2 hb.2⟩

theorem movingAverage_between {lo hi : ℝ} (a : List ℝ) (n : Nat) (h : Within lo hi a) :
    Within lo hi (movingAverage a n) := by
  intro v hv
  unfold movingAverage at hv
  split_ifs at hv with hc
  · exact absurd hv List.not_mem_nil
  · obtain ⟨i, hi, rfl⟩ := List.mem_map.1 hv
    rw [List.mem_range] at hi
    exact windowMean_between a n i h (by omega) (by omega)

/-! ### odd window and border assembly -/

theorem halfWindow_le (n : Nat) (w : ℝ) (h1 : w ≤ 100) : 2 * halfWindow n w ≤ n := by
  have hle : (n : ℝ) * (w / 100) ≤ (n : ℝ) :=
    mul_le_of_le_one_right (Nat.cast_nonneg n) ((div_le_one (by norm_num)).2 h1)
  have hf : ⌊(n : ℝ) * (w / 100)⌋₊ ≤ n := by
    simpa only [Nat.floor_natCast] using Nat.floor_le_floor hle
  unfold halfWindow
  simp only [ofNat'_real, truncNat_real]
  omega

theorem assembleSmoothed_cases {β : Type} (raw sm : List β) :
    assembleSmoothed raw sm = .error ∨
      ∃ r, assembleSmoothed raw sm = .ok r ∧ r.length = raw.length ∧ ∀ v ∈ r, v ∈ raw ∨ v ∈ sm := by
  generalize ho : assembleSmoothed raw sm = o
  unfold assembleSmoothed at ho
  simp only [List.length_reverse] at ho
  split_ifs at ho with h1 h2 h3 h4 <;> subst ho
  · exact Or.inr ⟨_, rfl, by rw [List.length_reverse, h1], fun v hv => Or.inr (List.mem_reverse.1 hv)⟩
  · exact Or.inr ⟨_, rfl, List.length_reverse, fun v hv => Or.inl (List.mem_reverse.1 hv)⟩
  · exact Or.inl rfl
  · refine Or.inr ⟨_, rfl, ?_, fun v hv => ?_⟩
    · simp only [List.length_append, List.length_take, List.length_drop, List.length_reverse]
      omega
    · rcases List.mem_append.1 hv with hv | hv
      · rcases List.mem_append.1 hv with hv | hv
        · exact Or.inl (List.mem_reverse.1 (List.mem_of_mem_take hv))
        · exact Or.inr (List.mem_reverse.1 hv)
      · exact Or.inl (List.mem_reverse.1 (List.mem_of_mem_drop hv))
  · exact Or.inl rfl

theorem assembleSmoothed_sound {β : Type} (raw sm r : List β) (h : assembleSmoothed raw sm = .ok r) :
    r.length = raw.length ∧ ∀ v ∈ r, v ∈ raw ∨ v ∈ sm := by
  rcases assembleSmoothed_cases raw sm with he | ⟨r', hr', hprop⟩
  · rw [he] at h; cases h
  · rw [hr'] at h; cases h; exact hprop

theorem assembleSmoothed_ne_invalid {β : Type} (raw sm : List β) : assembleSmoothed raw sm ≠ .invalid := by
  intro h
  rcases assembleSmoothed_cases raw sm with he | ⟨r', hr', _⟩ <;> rw [h] at * <;> contradiction

/-- the smoothing step shared by NPoint and TwoLayerGas: a window of at most 100 % has `2k ≤ len(raw)`, so the
    `len(raw) - 2k` smoothed values leave a border of `k` on each side -/
theorem smooth_ok (raw : List ℝ) (nlayers : Nat) (window : ℝ) (hn : nlayers = raw.length)
    (h1 : window ≤ 100) (sm : List ℝ)
    (hlen : sm.length = (movingAverage raw (oddWindow nlayers window)).length) :
    ∃ r, assembleSmoothed raw sm = .ok r ∧ r.length = raw.length := by
  rw [oddWindow_eq, movingAverage_length_odd] at hlen
  have hr := assembleSmoothed_half raw sm _ (hn ▸ halfWindow_le nlayers window h1) hlen
  exact ⟨_, hr, (assembleSmoothed_sound raw sm _ hr).1⟩

theorem smooth_within {lo hi : ℝ} (raw sm r : List ℝ) (hr : Within lo hi raw) (hs : Within lo hi sm)
    (h : ∀ v ∈ r, v ∈ raw ∨ v ∈ sm) : Within lo hi r :=
  fun v hv => (h v hv).elim (hr v) (hs v)

/-! ### linspace -/

theorem linspace_length (a b : ℝ) (n : Nat) : (linspace a b n).length = n := by
  unfold linspace
  split_ifs <;> simp only [List.length_replicate, List.length_map, List.length_range]

theorem linspace_node_between {lo hi a b : ℝ} (ha : lo ≤ a ∧ a ≤ hi) (hb : lo ≤ b ∧ b ≤ hi) {i m : Nat}
    (hi' : i ≤ m) :
    lo ≤ (i : ℝ) * ((b - a) / (m : ℝ)) + a ∧ (i : ℝ) * ((b - a) / (m : ℝ)) + a ≤ hi :=
  Convex.mem_of_eq (by ring) (Convex.div_mem_unit (Nat.cast_nonneg i) (Nat.cast_le.2 hi')) ha hb

/-- a relation holds along `np.linspace(a, b, n)` as soon as it holds along the affine nodes `i·step + a`
    and from each of them to the end point `b`, which numpy stores in place of the last node -/
theorem linspace_pairwise {R : ℝ → ℝ → Prop} (a b : ℝ) (n : Nat)
    (hstep : ∀ i j : Nat, i ≤ j → j < n - 1 →
      R ((i : ℝ) * ((b - a) / ((n - 1 : Nat) : ℝ)) + a) ((j : ℝ) * ((b - a) / ((n - 1 : Nat) : ℝ)) + a))
    (hlast : ∀ i : Nat, i < n - 1 → R ((i : ℝ) * ((b - a) / ((n - 1 : Nat) : ℝ)) + a) b) :
    (linspace a b n).Pairwise R := by
  unfold linspace
  split_ifs with h
  · exact List.pairwise_replicate.2 (Or.inl h)
  · simp only [ofNat'_real]
    rw [List.pairwise_map]
    refine List.Pairwise.imp_of_mem ?_ List.pairwise_lt_range
    intro i j _ hj hij
    rw [List.mem_range] at hj
    rw [if_neg (by omega)]
    split_ifs with hj1
    · exact hlast i (by omega)
    · exact hstep i j hij.le (by omega)

theorem linspace_sorted (a b : ℝ) (n : Nat) (hab : a ≤ b) : (linspace a b n).Pairwise (· ≤ ·) := by
  refine linspace_pairwise a b n (fun i j hij hj => ?_) (fun i hi => ?_)
  · have hstep : 0 ≤ (b - a) / ((n - 1 : Nat) : ℝ) := div_nonneg (sub_nonneg.2 hab) (Nat.cast_nonneg _)
    exact add_le_add (mul_le_mul_of_nonneg_right (Nat.cast_le.2 hij) hstep) le_rfl
  · exact (linspace_node_between ⟨le_rfl, hab⟩ ⟨hab, le_rfl⟩ hi.le).2

theorem linspace_reverse_sorted (a b : ℝ) (n : Nat) (hab : b ≤ a) :
    (linspace a b n).reverse.Pairwise (· ≤ ·) := by
  rw [List.pairwise_reverse]
  refine linspace_pairwise a b n (fun i j hij hj => ?_) (fun i hi => ?_)
  · have hstep : (b - a) / ((n - 1 : Nat) : ℝ) ≤ 0 :=
      div_nonpos_of_nonpos_of_nonneg (sub_nonpos.2 hab) (Nat.cast_nonneg _)
    exact add_le_add (mul_le_mul_of_nonpos_right (Nat.cast_le.2 hij) hstep) le_rfl
  · exact (linspace_node_between ⟨hab, le_rfl⟩ ⟨le_rfl, hab⟩ hi.le).1

end Taurex.NpInterp
