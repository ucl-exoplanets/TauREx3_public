/-
  The optimizer calls of `ParameterParser.setup_optimizer`, statement by statement, against the lists of operations the model
  makes of a record (`recOps`, `deriveOps`).
  A module of its own, downstream of the one that defines `decodeOp`: see the note at `decodeOp_enable_fit` there.
-/
import Proofs.C07SrcFitting
import Proofs.DynEval
set_option linter.unusedSectionVars false

namespace Taurex.C07Src
open Taurex.Priors Taurex.OptimizerSM Taurex.FittingSection Taurex.Gen Taurex.Gen.Dyn Taurex.C07

section
variable {α : Type} [LT α] [DecidableLT α] [OfNat α 0] [Mul α] [Transc α] [BEq (FObj α)]
variable (mk : FV α → Option (Prior α)) (pexc : Exc) (cfg : FV α)

/-- `optimizer.<name>(*args)` as a statement of the glue code: the result is dropped -/
def ocall (name : String) (args : List (FV α)) : FM α Unit :=
  Dyn.callMethod (fext mk pexc cfg) (.obj .optimizer) name args [] >>= fun _ => pure ()

theorem callMethod_drop (name : String) (args : List (FV α)) :
    (Dyn.callMethod (fext mk pexc cfg) (.obj .optimizer) name args [] >>= fun _ => pure ()) = ocall mk pexc cfg name args := (rfl)

theorem runSim_ocall (name : String) (args : List (FV α))
    (op : Op String α) (h : decodeOp name args = some op) : RunSim pexc (ocall mk pexc cfg name args) [op] := by
  intro s
  have hc : Dyn.callMethod (fext mk pexc cfg) (.obj .optimizer) name args [] s
      = (outRes (step s op).2, (step s op).1) := by
    show optCall name args s = _
    simp only [optCall, h]
  rw [ocall, eff_bind, hc]
  cases hr : (step s op).2 with
  | ok => simp [runStop, hr, outRes, resU]
  | keyError => simp [runStop, hr, outRes, resU, outOf]
  | valueError => simp [runStop, hr, outRes, resU, outOf]

theorem unpack2_fn (a b : FV α) : Dyn.unpack2 (fext mk pexc cfg) (.tuple [a, b]) = pure (a, b) := (rfl)

/-- `if fit: optimizer.enable_fit(key) else: optimizer.disable_fit(key)` -/
theorem stage_fit (n : String) (r : Rec α) :
    RunSim pexc (if FittingSection.truthy r.fit = true then ocall mk pexc cfg "enable_fit" [.str n]
                 else ocall mk pexc cfg "disable_fit" [.str n]) (fitOps n r) := by
  unfold fitOps
  cases FittingSection.truthy r.fit
  · exact runSim_ocall mk pexc cfg _ _ _ (by simp [decodeOp])
  · exact runSim_ocall mk pexc cfg _ _ _ (decodeOp_enable_fit n)

theorem pairOpt_cases (o : Option (OptVal α)) (h : (pairOpt o).isBad = false) :
    (truthyO o = false ∧ pairOpt o = .skip) ∨ (∃ a b, o = some (.nums [a, b]) ∧ truthyO o = true ∧ pairOpt o = .pair a b) := by
  cases o with
  | none => exact .inl ⟨rfl, rfl⟩
  | some v =>
    by_cases ht : FittingSection.truthy v = true
    · right
      unfold pairOpt at h ⊢
      simp only [ht, if_true] at h ⊢
      cases v with
      | nums xs =>
        match xs, h with
        | [a, b], _ => exact ⟨a, b, rfl, ht, rfl⟩
        | [], h => simp [PairOpt.isBad] at h
        | [_], h => simp [PairOpt.isBad] at h
        | _ :: _ :: _ :: _, h => simp [PairOpt.isBad] at h
      | bool _ => simp [PairOpt.isBad] at h
      | num _ => simp [PairOpt.isBad] at h
      | str _ => simp [PairOpt.isBad] at h
      | strs _ => simp [PairOpt.isBad] at h
    · left
      have ht' : FittingSection.truthy v = false := by simpa using ht
      exact ⟨ht', by simp [pairOpt, ht']⟩

/-- `if v: optimizer.<name>(key, v)` for a pair-valued option: `opsOf` lists the one call for a pair and none otherwise -/
theorem stage_pair (name n : String) (opsOf : PairOpt α → List (Op String α)) (hskip : opsOf .skip = [])
    (hpair : ∀ a b, ∃ op, decodeOp name [.str n, .list [.float a, .float b]] = some op ∧ opsOf (.pair a b) = [op])
    (o : Option (OptVal α)) (h : (pairOpt o).isBad = false) :
    RunSim pexc (if truthyO o = true then ocall mk pexc cfg name [.str n, embO o] else pure ()) (opsOf (pairOpt o)) := by
  rcases pairOpt_cases o h with ⟨h1, h2⟩ | ⟨a, b, h0, h1, h2⟩
  · rw [h1, h2, hskip]; exact runSim_nil pexc
  · obtain ⟨op, hd, ho⟩ := hpair a b
    rw [h1, h2, ho]; subst h0
    exact runSim_ocall mk pexc cfg _ _ _ hd

/-- `if factor: optimizer.set_factor_boundary(key, factor)` -/
theorem stage_factor (n : String) (o : Option (OptVal α)) (h : (pairOpt o).isBad = false) :
    RunSim pexc (if truthyO o = true then ocall mk pexc cfg "set_factor_boundary" [.str n, embO o] else pure ())
      (factorOps n (pairOpt o)) :=
  stage_pair mk pexc cfg _ n (factorOps n) rfl (fun a b => ⟨_, by simp [decodeOp], rfl⟩) o h

/-- `if bounds: optimizer.set_boundary(key, bounds)` -/
theorem stage_bounds (n : String) (o : Option (OptVal α)) (h : (pairOpt o).isBad = false) :
    RunSim pexc (if truthyO o = true then ocall mk pexc cfg "set_boundary" [.str n, embO o] else pure ())
      (boundsOps n (pairOpt o)) :=
  stage_pair mk pexc cfg _ n (boundsOps n) rfl (fun a b => ⟨_, by simp [decodeOp], rfl⟩) o h

theorem modeOpt_cases (o : Option (OptVal α)) (h : (modeOpt o).isBad = false) :
    (truthyO o = false ∧ modeOpt o = .skip) ∨ (∃ t, o = some (.str t) ∧ truthyO o = true ∧ modeOpt o = .mode t.toLower) := by
  cases o with
  | none => exact .inl ⟨rfl, rfl⟩
  | some v =>
    by_cases ht : FittingSection.truthy v = true
    · right
      unfold modeOpt at h ⊢
      simp only [ht, if_true] at h ⊢
      cases v with
      | str t => exact ⟨t, rfl, ht, rfl⟩
      | bool _ => simp [ModeOpt.isBad] at h
      | num _ => simp [ModeOpt.isBad] at h
      | nums _ => simp [ModeOpt.isBad] at h
      | strs _ => simp [ModeOpt.isBad] at h
    · left
      have ht' : FittingSection.truthy v = false := by simpa using ht
      exact ⟨ht', by simp [modeOpt, ht']⟩

/-- `if mode: optimizer.set_mode(key, mode.lower())` -/
theorem stage_mode (n : String) (o : Option (OptVal α)) (h : (modeOpt o).isBad = false) :
    RunSim pexc
      (if truthyO o = true then
         (Dyn.m_lower (fext mk pexc cfg) (embO o) >>= fun t => ocall mk pexc cfg "set_mode" [.str n, t])
       else pure ())
      (modeOps n (modeOpt o)) := by
  rcases modeOpt_cases o h with ⟨h1, h2⟩ | ⟨t, h0, h1, h2⟩
  · rw [h1, h2]; exact runSim_nil pexc
  · rw [h1, h2]; subst h0
    simp only [embO, embV, m_lower_str, strLower_eq, eff_pure_bind, if_true]
    exact runSim_ocall mk pexc cfg _ _ _ (by simp [decodeOp])

/-- `if prior is not None: optimizer.set_prior(key, prior)` -/
theorem stage_prior (n : String) (p : Option (Prior α)) :
    RunSim pexc (if (!(embP p : FV α).isNone) = true then ocall mk pexc cfg "set_prior" [.str n, embP p] else pure ())
      (priorOps n p) := by
  cases p with
  | none => exact runSim_nil pexc
  | some q => exact runSim_ocall mk pexc cfg _ _ _ (by simp [decodeOp, embP])

theorem recOps_not_bad (n : String) (r : Rec α) (ops : List (Op String α)) (h : recOps n r = some ops) :
    (pairOpt r.factor).isBad = false ∧ (pairOpt r.bounds).isBad = false ∧ (modeOpt r.mode).isBad = false := by
  unfold recOps at h
  split at h
  · cases h
  · rename_i hb
    simp only [Bool.or_eq_true, not_or, Bool.not_eq_true] at hb
    exact ⟨hb.1.1, hb.1.2, hb.2⟩

/-- the `[Derive]` loop body: `if compute is not None: (enable_derived if compute else disable_derived)(key)` -/
theorem stage_derive (n : String) (c : Option (OptVal α)) :
    RunSim pexc
      (if (!(embO c : FV α).isNone) = true then
         (Dyn.truthy (fext mk pexc cfg) (embO c) >>= fun t =>
           if t = true then ocall mk pexc cfg "enable_derived" [.str n] else ocall mk pexc cfg "disable_derived" [.str n])
       else pure ())
      (deriveOps [(n, c)]) := by
  cases c with
  | none => exact runSim_nil pexc
  | some v =>
    have hn : (embO (some v) : FV α).isNone = false := by cases v <;> rfl
    simp only [hn, Bool.not_false, if_true, truthy_embO_fn, eff_pure_bind, truthyO, deriveOps]
    cases FittingSection.truthy v
    · exact runSim_ocall mk pexc cfg _ _ _ (by simp [decodeOp])
    · exact runSim_ocall mk pexc cfg _ _ _ (by simp [decodeOp])

end

end Taurex.C07Src
