/-
  Oracle and lemmas for the source tie of `ParameterParser.generate_fitting_parameters`, `generate_derived_parameters`
  and `setup_optimizer` (taurex/parameter/parameterparser.py, dialect `dyn` of the translator) against
  `TaurexModel/FittingSection.lean`.

  The translated definitions handle dynamically typed values `Dyn.Val α (FObj α)` in the monad `Dyn.Eff (St String α)`
  (state = the optimizer state of `TaurexModel/OptimizerSM.lean`, kept when an exception is raised) and take ONE oracle for
  everything the text delegates to objects.  What the oracle `fext` says (and nothing else is assumed):
    * `self._raw_config.dict()` returns the dict `cfg` (the tie instantiates it with `{'Fitting': …, 'Derive': …}`, the
      sections as ConfigObj delivers them after `ParameterParser.transform`: `embSec`, keys in file order);
    * the imported name `create_prior` is a function object; calling it on a value `v` returns the prior object `mk v`, or
      raises `pexc` when `mk v = none` (`mk`, `pexc` arbitrary);
    * a method call `optimizer.<name>(args)` whose arguments have the documented shapes (`decodeOp`) is ONE step of the
      optimizer state machine `step s op` — the eight set-up methods are tied to the text of
      taurex/optimizer/optimizer.py by `src_enable_fit` … `src_set_prior` in Props/C07Src.lean —, `KeyError` / `ValueError`
      as the model's `Out`; arguments of any other shape are a `TypeError` (the model's `unsupported`, not judged);
    * everything else raises.
  Floats: `Dyn.FloatLike α` with `isZero x := ¬ (x < 0 ∨ 0 < x)` (the model's truthiness of a number).
-/
import Proofs.C07Fitting
import Proofs.DynCore
set_option linter.unusedSectionVars false

namespace Taurex.C07Src
open Taurex.Priors Taurex.OptimizerSM Taurex.FittingSection Taurex.Gen Taurex.Gen.Dyn Taurex.C07

/-- the objects of the glue code that are not built-in values -/
inductive FObj (α : Type) where
  | self                     -- the ParameterParser
  | rawConfig                -- `self._raw_config`
  | optimizer                -- the Optimizer handed to `setup_optimizer`
  | createPrior              -- the function `taurex.parameter.factory.create_prior`
  | prior (p : Prior α)      -- a prior object

abbrev FV (α : Type) := Dyn.Val α (FObj α)
abbrev FM (α : Type) := Dyn.Eff (St String α)

section
variable {α : Type} [LT α] [DecidableLT α] [OfNat α 0]

/-- Python floats as far as the glue code looks at them: truthiness (`x != 0`) -/
scoped instance floatLike : Dyn.FloatLike α where
  ofInt _ := 0
  beq a b := !(decide (a < b) || decide (b < a))
  lt a b := decide (a < b)
  isZero x := !(decide (x < 0) || decide (0 < x))

/-- a typed value of a section as a Python value -/
def embV : OptVal α → FV α
  | .bool b => .bool b
  | .num x => .float x
  | .str s => .str s
  | .nums xs => .list (xs.map .float)
  | .strs xs => .list (xs.map .str)

/-- an option that may not have been written (`None`) -/
def embO : Option (OptVal α) → FV α
  | none => .none
  | some v => embV v

/-- the `prior` option: `None` or the object `create_prior` returned -/
def embP : Option (Prior α) → FV α
  | none => .none
  | some p => .obj (.prior p)

/-- a section: keys in file order -/
def embSec (sec : List (String × OptVal α)) : List (FV α × FV α) := sec.map (fun kv => (.str kv.1, embV kv.2))

/-- the dict `self._raw_config.dict()` with the two sections -/
def cfgOf (fitting derive : List (String × OptVal α)) : FV α :=
  .dict [(.str "Fitting", .dict (embSec fitting)), (.str "Derive", .dict (embSec derive))]

/-- Python truthiness of an option that may be `None` -/
def truthyO : Option (OptVal α) → Bool
  | none => false
  | some v => truthy v

end

section
variable {α : Type} [LT α] [DecidableLT α] [OfNat α 0] [Mul α] [Transc α]

/-- the optimizer call a method name and its arguments stand for (documented argument shapes only) -/
def decodeOp (name : String) (args : List (FV α)) : Option (Op String α) :=
  if name = "enable_fit" then (match args with | [.str n] => some (.enableFit n) | _ => none)
  else if name = "disable_fit" then (match args with | [.str n] => some (.disableFit n) | _ => none)
  else if name = "set_factor_boundary" then
    (match args with | [.str n, .list [.float a, .float b]] => some (.setFactorBoundary n a b) | _ => none)
  else if name = "set_boundary" then
    (match args with | [.str n, .list [.float a, .float b]] => some (.setBoundary n a b) | _ => none)
  else if name = "set_mode" then (match args with | [.str n, .str m] => some (.setMode n m) | _ => none)
  else if name = "set_prior" then (match args with | [.str n, .obj (.prior p)] => some (.setPrior n p) | _ => none)
  else if name = "enable_derived" then (match args with | [.str n] => some (.enableDerived n) | _ => none)
  else if name = "disable_derived" then (match args with | [.str n] => some (.disableDerived n) | _ => none)
  else none

/- Stands here, in the module that defines `decodeOp`, on purpose: the first module in which `simp` unfolds that long
   definition builds its unfolding equation anew at every use; built once here, the stage lemmas of
   Proofs/C07SrcStages.lean import it. One decoding suffices for that: the other seven stay `by simp [decodeOp]` at their one use. -/
theorem decodeOp_enable_fit (n : String) : decodeOp (α := α) "enable_fit" [.str n] = some (.enableFit n) := by
  simp [decodeOp]

/-- how an outcome of the state machine is raised -/
def outRes : Out → Except Exc (FV α)
  | .ok => .ok .none
  | .keyError => .error .KeyError
  | .valueError => .error .ValueError

/-- `optimizer.<name>(*args)`: one step of the state machine -/
def optCall (name : String) (args : List (FV α)) : FM α (FV α) := fun s =>
  match decodeOp name args with
  | none => (.error .TypeError, s)
  | some op => (outRes (step s op).2, (step s op).1)

def fext (mk : FV α → Option (Prior α)) (pexc : Exc) (cfg : FV α) : Dyn.Ext (FM α) α (FObj α) where
  global name := if name = "create_prior" then pure (.obj .createPrior) else throw .NameError
  getattr o name :=
    match o with
    | .self => if name = "_raw_config" then pure (.obj .rawConfig) else throw .AttributeError
    | _ => throw .AttributeError
  call o args kw :=
    match o, args, kw with
    | .createPrior, [v], [] =>
      (match mk v with
       | some p => pure (.obj (.prior p))
       | none => throw pexc)
    | _, _, _ => throw .TypeError
  method o name args kw :=
    match o, kw with
    | .rawConfig, [] => if name = "dict" ∧ args = [] then pure cfg else throw .AttributeError
    | .optimizer, [] => optCall name args
    | _, _ => throw .AttributeError
  isinst _ _ := false
  iter _ := throw .TypeError
  truthy _ := pure true
  op _ _ := throw .TypeError
  parseFloat _ := none

end

/-! the laws of `Eff σ` of `Proofs/DynCore.lean` once more, as statements of this namespace (the namespace opens `Taurex.Gen.Dyn`, so
    the ties could name those just as well); `eff_bind_pure` here is the form for a computation with a constant result, not
    `Dyn.eff_bind_pure` -/

@[simp] theorem eff_pure {σ β : Type} (x : β) (s : σ) : (pure x : Eff σ β) s = (.ok x, s) := Dyn.eff_pure x s
@[simp] theorem eff_throw {σ β : Type} (e : Exc) (s : σ) : (throw e : Eff σ β) s = (.error e, s) := Dyn.eff_throw e s
theorem eff_bind_ok {σ β γ : Type} (x : Eff σ β) (f : β → Eff σ γ) (s s' : σ) (a : β) (h : x s = (.ok a, s')) :
    (x >>= f) s = f a s' := Dyn.eff_bind_ok x f s s' a h
theorem eff_bind_err {σ β γ : Type} (x : Eff σ β) (f : β → Eff σ γ) (s s' : σ) (e : Exc) (h : x s = (.error e, s')) :
    (x >>= f) s = (.error e, s') := Dyn.eff_bind_err x f s s' e h
theorem eff_bind_pure {σ β γ : Type} (x : Eff σ β) (f : β → Eff σ γ) (a : β) (h : ∀ s, x s = (.ok a, s)) :
    (x >>= f) = f a := by
  funext s; rw [eff_bind, h]
theorem eff_pure_bind {σ β γ : Type} (a : β) (f : β → Eff σ γ) : ((pure a : Eff σ β) >>= f) = f a := Dyn.eff_pure_bind a f

section
variable {α : Type} [LT α] [DecidableLT α] [OfNat α 0] [BEq (FObj α)]

theorem beq_left_str (k : FV α) (b : String) : Val.beq k (.str b) = (match k with | .str a => a == b | _ => false) := by
  cases k <;> simp [Val.beq]

/-! ## records: the dict per parameter against the model's `Rec` -/

/-- the dict `fitting_params[name]` holds, under the five keys `setup_optimizer` reads, what the model's record holds
    (other keys — unknown options — are in the dict and not in the record: nobody reads them) -/
def RecSim (d : List (FV α × FV α)) (r : Rec α) : Prop :=
  dictGet? d (.str "fit") = some (embV r.fit) ∧ dictGet? d (.str "bounds") = some (embO r.bounds) ∧
  dictGet? d (.str "mode") = some (embO r.mode) ∧ dictGet? d (.str "factor") = some (embO r.factor) ∧
  dictGet? d (.str "prior") = some (embP r.prior)

/-- `{'fit': False, 'bounds': None, 'mode': None, 'factor': None, 'prior': None}` -/
def defaultsD : List (FV α × FV α) :=
  [(.str "fit", .bool false), (.str "bounds", .none), (.str "mode", .none), (.str "factor", .none), (.str "prior", .none)]

theorem recSim_default : RecSim (defaultsD (α := α)) ({} : Rec α) := by
  simp [RecSim, defaultsD, dictGet?, beq_str, embV, embO, embP]

theorem recSim_set_other (mk' : OptVal α → Option (Prior α)) (d : List (FV α × FV α)) (r : Rec α) (a b : String)
    (v : OptVal α) (h : RecSim d r) (hb : b ≠ "prior") :
    ∃ r', setOpt mk' ⟨a, b, v⟩ r = some r' ∧ RecSim (dictSet d (.str b) (embV v)) r' := by
  obtain ⟨h1, h2, h3, h4, h5⟩ := h
  unfold setOpt classify
  by_cases c1 : b = "fit"
  · subst c1; exact ⟨{ r with fit := v }, by simp, by simp [RecSim, dictGet_set_str, h2, h3, h4, h5]⟩
  by_cases c2 : b = "bounds"
  · subst c2; exact ⟨{ r with bounds := some v }, by simp, by simp [RecSim, dictGet_set_str, h1, h3, h4, h5, embO]⟩
  by_cases c3 : b = "mode"
  · subst c3; exact ⟨{ r with mode := some v }, by simp, by simp [RecSim, dictGet_set_str, h1, h2, h4, h5, embO]⟩
  by_cases c4 : b = "factor"
  · subst c4; exact ⟨{ r with factor := some v }, by simp, by simp [RecSim, dictGet_set_str, h1, h2, h3, h5, embO]⟩
  exact ⟨r, by simp [c1, c2, c3, c4, hb], by simp [RecSim, dictGet_set_str, h1, h2, h3, h4, h5, c1, c2, c3, c4, hb]⟩

theorem setOpt_prior (mk' : OptVal α → Option (Prior α)) (r : Rec α) (a : String) (v : OptVal α) :
    setOpt mk' ⟨a, "prior", v⟩ r = (mk' v).map (fun p => { r with prior := some p }) := by
  simp [setOpt, classify]

theorem recSim_set_prior (d : List (FV α × FV α)) (r : Rec α) (p : Prior α) (h : RecSim d r) :
    RecSim (dictSet d (.str "prior") (.obj (.prior p))) { r with prior := some p } := by
  obtain ⟨h1, h2, h3, h4, h5⟩ := h
  simp [RecSim, dictGet_set_str, h1, h2, h3, h4, embP]

/-! ## the dict of records against the model's association list -/

/-- `fitting_params` (a dict name -> dict) against the model's `List (String × Rec α)` -/
def GrpSim : List (FV α × FV α) → List (String × Rec α) → Prop
  | [], [] => True
  | e :: D, g :: grp => e.1 = .str g.1 ∧ (∃ d, e.2 = .dict d ∧ RecSim d g.2) ∧ GrpSim D grp
  | _, _ => False

/-! ## a dict with string keys against an association list of the model -/

/-- entry by entry, same keys in the same order; `R` relates the values -/
inductive StrDict {β : Type} (R : FV α → β → Prop) : List (FV α × FV α) → List (String × β) → Prop
  | nil : StrDict R [] []
  | cons {n : String} {v : FV α} {b : β} {D : List (FV α × FV α)} {m : List (String × β)} :
      R v b → StrDict R D m → StrDict R ((.str n, v) :: D) ((n, b) :: m)

section
variable {β : Type} {R : FV α → β → Prop} {D : List (FV α × FV α)} {m : List (String × β)}

theorem StrDict.get (h : StrDict R D m) (a : String) :
    match Py.dget m a with
    | some b => ∃ v, dictGet? D (.str a) = some v ∧ R v b
    | none => dictGet? D (.str a) = none := by
  induction h with
  | nil => rfl
  | @cons n w b D m hr _ ih =>
    by_cases hn : n = a
    · simp only [Py.dget, hn, if_true, dictGet?, beq_str, beq_self_eq_true]; exact ⟨w, rfl, hr⟩
    · simpa only [Py.dget, hn, if_false, dictGet?, beq_str, beq_iff_eq] using ih

theorem StrDict.set (h : StrDict R D m) (a : String) {v : FV α} {b : β} (hv : R v b) :
    StrDict R (dictSet D (.str a) v) (Py.dset m a b) := by
  induction h with
  | nil => exact .cons hv .nil
  | @cons n w b' D m hr ht ih =>
    by_cases hn : n = a
    · simp only [dictSet, beq_str, hn, beq_self_eq_true, if_true, Py.dset]; exact .cons hv ht
    · have hb : (n == a) = false := by simpa using hn
      simp only [dictSet, beq_str, hb, Bool.false_eq_true, if_false, Py.dset, hn]; exact .cons hr ih

/-- `if a not in D: D[a] = v0`, then `D[a]`: the value the model continues with, and what a store under `a` then does -/
theorem StrDict.ensure (h : StrDict R D m) (a : String) {v0 : FV α} {b0 : β} (h0 : R v0 b0) :
    ∃ v, dictGet? (if (!dictHas D (.str a)) = true then dictSet D (.str a) v0 else D) (.str a) = some v ∧
      R v ((Py.dget m a).getD b0) ∧
      ∀ v' b', R v' b' →
        StrDict R (dictSet (if (!dictHas D (.str a)) = true then dictSet D (.str a) v0 else D) (.str a) v') (Py.dset m a b') := by
  rw [dictHas_eq_isSome]
  have hl := h.get a
  cases hg : Py.dget m a with
  | some b =>
    rw [hg] at hl
    obtain ⟨v, h1, h2⟩ := hl
    simp only [h1, Option.isSome_some, Bool.not_true, Bool.false_eq_true, if_false, Option.getD_some]
    exact ⟨v, rfl, h2, fun v' b' hr => h.set a hr⟩
  | none =>
    rw [hg] at hl
    simp only [hl, Option.isSome_none, Bool.not_false, if_true, Option.getD_none, dictGet_set_str]
    refine ⟨v0, rfl, h0, fun v' b' hr => ?_⟩
    have := (h.set a h0).set a hr
    rwa [Py.dset_dset_same] at this

end

theorem grpSim_iff (D : List (FV α × FV α)) (grp : List (String × Rec α)) :
    GrpSim D grp ↔ StrDict (fun v r => ∃ d, v = .dict d ∧ RecSim d r) D grp := by
  constructor
  · intro h
    induction D generalizing grp with
    | nil => cases grp with
      | nil => exact .nil
      | cons => exact h.elim
    | cons e D ih => cases grp with
      | nil => exact h.elim
      | cons g grp =>
        obtain ⟨k, w⟩ := e; obtain ⟨hk, hd, ht⟩ := h
        simp only at hk; subst hk
        exact .cons hd (ih grp ht)
  · intro h
    induction h with
    | nil => trivial
    | cons hr _ ih => exact ⟨rfl, hr, ih⟩

end

/-! ## the primitives of the prelude and the oracle as state-preserving computations -/

section
variable {α : Type} [LT α] [DecidableLT α] [OfNat α 0] [Mul α] [Transc α] [BEq (FObj α)]
variable (mk : FV α → Option (Prior α)) (pexc : Exc) (cfg : FV α)

theorem getAttr_raw (s : St String α) :
    Dyn.getAttr (fext mk pexc cfg) (.obj .self) "_raw_config" s = (.ok (.obj .rawConfig), s) := rfl

theorem callMethod_dict (s : St String α) :
    Dyn.callMethod (fext mk pexc cfg) (.obj .rawConfig) "dict" [] [] s = (.ok cfg, s) := rfl

theorem contains_str (d : List (FV α × FV α)) (k : String) (s : St String α) :
    Dyn.contains (fext mk pexc cfg) (.str k) (.dict d) s = (.ok (dictHas d (.str k)), s) := rfl

theorem setItem_str (d : List (FV α × FV α)) (k : String) (v : FV α) (s : St String α) :
    Dyn.setItem (fext mk pexc cfg) (.dict d) (.str k) v s = (.ok (.dict (dictSet d (.str k) v)), s) := rfl

theorem m_items_dict (d : List (FV α × FV α)) (s : St String α) :
    Dyn.m_items (fext mk pexc cfg) (.dict d) s = (.ok (d.map (fun e => .tuple [e.1, e.2])), s) := rfl

theorem unpack2_tuple (a b : FV α) (s : St String α) :
    Dyn.unpack2 (fext mk pexc cfg) (.tuple [a, b]) s = (.ok (a, b), s) := (rfl)

theorem global_create_prior (s : St String α) :
    (fext mk pexc cfg).global "create_prior" s = (.ok (.obj .createPrior), s) := rfl

theorem call_create_prior (v : FV α) (s : St String α) :
    Dyn.call (fext mk pexc cfg) (.obj .createPrior) [v] [] s
      = (match mk v with | some p => .ok (.obj (.prior p)) | none => .error pexc, s) := by
  simp only [Dyn.call, fext]
  cases mk v <;> rfl

/-- `key.split(':')` -/
theorem splitOnC_colon (l : List Char) : Dyn.splitOnC ':' l = splitColon l := by
  induction l with
  | nil => rfl
  | cons c cs ih =>
    simp only [Dyn.splitOnC, splitColon, ih]
    split
    · rfl
    · cases splitColon cs <;> rfl

theorem m_split_colon (k : String) (s : St String α) :
    Dyn.m_split (fext mk pexc cfg) (.str k) (.str ":") s
      = (.ok (.list (((splitColon k.toList).map String.ofList).map .str)), s) := by
  have h : Dyn.strSplit k ":" = (splitColon k.toList).map String.ofList := by
    simp [Dyn.strSplit, splitOnC_colon]
  simp [Dyn.m_split, h]

/-- `fit_param, fit_type = parts` -/
theorem unpack2_parts_ok (a b : String) (s : St String α) :
    Dyn.unpack2 (fext mk pexc cfg) (.list ([a, b].map .str)) s = (.ok (.str a, .str b), s) := rfl

theorem unpack2_parts_err (parts : List String) (h : parts.length ≠ 2) (s : St String α) :
    Dyn.unpack2 (fext mk pexc cfg) (.list (parts.map .str)) s
      = ((.error .ValueError : Except Exc (FV α × FV α)), s) := by
  simp [Dyn.unpack2, Dyn.unpack, Dyn.iter, eff_bind, h]

theorem splitKey_some (k a b : String) (h : splitKey k = some (a, b)) :
    (splitColon k.toList).map String.ofList = [a, b] := by
  unfold splitKey at h
  split at h
  · rename_i x y heq
    simp only [Option.some.injEq, Prod.mk.injEq] at h
    simp [heq, h.1, h.2]
  · simp at h

theorem splitKey_none (k : String) (h : splitKey k = none) : ((splitColon k.toList).map String.ofList).length ≠ 2 := by
  unfold splitKey at h
  split at h
  · simp at h
  · rename_i hne
    intro hl
    rw [List.length_map] at hl
    match hp : splitColon k.toList, hl with
    | [x, y], _ => exact hne x y hp

/-- the exception class an outcome of the model stands for (`pexc`: whatever `create_prior` raises) -/
def setupExc (pexc : Exc) : SetupOut → Exc
  | .ok => .Exception
  | .keyError => .KeyError
  | .valueError => .ValueError
  | .priorError => pexc
  | .unsupported => .TypeError

/-- result of the translated `generate_fitting_parameters` (or of a part of its loop) against the model's -/
def FitOutcome (pexc : Exc) (s : St String α) (m : Except SetupOut (List (String × Rec α)))
    (R : Except Exc (FV α) × St String α) : Prop :=
  match m with
  | .ok grp => ∃ D, R = (.ok (.dict D), s) ∧ GrpSim D grp
  | .error e => R = (.error (setupExc pexc e), s)

theorem fitOutcome_ok {pexc : Exc} {s : St String α} {m : Except SetupOut (List (String × Rec α))}
    {R : Except Exc (FV α) × St String α} {grp : List (String × Rec α)} (hm : m = .ok grp)
    (h : FitOutcome pexc s m R) : ∃ D, R = (.ok (.dict D), s) ∧ GrpSim D grp := by
  subst hm; exact h

theorem fitOutcome_err {pexc : Exc} {s : St String α} {m : Except SetupOut (List (String × Rec α))}
    {R : Except Exc (FV α) × St String α} {e : SetupOut} (hm : m = .error e)
    (h : FitOutcome pexc s m R) : R = (.error (setupExc pexc e), s) := by
  subst hm; exact h

/-- one line of the `[Fitting]` section in the model -/
def lineStep (mk' : OptVal α → Option (Prior α)) (grp : List (String × Rec α)) (k : String) (v : OptVal α) :
    Except SetupOut (List (String × Rec α)) :=
  match splitKey k with
  | none => .error .valueError
  | some (a, b) =>
    match setOpt mk' ⟨a, b, v⟩ ((getRec grp a).getD {}) with
    | none => .error .priorError
    | some r => .ok (updRec grp a (fun _ => r))

theorem parseFitting_cons (mk' : OptVal α → Option (Prior α)) (k : String) (v : OptVal α)
    (rest : List (String × OptVal α)) (acc : List (String × Rec α)) :
    parseFitting mk' ((k, v) :: rest) acc
      = (match lineStep mk' acc k v with
         | .ok g => parseFitting mk' rest g
         | .error e => .error e) := by
  unfold lineStep
  rw [parseFitting]
  cases hk : splitKey k with
  | none => rfl
  | some ab =>
    obtain ⟨a, b⟩ := ab
    simp only
    cases setOpt mk' ⟨a, b, v⟩ ((getRec acc a).getD {}) <;> rfl

/-- the loop of `generate_fitting_parameters`, for ANY body that does on one line what `lineStep` does -/
theorem forM_parse (mk' : OptVal α → Option (Prior α)) (pexc : Exc) (body : FV α → FV α → FM α (FV α))
    (hb : ∀ (D : List (FV α × FV α)) (grp : List (String × Rec α)) (k : String) (v : OptVal α) (s : St String α),
      GrpSim D grp → FitOutcome pexc s (lineStep mk' grp k v) (body (.dict D) (.tuple [.str k, embV v]) s)) :
    ∀ (fitting : List (String × OptVal α)) (D : List (FV α × FV α)) (grp : List (String × Rec α)) (s : St String α),
      GrpSim D grp →
      FitOutcome pexc s (parseFitting mk' fitting grp)
        (Dyn.forM ((embSec fitting).map (fun e => (.tuple [e.1, e.2] : FV α))) (.dict D) body s)
  | [], D, grp, s, h => by
    simp only [embSec, List.map_nil, Dyn.forM, parseFitting, FitOutcome]
    exact ⟨D, rfl, h⟩
  | (k, v) :: rest, D, grp, s, h => by
    have h1 := hb D grp k v s h
    rw [parseFitting_cons]
    simp only [embSec, List.map_cons, Dyn.forM]
    cases hm : lineStep mk' grp k v with
    | error e =>
      have hr := fitOutcome_err hm h1
      rw [eff_bind, hr]
      exact rfl
    | ok g =>
      obtain ⟨D1, hr, hs1⟩ := fitOutcome_ok hm h1
      rw [eff_bind, hr]
      exact forM_parse mk' pexc body hb rest D1 g s hs1

/-- the section `name` of the input file: present with the lines `sec`, or absent (`sec = []`) -/
def SecAt (c : List (FV α × FV α)) (name : String) (sec : List (String × OptVal α)) : Prop :=
  dictGet? c (.str name) = some (.dict (embSec sec)) ∨ (dictGet? c (.str name) = none ∧ sec = [])

/-- `if name not in d: d[name] = {defaults}` followed by `d[name]`: the record the model continues with -/
theorem grpSim_ensure (D : List (FV α × FV α)) (grp : List (String × Rec α)) (h : GrpSim D grp) (a : String) :
    ∃ d, dictGet? (if (!dictHas D (.str a)) = true then dictSet D (.str a) (.dict defaultsD) else D) (.str a) = some (.dict d) ∧
      RecSim d ((getRec grp a).getD {}) ∧
      ∀ d' r', RecSim d' r' →
        GrpSim (dictSet (if (!dictHas D (.str a)) = true then dictSet D (.str a) (.dict defaultsD) else D) (.str a) (.dict d'))
          (updRec grp a (fun _ => r')) := by
  obtain ⟨v, h1, ⟨d, rfl, h2⟩, h3⟩ := ((grpSim_iff D grp).1 h).ensure a ⟨_, rfl, recSim_default⟩
  refine ⟨d, h1, by rwa [getRec_eq], fun d' r' hr => ?_⟩
  rw [grpSim_iff, updRec_eq]
  exact h3 _ _ ⟨d', rfl, hr⟩

theorem ite_setItem (c : Bool) (D : List (FV α × FV α))
    (a : String) (v : FV α) (s : St String α) :
    (if c = true then Dyn.setItem (fext mk pexc cfg) (.dict D) (.str a) v else pure (.dict D)) s
      = (.ok (.dict (if c = true then dictSet D (.str a) v else D)), s) := by
  cases c <;> rfl

/-- the dict `fitting_params[name]` of the derive records holds under `compute` what the model's record holds -/
def CompSim (d : List (FV α × FV α)) (c : Option (OptVal α)) : Prop := dictGet? d (.str "compute") = some (embO c)

def DSim (D : List (FV α × FV α)) (drecs : List (String × Option (OptVal α))) : Prop :=
  StrDict (fun v c => ∃ d, v = .dict d ∧ CompSim d c) D drecs

/-- `{'compute': None}` -/
def defaultsC : List (FV α × FV α) := [(.str "compute", .none)]

theorem compSim_set (d : List (FV α × FV α)) (c : Option (OptVal α)) (b : String) (v : OptVal α) (h : CompSim d c) :
    CompSim (dictSet d (.str b) (embV v)) (if b = "compute" then some v else c) := by
  unfold CompSim at h ⊢
  rw [dictGet_set_str]
  by_cases hb : b = "compute" <;> simp [hb, h, embO]

/-- one line of the `[Derive]` section: `if name not in d: d[name] = {'compute': None}`, then `d[name][opt] = value` -/
theorem dSim_line (D : List (FV α × FV α)) (drecs : List (String × Option (OptVal α))) (h : DSim D drecs)
    (a b : String) (v : OptVal α) :
    ∃ d, dictGet? (if (!dictHas D (.str a)) = true then dictSet D (.str a) (.dict defaultsC) else D) (.str a) = some (.dict d) ∧
      DSim (dictSet (if (!dictHas D (.str a)) = true then dictSet D (.str a) (.dict defaultsC) else D) (.str a)
              (.dict (dictSet d (.str b) (embV v))))
        (updD drecs ⟨a, b, v⟩) := by
  obtain ⟨w, h1, ⟨d, rfl, h2⟩, h3⟩ :=
    StrDict.ensure h a (v0 := .dict defaultsC) (b0 := none) ⟨_, rfl, by simp [CompSim, defaultsC, dictGet?, beq_str, embO]⟩
  refine ⟨d, h1, ?_⟩
  rw [updD_eq]
  refine h3 _ _ ⟨_, rfl, ?_⟩
  have := compSim_set d _ b v h2
  cases hg : Py.dget drecs a <;> simpa [hg] using this

/-- result of the translated `generate_derived_parameters` against the model's (`none`: a key that does not split) -/
def DOutcome (s : St String α) (m : Option (List (String × Option (OptVal α))))
    (R : Except Exc (FV α) × St String α) : Prop :=
  match m with
  | some dr => ∃ D, R = (.ok (.dict D), s) ∧ DSim D dr
  | none => R = (.error .ValueError, s)

theorem dOutcome_some {s : St String α} {m : Option (List (String × Option (OptVal α)))}
    {R : Except Exc (FV α) × St String α} {dr : List (String × Option (OptVal α))} (hm : m = some dr)
    (h : DOutcome s m R) : ∃ D, R = (.ok (.dict D), s) ∧ DSim D dr := by
  subst hm; exact h

theorem dOutcome_none {s : St String α} {m : Option (List (String × Option (OptVal α)))}
    {R : Except Exc (FV α) × St String α} (hm : m = none) (h : DOutcome s m R) : R = (.error .ValueError, s) := by
  subst hm; exact h

/-- one line of the `[Derive]` section in the model -/
def dlineStep (drecs : List (String × Option (OptVal α))) (k : String) (v : OptVal α) :
    Option (List (String × Option (OptVal α))) :=
  (splitKey k).map (fun ab => updD drecs ⟨ab.1, ab.2, v⟩)

theorem splitAll_cons_map (k : String) (v : OptVal α) (rest : List (String × OptVal α))
    (drecs : List (String × Option (OptVal α))) :
    (splitAll ((k, v) :: rest)).map (fun dl => deriveRecs dl drecs) =
      (dlineStep drecs k v).bind fun d1 => (splitAll rest).map fun dl => deriveRecs dl d1 := by
  unfold dlineStep
  simp only [splitAll]
  cases splitKey k with
  | none => rfl
  | some ab => cases splitAll rest <;> rfl

/-- the loop of `generate_derived_parameters`, for ANY body that does on one line what `dlineStep` does -/
theorem forM_derive (body : FV α → FV α → FM α (FV α))
    (hb : ∀ (D : List (FV α × FV α)) (drecs : List (String × Option (OptVal α))) (k : String) (v : OptVal α)
      (s : St String α), DSim D drecs → DOutcome s (dlineStep drecs k v) (body (.dict D) (.tuple [.str k, embV v]) s)) :
    ∀ (derive : List (String × OptVal α)) (D : List (FV α × FV α)) (drecs : List (String × Option (OptVal α)))
      (s : St String α), DSim D drecs →
      DOutcome s ((splitAll derive).map (fun dl => deriveRecs dl drecs))
        (Dyn.forM ((embSec derive).map (fun e => (.tuple [e.1, e.2] : FV α))) (.dict D) body s)
  | [], D, drecs, s, h => by
    simp only [embSec, List.map_nil, Dyn.forM, splitAll, Option.map_some, deriveRecs, DOutcome]
    exact ⟨D, rfl, h⟩
  | (k, v) :: rest, D, drecs, s, h => by
    have h1 := hb D drecs k v s h
    rw [splitAll_cons_map]
    simp only [embSec, List.map_cons, Dyn.forM]
    cases hm : dlineStep drecs k v with
    | none =>
      rw [eff_bind, dOutcome_none hm h1]
      exact rfl
    | some g =>
      obtain ⟨D1, hr, hs1⟩ := dOutcome_some hm h1
      rw [eff_bind, hr]
      exact forM_derive body hb rest D1 g s hs1

/-! ## `setup_optimizer`: sequences of optimizer calls against `runStop` -/

/-- how an outcome of `setup_optimizer` is raised -/
def resU (pexc : Exc) : SetupOut → Except Exc Unit
  | .ok => .ok ()
  | .keyError => .error .KeyError
  | .valueError => .error .ValueError
  | .priorError => .error pexc
  | .unsupported => .error .TypeError

/-- how an outcome of `setup_optimizer` is returned / raised -/
def resV (pexc : Exc) : SetupOut → Except Exc (FV α)
  | .ok => .ok .none
  | .keyError => .error .KeyError
  | .valueError => .error .ValueError
  | .priorError => .error pexc
  | .unsupported => .error .TypeError

theorem resV_ok_iff (pexc : Exc) (o : SetupOut) :
    (resV (α := α) pexc o = .ok .none) ↔ o = .ok := by
  cases o <;> simp [resV]

theorem resV_error (pexc : Exc) (o : SetupOut) (h : o ≠ .ok) : ∃ e, resV (α := α) pexc o = .error e := by
  cases o with
  | ok => exact absurd rfl h
  | _ => exact ⟨_, rfl⟩

/-- a piece of translated code makes exactly the optimizer calls `ops`, stopping at the first that raises -/
def RunSim (pexc : Exc) (x : FM α Unit) (ops : List (Op String α)) : Prop :=
  ∀ s, x s = (resU pexc (runStop s ops).2.1, (runStop s ops).1)

theorem runSim_nil (pexc : Exc) : RunSim (α := α) pexc (pure ()) [] := fun _ => rfl

theorem runSim_append (pexc : Exc) (x y : FM α Unit) (a b : List (Op String α)) (hx : RunSim pexc x a)
    (hy : RunSim pexc y b) : RunSim pexc (x >>= fun _ => y) (a ++ b) := by
  intro s
  rw [eff_bind, hx s, runStop_append]
  cases ho : (runStop s a).2.1 with
  | ok => simp only [if_true]; exact hy _
  | _ => simp only [ho, reduceCtorEq, if_false]; rfl

theorem deriveOps_cons (n : String) (c : Option (OptVal α)) (t : List (String × Option (OptVal α))) :
    deriveOps ((n, c) :: t) = deriveOps [(n, c)] ++ deriveOps t := by
  cases c <;> rfl

/-- the first loop of `setup_optimizer`, for ANY body that makes for one parameter the calls `recOps` lists -/
theorem forM_fitOps (pexc : Exc) (body : Unit → FV α → FM α Unit)
    (hb : ∀ (n : String) (r : Rec α) (d : List (FV α × FV α)) (ops : List (Op String α)), RecSim d r →
      recOps n r = some ops → RunSim pexc (body () (.tuple [.str n, .dict d])) ops) :
    ∀ (D : List (FV α × FV α)) (grp : List (String × Rec α)) (fops : List (Op String α)), GrpSim D grp →
      fittingOps grp = some fops →
      RunSim pexc (Dyn.forM (D.map (fun e => (.tuple [e.1, e.2] : FV α))) () body) fops := by
  intro D grp fops h
  replace h := (grpSim_iff D grp).1 h
  induction h generalizing fops with
  | nil =>
    intro hf
    simp only [fittingOps, Option.some.injEq] at hf
    subst hf
    exact runSim_nil pexc
  | @cons n v r D grp hr _ ih =>
    intro hf
    obtain ⟨d, rfl, hr⟩ := hr
    simp only [fittingOps] at hf
    cases h1 : recOps n r with
    | none => simp [h1] at hf
    | some a =>
      cases h2 : fittingOps grp with
      | none => simp [h1, h2] at hf
      | some b =>
        simp only [h1, h2, Option.some.injEq] at hf
        subst hf
        simp only [List.map_cons, Dyn.forM]
        exact runSim_append pexc _ _ a b (hb n r d a hr h1) (ih b h2)

/-- the second loop of `setup_optimizer` -/
theorem forM_deriveOps (pexc : Exc) (body : Unit → FV α → FM α Unit)
    (hb : ∀ (n : String) (c : Option (OptVal α)) (d : List (FV α × FV α)), CompSim d c →
      RunSim pexc (body () (.tuple [.str n, .dict d])) (deriveOps [(n, c)])) :
    ∀ (D : List (FV α × FV α)) (drecs : List (String × Option (OptVal α))), DSim D drecs →
      RunSim pexc (Dyn.forM (D.map (fun e => (.tuple [e.1, e.2] : FV α))) () body) (deriveOps drecs) := by
  intro D drecs h
  induction h with
  | nil => exact runSim_nil pexc
  | @cons n v c D drecs hr _ ih =>
    obtain ⟨d, rfl, hc⟩ := hr
    rw [deriveOps_cons]
    simp only [List.map_cons, Dyn.forM]
    exact runSim_append pexc _ _ _ _ (hb n c d hc) ih

theorem truthy_embV_fn (v : OptVal α) :
    Dyn.truthy (fext mk pexc cfg) (embV v) = pure (truthy v) := by
  funext s
  cases v with
  | bool b => rfl
  | num x => simp [embV, Dyn.truthy, FittingSection.truthy, FloatLike.isZero]
  | str t =>
    simp only [embV, Dyn.truthy, FittingSection.truthy, eff_pure]
    by_cases h : t = "" <;> simp [h]
  | nums xs => cases xs <;> simp [embV, Dyn.truthy, FittingSection.truthy]
  | strs xs => cases xs <;> simp [embV, Dyn.truthy, FittingSection.truthy]

theorem truthy_embO_fn (o : Option (OptVal α)) :
    Dyn.truthy (fext mk pexc cfg) (embO o) = pure (truthyO o) := by
  cases o with
  | none => rfl
  | some v => exact truthy_embV_fn mk pexc cfg v

end

end Taurex.C07Src
