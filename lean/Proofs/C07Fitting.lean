/-
  `ParameterParser.setup_optimizer` (TaurexModel/FittingSection.lean) composed with the optimizer state machine: what the
  calls made for a `[Fitting]` / `[Derive]` section do to a well-formed state, when they run through, and which settings
  they leave (`sectionSettings`).
  In the order of what is asked of the carrier: first the facts that need no operation on `α`, then those that compare
  with 0 (`truthy`), then multiplication (the `factor` option), last all that `step` needs (`modifyParam_congr` and
  `describePriors_keys`, which ask nothing of the carrier, stand in that last part all the same).
-/
import Proofs.C07Update
import TaurexModel.FittingSection

namespace Taurex.C07
open Taurex.Priors Taurex.OptimizerSM Taurex.FittingSection Taurex.Gen

section
variable {α : Type}
variable (mkPrior : OptVal α → Option (Prior α))

/-! ### the records of `[Fitting]` -/

def gkeys (grp : List (String × Rec α)) : List String := grp.map (·.1)

theorem getRec_eq (g : List (String × Rec α)) (n : String) : getRec g n = Py.dget g n := by
  fun_induction getRec g n <;> simp [Py.dget, *]

theorem updRec_eq (g : List (String × Rec α)) (n : String) (f : Rec α → Rec α) :
    updRec g n f = Py.dset g n (f ((Py.dget g n).getD {})) := by
  fun_induction updRec g n f <;> simp [Py.dset, Py.dget, *]

theorem getRec_updRec (acc : List (String × Rec α)) (n m : String) (f : Rec α → Rec α) :
    getRec (updRec acc n f) m = if n = m then some (f ((getRec acc n).getD {})) else getRec acc m := by
  simp only [getRec_eq, updRec_eq, Py.dget_dset]

theorem getRec_none_of_not_mem (grp : List (String × Rec α)) (n : String) (h : n ∉ gkeys grp) : getRec grp n = none := by
  rw [getRec_eq]; exact Py.dget_eq_none_iff.2 h

theorem gkeys_updRec (acc : List (String × Rec α)) (n : String) (f : Rec α → Rec α) :
    gkeys (updRec acc n f) = if n ∈ gkeys acc then gkeys acc else gkeys acc ++ [n] := by
  rw [updRec_eq]; exact Py.keys_dset acc n _

theorem nodup_updRec (acc : List (String × Rec α)) (n : String) (f : Rec α → Rec α) (h : (gkeys acc).Nodup) :
    (gkeys (updRec acc n f)).Nodup := by
  rw [updRec_eq]; exact Py.nodup_dset n _ h

theorem nodup_parseFitting : ∀ (ents : List (String × OptVal α))
    (acc grp : List (String × Rec α)), (gkeys acc).Nodup → parseFitting mkPrior ents acc = .ok grp → (gkeys grp).Nodup := by
  intro ents acc grp h0 h
  fun_induction parseFitting mkPrior ents acc with
  | case1 => cases h; exact h0
  | case2 | case3 => cases h
  | case4 => rename_i ih; exact ih (nodup_updRec _ _ _ h0) h

/-- `generate_fitting_parameters` raises for a key that does not split or a prior text `create_prior` refuses, nothing else -/
theorem parseFitting_error : ∀ (ents : List (String × OptVal α)) (acc : List (String × Rec α)) (e : SetupOut),
    parseFitting mkPrior ents acc = .error e → e = .valueError ∨ e = .priorError := by
  intro ents acc e h
  fun_induction parseFitting mkPrior ents acc with
  | case1 => cases h
  | case2 => cases h; exact .inl rfl
  | case3 => cases h; exact .inr rfl
  | case4 => rename_i ih; exact ih h

theorem mem_gkeys_updRec (acc : List (String × Rec α)) (n m : String) (f : Rec α → Rec α) (h : m ∈ gkeys acc ∨ m = n) :
    m ∈ gkeys (updRec acc n f) := by
  rw [gkeys_updRec]
  by_cases hm : n ∈ gkeys acc
  · simp only [hm, if_true]
    rcases h with h | h
    · exact h
    · rw [h]; exact hm
  · simp only [hm, if_false, List.mem_append, List.mem_singleton]
    exact h

theorem parseFitting_names : ∀ (ents : List (String × OptVal α))
    (acc grp : List (String × Rec α)), parseFitting mkPrior ents acc = .ok grp →
    (∀ m ∈ gkeys acc, m ∈ gkeys grp) ∧
    ∀ kv ∈ ents, ∀ a b, splitKey kv.1 = some (a, b) → a ∈ gkeys grp := by
  intro ents acc grp h
  fun_induction parseFitting mkPrior ents acc with
  | case1 => cases h; exact ⟨fun _ hm => hm, fun _ hkv => by simp at hkv⟩
  | case2 | case3 => cases h
  | case4 k v rest acc a b hs _ r _ ih =>
    obtain ⟨i1, i2⟩ := ih h
    refine ⟨fun m hm => i1 m (mem_gkeys_updRec acc a m _ (.inl hm)), fun kv hkv a' b' hsp => ?_⟩
    rcases List.mem_cons.1 hkv with rfl | hkv
    · rw [hs] at hsp; cases hsp
      exact i1 _ (mem_gkeys_updRec acc _ _ _ (.inr rfl))
    · exact i2 kv hkv a' b' hsp

theorem parseFitting_bad_key : ∀ (ents : List (String × OptVal α))
    (acc : List (String × Rec α)), (∃ kv ∈ ents, splitKey kv.1 = none) → ∃ e, parseFitting mkPrior ents acc = .error e := by
  intro ents acc h
  fun_induction parseFitting mkPrior ents acc with
  | case1 => obtain ⟨_, hkv, _⟩ := h; cases hkv
  | case2 | case3 => exact ⟨_, rfl⟩
  | case4 k v rest acc a b hs _ r _ ih =>
    obtain ⟨kv, hkv, hb⟩ := h
    rcases List.mem_cons.1 hkv with rfl | hkv
    · rw [hs] at hb; cases hb
    · exact ih ⟨kv, hkv, hb⟩

/-! ### the derived tables, one `enable_derived` / `disable_derived`, and the records of `[Derive]` -/

def dnames (ds : List (Derived String)) : List String := ds.map (·.name)

def DisjD (s : St String α) : Prop := ∀ n, n ∈ dnames s.dmodel → n ∉ dnames s.dobs

def KnownD (s : St String α) (n : String) : Prop := n ∈ dnames s.dmodel ∨ n ∈ dnames s.dobs

def setCompute (n : String) (c : Bool) (d : Derived String) : Derived String :=
  if d.name = n then { d with compute := c } else d

def applyD (s : St String α) (n : String) (c : Bool) : St String α :=
  { s with dmodel := s.dmodel.map (setCompute n c), dobs := s.dobs.map (setCompute n c) }

theorem map_setCompute_not_mem (ds : List (Derived String)) (n : String) (c : Bool) (h : n ∉ dnames ds) :
    ds.map (setCompute n c) = ds :=
  (List.map_congr_left fun d hd => if_neg fun (e : d.name = n) => h (e ▸ List.mem_map_of_mem (f := (·.name)) hd)).trans
    (List.map_id _)

theorem dnames_setCompute (ds : List (Derived String)) (n : String) (c : Bool) :
    dnames (ds.map (setCompute n c)) = dnames ds := by
  unfold dnames
  rw [List.map_map]
  apply List.map_congr_left
  intro d _
  by_cases h : d.name = n <;> simp [setCompute, h]

theorem withDerived_known (s : St String α) (hd : DisjD s) (n : String) (c : Bool) (hk : KnownD s n) :
    withDerived s n c = (applyD s n c, .ok) := by
  unfold withDerived applyD
  by_cases hm : hasDerived s.dmodel n = true
  · have hno : n ∉ dnames s.dobs := hd n ((hasDerived_iff _ _).1 hm)
    have := map_setCompute_not_mem s.dobs n c hno
    simp only [hm, if_true]
    unfold setCompute at this ⊢
    rw [this]
  · have hm' : hasDerived s.dmodel n = false := by simpa using hm
    have hnm : n ∉ dnames s.dmodel := fun h => hm ((hasDerived_iff _ _).2 h)
    have ho : n ∈ dnames s.dobs := by
      rcases hk with h | h
      · exact absurd h hnm
      · exact h
    have ho' : hasDerived s.dobs n = true := (hasDerived_iff _ _).2 ho
    have := map_setCompute_not_mem s.dmodel n c hnm
    simp only [hm', Bool.false_eq_true, if_false, ho', if_true]
    unfold setCompute at this ⊢
    rw [this]

theorem withDerived_unknown (s : St String α) (n : String) (c : Bool) (hk : ¬ KnownD s n) :
    withDerived s n c = (s, .keyError) :=
  withDerived_not_mem s n c (fun h => hk (.inl h)) (fun h => hk (.inr h))

theorem DisjD_applyD {s : St String α} (h : DisjD s) (n : String) (c : Bool) : DisjD (applyD s n c) := by
  intro m hm
  simp only [applyD, dnames_setCompute] at hm ⊢
  exact h m hm

theorem KnownD_applyD (s : St String α) (n m : String) (c : Bool) : KnownD (applyD s n c) m ↔ KnownD s m := by
  simp [KnownD, applyD, dnames_setCompute]

def dkeys (drecs : List (String × Option (OptVal α))) : List String := drecs.map (·.1)

theorem getD_eq (d : List (String × Option (OptVal α))) (n : String) : FittingSection.getD d n = (Py.dget d n).join := by
  fun_induction FittingSection.getD d n <;> simp [Py.dget, *]

theorem updD_eq (d : List (String × Option (OptVal α))) (l : Line α) :
    updD d l = Py.dset d l.name (if l.opt = "compute" then some l.val else (Py.dget d l.name).join) := by
  fun_induction updD d l <;> simp [Py.dset, Py.dget, *]

theorem getD_none_of_not_mem (drecs : List (String × Option (OptVal α))) (n : String) (h : n ∉ dkeys drecs) :
    FittingSection.getD drecs n = none := by
  rw [getD_eq, Py.dget_eq_none_iff.2 h]; rfl

theorem nodup_deriveRecs : ∀ (ls : List (Line α)) (acc : List (String × Option (OptVal α))), (dkeys acc).Nodup →
    (dkeys (deriveRecs ls acc)).Nodup
  | [], _, h => h
  | l :: rest, acc, h => nodup_deriveRecs rest _ (by rw [updD_eq]; exact Py.nodup_dset l.name _ h)

theorem splitAll_none_of_bad : ∀ (ents : List (String × OptVal α)), (∃ kv ∈ ents, splitKey kv.1 = none) →
    splitAll ents = none := by
  intro ents h
  fun_induction splitAll ents with
  | case1 => obtain ⟨_, hkv, _⟩ := h; cases hkv
  | case2 k v rest a b ls hr hs ih =>
    obtain ⟨kv, hkv, hb⟩ := h
    rcases List.mem_cons.1 hkv with rfl | hkv
    · rw [hs] at hb; cases hb
    · rw [ih ⟨kv, hkv, hb⟩] at hr; cases hr
  | case3 => rfl

theorem splitAll_mem : ∀ (ents : List (String × OptVal α)) (ls : List (Line α)), splitAll ents = some ls →
    ∀ kv ∈ ents, ∀ a b, splitKey kv.1 = some (a, b) → (⟨a, b, kv.2⟩ : Line α) ∈ ls := by
  intro ents ls h x hx a b hsp
  fun_induction splitAll ents generalizing ls with
  | case1 => cases hx
  | case2 k v rest a' b' ls' hr hs ih =>
    cases h
    rcases List.mem_cons.1 hx with rfl | hx
    · rw [hs] at hsp; cases hsp; exact List.mem_cons_self
    · exact List.mem_cons_of_mem _ (ih ls' hr hx)
  | case3 => cases h

theorem getD_updD (acc : List (String × Option (OptVal α))) (l : Line α) (a : String) :
    FittingSection.getD (updD acc l) a =
      if l.name = a then (if l.opt = "compute" then some l.val else FittingSection.getD acc a) else FittingSection.getD acc a := by
  simp only [getD_eq, updD_eq, Py.dget_dset]
  split
  · next h => subst h; split <;> rfl
  · rfl

theorem mem_of_getD {drecs : List (String × Option (OptVal α))} {a : String} {v : OptVal α}
    (h : FittingSection.getD drecs a = some v) : (a, some v) ∈ drecs := by
  fun_induction FittingSection.getD drecs a with
  | case1 => cases h
  | case2 => subst h; exact List.mem_cons_self
  | case3 _ _ _ _ _ ih => exact List.mem_cons_of_mem _ (ih h)

/-- a parameter with a `name:compute` line has a compute value in the records -/
theorem deriveRecs_some : ∀ (ls : List (Line α)) (acc : List (String × Option (OptVal α))) (a : String),
    ((∃ l ∈ ls, l.opt = "compute" ∧ l.name = a) ∨ (FittingSection.getD acc a).isSome = true) →
    (FittingSection.getD (deriveRecs ls acc) a).isSome = true
  | [], _, _, h => h.elim (fun ⟨_, hl, _⟩ => nomatch hl) id
  | l :: rest, acc, a, h => by
    refine deriveRecs_some rest (updD acc l) a ?_
    rw [getD_updD]
    rcases h with ⟨x, hx, ho, hn⟩ | h
    · rcases List.mem_cons.1 hx with rfl | hx
      · right; simp [hn, ho]
      · exact .inl ⟨x, hx, ho, hn⟩
    · right; split
      · split
        · rfl
        · exact h
      · exact h

/-! ### one settings call on a known name rewrites that name's tuple in both tables (one of them does not hold it) -/

def applyEff (s : St String α) (n : String) (f : Param String α → Param String α) : St String α :=
  { s with model := modifyParam s.model n f, obs := modifyParam s.obs n f }

def Known (s : St String α) (n : String) : Prop := n ∈ names s.model ∨ n ∈ names s.obs

theorem withParam_known (s : St String α) (hw : WF s) (n : String) (f : Param String α → Param String α)
    (hk : Known s n) : withParam s n f = (applyEff s n f, .ok) := by
  unfold withParam ownerOf applyEff
  by_cases hm : hasName s.model n = true
  · have hno : n ∉ names s.obs := fun ho => hw.disj ho ((hasName_iff _ _).1 hm)
    simp [hm, table, setTable, modifyParam_not_mem s.obs n f hno]
  · have hm' : hasName s.model n = false := by simpa using hm
    have hnm : n ∉ names s.model := (hasName_false_iff _ _).1 hm'
    have ho : n ∈ names s.obs := by
      rcases hk with h | h
      · exact absurd h hnm
      · exact h
    have ho' : hasName s.obs n = true := (hasName_iff _ _).2 ho
    simp [hm', table, setTable, ho', modifyParam_not_mem s.model n f hnm]

theorem withParam_unknown (s : St String α) (n : String) (f : Param String α → Param String α)
    (hk : ¬ Known s n) : withParam s n f = (s, .keyError) :=
  withParam_not_mem s n f (fun h => hk (.inl h)) (fun h => hk (.inr h))

theorem hasName_owner_known (s : St String α) (n : String) (hk : Known s n) :
    hasName (table s (ownerOf s n)) n = true := by
  unfold ownerOf
  by_cases hm : hasName s.model n = true
  · simp [hm, table]
  · have hm' : hasName s.model n = false := by simpa using hm
    have hnm : n ∉ names s.model := (hasName_false_iff _ _).1 hm'
    rcases hk with h | h
    · exact absurd h hnm
    · simp [hm', table, (hasName_iff _ _).2 h]

theorem applyEff_names (s : St String α) (n : String) (f : Param String α → Param String α)
    (hf : ∀ p, (f p).name = p.name) : tableNames (applyEff s n f) = tableNames s := by
  simp [tableNames, applyEff, names_modifyParam _ _ _ hf]

theorem modifyParam_comp (ps : List (Param String α)) (n : String) (f g : Param String α → Param String α)
    (hf : ∀ p, (f p).name = p.name) : modifyParam (modifyParam ps n f) n g = modifyParam ps n (g ∘ f) := by
  unfold modifyParam
  rw [List.map_map]
  apply List.map_congr_left
  intro p _
  by_cases h : p.name = n
  · simp [h, hf]
  · simp [h]

theorem modifyParam_id (ps : List (Param String α)) (n : String) : modifyParam ps n id = ps :=
  (List.map_congr_left fun p _ => ite_self (id p)).trans (List.map_id _)

theorem applyEff_comp (s : St String α) (n : String) (f g : Param String α → Param String α)
    (hf : ∀ p, (f p).name = p.name) : applyEff (applyEff s n f) n g = applyEff s n (g ∘ f) := by
  simp [applyEff, modifyParam_comp _ _ _ _ hf]

theorem applyEff_id (s : St String α) (n : String) : applyEff s n id = s := by
  simp [applyEff, modifyParam_id]

theorem Known_of_tableNames {s s' : St String α} (h : tableNames s' = tableNames s) (n : String) :
    Known s' n ↔ Known s n := by
  simp only [tableNames, Prod.mk.injEq] at h
  unfold Known
  rw [h.1, h.2]

/-- what every settings call for `n` needs, and keeps -/
def Ready (s : St String α) (n : String) : Prop := WF s ∧ Known s n

theorem Ready.applyEff {s : St String α} {n : String} (h : Ready s n) (f : Param String α → Param String α)
    (hf : ∀ p, (f p).name = p.name) : Ready (applyEff s n f) n :=
  ⟨WF_of_tableNames (applyEff_names s n f hf) h.1, (Known_of_tableNames (applyEff_names s n f hf) n).2 h.2⟩

/-- `set_prior` on a known name -/
def withPrior (s : St String α) (n : String) : Option (Prior α) → St String α
  | none => s
  | some p => { s with userPriors := tset s.userPriors n p, fitPriors := tset s.fitPriors n p }

/-! ### a record as a rewrite of its parameter's tuple: one rewrite per stage, `describeParam` their composition; folded over
    the records of `[Fitting]` (`applyGrp`) and of `[Derive]` (`applyDs`) -/

def Fbnd (bo : PairOpt α) (p : Param String α) : Param String α :=
  match bo with
  | .pair a b => { p with b0 := a, b1 := b }
  | _ => p

def Fmode (mo : ModeOpt) (p : Param String α) : Param String α :=
  match mo with
  | .mode m => { p with mode := (parseMode m).getD p.mode }
  | _ => p

theorem Fbnd_name (bo : PairOpt α) (p : Param String α) : (Fbnd bo p).name = p.name := by cases bo <;> rfl
theorem Fmode_name (mo : ModeOpt) (p : Param String α) : (Fmode mo p).name = p.name := by cases mo <;> rfl

variable [LT α] [DecidableLT α] [OfNat α 0]

def Ffit (r : Rec α) (p : Param String α) : Param String α := { p with fit := truthy r.fit }

theorem Ffit_name (r : Rec α) (p : Param String α) : (Ffit r p).name = p.name := rfl

theorem recOps_eq (n : String) (r : Rec α) (ops : List (Op String α)) (h : recOps n r = some ops) :
    ops = fitOps n r ++ (factorOps n (pairOpt r.factor) ++ (boundsOps n (pairOpt r.bounds) ++
      (modeOps n (modeOpt r.mode) ++ priorOps n r.prior))) := by
  unfold recOps at h
  split at h
  · cases h
  · simp only [Option.some.injEq] at h
    rw [← h]
    simp [List.append_assoc]

/-- the derive loop: records without a `compute` value make no call -/
def applyDs (s : St String α) : List (String × Option (OptVal α)) → St String α
  | [] => s
  | (_, none) :: t => applyDs s t
  | (n, some v) :: t => applyDs (applyD s n (truthy v)) t

theorem applyDs_fields : ∀ (drecs : List (String × Option (OptVal α))) (s : St String α), (dkeys drecs).Nodup →
    (applyDs s drecs).dmodel = describeDerived drecs s.dmodel ∧ (applyDs s drecs).dobs = describeDerived drecs s.dobs ∧
    (applyDs s drecs).model = s.model ∧ (applyDs s drecs).obs = s.obs ∧ (applyDs s drecs).userPriors = s.userPriors := by
  intro drecs
  induction drecs with
  | nil =>
    intro s _
    simp [applyDs, describeDerived, FittingSection.getD]
  | cons nv t ih =>
    intro s hnd
    obtain ⟨n, ov⟩ := nv
    simp only [dkeys, List.map_cons, List.nodup_cons] at hnd
    have hnone : FittingSection.getD t n = none := getD_none_of_not_mem t n hnd.1
    have key : ∀ (c : Option (OptVal α)) (ds : List (Derived String)),
        describeDerived t (match c with | some v => ds.map (setCompute n (truthy v)) | none => ds) =
          describeDerived ((n, c) :: t) ds := by
      intro c ds
      cases c with
      | none =>
        unfold describeDerived
        apply List.map_congr_left
        intro d _
        by_cases hd : n = d.name
        · subst hd
          simp [FittingSection.getD, hnone]
        · simp [FittingSection.getD, hd]
      | some v =>
        unfold describeDerived
        rw [List.map_map]
        apply List.map_congr_left
        intro d _
        by_cases hd : d.name = n
        · simp [setCompute, hd, FittingSection.getD, hnone]
        · have hd' : ¬ n = d.name := fun e => hd e.symm
          simp [setCompute, hd, FittingSection.getD, hd']
    cases ov with
    | none =>
      obtain ⟨i1, i2, i3, i4, i5⟩ := ih s hnd.2
      simp only [applyDs]
      refine ⟨?_, ?_, i3, i4, i5⟩
      · rw [i1]; exact key none s.dmodel
      · rw [i2]; exact key none s.dobs
    | some v =>
      obtain ⟨i1, i2, i3, i4, i5⟩ := ih (applyD s n (truthy v)) hnd.2
      simp only [applyDs]
      refine ⟨?_, ?_, by rw [i3]; rfl, by rw [i4]; rfl, by rw [i5]; rfl⟩
      · rw [i1]; exact key (some v) s.dmodel
      · rw [i2]; exact key (some v) s.dobs

variable [Mul α]

def Ffac (fa : PairOpt α) (p : Param String α) : Param String α :=
  match fa with
  | .pair a b => { p with b0 := a * p.value, b1 := b * p.value }
  | _ => p

omit [LT α] [DecidableLT α] [OfNat α 0] in
theorem Ffac_name (fa : PairOpt α) (p : Param String α) : (Ffac fa p).name = p.name := by cases fa <;> rfl

theorem describeParam_eq (r : Rec α) (p : Param String α) :
    describeParam r p = Fmode (modeOpt r.mode) (Fbnd (pairOpt r.bounds) (Ffac (pairOpt r.factor) (Ffit r p))) := by
  -- the mode slot is independent of the bounds: settle it first, then the nine bounds/factor cases
  have hm : ∀ (mo : ModeOpt) (q : Param String α), Fmode mo q =
      { q with mode := match mo with | .mode s => (parseMode s).getD q.mode | _ => q.mode } := by
    intro mo q; cases mo <;> rfl
  rw [hm]
  unfold describeParam Fbnd Ffac Ffit
  cases pairOpt r.bounds <;> cases pairOpt r.factor <;> rfl

theorem describeParam_name (r : Rec α) (p : Param String α) : (describeParam r p).name = p.name := by
  rw [describeParam_eq, Fmode_name, Fbnd_name, Ffac_name, Ffit_name]

def applyRec (s : St String α) (n : String) (r : Rec α) : St String α :=
  withPrior (applyEff s n (describeParam r)) n r.prior

theorem applyRec_names (s : St String α) (n : String) (r : Rec α) : tableNames (applyRec s n r) = tableNames s := by
  unfold applyRec withPrior
  cases r.prior <;> exact applyEff_names s n _ (describeParam_name r)

theorem applyRec_fields (s : St String α) (n : String) (r : Rec α) :
    (applyRec s n r).model = modifyParam s.model n (describeParam r) ∧
    (applyRec s n r).obs = modifyParam s.obs n (describeParam r) ∧
    (applyRec s n r).dmodel = s.dmodel ∧ (applyRec s n r).dobs = s.dobs ∧
    (applyRec s n r).userPriors = (match r.prior with | some p => tset s.userPriors n p | none => s.userPriors) := by
  unfold applyRec withPrior applyEff
  cases r.prior <;> simp

def applyGrp (s : St String α) : List (String × Rec α) → St String α
  | [] => s
  | (n, r) :: t => applyGrp (applyRec s n r) t

theorem applyGrp_names : ∀ (grp : List (String × Rec α)) (s : St String α), tableNames (applyGrp s grp) = tableNames s := by
  intro grp
  induction grp with
  | nil => intro s; rfl
  | cons nr t ih =>
    intro s
    obtain ⟨n, r⟩ := nr
    simp only [applyGrp]
    rw [ih, applyRec_names]

theorem applyGrp_derived : ∀ (grp : List (String × Rec α)) (s : St String α),
    (applyGrp s grp).dmodel = s.dmodel ∧ (applyGrp s grp).dobs = s.dobs
  | [], _ => ⟨rfl, rfl⟩
  | (n, r) :: t, s => by
    obtain ⟨_, _, f3, f4, _⟩ := applyRec_fields s n r
    obtain ⟨i3, i4⟩ := applyGrp_derived t (applyRec s n r)
    exact ⟨i3.trans f3, i4.trans f4⟩

theorem DisjD_applyGrp {s : St String α} (h : DisjD s) (grp : List (String × Rec α)) : DisjD (applyGrp s grp) := by
  obtain ⟨f3, f4⟩ := applyGrp_derived grp s
  intro n hn
  rw [f3] at hn; rw [f4]
  exact h n hn

theorem describeTable_cons (n : String) (r : Rec α) (t : List (String × Rec α)) (hn : n ∉ gkeys t)
    (ps : List (Param String α)) :
    describeTable t (modifyParam ps n (describeParam r)) = describeTable ((n, r) :: t) ps := by
  unfold describeTable modifyParam
  rw [List.map_map]
  apply List.map_congr_left
  intro p _
  by_cases hp : p.name = n
  · simp [hp, describeParam_name, getRec, getRec_none_of_not_mem t n hn]
  · have hp' : ¬ n = p.name := fun e => hp e.symm
    simp [hp, getRec, hp']

variable [Transc α]

theorem modifyParam_congr (ps : List (Param String α)) (n : String) (f g : Param String α → Param String α)
    (h : ∀ p, f p = g p) : modifyParam ps n f = modifyParam ps n g := by
  have : f = g := funext h
  rw [this]

theorem describePriors_keys (grp : List (String × Rec α)) : ∀ k ∈ (describePriors grp).map (·.1), k ∈ gkeys grp := by
  intro k hk
  fun_induction describePriors grp with
  | case1 => cases hk
  | case2 n r t p hp ih =>
    rcases List.mem_cons.1 hk with rfl | hk
    · exact List.mem_cons_self
    · exact List.mem_cons_of_mem _ (ih hk)
  | case3 n r t hp ih => exact List.mem_cons_of_mem _ (ih hk)

theorem applyGrp_settings : ∀ (grp : List (String × Rec α)) (s : St String α), (gkeys grp).Nodup →
    (∀ k ∈ gkeys grp, k ∉ s.userPriors.map (·.1)) →
    (applyGrp s grp).model = describeTable grp s.model ∧ (applyGrp s grp).obs = describeTable grp s.obs ∧
    (applyGrp s grp).userPriors = s.userPriors ++ describePriors grp := by
  intro grp
  induction grp with
  | nil => intro s _ _; simp [applyGrp, describeTable, describePriors, getRec]
  | cons nr t ih =>
    intro s hnd hdis
    obtain ⟨n, r⟩ := nr
    simp only [gkeys, List.map_cons, List.nodup_cons] at hnd
    obtain ⟨f1, f2, _, _, f5⟩ := applyRec_fields s n r
    have hn : n ∉ s.userPriors.map (·.1) := hdis n List.mem_cons_self
    have hu : (applyRec s n r).userPriors = s.userPriors ++ describePriors [(n, r)] := by
      rw [f5]
      cases hp : r.prior with
      | none => simp [describePriors, hp]
      | some p => simp [describePriors, hp, tset_not_mem _ n p hn]
    obtain ⟨i1, i2, i5⟩ := ih (applyRec s n r) hnd.2 (fun k hk => by
      rw [hu, List.map_append, List.mem_append, not_or]
      refine ⟨hdis k (List.mem_cons_of_mem _ hk), fun hm => ?_⟩
      have := describePriors_keys [(n, r)] k hm
      simp only [gkeys, List.map_cons, List.map_nil, List.mem_singleton] at this
      exact hnd.1 (this ▸ hk))
    refine ⟨?_, ?_, ?_⟩
    · rw [applyGrp, i1, f1, describeTable_cons n r t hnd.1]
    · rw [applyGrp, i2, f2, describeTable_cons n r t hnd.1]
    · rw [applyGrp, i5, hu, List.append_assoc]
      cases hp : r.prior <;> simp [describePriors, hp]

/-! ### `runStop`: a sequence of calls that stops at the first error; `Block`: a sequence in which every call succeeds -/

theorem outOf_eq_ok {e : Out} : outOf e = .ok ↔ e = .ok := by
  cases e <;> simp [outOf]

theorem runStop_cons (s : St String α) (op : Op String α) (ops : List (Op String α)) :
    runStop s (op :: ops) =
      if (step s op).2 = .ok then
        ((runStop (step s op).1 ops).1, (runStop (step s op).1 ops).2.1, op :: (runStop (step s op).1 ops).2.2)
      else ((step s op).1, outOf (step s op).2, [op]) := by
  cases h : (step s op).2 <;> simp [runStop, h]

theorem runStop_cons_ok (s s' : St String α) (op : Op String α) (ops : List (Op String α)) (h : step s op = (s', .ok)) :
    runStop s (op :: ops) = ((runStop s' ops).1, (runStop s' ops).2.1, op :: (runStop s' ops).2.2) := by
  rw [runStop_cons, h, if_pos rfl]

theorem runStop_cons_err (s s' : St String α) (op : Op String α) (ops : List (Op String α)) (e : Out) (he : e ≠ .ok)
    (h : step s op = (s', e)) : runStop s (op :: ops) = (s', outOf e, [op]) := by
  rw [runStop_cons, h, if_neg he]

theorem runStop_append (l₁ : List (Op String α)) : ∀ (s : St String α) (l₂ : List (Op String α)),
    runStop s (l₁ ++ l₂) =
      if (runStop s l₁).2.1 = .ok then
        ((runStop (runStop s l₁).1 l₂).1, (runStop (runStop s l₁).1 l₂).2.1,
         (runStop s l₁).2.2 ++ (runStop (runStop s l₁).1 l₂).2.2)
      else runStop s l₁ := by
  induction l₁ with
  | nil => intro s l₂; simp [runStop]
  | cons op ops ih =>
    intro s l₂
    rw [List.cons_append, runStop_cons, runStop_cons]
    by_cases h : (step s op).2 = .ok
    · simp only [h, if_true, ih]
      split <;> rfl
    · simp only [h, if_false, outOf_eq_ok]

theorem runStop_append_err (l₁ : List (Op String α)) : ∀ (s : St String α) (l₂ : List (Op String α)),
    (runStop s l₁).2.1 ≠ .ok → (runStop s (l₁ ++ l₂)).2.1 ≠ .ok := by
  intro s l₂ h
  rw [runStop_append, if_neg h]
  exact h

theorem runStop_run : ∀ (ops : List (Op String α)) (s : St String α), (runStop s ops).1 = run s (runStop s ops).2.2
  | [], s => rfl
  | op :: ops, s => by
    rw [runStop_cons]
    split
    · exact runStop_run ops _
    · rfl

def Block (s : St String α) (l : List (Op String α)) (s' : St String α) : Prop :=
  (runStop s l).2.1 = .ok ∧ (runStop s l).1 = s'

theorem Block.nil (s : St String α) : Block s [] s := by simp [Block, runStop]

theorem Block.single (s s' : St String α) (op : Op String α) (h : step s op = (s', .ok)) : Block s [op] s' := by
  simp [Block, runStop, h]

theorem Block.then_out {s s₁ : St String α} {l₁ : List (Op String α)} (h₁ : Block s l₁ s₁) (l₂ : List (Op String α)) :
    (runStop s (l₁ ++ l₂)).2.1 = (runStop s₁ l₂).2.1 ∧ (runStop s (l₁ ++ l₂)).1 = (runStop s₁ l₂).1 := by
  rw [runStop_append, if_pos h₁.1, h₁.2]
  exact ⟨rfl, rfl⟩

theorem Block.append {s s₁ s₂ : St String α} {l₁ l₂ : List (Op String α)} (h₁ : Block s l₁ s₁) (h₂ : Block s₁ l₂ s₂) :
    Block s (l₁ ++ l₂) s₂ :=
  ⟨(h₁.then_out l₂).1.trans h₂.1, (h₁.then_out l₂).2.trans h₂.2⟩

theorem Block.eff_append {s s₂ : St String α} {n : String} {l₁ l₂ : List (Op String α)} {f : Param String α → Param String α}
    (hr : Ready s n) (hf : ∀ p, (f p).name = p.name) (h₁ : Block s l₁ (applyEff s n f))
    (h₂ : Ready (applyEff s n f) n → Block (applyEff s n f) l₂ s₂) : Block s (l₁ ++ l₂) s₂ :=
  h₁.append (h₂ (hr.applyEff f hf))

/-! ### the calls for one record of `[Fitting]`, stage by stage, and for the whole section (`rec_run`, `grp_run`) -/

theorem block_fit {s : St String α} {n : String} (hr : Ready s n) (r : Rec α) :
    Block s (fitOps n r) (applyEff s n (Ffit r)) := by
  unfold fitOps
  apply Block.single
  rw [show Ffit r = fun p : Param String α => { p with fit := truthy r.fit } from rfl]
  cases truthy r.fit <;> exact withParam_known s hr.1 n _ hr.2

theorem block_factor {s : St String α} {n : String} (hr : Ready s n) (fa : PairOpt α) :
    Block s (factorOps n fa) (applyEff s n (Ffac fa)) := by
  cases fa with
  | pair a b => exact Block.single _ _ _ (withParam_known s hr.1 n _ hr.2)
  | skip => rw [show applyEff s n (Ffac (PairOpt.skip : PairOpt α)) = s from applyEff_id s n]; exact Block.nil s
  | bad => rw [show applyEff s n (Ffac (PairOpt.bad : PairOpt α)) = s from applyEff_id s n]; exact Block.nil s

theorem block_bounds {s : St String α} {n : String} (hr : Ready s n) (bo : PairOpt α) :
    Block s (boundsOps n bo) (applyEff s n (Fbnd bo)) := by
  cases bo with
  | pair a b => exact Block.single _ _ _ (withParam_known s hr.1 n _ hr.2)
  | skip => rw [show applyEff s n (Fbnd (PairOpt.skip : PairOpt α)) = s from applyEff_id s n]; exact Block.nil s
  | bad => rw [show applyEff s n (Fbnd (PairOpt.bad : PairOpt α)) = s from applyEff_id s n]; exact Block.nil s

theorem step_setMode_known {s : St String α} {n : String} (hr : Ready s n) (m : String) :
    step s (.setMode n m) = match parseMode m with
      | none => (s, .valueError)
      | some md => (applyEff s n (fun p => { p with mode := md }), .ok) := by
  have h := hasName_owner_known s n hr.2
  cases hp : parseMode m with
  | none => simp [step, h, hp]
  | some md =>
    have := withParam_known s hr.1 n (fun p => { p with mode := md }) hr.2
    simp only [withParam, h, if_true] at this
    simp only [step, h, if_true, hp]
    exact this

def ModeValid (mo : ModeOpt) : Prop :=
  match mo with
  | .mode m => parseMode m ≠ none
  | _ => True

theorem block_mode {s : St String α} {n : String} (hr : Ready s n) (mo : ModeOpt) (hv : ModeValid mo) :
    Block s (modeOps n mo) (applyEff s n (Fmode mo)) := by
  cases mo with
  | mode m =>
    apply Block.single
    rw [step_setMode_known hr m]
    cases hp : parseMode m with
    | none => exact absurd hp hv
    | some md =>
      rw [show Fmode (ModeOpt.mode m) = fun p : Param String α => { p with mode := (parseMode m).getD p.mode } from rfl, hp]
      rfl
  | skip => rw [show applyEff s n (Fmode ModeOpt.skip) = s from applyEff_id s n]; exact Block.nil s
  | bad => rw [show applyEff s n (Fmode ModeOpt.bad) = s from applyEff_id s n]; exact Block.nil s

theorem mode_invalid_out {s : St String α} {n : String} (hr : Ready s n) (mo : ModeOpt) (hv : ¬ ModeValid mo)
    (rest : List (Op String α)) : (runStop s (modeOps n mo ++ rest)).2.1 = .valueError := by
  cases mo with
  | mode m =>
    have hp : parseMode m = none := by
      cases h : parseMode m with
      | none => rfl
      | some md => exact absurd (by simp [ModeValid, h]) hv
    have hs := step_setMode_known hr m
    rw [hp] at hs
    simp only [modeOps, List.cons_append, List.nil_append]
    rw [runStop_cons_err s s _ _ .valueError (by decide) hs]
    rfl
  | skip => exact absurd trivial hv
  | bad => exact absurd trivial hv

theorem block_prior {s : St String α} {n : String} (hr : Ready s n) (pr : Option (Prior α)) :
    Block s (priorOps n pr) (withPrior s n pr) := by
  cases pr with
  | none => exact Block.nil s
  | some p =>
    apply Block.single
    simp [step, hasName_owner_known s n hr.2, withPrior]

theorem rec_run (s : St String α) (hw : WF s) (n : String) (r : Rec α) (ops : List (Op String α))
    (h : recOps n r = some ops) (rest : List (Op String α)) :
    (¬ Known s n → (runStop s (ops ++ rest)).2.1 = .keyError ∧ (runStop s (ops ++ rest)).1 = s) ∧
    (Known s n → ¬ ModeValid (modeOpt r.mode) → (runStop s (ops ++ rest)).2.1 = .valueError) ∧
    (Known s n → ModeValid (modeOpt r.mode) → Block s ops (applyRec s n r)) := by
  rw [recOps_eq n r ops h]
  refine ⟨?_, ?_, ?_⟩
  · -- the first call, `enable_fit` or `disable_fit`, raises
    intro hk
    have hs : ∀ f : Param String α → Param String α, withParam s n f = (s, .keyError) :=
      fun f => withParam_unknown s n f hk
    simp only [fitOps, List.cons_append, List.nil_append]
    cases truthy r.fit <;> simp only [Bool.false_eq_true, if_false, if_true] <;>
      rw [runStop_cons_err s s _ _ .keyError (by decide) (by simp [step, hs])] <;> exact ⟨rfl, rfl⟩
  · -- fit flag, factor and bounds go through, `set_mode` raises
    intro hk hv
    have b123 : Block s (fitOps n r ++ (factorOps n (pairOpt r.factor) ++ boundsOps n (pairOpt r.bounds))) _ :=
      (block_fit ⟨hw, hk⟩ r).eff_append ⟨hw, hk⟩ (Ffit_name r) fun h1 =>
        (block_factor h1 _).append (block_bounds (h1.applyEff _ (Ffac_name _)) _)
    have h3 := ((Ready.applyEff ⟨hw, hk⟩ (Ffit r) (Ffit_name r)).applyEff (Ffac (pairOpt r.factor)) (Ffac_name _)).applyEff
      (Fbnd (pairOpt r.bounds)) (Fbnd_name _)
    have := (b123.then_out (modeOps n (modeOpt r.mode) ++ (priorOps n r.prior ++ rest))).1
    simp only [List.append_assoc] at this ⊢
    rw [this]
    exact mode_invalid_out h3 _ hv _
  · intro hk hv
    have hall := (block_fit ⟨hw, hk⟩ r).eff_append ⟨hw, hk⟩ (Ffit_name r) fun h1 =>
      (block_factor h1 (pairOpt r.factor)).eff_append h1 (Ffac_name _) fun h2 =>
        (block_bounds h2 (pairOpt r.bounds)).eff_append h2 (Fbnd_name _) fun h3 =>
          (block_mode h3 (modeOpt r.mode) hv).eff_append h3 (Fmode_name _) fun h4 => block_prior h4 r.prior
    -- the four rewrites of the tuple compose to `describeParam`
    have hst : applyEff (applyEff (applyEff (applyEff s n (Ffit r)) n (Ffac (pairOpt r.factor))) n (Fbnd (pairOpt r.bounds))) n
        (Fmode (modeOpt r.mode)) = applyEff s n (describeParam r) := by
      rw [applyEff_comp _ _ _ _ (Fbnd_name _), applyEff_comp _ _ _ _ (Ffac_name _), applyEff_comp _ _ _ _ (Ffit_name r)]
      congr 1
      funext p
      simp only [Function.comp_apply, describeParam_eq]
    rw [hst] at hall
    exact hall

theorem grp_run : ∀ (grp : List (String × Rec α)) (s : St String α) (ops : List (Op String α)), WF s →
    fittingOps grp = some ops → (runStop s ops).2.1 = .ok →
    (∀ nr ∈ grp, Known s nr.1 ∧ ModeValid (modeOpt nr.2.mode)) ∧ (runStop s ops).1 = applyGrp s grp := by
  intro grp
  induction grp with
  | nil =>
    intro s ops _ h _
    simp only [fittingOps, Option.some.injEq] at h
    subst h
    simp [runStop, applyGrp]
  | cons nr t ih =>
    intro s ops hw h hok
    obtain ⟨n, r⟩ := nr
    simp only [fittingOps] at h
    cases h1 : recOps n r with
    | none => simp [h1] at h
    | some a =>
      cases h2 : fittingOps t with
      | none => simp [h1, h2] at h
      | some b =>
        simp only [h1, h2, Option.some.injEq] at h
        subst h
        obtain ⟨r1, r2, r3⟩ := rec_run s hw n r a h1 b
        have hk : Known s n := Classical.byContradiction fun hk => by rw [(r1 hk).1] at hok; cases hok
        have hv : ModeValid (modeOpt r.mode) := Classical.byContradiction fun hv => by rw [r2 hk hv] at hok; cases hok
        obtain ⟨o1, o2⟩ := (r3 hk hv).then_out b
        have hn := applyRec_names s n r
        obtain ⟨j1, j2⟩ := ih (applyRec s n r) b (WF_of_tableNames hn hw) h2 (by rw [← o1]; exact hok)
        refine ⟨?_, by rw [o2, j2]; rfl⟩
        intro x hx
        rcases List.mem_cons.1 hx with rfl | hx
        · exact ⟨hk, hv⟩
        · exact ⟨(Known_of_tableNames hn x.1).1 (j1 x hx).1, (j1 x hx).2⟩

/-! ### the `[Derive]` loop: one `enable_derived` / `disable_derived` per record -/

theorem step_derived (s : St String α) (n : String) (v : OptVal α) :
    step s (if truthy v then Op.enableDerived n else Op.disableDerived n) = withDerived s n (truthy v) := by
  cases truthy v <;> rfl

theorem derive_run : ∀ (drecs : List (String × Option (OptVal α))) (s : St String α), DisjD s →
    (runStop s (deriveOps drecs)).2.1 = .ok →
    (∀ nv ∈ drecs, nv.2 ≠ none → KnownD s nv.1) ∧ (runStop s (deriveOps drecs)).1 = applyDs s drecs := by
  intro drecs
  induction drecs with
  | nil => intro s _ _; simp [deriveOps, runStop, applyDs]
  | cons nv t ih =>
    intro s hd hok
    obtain ⟨n, ov⟩ := nv
    cases ov with
    | none =>
      obtain ⟨j1, j2⟩ := ih s hd hok
      refine ⟨?_, j2⟩
      intro x hx hne
      rcases List.mem_cons.1 hx with rfl | hx
      · exact absurd rfl hne
      · exact j1 x hx hne
    | some v =>
      simp only [deriveOps, applyDs] at hok ⊢
      have hk : KnownD s n := Classical.byContradiction fun hk => by
        rw [runStop_cons_err s s _ _ .keyError (by decide) ((step_derived s n v).trans (withDerived_unknown s n _ hk))] at hok
        cases hok
      rw [runStop_cons_ok s _ _ _ ((step_derived s n v).trans (withDerived_known s hd n _ hk))] at hok ⊢
      obtain ⟨j1, j2⟩ := ih (applyD s n (truthy v)) (DisjD_applyD hd n _) hok
      refine ⟨?_, j2⟩
      intro x hx hne
      rcases List.mem_cons.1 hx with rfl | hx
      · exact hk
      · exact (KnownD_applyD s n x.1 _).1 (j1 x hx hne)

/-! ### the successful set-up as a whole (`setup_ok_settings`) -/

theorem setup_ok_stages (s : St String α) (hw : WF s) (hd : DisjD s)
    (fitting derive : List (String × OptVal α)) (hok : (setupOptimizer mkPrior s fitting derive).2.1 = .ok) :
    ∃ grp dl fops, parseFitting mkPrior fitting [] = .ok grp ∧ splitAll derive = some dl ∧ fittingOps grp = some fops ∧
      (runStop s fops).2.1 = .ok ∧
      (runStop (applyGrp s grp) (deriveOps (deriveRecs dl []))).2.1 = .ok ∧
      (setupOptimizer mkPrior s fitting derive).1 = applyDs (applyGrp s grp) (deriveRecs dl []) := by
  unfold setupOptimizer at hok ⊢
  cases hp : parseFitting mkPrior fitting [] with
  | error e =>
    simp only [hp] at hok
    rcases parseFitting_error mkPrior fitting [] e hp with rfl | rfl <;> cases hok
  | ok grp =>
    simp only [hp] at hok ⊢
    cases hf : fittingOps grp with
    | none => simp [hf] at hok
    | some fops =>
      simp only [hf] at hok ⊢
      cases hr : (runStop s fops).2.1 with
      | ok =>
        simp only [hr] at hok ⊢
        obtain ⟨_, hst⟩ := grp_run grp s fops hw hf hr
        cases hsd : splitAll derive with
        | none => simp [hsd] at hok
        | some dl =>
          simp only [hsd] at hok ⊢
          rw [hst] at hok ⊢
          have hd' : DisjD (applyGrp s grp) := DisjD_applyGrp hd grp
          exact ⟨grp, dl, fops, rfl, rfl, hf, hr, hok, (derive_run (deriveRecs dl []) (applyGrp s grp) hd' hok).2⟩
      | _ => simp [hr] at hok

/-- after a successful `setup_optimizer` on a state without user priors, the settings are the ones the sections describe -/
theorem setup_ok_settings (s : St String α) (hw : WF s) (hd : DisjD s)
    (hu : s.userPriors = []) (fitting derive : List (String × OptVal α))
    (hok : (setupOptimizer mkPrior s fitting derive).2.1 = .ok) :
    ∃ grp dl, parseFitting mkPrior fitting [] = .ok grp ∧ splitAll derive = some dl ∧
      settings (setupOptimizer mkPrior s fitting derive).1 = sectionSettings s grp (deriveRecs dl []) ∧
      WF (setupOptimizer mkPrior s fitting derive).1 := by
  obtain ⟨grp, dl, fops, hp, hsd, _, _, _, hst⟩ := setup_ok_stages mkPrior s hw hd fitting derive hok
  obtain ⟨a1, a2, a3, a4, a5⟩ := applyDs_fields (deriveRecs dl []) (applyGrp s grp) (nodup_deriveRecs dl [] (by simp [dkeys]))
  rw [hst]
  refine ⟨grp, dl, hp, hsd, ?_, ?_⟩
  · have hgn : (gkeys grp).Nodup := nodup_parseFitting mkPrior fitting [] grp (by simp [gkeys]) hp
    obtain ⟨g1, g2, g5⟩ := applyGrp_settings grp s hgn (by rw [hu]; intro k _; simp)
    obtain ⟨g3, g4⟩ := applyGrp_derived grp s
    simp only [settings, sectionSettings, a1, a2, a3, a4, a5, g1, g2, g3, g4, g5, hu, List.nil_append]
  · unfold WF
    rw [a3, a4]
    exact WF_of_tableNames (applyGrp_names grp s) hw

/-- the state `setup_optimizer` leaves is reached by a history of optimizer calls: the calls it made -/
theorem setup_run (s : St String α) (fitting derive : List (String × OptVal α)) :
    (setupOptimizer mkPrior s fitting derive).1 = run s (setupOptimizer mkPrior s fitting derive).2.2 := by
  unfold setupOptimizer
  cases parseFitting mkPrior fitting [] with
  | error e => rfl
  | ok grp =>
    simp only
    cases fittingOps grp with
    | none => rfl
    | some fops =>
      simp only
      cases ho : (runStop s fops).2.1 with
      | ok =>
        simp only
        cases splitAll derive with
        | none => exact runStop_run fops s
        | some dl =>
          simp only
          rw [run_append, ← runStop_run fops s]
          exact runStop_run _ _
      | _ => exact runStop_run fops s

end

end Taurex.C07
