/-
  The binning model is carrier-polymorphic and computable over `ℚ`; every function of it commutes with the embedding
  `ℚ → ℝ` (it uses the field operations and order tests only).  The lemmas below say so function by function, so that a
  statement about the real model on a table of rational numbers is transferred to the same statement over `ℚ`, where the
  kernel evaluates it (`decide +kernel`): this is how the concrete examples of Props/C05.lean and Props/C13.lean are checked.
  After the lemmas: the tables those examples of Props/C05.lean use (`nvRows`, `lin4`, `geo4`), each beside its rational form.
-/
import Proofs.C05Midpoint

namespace Taurex.Binning
open List Taurex.Interp

/-- a row with rational entries, read over the reals -/
def Row.toReal (r : Row ℚ) : Row ℝ := ⟨r.c, r.w, r.s, r.e⟩

theorem Row.lo_toReal (r : Row ℚ) : r.toReal.lo = (r.lo : ℚ) := by
  simp [Row.lo, Row.toReal]

theorem Row.hi_toReal (r : Row ℚ) : r.toReal.hi = (r.hi : ℚ) := by
  simp [Row.hi, Row.toReal]

theorem mn_cast (a b : ℚ) : mn (a : ℝ) (b : ℝ) = (mn a b : ℚ) := by
  simp only [mn, Rat.cast_le]; split <;> rfl

theorem mx_cast (a b : ℚ) : mx (a : ℝ) (b : ℝ) = (mx a b : ℚ) := by
  simp only [mx, Rat.cast_le]; split <;> rfl

theorem sumL_cast {β : Type} (f : β → ℚ) (l : List β) : sumL (l.map fun x => (f x : ℝ)) = (sumL (l.map f) : ℚ) := by
  induction l with
  | nil => simp [sumL]
  | cons x t ih => simp only [sumL, List.map_cons, List.foldr_cons] at ih ⊢; rw [ih, Rat.cast_add]

theorem overlap_cast (a b : ℚ) (r : Row ℚ) : overlap (a : ℝ) (b : ℝ) r.toReal = (overlap a b r : ℚ) := by
  simp only [overlap, Row.lo_toReal, Row.hi_toReal, mn_cast, mx_cast, ← Rat.cast_sub, ← Rat.cast_zero (α := ℝ)]

theorem searchRight_cast (l : List ℚ) (v : ℚ) : searchRight (l.map ((↑) : ℚ → ℝ)) (v : ℝ) = searchRight l v := by
  simp only [searchRight, List.countP_map, Function.comp_def, Rat.cast_le]

theorem getD_cast (l : List ℚ) (i : Nat) : (l.map ((↑) : ℚ → ℝ)).getD i 0 = (l.getD i 0 : ℚ) := by
  rw [← Rat.cast_zero, List.getD_map]

/-- a column of the real rows is the column of the rational rows, cast -/
theorem map_toReal (f : Row ℝ → ℝ) (g : Row ℚ → ℚ) (h : ∀ r, f r.toReal = g r) (rows : List (Row ℚ)) :
    (rows.map Row.toReal).map f = (rows.map g).map ((↑) : ℚ → ℝ) := by
  rw [List.map_map, List.map_map]
  exact List.map_congr_left fun r _ => h r

theorem map_c_toReal (rows : List (Row ℚ)) : (rows.map Row.toReal).map Row.c = (rows.map Row.c).map ((↑) : ℚ → ℝ) :=
  map_toReal Row.c Row.c (fun _ => rfl) rows

theorem window_cast (rows : List (Row ℚ)) (a b : ℚ) : window (rows.map Row.toReal) (a : ℝ) (b : ℝ) = window rows a b := by
  simp only [window, map_toReal Row.hi Row.hi Row.hi_toReal, map_toReal Row.lo Row.lo Row.lo_toReal, ← List.map_drop, searchRight_cast, getD_cast, Rat.cast_le,
    List.length_map]

theorem orderedBins_cast (rows : List (Row ℚ)) : OrderedBins (rows.map Row.toReal) ↔ OrderedBins rows := by
  simp only [OrderedBins, List.pairwise_map, Row.lo_toReal, Row.hi_toReal, Rat.cast_le]

theorem absv_cast (x : ℚ) : absv (x : ℝ) = (absv x : ℚ) := by
  simp only [absv, Rat.cast_lt, ← Rat.cast_zero (α := ℝ)]; split <;> simp

theorem diffs_cast : ∀ l : List ℚ, diffs (l.map ((↑) : ℚ → ℝ)) = (diffs l).map ((↑) : ℚ → ℝ)
  | [] | [_] => rfl
  | a :: b :: t => by simp only [List.map_cons, diffs, Rat.cast_sub, List.cons.injEq, true_and]; exact diffs_cast (b :: t)

theorem midEdges_cast : ∀ l : List ℚ, midEdges (l.map ((↑) : ℚ → ℝ)) = (midEdges l).map ((↑) : ℚ → ℝ)
  | [] | [_] => rfl
  | a :: b :: t => by
    simp only [List.map_cons, midEdges, List.cons.injEq]
    exact ⟨by push_cast; rfl, midEdges_cast (b :: t)⟩

theorem computeBinEdges_cast (g : List ℚ) :
    computeBinEdges (g.map ((↑) : ℚ → ℝ)) =
      ((computeBinEdges g).1.map ((↑) : ℚ → ℝ), (computeBinEdges g).2.map ((↑) : ℚ → ℝ)) := by
  have e : (computeBinEdges (g.map ((↑) : ℚ → ℝ))).1 = (computeBinEdges g).1.map ((↑) : ℚ → ℝ) := by
    simp only [computeBinEdges, getD_cast, midEdges_cast, List.length_map, List.map_cons, List.map_append, List.map_nil]
    push_cast; rfl
  refine Prod.ext e ?_
  show (diffs (computeBinEdges (g.map ((↑) : ℚ → ℝ))).1).map absv = ((diffs (computeBinEdges g).1).map absv).map _
  rw [e, diffs_cast, List.map_map, List.map_map]
  exact List.map_congr_left fun x _ => absv_cast x

theorem withWidths_cast (rows : List (Row ℚ)) (ws : List ℚ) :
    withWidths (rows.map Row.toReal) (ws.map ((↑) : ℚ → ℝ)) = (withWidths rows ws).map Row.toReal := by
  simp only [withWidths, List.zipWith_map_left, List.zipWith_map_right, List.map_zipWith]; rfl

theorem nativeBins_cast (e : Bool) (rows : List (Row ℚ)) :
    nativeBins e (rows.map Row.toReal) = (nativeBins e rows).map Row.toReal := by
  simp only [nativeBins, Gen.Np.sortBy_map_of Row.c Row.c Row.toReal _ fun _ _ _ _ => Rat.cast_le, map_c_toReal, computeBinEdges_cast,
    withWidths_cast]
  split <;> rfl

theorem sum_overlap_cast (rows : List (Row ℚ)) (a b : ℚ) :
    sumL ((rows.map Row.toReal).map (overlap (a : ℝ) (b : ℝ))) = (sumL (rows.map (overlap a b)) : ℚ) := by
  simp only [List.map_map, Function.comp_def, overlap_cast, sumL_cast]

theorem spacing_cast (l : List ℚ) (j : Nat) :
    spacing (l.map ((↑) : ℚ → ℝ)) j = ((l.getD (j + 1) 0 - l.getD j 0 : ℚ) : ℝ) := by
  rw [spacing, getD_cast, getD_cast, Rat.cast_sub]

theorem pairwise_lt_cast (l : List ℚ) : (l.map ((↑) : ℚ → ℝ)).Pairwise (· < ·) ↔ l.Pairwise (· < ·) := by
  simp only [List.pairwise_map, Rat.cast_lt]

end Taurex.Binning

namespace Taurex.C05
open Taurex.Binning List

/-- five contiguous native bins `[0.5,1.5] … [4.5,5.5]` carrying the values 10, 20, 30, 40, 50 -/
noncomputable def nvRows : List (Row ℝ) :=
  [⟨1, 1, 10, 1⟩, ⟨2, 1, 20, 1⟩, ⟨3, 1, 30, 2⟩, ⟨4, 1, 40, 1⟩, ⟨5, 1, 50, 3⟩]

/-- the same table over `ℚ`, where the model is evaluated -/
def nvRowsQ : List (Row ℚ) := [⟨1, 1, 10, 1⟩, ⟨2, 1, 20, 1⟩, ⟨3, 1, 30, 2⟩, ⟨4, 1, 40, 1⟩, ⟨5, 1, 50, 3⟩]

theorem nvRows_eq : nvRows = nvRowsQ.map Row.toReal := by
  simp [nvRows, nvRowsQ, Row.toReal]

theorem nvRows_ne : nvRows ≠ [] := List.cons_ne_nil _ _

theorem nvRows_ordered : OrderedBins nvRows := by
  rw [nvRows_eq, orderedBins_cast]
  unfold OrderedBins
  decide +kernel

theorem nvRows_widths : ∀ r ∈ nvRows, r.lo ≤ r.hi := by
  rw [nvRows_eq, List.forall_mem_map]
  simp only [Row.lo_toReal, Row.hi_toReal, Rat.cast_le]
  decide +kernel

/-- the target `[2, 4]` lies inside the native range -/
theorem nv_inside_pos : 0 < sumL (nvRows.map (overlap 2 4)) := by
  rw [nvRows_eq, ← Rat.cast_ofNat (n := 2), ← Rat.cast_ofNat (n := 4), sum_overlap_cast, Rat.cast_pos]
  decide +kernel

/-- the target `[4.5, 7.5]` straddles the upper end of the native range -/
theorem nv_straddle_pos : 0 < sumL (nvRows.map (overlap 4.5 7.5)) := by
  rw [nvRows_eq, show (4.5 : ℝ) = ((9 / 2 : ℚ) : ℝ) by norm_num, show (7.5 : ℝ) = ((15 / 2 : ℚ) : ℝ) by norm_num,
    sum_overlap_cast, Rat.cast_pos]
  decide +kernel

/-- the histogram binner's edges for the target points 4, 8, 12 -/
theorem nv_histEdges : histEdges ([4, 8, 12] : List ℝ) = [2, 6, 10, 14] := by
  simp only [histEdges, midPts, List.getD_cons_zero, List.getD_cons_succ, List.length_cons, List.length_nil,
    List.cons_append, List.nil_append]
  norm_num

/-- four points 1, 2, 3, 4 (linear, `d = 1`) and 1, 2, 4, 8 (geometric, `r = 2`), over `ℝ` and over `ℚ` -/
noncomputable def lin4 : List (Row ℝ) := [⟨1, 0, 10, 0⟩, ⟨2, 0, 20, 0⟩, ⟨3, 0, 30, 0⟩, ⟨4, 0, 40, 0⟩]
noncomputable def geo4 : List (Row ℝ) := [⟨1, 0, 10, 0⟩, ⟨2, 0, 20, 0⟩, ⟨4, 0, 30, 0⟩, ⟨8, 0, 40, 0⟩]
def lin4Q : List (Row ℚ) := [⟨1, 0, 10, 0⟩, ⟨2, 0, 20, 0⟩, ⟨3, 0, 30, 0⟩, ⟨4, 0, 40, 0⟩]
def geo4Q : List (Row ℚ) := [⟨1, 0, 10, 0⟩, ⟨2, 0, 20, 0⟩, ⟨4, 0, 30, 0⟩, ⟨8, 0, 40, 0⟩]

theorem lin4_eq : lin4 = lin4Q.map Row.toReal := by
  simp [lin4, lin4Q, Row.toReal]

theorem geo4_eq : geo4 = geo4Q.map Row.toReal := by
  simp [geo4, geo4Q, Row.toReal]

theorem lin4_spacing : ∀ i, i + 1 < (lin4.map Row.c).length → spacing (lin4.map Row.c) i = 1 := by
  rw [lin4_eq, map_c_toReal, List.length_map]
  intro i hi
  rw [spacing_cast, ← Rat.cast_one, Rat.cast_inj]
  match i, hi with
  | 0, _ | 1, _ | 2, _ => decide +kernel

theorem geo4_ratio : ∀ i, i + 1 < (geo4.map Row.c).length →
    (geo4.map Row.c).getD (i + 1) 0 = 2 * (geo4.map Row.c).getD i 0 := by
  rw [geo4_eq, map_c_toReal, List.length_map]
  intro i hi
  rw [getD_cast, getD_cast, ← Rat.cast_ofNat (n := 2), ← Rat.cast_mul, Rat.cast_inj]
  match i, hi with
  | 0, _ | 1, _ | 2, _ => decide +kernel

/-- the target `[2, 4]` overlaps the mid-point bins of both grids -/
theorem lin4_inside_pos : 0 < sumL ((nativeBins false lin4).map (overlap 2 4)) := by
  rw [lin4_eq, nativeBins_cast, ← Rat.cast_ofNat (n := 2), ← Rat.cast_ofNat (n := 4), sum_overlap_cast, Rat.cast_pos]
  decide +kernel

theorem geo4_inside_pos : 0 < sumL ((nativeBins false geo4).map (overlap 2 4)) := by
  rw [geo4_eq, nativeBins_cast, ← Rat.cast_ofNat (n := 2), ← Rat.cast_ofNat (n := 4), sum_overlap_cast, Rat.cast_pos]
  decide +kernel

end Taurex.C05
