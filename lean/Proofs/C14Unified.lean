/-
  C14 — HITRAN `.cia` files over an ordered field: the two properties of linear interpolation that Proofs/C14HitranCore.lean
  asks for (`interpLin_chain`, `interpLin_nonneg`), hence `decHitran = hitranUnified` and the non-negativity of the loaded table;
  a file written from a table is the case of one range without gaps (`decHitran_encHitran`).
  At a field `K` the classes of the core files are found by instance search: the operations and numerals from `Field K`; `<`, `≤`,
  their decidability and `DecidableEq K` from `LinearOrder K`; `Std.IsLinearOrder K`, `Std.LawfulOrderLT K` from `LinearOrder K`
  (Mathlib, Order/Defs/LinearOrder.lean and Order/Defs/PartialOrder.lean).
-/
import Mathlib.Tactic.FieldSimp
import Mathlib.Tactic.Ring
import Proofs.Convex
import Proofs.C14Loaders
import Proofs.C14HitranCore

namespace Taurex.Loaders
open Taurex.Interp

variable {K : Type} [Field K] [LinearOrder K] [IsStrictOrderedRing K]

/-- a value interpolated at `m` between `(a, u)` and `(b, v)` lies on their line -/
theorem interpLin_chain {K : Type} [Field K] (u v t m a b : K) (hab : a ≠ b) (hmb : m ≠ b) :
    interpLin (interpLin u v m a b) v t m b = interpLin u v t a b := by
  unfold interpLin
  have h1 : b - a ≠ 0 := sub_ne_zero.mpr (Ne.symm hab)
  have h2 : b - m ≠ 0 := sub_ne_zero.mpr (Ne.symm hmb)
  field_simp
  ring

/-- between `a` and `b` the interpolated value is the convex combination `(1 - s)·u + s·v`, `s = (t - a)/(b - a) ∈ [0, 1]` -/
theorem interpLin_nonneg {K : Type} [Field K] [LinearOrder K] [IsStrictOrderedRing K] {u v t a b : K} (hu : 0 ≤ u) (hv : 0 ≤ v)
    (h1 : a ≤ t) (h2 : t ≤ b) : 0 ≤ interpLin u v t a b := by
  rw [show interpLin u v t a b = (1 - (t - a) / (b - a)) * u + (t - a) / (b - a) * v by unfold interpLin; ring]
  exact Convex.le_combo hu hv (Convex.unit_of_bracket h1 h2).1 (Convex.unit_of_bracket h1 h2).2

/-! ### the notions of the statements in Props/C14.lean; over the raw carrier they are `SortedStrict`, `hKey`, `hWn`, `hEntry`,
  `rangeOf`, `UniqueHeads` of Proofs/C14HitranCore.lean -/

def StrictTs (ts : List (K × List K)) : Prop := ts.Pairwise (fun a b => a.1 < b.1)

/-- the hash key of a block: its `(start, end)` header -/
def bKey (b : HBlock K) : K × K := (b.wn0, b.wn1)
def bWn (b : HBlock K) : List K := b.pts.map (·.1)
/-- what a block contributes to its range: its temperature and its (scaled, clipped) cross-sections -/
def bEntry (b : HBlock K) : K × List K := (b.temp, b.pts.map (fun q => clipSigma q.2))
def rangeBlocks (blocks : List (HBlock K)) (k : K × K) : List (HBlock K) :=
  blocks.filter (fun b => decide (bKey b = k))

/-- no `(range, temperature)` pair occurs twice in the file -/
def UniqueBlocks (blocks : List (HBlock K)) : Prop :=
  (blocks.map (fun b => (bKey b, b.temp))).Nodup

theorem strictTs_iff {K : Type} [LinearOrder K] {ts : List (K × List K)} : StrictTs ts ↔ SortedStrict ts := Iff.rfl
theorem uniqueBlocks_iff {K : Type} {blocks : List (HBlock K)} : UniqueBlocks blocks ↔ UniqueHeads blocks := Iff.rfl
theorem bKey_eq {K : Type} : (bKey : HBlock K → K × K) = hKey := rfl
theorem bWn_eq {K : Type} : (bWn : HBlock K → List K) = hWn := rfl
omit [IsStrictOrderedRing K] in
theorem bEntry_eq : (bEntry : HBlock K → K × List K) = hEntry := rfl
theorem rangeBlocks_eq {K : Type} [LinearOrder K] : (rangeBlocks : List (HBlock K) → K × K → List (HBlock K)) = rangeOf := rfl

theorem decHitran_nonneg (blocks : List (HBlock K)) : ∀ row ∈ (decHitran blocks).x, ∀ v ∈ row, 0 ≤ v :=
  decHitran_nonneg_of (fun _ _ _ _ _ => interpLin_nonneg) blocks

omit [IsStrictOrderedRing K] in
theorem decHitran_unified (blocks : List (HBlock K)) (hu : UniqueBlocks blocks) :
    decHitran blocks = hitranUnified blocks :=
  decHitran_unified_of interpLin_chain blocks (uniqueBlocks_iff.1 hu)

/-! ### one wavenumber range: the written file loads to the table it was written from -/

/-- a file written from a table has one range and no gaps: its unified table is the table -/
theorem decHitran_encHitran (pair : String) (tab : CTab K) (hwf : tab.WF) (ht : tab.t ≠ [])
    (hts : tab.t.Pairwise (· < ·)) (hwn : tab.wn.Pairwise (· ≤ ·)) :
    decHitran (encHitran pair tab) = tab := by
  obtain ⟨hlen, hrows⟩ := hwf
  have hnd : tab.t.Nodup := hts.imp (fun h => ne_of_lt h)
  have hfst : (List.zip tab.t tab.x).map (·.1) = tab.t := List.map_fst_zip (by omega)
  have hsnd : (List.zip tab.t tab.x).map (·.2) = tab.x := List.map_snd_zip (by omega)
  -- the file: one block per (temperature, row)
  have hB : encHitran pair tab = (List.zip tab.t tab.x).map (fun p => hBlock pair tab p.1 p.2) := by
    rw [encHitran_eq, ← List.map_uncurry_zip_eq_zipWith]; rfl
  have hrow : ∀ p ∈ List.zip tab.t tab.x, p.2.length = tab.wn.length ∧ ∀ v ∈ p.2, 0 ≤ v :=
    fun p hp => hrows p.2 (List.of_mem_zip hp).2
  have hE : (encHitran pair tab).map hEntry = List.zip tab.t tab.x := by
    rw [hB, List.map_map]
    conv_rhs => rw [← List.map_id (List.zip tab.t tab.x)]
    exact List.map_congr_left (fun p hp => Prod.ext rfl (hBlock_sigma pair tab p.1 p.2 (hrow p hp).1 (hrow p hp).2))
  have hT : (encHitran pair tab).map (·.temp) = tab.t := by
    rw [← hfst, ← hE, List.map_map]; rfl
  have hne : encHitran pair tab ≠ [] := fun h0 => ht (by rw [← hT, h0]; rfl)
  have hu : UniqueHeads (encHitran pair tab) := by
    have : (((encHitran pair tab).map (fun b => (hKey b, b.temp))).map Prod.snd).Nodup := by
      rw [List.map_map]; exact hT ▸ hnd
    exact (List.pairwise_map.mp this).imp (fun h heq => h (congrArg Prod.snd heq))
  obtain ⟨g, hg, hgts, hgwn⟩ := hLoad_single (encHitran pair tab) (tab.wn.headD 0, tab.wn.getLastD 0) hne
    (fun b hb => by rw [hB] at hb; obtain ⟨p, _, rfl⟩ := List.mem_map.mp hb; rfl)
  have hgwn' : g.wn = tab.wn := by
    obtain ⟨b, hb⟩ := Option.ne_none_iff_exists'.mp (mt List.getLast?_eq_none_iff.mp hne)
    have hm := List.mem_of_getLast? hb
    rw [hB] at hm
    obtain ⟨p, hp, rfl⟩ := List.mem_map.mp hm
    rw [hgwn, hb]
    exact hBlock_wn pair tab p.1 p.2 (hrow p hp).1
  -- the master temperatures are the table's
  have htemps : (hLoad (encHitran pair tab)).1.mergeSort (fun a b => decide (a ≤ b)) = tab.t :=
    eq_of_strict_of_mem_iff (master_sorted _).1 hts (fun T => by
      rw [(master_sorted _).2 T, ← hT, List.mem_map])
  rw [decHitran_unified_of interpLin_chain _ hu, hitranUnified_eq, htemps, hg]
  unfold unifiedTable
  simp only [List.flatMap_singleton]
  rw [hgwn', argsort_of_sorted tab.wn hwn, gather_range, hgts, hE]
  -- every master temperature is one of the range's own: its documented row is the tabulated one
  have hown : SortedStrict (sortTs (List.zip tab.t tab.x)) := sortedStrict_of_sorted_nodup _ (sortTs_sorted _)
    ((((sortTs_perm _).map (·.1)).nodup_iff).mpr (by rw [hfst]; exact hnd))
  have hx : ∀ ts : List K, ts = (List.zip tab.t tab.x).map (·.1) →
      ts.map (fun T => gather (rangeRow tab.wn (sortTs (List.zip tab.t tab.x)) T) (List.range tab.wn.length)) = tab.x := by
    rintro _ rfl
    rw [List.map_map]
    refine (List.map_congr_left (fun p hp => ?_)).trans hsnd
    rw [Function.comp, rangeRow_of_mem tab.wn _ hown p ((sortTs_perm _).mem_iff.mpr hp), ← (hrow p hp).1, gather_range]
  rw [hx tab.t hfst.symm]
end Taurex.Loaders
