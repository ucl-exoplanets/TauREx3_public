/-
  Lemmas for the source ties of C01 / C03 / C19: closed forms of the loop shapes that `harness/translate_shaped.py`
  generates (point updates of a table inside nested `range` loops, lists built by `append`, loops left by `break`, tables
  filled row by row), congruence facts of the model functions of `TaurexModel/Transmission.lean`, and the loops of
  `path_integral` for any resolution of `contrib.contribute`.  Core Lean only, every carrier (no algebra).
-/
import Proofs.ListCore
import TaurexModel.Transmission
import Proofs.FoldCore
set_option linter.unusedSectionVars false

namespace Taurex.C01Src
open Taurex.Transmission

section loops
variable {α : Type} [Add α]

/-- `for wn in range(m): t[r, wn] += g wn` -/
theorem fold_point_row (r m : Nat) (g : Nat → α) (t : Nat → Nat → α) :
    (List.range' 0 m).foldl (fun (t : Nat → Nat → α) (wn : Nat) =>
        fun i j => if i = r ∧ j = wn then t r wn + g wn else t i j) t
      = fun i j => if i = r ∧ j < m then t r j + g j else t i j := by
  funext i j
  -- column `j` is written by pass `j` only
  rw [foldl_range'_slots (fun (t : Nat → Nat → α) j => t i j) _ t (fun j => if i = r then t r j + g j else t i j)
    (fun s wn j hj => if_neg fun h => hj h.2)
    (fun s wn h => by
      by_cases hi : i = r
      · subst hi; rw [if_pos ⟨rfl, rfl⟩, if_pos rfl, h]
      · rw [if_neg fun h => hi h.1, if_neg hi, h])
    j m 0 t fun _ _ => rfl]
  by_cases hi : i = r <;> simp [hi]

/-- the two nested loops of the numba kernels:
    `for k in range(s, s+c): for wn in range(m): t[r, wn] += g k wn` -/
theorem fold_kernel (r m s c : Nat) (g : Nat → Nat → α) (t : Nat → Nat → α) :
    (List.range' s c).foldl (fun (t : Nat → Nat → α) (k : Nat) =>
        (List.range' 0 m).foldl (fun (t : Nat → Nat → α) (wn : Nat) =>
          fun i j => if i = r ∧ j = wn then t r wn + g k wn else t i j) t) t
      = fun i j => if i = r ∧ j < m then (List.range' s c).foldl (fun acc k => acc + g k j) (t r j) else t i j := by
  funext i j
  simp only [fold_point_row]
  -- every pass acts on entry `(i, j)` alone
  rw [foldl_proj_mem _ (fun t : Nat → Nat → α => t i j) (fun a k => if i = r ∧ j < m then a + g k j else a) _
    (fun t k _ => by by_cases h : i = r ∧ j < m <;> simp [h])]
  split
  · next h => rw [h.1]
  · exact foldl_noop _ _ _ fun _ _ => rfl

end loops

theorem foldl_append_singleton {β : Type} (g : Nat → β) (n : Nat) (init : List β) :
    (List.range' 0 n).foldl (fun acc l => acc ++ [g l]) init = init ++ (List.range n).map g := by
  rw [foldl_append_map, List.range_eq_range']

/-! ### a loop left by `break` -/

/-- `for c in cs: if sat(t): break; t = step(c, t)` -/
def cutLoop {ι σ : Type} (sat : σ → Bool) (step : ι → σ → σ) : List ι → σ → σ
  | [], t => t
  | c :: cs, t => if sat t then t else cutLoop sat step cs (step c t)

theorem foldl_broken {ι σ : Type} (sat : σ → Bool) (step : ι → σ → σ) (cs : List ι) (t : σ) :
    cs.foldl (fun (st : σ × Bool) c =>
        if st.2 then (st.1, st.2) else if sat st.1 then (st.1, true) else (step c st.1, st.2)) (t, true) = (t, true) :=
  foldl_noop _ cs (t, true) fun _ _ => rfl

/-- the translator's encoding of a loop with `break` (state × flag) computes `cutLoop` -/
theorem foldl_break {ι σ : Type} (sat : σ → Bool) (step : ι → σ → σ) (cs : List ι) (t : σ) :
    (cs.foldl (fun (st : σ × Bool) c =>
        if st.2 then (st.1, st.2) else if sat st.1 then (st.1, true) else (step c st.1, st.2)) (t, false)).1
      = cutLoop sat step cs t := by
  induction cs generalizing t with
  | nil => rfl
  | cons c cs ih =>
    simp only [List.foldl_cons, cutLoop, Bool.false_eq_true, if_false]
    by_cases h : sat t = true
    · simp only [h, if_true]
      rw [foldl_broken]
    · simp only [h]
      exact ih (step c t)

theorem cutLoop_rel {ι σ τ : Type} (R : σ → τ → Prop) {sat : σ → Bool} {sat' : τ → Bool} {step : ι → σ → σ}
    {step' : ι → τ → τ} (hsat : ∀ t a, R t a → sat t = sat' a) (hstep : ∀ c t a, R t a → R (step c t) (step' c a))
    (cs : List ι) (t : σ) (a : τ) (h : R t a) : R (cutLoop sat step cs t) (cutLoop sat' step' cs a) := by
  induction cs generalizing t a with
  | nil => exact h
  | cons c cs ih =>
    simp only [cutLoop, ← hsat t a h]
    split
    · exact h
    · exact ih _ _ (hstep c t a h)

section model
variable {α : Type} [Add α] [Sub α] [Mul α] [Div α] [Neg α] [LT α] [LE α]
  [DecidableLT α] [DecidableLE α] [OfNat α 0] [OfNat α 1] [OfNat α 2] [OfNat α 10] [Transc α]

theorem tauCutFrom_eq_cutLoop (n nwn : Nat) (path dens : Nat → α) (l : Nat) (cs : List (Contrib α)) (acc : Nat → α) :
    tauCutFrom n nwn path dens l cs acc
      = cutLoop (saturated nwn) (fun c a => addContrib c n path dens l a) cs acc := by
  induction cs generalizing acc with
  | nil => rfl
  | cons c cs ih =>
    simp only [tauCutFrom, cutLoop]
    split
    · rfl
    · exact ih _

theorem saturated_congr (nwn : Nat) (a b : Nat → α) (h : ∀ wn < nwn, a wn = b wn) :
    saturated nwn a = saturated nwn b := by
  unfold saturated
  induction nwn with
  | zero => rfl
  | succ m ih =>
    rw [List.range_succ, List.all_append, List.all_append, ih (fun w hw => h w (Nat.lt_succ_of_lt hw))]
    simp only [List.all_cons, List.all_nil, h m (Nat.lt_succ_self m)]

theorem accFrom_congr (a : α) (n : Nat) (f g : Nat → α) (h : ∀ k < n, f k = g k) : accFrom a n f = accFrom a n g :=
  foldl_congr_mem _ _ _ a fun _ k hk => by rw [h k (List.mem_range.1 hk)]

theorem addContrib_congr (c : Contrib α) (n : Nat) (path dens : Nat → α) (l : Nat) (a b : Nat → α) (wn : Nat)
    (h : a wn = b wn) : addContrib c n path dens l a wn = addContrib c n path dens l b wn := by
  simp only [addContrib, h]

theorem addContrib_congr_path (c : Contrib α) (n : Nat) (path path' dens : Nat → α) (l : Nat) (a : Nat → α)
    (h : ∀ k < n - l, path k = path' k) : addContrib c n path dens l a = addContrib c n path' dens l a := by
  funext wn
  simp only [addContrib]
  apply accFrom_congr
  intro k hk
  unfold term
  unfold nTerms at hk
  cases hc : c.kind <;> simp only [hc] at hk ⊢
  · rw [h k hk]
  · rw [h k hk]

theorem tauCutFrom_congr (n nwn : Nat) (path dens : Nat → α) (l : Nat) (cs : List (Contrib α)) (a b : Nat → α)
    (h : ∀ wn < nwn, a wn = b wn) : ∀ wn < nwn, tauCutFrom n nwn path dens l cs a wn = tauCutFrom n nwn path dens l cs b wn := by
  rw [tauCutFrom_eq_cutLoop, tauCutFrom_eq_cutLoop]
  exact cutLoop_rel (fun a b : Nat → α => ∀ wn < nwn, a wn = b wn) (saturated_congr nwn)
    (fun c a b h w hw => addContrib_congr c n path dens l a b w (h w hw)) cs a b h

theorem tauCutFrom_congr_path (n nwn : Nat) (path path' dens : Nat → α) (l : Nat) (cs : List (Contrib α)) (a : Nat → α)
    (h : ∀ k < n - l, path k = path' k) : tauCutFrom n nwn path dens l cs a = tauCutFrom n nwn path' dens l cs a := by
  induction cs generalizing a with
  | nil => rfl
  | cons c cs ih =>
    simp only [tauCutFrom]
    rw [addContrib_congr_path c n path path' dens l a h]
    split
    · rfl
    · exact ih _

theorem depth_congr (rp rs : α) (n : Nat) (z dz tr tr' : Nat → α) (h : ∀ l < n, tr l = tr' l) :
    depth rp rs n z dz tr = depth rp rs n z dz tr' := by
  unfold depth
  rw [accFrom_congr 0 n (depthTerm rp z dz tr) (depthTerm rp z dz tr') (fun l hl => by unfold depthTerm; rw [h l hl])]

end model

/-- `for l in range(n): <update of row l that reads row l only>`; `m` is the column bound up to which the update is
    specified -/
theorem fold_layers {β : Type} (n m : Nat) (F : Nat → (Nat → Nat → β) → (Nat → Nat → β)) (T0 : Nat → Nat → β)
    (rowv : Nat → Nat → β)
    (hkeep : ∀ l T i j, i ≠ l → F l T i j = T i j)
    (hrow : ∀ l T, (∀ j, T l j = T0 l j) → ∀ j < m, F l T l j = rowv l j) :
    ∀ i j, (i < n → j < m → (List.range' 0 n).foldl (fun T l => F l T) T0 i j = rowv i j) ∧
           (n ≤ i → (List.range' 0 n).foldl (fun T l => F l T) T0 i j = T0 i j) := by
  induction n with
  | zero => intro i j; exact ⟨fun h => absurd h (Nat.not_lt_zero _), fun _ => rfl⟩
  | succ n ih =>
    intro i j
    rw [List.range'_1_concat, List.foldl_append]
    simp only [List.foldl_cons, List.foldl_nil, Nat.zero_add]
    constructor
    · intro hi hj
      by_cases hin : i = n
      · subst hin
        exact hrow i _ (fun j' => (ih i j').2 (Nat.le_refl _)) j hj
      · rw [hkeep n _ i j hin]
        exact (ih i j).1 (by omega) hj
    · intro hi
      rw [hkeep n _ i j (by omega)]
      exact (ih i j).2 (by omega)

/-! ### the loops of `TransmissionModel.path_integral`, for any resolution `D` of Python's `contrib.contribute(…)`

  The regenerated copies of `path_integral`, the kernels, `compute_path_length_old`, `parallel_vector` are the same text under
  the names `Gen.SrcC01.*`, `Gen.SrcC03.*`, `Gen.SrcC19.*`: the loops are treated here once, about the loop itself;
  `Props/C01Src.lean`, `Props/C03Src.lean`, `Props/C19Src.lean` each repeat, for their copy, the statements that name a
  regenerated function and what these are written with (`rows`, `dispatch` with `dispatch_row`, `chord_old/new`). -/

section integral
variable {α : Type} [Add α] [Sub α] [Mul α] [Div α] [Neg α] [LT α] [LE α]
  [DecidableLT α] [DecidableLE α] [OfNat α 0] [OfNat α 1] [OfNat α 2] [OfNat α 10] [Transc α]

/-- the kernels `contribute_tau` / `contribute_cia` as `path_integral` calls them (`startK = 0`, `endK = n - l`,
    `density_offset = l`) add the `term`s of the contribution of kind `lin` / `sq`: the new row is `addContrib` -/
theorem fold_kernel_call (c : Contrib α) (n l ngrid : Nat) (dens path : Nat → α) (tau : Nat → Nat → α) :
    (List.range' 0 (n - l - 0)).foldl (fun (t : Nat → Nat → α) (k : Nat) =>
        (List.range' 0 ngrid).foldl (fun (t : Nat → Nat → α) (wn : Nat) =>
          fun i j => if i = l ∧ j = wn then t l wn + term c path dens l wn k else t i j) t) tau
      = fun i j => if i = l ∧ j < ngrid then accFrom (tau l j) (n - l) (term c path dens l j) else tau i j := by
  rw [fold_kernel]
  simp only [accFrom, Nat.sub_zero, List.range_eq_range']

/-- what a resolution `D` of `contrib.contribute(model, 0, n - l, l, l, density, tau, path)` has to do: leave the other rows
    alone and add `addContrib` to row `l` (below the grid size `nwn`) -/
def RowCall (n nwn : Nat)
    (D : Contrib α → Nat → Nat → Nat → Nat → (Nat → α) → (Nat → Nat → α) → (Nat → α) → Nat → Nat → α) : Prop :=
  ∀ (c : Contrib α) (l : Nat) (dens path : Nat → α) (tau : Nat → Nat → α),
    (∀ i j, i ≠ l → D c 0 (n - l) l l dens tau path i j = tau i j) ∧
    (∀ j < nwn, D c 0 (n - l) l l dens tau path l j = addContrib c n path dens l (tau l) j)

theorem rowCall_of_kernel {l nwn : Nat} {tau f : Nat → Nat → α} {v : Nat → α}
    (hf : f = fun i j => if i = l ∧ j < nwn then v j else tau i j) :
    (∀ i j, i ≠ l → f i j = tau i j) ∧ (∀ j < nwn, f l j = v j) := by
  subst hf
  exact ⟨fun i j hi => if_neg fun h => hi h.1, fun j hj => if_pos ⟨rfl, hj⟩⟩

theorem rowCall_of_row {l nwn : Nat} {tau f : Nat → Nat → α} {v : Nat → α}
    (hf : f = fun i j => if i = l then v j else tau i j) :
    (∀ i j, i ≠ l → f i j = tau i j) ∧ (∀ j < nwn, f l j = v j) := by
  subst hf
  exact ⟨fun i j hi => if_neg hi, fun j _ => if_pos rfl⟩

variable {n nwn : Nat}
  {D : Contrib α → Nat → Nat → Nat → Nat → (Nat → α) → (Nat → Nat → α) → (Nat → α) → Nat → Nat → α}

theorem layer_loop_of (hD : RowCall n nwn D) (l : Nat) (dens path : Nat → α) (cs : List (Contrib α))
    (tau : Nat → Nat → α) :
    (∀ i j, i ≠ l →
      cutLoop (fun t : Nat → Nat → α => saturated nwn (t l)) (fun c t => D c 0 (n - l) l l dens t path) cs tau i j
        = tau i j) ∧
    (∀ j < nwn,
      cutLoop (fun t : Nat → Nat → α => saturated nwn (t l)) (fun c t => D c 0 (n - l) l l dens t path) cs tau l j
        = tauCutFrom n nwn path dens l cs (tau l) j) := by
  rw [tauCutFrom_eq_cutLoop]
  -- the table and the row walk through the same loop: the other rows stay, row `l` agrees with the row below `nwn`
  exact cutLoop_rel (fun (t : Nat → Nat → α) (a : Nat → α) => (∀ i j, i ≠ l → t i j = tau i j) ∧ ∀ j < nwn, t l j = a j)
    (fun t a h => saturated_congr nwn (t l) a h.2)
    (fun c t a h => ⟨fun i j hi => ((hD c l dens path t).1 i j hi).trans (h.1 i j hi),
      fun j hj => ((hD c l dens path t).2 j hj).trans (addContrib_congr c n path dens l (t l) a j (h.2 j hj))⟩)
    cs tau (tau l) ⟨fun _ _ _ => rfl, fun _ _ => rfl⟩

/-- the loop over the layers (the `break` in the translator's encoding) from the zero table, then `compute_absorption` -/
theorem path_integral_of (hD : RowCall n nwn D) (rp rs : α) (z dz dens : Nat → α) (paths : Nat → Nat → α)
    (cs : List (Contrib α)) :
    let T := (List.range' 0 n).foldl (fun (T : Nat → Nat → α) (l : Nat) =>
        (cs.foldl (fun (st : (Nat → Nat → α) × Bool) c =>
          if st.2 then (st.1, st.2) else if saturated nwn (st.1 l) then (st.1, true)
          else (D c 0 (n - l) l l dens st.1 (paths l), st.2)) (T, false)).1)
      (fun _ _ => (0 : α))
    (∀ l < n, ∀ wn < nwn, trans (T l wn) = trans (tauCut n nwn (paths l) dens l cs wn)) ∧
    (∀ wn < nwn, depth rp rs n z dz (fun l => trans (T l wn))
      = depth rp rs n z dz (fun l => trans (tauCut n nwn (paths l) dens l cs wn))) := by
  intro T
  have key : ∀ l wn, l < n → wn < nwn → T l wn = tauCut n nwn (paths l) dens l cs wn := by
    intro l wn hl hwn
    refine ((fold_layers n nwn _ (fun _ _ => (0 : α)) (fun l wn => tauCut n nwn (paths l) dens l cs wn) ?_ ?_) l wn).1 hl hwn
    · intro l T i j hi
      rw [foldl_break (fun t : Nat → Nat → α => saturated nwn (t l)) (fun c t => D c 0 (n - l) l l dens t (paths l))]
      exact (layer_loop_of hD l dens _ cs T).1 i j hi
    · intro l T hT j hj
      rw [foldl_break (fun t : Nat → Nat → α => saturated nwn (t l)) (fun c t => D c 0 (n - l) l l dens t (paths l)),
        (layer_loop_of hD l dens _ cs T).2 j hj]
      exact tauCutFrom_congr n nwn _ dens l cs _ _ (fun w _ => hT w) j hj
  exact ⟨fun l hl wn hwn => by rw [key l wn hl hwn],
    fun wn hwn => depth_congr rp rs n z dz _ _ fun l hl => by rw [key l wn hl hwn]⟩

theorem model_of_paths (newMethod : Bool) (n nwn : Nat) (rp rs : α) (zb z dz dens : Nat → α) (cs : List (Contrib α))
    (paths : Nat → Nat → α) (hp : ∀ l < n, ∀ k < n - l, paths l k = chord newMethod rp zb z dz l k)
    (r : (Nat → α) × (Nat → Nat → α))
    (h : (∀ l < n, ∀ wn < nwn, r.2 l wn = trans (tauCut n nwn (paths l) dens l cs wn)) ∧
      (∀ wn < nwn, r.1 wn = depth rp rs n z dz (fun l => trans (tauCut n nwn (paths l) dens l cs wn)))) :
    (∀ l < n, ∀ wn < nwn, r.2 l wn = modelTrans true newMethod rp n nwn zb z dz dens cs l wn) ∧
    (∀ wn < nwn, r.1 wn = modelDepth true newMethod rp rs n nwn zb z dz dens cs wn) := by
  have hc : ∀ l < n, tauCut n nwn (paths l) dens l cs = tauCut n nwn (chord newMethod rp zb z dz l) dens l cs :=
    fun l hl => tauCutFrom_congr_path n nwn _ _ dens l cs _ (hp l hl)
  refine ⟨fun l hl wn hwn => ?_, fun wn hwn => ?_⟩
  · rw [h.1 l hl wn hwn, hc l hl]
    simp only [modelTrans, if_true]
  · rw [h.2 wn hwn]
    simp only [modelDepth, modelTrans, if_true]
    exact depth_congr rp rs n z dz _ _ (fun l hl => by rw [hc l hl])

/-! ### `compute_path_length_old` -/

/-- `compute_path_length_old(dz)`: the list, layer by layer, of the chord segments `chordOld` (as whole functions of the
    segment index: also the slice arithmetic `k[1:] = …[layer+1:]`, `k[1:] -= …[layer:nLayers-1]` is matched) -/
theorem path_length_old_rows (n : Nat) (rp : α) (z dz : Nat → α) :
    (List.range' 0 (n - 0)).foldl (fun (dl : List (Nat → α)) (layer : Nat) =>
        let p := (let b__ := ((rp + ((dz 0) / (2 : α))) + (z layer)); b__ * b__)
        let k : Nat → α := fun i__ => (0 : α)
        let k : Nat → α := fun i__ => if i__ = 0 then (sqrt ((let b__ := (((rp + ((dz 0) / (2 : α))) + (z layer)) + ((dz layer) / (2 : α))); b__ * b__) - p)) else k i__
        let k : Nat → α := fun i__ => if 1 ≤ i__ then (sqrt ((let b__ := (((rp + ((dz 0) / (2 : α))) + (z ((layer + 1) + (i__ - 1)))) + ((dz ((layer + 1) + (i__ - 1))) / (2 : α))); b__ * b__) - p)) else k i__
        let k : Nat → α := fun i__ => if 1 ≤ i__ then ((k i__) - (sqrt ((let b__ := (((rp + ((dz 0) / (2 : α))) + (z (layer + (i__ - 1)))) + ((dz (layer + (i__ - 1))) / (2 : α))); b__ * b__) - p))) else k i__
        dl ++ [fun i__ => ((k i__) * (2 : α))]) ([] : List (Nat → α))
      = (List.range n).map (fun l => chordOld rp z dz l) := by
  simp only [Nat.sub_zero]
  rw [foldl_append_singleton]
  simp only [List.nil_append]
  congr 1
  funext l k
  unfold chordOld oldHalf oldMid oldP Transmission.sq
  cases k with
  | zero => simp
  | succ k =>
    have e3 : l + 1 + k = l + (k + 1) := by omega
    simp [e3]

/-- the slices combined element-wise in `compute_path_length_old` have equal lengths -/
theorem path_length_old_shapes (nL : Nat) :
    (∀ layer : Nat, 0 ≤ layer → layer < nL → ∀ (_ : List (Nat → α)), (nL - (layer + 1)) = ((nL - layer) - 1)) ∧
    (∀ layer : Nat, 0 ≤ layer → layer < nL → ∀ (_ : List (Nat → α)), (nL - 1) ≤ nL) ∧
    (∀ layer : Nat, 0 ≤ layer → layer < nL → ∀ (_ : List (Nat → α)), ((nL - 1) - layer) = ((nL - layer) - 1)) :=
  ⟨fun _ _ _ _ => Nat.sub_add_eq _ _ _, fun _ _ _ _ => Nat.sub_le _ _, fun _ _ _ _ => Nat.sub_right_comm _ _ _⟩

end integral

/-! ### `(3, n)` arrays of column vectors (the geometry ties of `Props/C01Src.lean`) -/

/-- an operation applied row by row to `(3, n)` arrays whose rows are selected by `if r = 1 … else if r = 0 … else …` -/
theorem ite3_map₂ {α : Type} (f : α → α → α) (c : Nat) (x₁ y₁ z₁ x₂ y₂ z₂ : α) :
    (if c = 1 then f y₁ y₂ else if c = 0 then f x₁ x₂ else f z₁ z₂)
      = f (if c = 1 then y₁ else if c = 0 then x₁ else z₁) (if c = 1 then y₂ else if c = 0 then x₂ else z₂) := by
  split
  · rfl
  · split <;> rfl

end Taurex.C01Src
