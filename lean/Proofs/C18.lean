/-
  The streaming / pooled weighted variance over ℝ.  Everything is said through the weighted power sums `S0 S1 S2` of a
  sample list (additive over `++`, invariant under permutation) and `R A` (sum of squared deviations from `A`):
  West's update keeps `mean · S0 = S1`, `M2 = S2 − mean · S1` (`accOf_west`); a rank's accumulators against its samples are
  the relation `Summ`; both loops of `combine_variance` add an additive statistic to an accumulator that is `None` until the
  first non-empty rank (`pool`, `pool_append`), whence `pooledVariance_of_perm`: the pooled result depends on the multiset
  of samples only.  Last: which samples `sample_parameters` yields.
-/
import Proofs.RealInst
import Proofs.ListCore
import Proofs.C18Steps
import Mathlib.Tactic.Linarith
import Mathlib.Tactic.Ring
import Mathlib.Algebra.BigOperators.Group.List.Basic
import Mathlib.Algebra.Order.Archimedean.Real.Basic

namespace Taurex.Variance
open Taurex

/-! ### weighted power sums of a sample list `(value, weight)` -/

noncomputable def S0 (l : List (ℝ × ℝ)) : ℝ := (l.map (fun p => p.2)).sum
noncomputable def S1 (l : List (ℝ × ℝ)) : ℝ := (l.map (fun p => p.2 * p.1)).sum
noncomputable def S2 (l : List (ℝ × ℝ)) : ℝ := (l.map (fun p => p.2 * (p.1 * p.1))).sum

@[simp] theorem S0_nil : S0 [] = 0 := rfl
@[simp] theorem S1_nil : S1 [] = 0 := rfl
@[simp] theorem S2_nil : S2 [] = 0 := rfl
@[simp] theorem S0_cons (a : ℝ × ℝ) (l) : S0 (a :: l) = a.2 + S0 l := by simp [S0]
@[simp] theorem S1_cons (a : ℝ × ℝ) (l) : S1 (a :: l) = a.2 * a.1 + S1 l := by simp [S1]
@[simp] theorem S2_cons (a : ℝ × ℝ) (l) : S2 (a :: l) = a.2 * (a.1 * a.1) + S2 l := by simp [S2]
theorem S0_append (p q : List (ℝ × ℝ)) : S0 (p ++ q) = S0 p + S0 q := by simp [S0]
theorem S1_append (p q : List (ℝ × ℝ)) : S1 (p ++ q) = S1 p + S1 q := by simp [S1]
theorem S2_append (p q : List (ℝ × ℝ)) : S2 (p ++ q) = S2 p + S2 q := by simp [S2]

theorem S0_perm {p q : List (ℝ × ℝ)} (h : p.Perm q) : S0 p = S0 q := (h.map _).sum_eq
theorem S1_perm {p q : List (ℝ × ℝ)} (h : p.Perm q) : S1 p = S1 q := (h.map _).sum_eq
theorem S2_perm {p q : List (ℝ × ℝ)} (h : p.Perm q) : S2 p = S2 q := (h.map _).sum_eq

theorem S0_pos {l : List (ℝ × ℝ)} (hne : l ≠ []) (hpos : ∀ p ∈ l, 0 < p.2) : 0 < S0 l :=
  List.sum_pos _ (List.forall_mem_map.2 hpos) (mt List.map_eq_nil_iff.1 hne)

theorem sumBy_eq (f : ℝ × ℝ → ℝ) (l : List (ℝ × ℝ)) : sumBy f l = (l.map f).sum := by
  rw [List.sum_eq_foldl, List.foldl_map]; rfl

theorem wsum_eq (l : List (ℝ × ℝ)) : wsum l = S0 l := by
  unfold wsum; rw [sumBy_eq]; rfl

theorem wmean_eq (l : List (ℝ × ℝ)) : wmean l = S1 l / S0 l := by
  unfold wmean; rw [wsum_eq, sumBy_eq]; rfl

/-- sum of squared deviations from `A`, via the power sums -/
noncomputable def R (A : ℝ) (l : List (ℝ × ℝ)) : ℝ := S2 l - 2 * A * S1 l + A * A * S0 l

theorem sum_sq_dev (c : ℝ) (l : List (ℝ × ℝ)) : (l.map (fun p => p.2 * ((p.1 - c) * (p.1 - c)))).sum = R c l := by
  unfold R
  induction l with
  | nil => simp
  | cons a l ih => simp only [List.map_cons, List.sum_cons, ih, S0_cons, S1_cons, S2_cons]; ring

theorem twoPassVar_eq (l : List (ℝ × ℝ)) : twoPassVar l = R (S1 l / S0 l) l / S0 l := by
  unfold twoPassVar
  rw [wsum_eq, sumBy_eq, wmean_eq, sum_sq_dev]

theorem twoPassVar_perm {p q : List (ℝ × ℝ)} (h : p.Perm q) : twoPassVar p = twoPassVar q := by
  rw [twoPassVar_eq, twoPassVar_eq, R, R, S0_perm h, S1_perm h, S2_perm h]

theorem wmean_perm {p q : List (ℝ × ℝ)} (h : p.Perm q) : wmean p = wmean q := by
  rw [wmean_eq, wmean_eq, S0_perm h, S1_perm h]

/-! ### West's update -/

/-- every non-empty prefix has positive total weight: what keeps `weight / self.wcount` defined along the stream -/
def PosPrefix (l : List (ℝ × ℝ)) : Prop := ∀ k, 0 < k → k ≤ l.length → 0 < S0 (l.take k)

theorem posPrefix_of_pos {l : List (ℝ × ℝ)} (h : ∀ p ∈ l, 0 < p.2) : PosPrefix l := by
  intro k hk hkl
  apply S0_pos
  · intro hnil
    have : (l.take k).length = 0 := by rw [hnil]; rfl
    rw [List.length_take] at this
    omega
  · intro p hp; exact h p (List.mem_of_mem_take hp)

theorem PosPrefix.init {l : List (ℝ × ℝ)} {a : ℝ × ℝ} (h : PosPrefix (l ++ [a])) : PosPrefix l := by
  intro k hk hkl
  have := h k hk (by simp; omega)
  rwa [List.take_append_of_le_length hkl] at this

theorem PosPrefix.total {l : List (ℝ × ℝ)} (h : PosPrefix l) (hne : l ≠ []) : 0 < S0 l := by
  have := h l.length (List.length_pos_iff.2 hne) (le_refl _)
  rwa [List.take_length] at this

theorem accOf_snoc (l : List (ℝ × ℝ)) (a : ℝ × ℝ) : accOf (l ++ [a]) = update (accOf l) a.1 a.2 := by
  simp [accOf, List.foldl_append]

/-- The invariant of `OnlineVariance.update` (West 1979), division-free: `mean · Σw = Σwx` and
    `M2 = Σwx² − mean · Σwx`.  It also holds of the empty stream (all zero), and while `count = 0` the `None`
    mean and M2 are read as `value*0 = 0`, which is what the accumulators hold. -/
theorem accOf_west (l : List (ℝ × ℝ)) (h : PosPrefix l) :
    (accOf l).count = l.length ∧ (accOf l).wcount = S0 l ∧ (accOf l).mean * S0 l = S1 l ∧
      (accOf l).m2 = S2 l - (accOf l).mean * S1 l := by
  induction l using List.reverseRecOn with
  | nil => exact ⟨rfl, rfl, by rw [S0_nil, S1_nil, mul_zero], by rw [S1_nil, S2_nil, mul_zero, sub_zero]; rfl⟩
  | append_singleton l a ih =>
    obtain ⟨hc, hw, hm, hm2⟩ := ih h.init
    have hW : S0 l + a.2 ≠ 0 := by
      have := h.total (l := l ++ [a]) (by simp)
      rw [S0_append, S0_cons, S0_nil, add_zero] at this
      exact this.ne'
    have hold : ∀ v : ℝ, ((accOf l).count = 0 → v = 0) → (if (accOf l).count = 0 then a.1 * 0 else v) = v := by
      intro v hv
      split
      · next h0 => rw [hv h0, mul_zero]
      · rfl
    have hnil : (accOf l).count = 0 → l = [] := fun h0 => List.length_eq_zero_iff.1 (hc ▸ h0)
    have e1 := hold (accOf l).mean (fun h0 => by rw [hnil h0]; rfl)
    have e2 := hold (accOf l).m2 (fun h0 => by rw [hnil h0]; rfl)
    rw [accOf_snoc]
    simp only [update, e1, e2, hw, S0_append, S1_append, S2_append, S0_cons, S1_cons, S2_cons, S0_nil, S1_nil, S2_nil,
      add_zero, List.length_append, List.length_singleton, true_and]
    have hq : a.2 / (S0 l + a.2) * (S0 l + a.2) = a.2 := div_mul_cancel₀ _ hW
    have hmean : ((accOf l).mean + a.2 / (S0 l + a.2) * (a.1 - (accOf l).mean)) * (S0 l + a.2) = S1 l + a.2 * a.1 := by
      linear_combination hm + (a.1 - (accOf l).mean) * hq
    refine ⟨by rw [hc], hmean, ?_⟩
    linear_combination hm2 - ((accOf l).mean + a.2 / (S0 l + a.2) * (a.1 - (accOf l).mean)) * hm + (accOf l).mean * hmean

theorem accOf_nil : accOf ([] : List (ℝ × ℝ)) = ⟨0, 0, 0, 0⟩ := rfl

/-! ### possibly-NaN arithmetic and the float test `cnt == 0`, at numbers -/

@[simp] theorem vadd_fin (a b : ℝ) : vadd (Val.fin a) (Val.fin b) = Val.fin (a + b) := rfl
@[simp] theorem vsub_fin (a b : ℝ) : vsub (Val.fin a) (Val.fin b) = Val.fin (a - b) := rfl
@[simp] theorem vmul_fin (a b : ℝ) : vmul (Val.fin a) (Val.fin b) = Val.fin (a * b) := rfl
@[simp] theorem vdiv_fin (a b : ℝ) : vdiv (Val.fin a) (Val.fin b) = Val.fin (a / b) := rfl

theorem beq_zero_iff (x : ℝ) : (x == 0) = true ↔ x = 0 := beq_iff_eq

/-! ### one rank's accumulators versus its samples -/

/-- the accumulators `a` are those of a rank that has streamed the samples `p` (mean and M2 mean nothing while `p = []`) -/
structure Summ (a : Acc ℝ) (p : List (ℝ × ℝ)) : Prop where
  count : a.count = p.length
  wcount : a.wcount = S0 p
  pos : p ≠ [] → 0 < S0 p
  mean : p ≠ [] → a.mean = S1 p / S0 p
  m2 : p ≠ [] → a.m2 = S2 p - S1 p * S1 p / S0 p

theorem summ_accOf {p : List (ℝ × ℝ)} (hpos : ∀ x ∈ p, 0 < x.2) : Summ (accOf p) p := by
  obtain ⟨h1, h2, h3, h4⟩ := accOf_west p (posPrefix_of_pos hpos)
  have hmean : p ≠ [] → (accOf p).mean = S1 p / S0 p := fun hne => eq_div_of_mul_eq (S0_pos hne hpos).ne' h3
  exact ⟨h1, h2, fun hne => S0_pos hne hpos, hmean, fun hne => by rw [h4, hmean hne, div_mul_eq_mul_div]⟩

theorem summ_forall {parts : List (List (ℝ × ℝ))} (hpos : ∀ part ∈ parts, ∀ x ∈ part, 0 < x.2) :
    List.Forall₂ Summ (parts.map accOf) parts := by
  induction parts with
  | nil => exact List.Forall₂.nil
  | cons p ps ih =>
    exact List.Forall₂.cons (summ_accOf (hpos p (by simp))) (ih (fun q hq => hpos q (by simp [hq])))

/-- what an exchange may do to a float object: keep the value, never create the `np.nan` identity -/
structure Exchange (exch : Obj ℝ → Obj ℝ) : Prop where
  val : ∀ o, (exch o).val = o.val
  ident : ∀ o, (exch o).isNpNan = true → o.isNpNan = true

theorem exchange_ser : Exchange (ser : Obj ℝ → Obj ℝ) := ⟨fun _ => rfl, fun _ h => by simp [ser] at h⟩
theorem exchange_id : Exchange (id : Obj ℝ → Obj ℝ) := ⟨fun _ => rfl, fun _ h => h⟩

/-! ### the two loops of `combine_variance`

  Both loops add, rank by rank, a statistic that is additive in the samples (`Σwx`; the sum of squared deviations from the
  pooled mean) to an accumulator that is `None` until the first non-empty rank: `pool`. -/

/-- the gathered lists, as functions of the ranks' accumulators -/
noncomputable def avgsOf (exch : Obj ℝ → Obj ℝ) (ranks : List (Acc ℝ)) : List (Obj ℝ) := ranks.map (fun a => exch (meanObj a))
noncomputable def varsOf (exch : Obj ℝ → Obj ℝ) (ranks : List (Acc ℝ)) : List (Obj ℝ) := ranks.map (fun a => exch (variance a))
noncomputable def cntsOf (ranks : List (Acc ℝ)) : List ℝ := ranks.map (·.wcount)

/-- the accumulator `o` (`None` or a number) after a rank with the samples `p`: an empty rank is skipped -/
noncomputable def pool (f : List (ℝ × ℝ) → ℝ) (o : Option ℝ) (p : List (ℝ × ℝ)) : Option ℝ :=
  if p = [] then o else some (o.getD 0 + f p)

theorem pool_append {f : List (ℝ × ℝ) → ℝ} (hf : ∀ p q, f (p ++ q) = f p + f q) (o : Option ℝ) (p q : List (ℝ × ℝ)) :
    pool f (pool f o p) q = pool f o (p ++ q) := by
  unfold pool
  by_cases hp : p = []
  · rw [if_pos hp, hp, List.nil_append]
  · by_cases hq : q = []
    · rw [if_pos hq, hq, List.append_nil]
    · rw [if_neg hp, if_neg hq, if_neg (by simp [hp]), Option.getD_some, hf, add_assoc]

theorem accAdd_fin (o : Option ℝ) (t : ℝ) : accAdd (o.map Val.fin) (Val.fin t) = Val.fin (o.getD 0 + t) := by
  cases o with
  | none => exact congrArg Val.fin (zero_add t).symm
  | some s => rfl

theorem R_append (A : ℝ) (p q : List (ℝ × ℝ)) : R A (p ++ q) = R A p + R A q := by
  simp only [R, S0_append, S1_append, S2_append]; ring

theorem meanObj_of_summ {a : Acc ℝ} {p} (h : Summ a p) (hne : p ≠ []) : meanObj a = Obj.ofNum (S1 p / S0 p) := by
  have hc : a.count ≠ 0 := by rw [h.count]; exact fun h0 => hne (List.length_eq_zero_iff.1 h0)
  rw [meanObj, if_neg hc, h.mean hne]

theorem variance_of_summ {a : Acc ℝ} {p} (h : Summ a p) :
    variance a = if p.length < 2 then npNan else Obj.ofNum (a.m2 / a.wcount) := by
  unfold variance; rw [h.count]

/-- what one non-empty rank adds to `squares`: the between-rank term `cnt*(average - avg)**2` and, with at least two
    samples, the within-rank `cnt*var`; a rank with one sample has no within-rank spread, so nothing is lost there -/
theorem rank_term {a : Acc ℝ} {p} (h : Summ a p) (hne : p ≠ []) (A : ℝ) :
    S0 p * ((A - S1 p / S0 p) * (A - S1 p / S0 p)) + (if p.length < 2 then 0 else S0 p * (a.m2 / S0 p)) = R A p := by
  have hc : S1 p / S0 p * S0 p = S1 p := div_mul_cancel₀ _ (h.pos hne).ne'
  have hm2 : S0 p * (a.m2 / S0 p) = S2 p - S1 p / S0 p * S1 p := by
    rw [mul_div_cancel₀ _ (h.pos hne).ne', h.m2 hne, div_mul_eq_mul_div]
  unfold R
  generalize S1 p / S0 p = c at hc hm2 ⊢
  split
  · next hlt =>
    match p, hne, hlt with
    | [x], _, _ =>
      simp only [S0_cons, S1_cons, S2_cons, S0_nil, S1_nil, S2_nil, add_zero] at hc ⊢
      linear_combination (c - 2 * A + x.1) * hc
    | _ :: _ :: _, _, hlt => exact absurd hlt (by simp)
  · linear_combination (c - 2 * A) * hc + hm2

theorem flatten_singleton_perm {β : Type} (xs : List β) : [xs].flatten.Perm xs := by
  rw [List.flatten_cons, List.flatten_nil, List.append_nil]

section
variable {exch : Obj ℝ → Obj ℝ} (hx : Exchange exch)
include hx

theorem exch_ofNum_ident (x : ℝ) : (exch (Obj.ofNum x)).isNpNan = false := by
  cases h : (exch (Obj.ofNum x)).isNpNan with
  | false => rfl
  | true => exact absurd (hx.ident _ h) Bool.false_ne_true

theorem exch_ofNum_val (x : ℝ) : (exch (Obj.ofNum x)).val = Val.fin x := by rw [hx.val]; rfl

/-- one rank in the first loop: `average += avg*cnt` -/
theorem step1_summ {a : Acc ℝ} {p} (h : Summ a p) (o : Option ℝ) :
    step1M (o.map Val.fin) (exch (meanObj a), a.wcount) = (pool S1 o p).map Val.fin := by
  unfold step1M pool
  by_cases hne : p = []
  · have hw : a.wcount = 0 := by rw [h.wcount, hne]; rfl
    rw [if_pos (by rw [hw]; exact beq_self_eq_true 0), if_pos hne]
  · have hW := h.pos hne
    rw [if_neg (by rw [h.wcount]; simpa using hW.ne'), if_neg hne, meanObj_of_summ h hne,
      if_neg (by rw [exch_ofNum_ident hx]; exact Bool.false_ne_true), exch_ofNum_val hx, h.wcount, vmul_fin, accAdd_fin,
      div_mul_cancel₀ _ hW.ne']
    rfl

/-- one rank in the second loop: `squares += cnt*(average - avg)**2`, then `squares += cnt*var` unless `var` is NaN -/
theorem step2_summ {a : Acc ℝ} {p} (h : Summ a p) (A : ℝ) (o : Option ℝ) :
    step2M nanByValue (Val.fin A) (o.map Val.fin) (exch (meanObj a), a.wcount, exch (variance a))
      = some ((pool (R A) o p).map Val.fin) := by
  unfold step2M pool
  by_cases hne : p = []
  · have hw : a.wcount = 0 := by rw [h.wcount, hne]; rfl
    rw [if_pos (by rw [hw]; exact beq_self_eq_true 0), if_pos hne]
  · have hW := h.pos hne
    have hterm := rank_term h hne A
    rw [if_neg (by rw [h.wcount]; simpa using hW.ne'), if_neg hne, meanObj_of_summ h hne, variance_of_summ h, h.wcount]
    simp only [exch_ofNum_val hx, vsub_fin, vmul_fin, accAdd_fin, if_pos hW]
    by_cases hlt : p.length < 2
    · rw [if_pos hlt] at hterm ⊢
      rw [if_pos (by simp [nanByValue, hx.val, npNan]), ← hterm, add_zero]
      rfl
    · rw [if_neg hlt] at hterm ⊢
      rw [if_neg (by simp [nanByValue, hx.val, Obj.ofNum]), exch_ofNum_val hx, vmul_fin, vadd_fin, ← hterm, add_assoc]
      rfl

theorem loop1_eq {ranks : List (Acc ℝ)} {parts : List (List (ℝ × ℝ))} (h : List.Forall₂ Summ ranks parts) :
    ∀ o : Option ℝ, loop1 ((avgsOf exch ranks).zip (cntsOf ranks)) (o.map Val.fin) = (pool S1 o parts.flatten).map Val.fin := by
  induction h with
  | nil => intro o; rfl
  | @cons a p ranks parts hs _ ih =>
    intro o
    simp only [avgsOf, cntsOf, List.map_cons, List.zip_cons_cons, List.flatten_cons] at ih ⊢
    rw [loop1_cons, step1_summ hx hs, ih, pool_append S1_append]

theorem loop2_eq {ranks : List (Acc ℝ)} {parts : List (List (ℝ × ℝ))} (h : List.Forall₂ Summ ranks parts) (A : ℝ) :
    ∀ o : Option ℝ, loop2 nanByValue (Val.fin A) ((avgsOf exch ranks).zip ((cntsOf ranks).zip (varsOf exch ranks)))
      (o.map Val.fin) = some ((pool (R A) o parts.flatten).map Val.fin) := by
  induction h with
  | nil => intro o; rfl
  | @cons a p ranks parts hs _ ih =>
    intro o
    simp only [avgsOf, cntsOf, varsOf, List.map_cons, List.zip_cons_cons, List.flatten_cons] at ih ⊢
    rw [loop2_cons, step2_summ hx hs]
    dsimp only
    rw [ih, pool_append (R_append A)]

omit hx in
theorem cnts_sum {ranks : List (Acc ℝ)} {parts : List (List (ℝ × ℝ))} (h : List.Forall₂ Summ ranks parts) :
    sumList (cntsOf ranks) = S0 parts.flatten := by
  rw [sumList, ← List.sum_eq_foldl]
  induction h with
  | nil => simp [cntsOf]
  | @cons a p ranks parts hs _ ih =>
    simp only [cntsOf, List.map_cons, List.sum_cons, List.flatten_cons, S0_append] at ih ⊢
    rw [ih, hs.wcount]

omit hx in
theorem counts_sum {ranks : List (Acc ℝ)} {parts : List (List (ℝ × ℝ))} (h : List.Forall₂ Summ ranks parts) :
    (ranks.map (·.count)).sum = parts.flatten.length := by
  induction h with
  | nil => simp
  | @cons a p ranks parts hs _ ih =>
    simp only [List.map_cons, List.sum_cons, List.flatten_cons, List.length_append] at ih ⊢
    rw [ih, hs.count]

omit hx in
theorem S0_flatten_pos {ranks : List (Acc ℝ)} {parts : List (List (ℝ × ℝ))} (h : List.Forall₂ Summ ranks parts)
    (hne : parts.flatten ≠ []) : 0 < S0 parts.flatten := by
  induction h with
  | nil => simp at hne
  | @cons a p ranks parts hs _ ih =>
    simp only [List.flatten_cons, S0_append] at hne ⊢
    by_cases hp : p = []
    · subst hp
      rw [List.nil_append] at hne
      simpa using ih hne
    · have := hs.pos hp
      by_cases hr : parts.flatten = []
      · rw [hr]; simpa using this
      · have := ih hr; linarith

theorem combine_eq {ranks : List (Acc ℝ)} {parts : List (List (ℝ × ℝ))} (h : List.Forall₂ Summ ranks parts)
    (hne : parts.flatten ≠ []) :
    combine nanByValue (avgsOf exch ranks) (varsOf exch ranks) (cntsOf ranks) =
      some (Val.fin (S1 parts.flatten / S0 parts.flatten),
            Val.fin (R (S1 parts.flatten / S0 parts.flatten) parts.flatten / S0 parts.flatten)) := by
  have hW := S0_flatten_pos h hne
  unfold combine
  have h1 := loop1_eq hx h none
  rw [pool, if_neg hne, Option.getD_none, zero_add] at h1
  simp only [cnts_sum h, Option.map_none, Option.map_some] at h1 ⊢
  simp only [h1, vdiv_fin]
  have hc : (cntsOf ranks).map (fun c => c * (S0 parts.flatten / S0 parts.flatten)) = cntsOf ranks := by
    have : ∀ c : ℝ, c * (S0 parts.flatten / S0 parts.flatten) = c := fun c => by
      rw [div_self hW.ne', mul_one]
    simp [this]
  have h2 := loop2_eq hx h (S1 parts.flatten / S0 parts.flatten) none
  rw [pool, if_neg hne, Option.getD_none, zero_add] at h2
  simp only [Option.map_none, Option.map_some] at h2
  simp only [hc, h2, vdiv_fin]

theorem parallelVariance_eq {ranks : List (Acc ℝ)} {parts : List (List (ℝ × ℝ))}
    (h : List.Forall₂ Summ ranks parts) (h2 : 2 ≤ parts.flatten.length) :
    parallelVariance nanByValue exch ranks = some (Val.fin (twoPassVar parts.flatten)) := by
  have hne : parts.flatten ≠ [] := by intro h0; rw [h0] at h2; simp at h2
  unfold parallelVariance
  simp only [counts_sum h]
  rw [if_neg (by omega)]
  have := combine_eq hx h hne
  simp only [avgsOf, varsOf, cntsOf] at this
  rw [this]
  simp only [Option.map_some, twoPassVar_eq]

omit hx in
theorem parallelVariance_lt2 {ranks : List (Acc ℝ)} {parts : List (List (ℝ × ℝ))}
    (h : List.Forall₂ Summ ranks parts) (h2 : parts.flatten.length < 2) :
    parallelVariance nanByValue exch ranks = some Val.nan := by
  unfold parallelVariance
  simp only [counts_sum h]
  rw [if_pos h2]

/-- **Invariance to the assignment of samples to ranks.**  If the blocks held by the ranks are, concatenated, a
    permutation of the samples `xs` (positive weights), what every rank reports depends on `xs` only: the two-pass
    weighted variance, NaN below two samples. -/
theorem pooledVariance_of_perm {parts : List (List (ℝ × ℝ))} {xs : List (ℝ × ℝ)} (hperm : parts.flatten.Perm xs)
    (hpos : ∀ p ∈ xs, 0 < p.2) :
    pooledVariance exch parts = if xs.length < 2 then some Val.nan else some (Val.fin (twoPassVar xs)) := by
  have hs := summ_forall (parts := parts) fun part hpart p hp =>
    hpos p (hperm.subset (List.mem_flatten.2 ⟨part, hpart, hp⟩))
  rw [← hperm.length_eq, ← twoPassVar_perm hperm]
  split
  · next h2 => exact parallelVariance_lt2 hs h2
  · next h2 => exact parallelVariance_eq hx hs (not_lt.1 h2)

theorem parallelMean_eq {ranks : List (Acc ℝ)} {parts : List (List (ℝ × ℝ))}
    (h : List.Forall₂ Summ ranks parts) (hne : parts.flatten ≠ []) :
    parallelMean nanByValue exch ranks = some (Val.fin (wmean parts.flatten)) := by
  unfold parallelMean
  have := combine_eq hx h hne
  simp only [avgsOf, varsOf, cntsOf] at this
  rw [this]
  simp only [Option.map_some, wmean_eq]

end

/-! ### which posterior samples the post-processing uses (`sampleParameters`, `drawCount`) -/

/-- with valid indices nothing is dropped: `sample_parameters` yields one (floored) sample per drawn index -/
theorem sampleParameters_eq_map {draw : List ℕ} (floor : ℝ) (samples : List (ℝ × ℝ))
    (h : ∀ i ∈ draw, i < samples.length) :
    sampleParameters draw floor samples
      = draw.map (fun i => ((samples.getD i (0, 0)).1, (samples.getD i (0, 0)).2 + floor)) :=
  Taurex.filterMap_eq_map fun i hi => by rw [List.getD_eq_getElem?_getD, List.getElem?_eq_getElem (h i hi)]; rfl

theorem sampleParameters_range (floor : ℝ) (samples : List (ℝ × ℝ)) :
    sampleParameters (List.range samples.length) floor samples = samples.map (fun p => (p.1, p.2 + floor)) := by
  rw [sampleParameters_eq_map floor samples fun i hi => List.mem_range.1 hi]
  conv_rhs => rw [list_eq_map_range (0, 0) samples, List.map_map]
  rfl

theorem sampleParameters_perm {draw : List ℕ} (floor : ℝ) (samples : List (ℝ × ℝ))
    (h : draw.Perm (List.range samples.length)) :
    (sampleParameters draw floor samples).Perm (samples.map (fun p => (p.1, p.2 + floor))) := by
  rw [← sampleParameters_range]
  exact h.filterMap _

theorem sampleParameters_length {draw : List ℕ} (floor : ℝ) (samples : List (ℝ × ℝ))
    (h : ∀ i ∈ draw, i < samples.length) : (sampleParameters draw floor samples).length = draw.length := by
  rw [sampleParameters_eq_map floor samples h, List.length_map]

theorem drawCount_one (n : ℕ) : drawCount (fun k : ℕ => (k : ℝ)) (fun x : ℝ => ⌊x⌋₊) n 1 = n := by
  unfold drawCount
  simp

theorem sampleParameters_pos {draw : List ℕ} {floor : ℝ} (hf : 0 < floor) {samples : List (ℝ × ℝ)}
    (hw : ∀ p ∈ samples, 0 ≤ p.2) : ∀ q ∈ sampleParameters draw floor samples, 0 < q.2 := by
  intro q hq
  unfold sampleParameters at hq
  obtain ⟨i, _, hi⟩ := List.mem_filterMap.1 hq
  cases hget : samples[i]? with
  | none => simp [hget] at hi
  | some p =>
    simp only [hget, Option.map_some, Option.some.injEq] at hi
    subst hi
    have := hw p (List.mem_of_getElem? hget)
    simp only
    linarith

/-! the weighted samples of the examples of `Props/C18.lean` -/

theorem nv_weights_pos : ∀ p ∈ [((1 : ℝ), (0.2 : ℝ)), (4, 0.3), (2, 0.5)], 0 < p.2 := by
  intro p hp; simp at hp; rcases hp with rfl | rfl | rfl <;> norm_num

/-- one sample, held by the middle one of three ranks -/
theorem nv_single_pos : ∀ part ∈ [[], [((3 : ℝ), (1 : ℝ))], []], ∀ p ∈ part, 0 < p.2 := by
  intro part hpart p hp
  simp at hpart
  rcases hpart with rfl | rfl | rfl <;> simp at hp
  subst hp; norm_num

theorem nv_weights_nonneg : ∀ p ∈ [((1 : ℝ), (0 : ℝ)), (4, 1), (2, 3)], 0 ≤ p.2 := by
  intro p hp; simp at hp; rcases hp with rfl | rfl | rfl <;> norm_num

end Taurex.Variance
