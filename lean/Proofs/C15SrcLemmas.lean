/-
  Lemmas about the dynamic primitives (`TaurexModel/Gen/DynPrelude.lean`) on embedded model data
  (`Proofs/C15SrcOracle.lean`).  The loop lemmas take the loop BODY as a variable together with a description of one pass
  (`hb`); the frames of whole functions (`factory_core`, `base_factory`, `lenient_creator`, `dk_unpack`) quote the regenerated
  text around a variable continuation.
-/
import Proofs.C15SrcOracle
import Proofs.DynEval
import Proofs.ListCore

namespace Taurex.C15Src
open Taurex.Gen Taurex.Gen.Dyn
open Taurex.Factory (Scalar Value Config Klass Registry SectionReg Resolved Err Customs Component)

/-- keys of `c` pairwise distinct (what a Python `dict` guarantees) -/
def KeysNodup (c : Config) : Prop := (c.map (·.1)).Nodup

/-- `input_keywords()` of a class without keywords raises NotImplementedError / AttributeError (the two classes the
    factories catch), and such a class has an empty `keywords` column -/
def WorldOK (w : World) : Prop :=
  ∀ k e, w.kwErr k = some e → (e = .NotImplementedError ∨ e = .AttributeError) ∧ k.keywords = []

theorem isa_exception (e : Exc) : e.isaAny [Exc.Exception] = true := by
  cases e <;> rfl

variable (w : World)

theorem forM_sim {ι τ σ S : Type} (g : ι → τ) (enc : σ → S) (inv : σ → Prop) (body : S → τ → M S)
    (step : σ → ι → Except Err σ) (xs : List ι)
    (hb : ∀ s, ∀ x ∈ xs, inv s → body (enc s) (g x) = embE enc (step s x) ∧ ∀ s', step s x = .ok s' → inv s')
    (s : σ) (hs : inv s) :
    Dyn.forM (xs.map g) (enc s) body = embE enc (xs.foldlM step s) := by
  induction xs generalizing s with
  | nil => rfl
  | cons x t ih =>
    obtain ⟨h1, h2⟩ := hb s x List.mem_cons_self hs
    simp only [List.map_cons, Dyn.forM, h1, List.foldlM_cons]
    cases hst : step s x with
    | error e => rfl
    | ok s' =>
      simp only [embE, bind_ok]
      exact ih (fun s y hy => hb s y (List.mem_cons_of_mem _ hy)) s' (h2 s' hst)

theorem forIn_sim {ι τ σ S ρ : Type} (g : ι → τ) (enc : σ → S) (body : S → τ → M (LFlow S ρ)) (step : σ → ι → σ)
    (xs : List ι)
    (hb : ∀ s x, body (enc s) (g x) = .ok (.next (enc (step s x))) ∨ body (enc s) (g x) = .ok (.cont (enc (step s x))))
    (s : σ) :
    Dyn.forIn (xs.map g) (enc s) body = .ok (.next (enc (xs.foldl step s))) := by
  induction xs generalizing s with
  | nil => rfl
  | cons x t ih =>
    rcases hb s x with h | h <;> simp only [List.map_cons, Dyn.forIn, h, bind_ok, List.foldl_cons] <;> exact ih _

theorem forM_collect (p : V → Bool) (f : V → V → V) (body : List V → V → M (List V))
    (hb : ∀ acc k v, body acc (.tuple [k, v]) = if p v then pure (acc ++ [f k v]) else pure acc)
    (es : List (V × V)) (acc : List V) :
    Dyn.forM (es.map (fun e => Dyn.Val.tuple [e.1, e.2])) acc body
      = .ok (acc ++ (es.filter (fun e => p e.2)).map (fun e => f e.1 e.2)) := by
  induction es generalizing acc with
  | nil => simp only [List.map_nil, Dyn.forM, List.filter_nil, List.append_nil, pure_ok]
  | cons e t ih =>
    simp only [List.map_cons, Dyn.forM, hb, List.filter_cons]
    cases p e.2 <;> simp [ih]

/-- a loop whose pass only checks: it raises `e` at the first element with `p`, else nothing happens -/
theorem forM_guard {ι : Type} (g : ι → V) (p : ι → Bool) (e : Exc) (body : Unit → V → M Unit)
    (hb : ∀ x, body () (g x) = if p x then .error e else .ok ()) (l : List ι) :
    Dyn.forM (l.map g) () body = if l.any p then .error e else .ok () := by
  induction l with
  | nil => rfl
  | cons x t ih =>
    by_cases hp : p x = true
    · simp only [List.map_cons, Dyn.forM, hb, List.any_cons, hp, Bool.true_or, if_true, bind_err]
    · simp only [List.map_cons, Dyn.forM, hb, List.any_cons, hp, Bool.false_eq_true, Bool.false_or, if_false, bind_ok, ih]

theorem forM_fixed {σ ι : Type} (xs : List ι) (s : σ) (body : σ → ι → M σ) (hb : ∀ x ∈ xs, body s x = .ok s) :
    Dyn.forM xs s body = .ok s := by
  induction xs with
  | nil => rfl
  | cons x t ih =>
    simp only [Dyn.forM, hb x List.mem_cons_self, bind_ok]
    exact ih (fun y hy => hb y (List.mem_cons_of_mem _ hy))

theorem parseNumber_float (t : String) (x : Scalar) (h : Factory.parseNumber t = some x) : embS x = .float x := by
  have := C15L.parseNumberL_isNum _ x h
  cases x <;> first | rfl | cases this

/-- `e`: `TypeError` for `None`, `ValueError` for a string -/
theorem float_embS (s : Scalar) :
    ∃ e, Dyn.float_ w.ext (embS s) = match Factory.toFloat s with
      | some x => .ok (embS x)
      | none => .error e := by
  cases s with
  | str t =>
    refine ⟨.ValueError, ?_⟩
    show Dyn.float_ w.ext (.str t) = _
    simp only [Factory.toFloat, float_str, ext_parseFloat]
    cases h : Factory.parseNumber t with
    | none => rfl
    | some x => exact congrArg Except.ok (parseNumber_float t x h).symm
  | bool b => exact ⟨.TypeError, by cases b <;> rfl⟩
  | _ => exact ⟨.TypeError, rfl⟩

theorem mapM_float (f : V → M V) (hf : ∀ a, f a = Dyn.float_ w.ext a) (l : List Scalar) :
    ∃ e, Dyn.mapM f (l.map embS) = match l.mapM Factory.toFloat with
      | some ns => .ok (ns.map embS)
      | none => .error e := by
  induction l with
  | nil => exact ⟨.TypeError, rfl⟩
  | cons s t ih =>
    obtain ⟨e1, h1⟩ := float_embS w s
    obtain ⟨e2, h2⟩ := ih
    simp only [List.map_cons, Dyn.mapM, hf, h1, h2, List.mapM_cons]
    cases Factory.toFloat s with
    | none => exact ⟨e1, rfl⟩
    | some x => cases t.mapM Factory.toFloat <;> exact ⟨e2, rfl⟩

theorem keysNodup_nil : KeysNodup [] := by simp [KeysNodup]

theorem keysNodup_dictOfPairs (l : Config) : KeysNodup (Factory.dictOfPairs l) := by
  unfold Factory.dictOfPairs
  suffices h : ∀ acc, KeysNodup acc → KeysNodup (l.foldl (fun d kv => Factory.dictSet d kv.1 kv.2) acc) from
    h [] keysNodup_nil
  induction l with
  | nil => intro acc h; exact h
  | cons x t ih => intro acc h; exact ih _ (nodup_dictSet acc h _ _)

/-- the loop `for k, v in zip(names, values): d[k] = v` -/
theorem forM_zip_set (body : V → V → M V)
    (hb : ∀ acc k v, body acc (.tuple [k, v]) = Dyn.setItem w.ext acc k v) (l : Config) (c : Config) (hc : KeysNodup c) :
    Dyn.forM (List.zipWith (fun x y => (Dyn.Val.tuple [x, y] : V)) (l.map (fun kv => .str kv.1)) (l.map (fun kv => emb kv.2)))
      (Dyn.Val.dict (embCfg c)) body
    = .ok (.dict (embCfg (l.foldl (fun d kv => Factory.dictSet d kv.1 kv.2) c))) := by
  induction l generalizing c with
  | nil => rfl
  | cons kv t ih =>
    simp only [List.map_cons, List.zipWith_cons_cons, Dyn.forM, hb, setItem_dict, hashable_str, if_true, pure_ok, bind_ok,
      dictSet_emb c hc, List.foldl_cons]
    exact ih _ (nodup_dictSet c hc _ _)

/-- what `getfullargspec` shows of the trailing parameters -/
theorem argspec_cases (k : Klass) (mx : Bool) :
    (specKwargs k mx = [] ∧ argspecDefaults k mx = .none) ∨
    (specKwargs k mx ≠ [] ∧ argspecDefaults k mx = .tuple ((specKwargs k mx).map (fun kv => emb kv.2)) ∧
      sliceList (w.argsPre k ++ (specKwargs k mx).map (fun kv => (Dyn.Val.str kv.1 : V)))
        (some (-((specKwargs k mx).length : Int))) none = (specKwargs k mx).map (fun kv => (Dyn.Val.str kv.1 : V))) := by
  by_cases he : specKwargs k mx = []
  · left; exact ⟨he, by simp [argspecDefaults, he]⟩
  · right
    have hs := slice_tail (w.argsPre k) ((specKwargs k mx).map (fun kv => (Dyn.Val.str kv.1 : V))) (by simpa using he)
    simp only [List.length_map] at hs
    exact ⟨he, by simp [argspecDefaults, he], hs⟩

theorem keys_embCfg (c : Config) : (embCfg c).map (·.1) = c.map (fun kv => (Dyn.Val.str kv.1 : V)) := by
  simp [embCfg]

/-! ## the primitives on an embedded section

  Rules of `dyn_eval` about a primitive on the embedding of model data.  Their priority is `high`: within one `simp` call
  they are tried before the rule of the dialect for the bare constructor (`contains_dict`, `getItem_dict`, …). -/

/-- `k in config` -/
@[dyn_eval high] theorem contains_cfg (c : Config) (k : String) :
    Dyn.contains w.ext (.str k) (.dict (embCfg c)) = .ok (Factory.hasKey c k) := by
  simp only [dyn_eval, dictHas_emb]

/-- `config[k]` -/
@[dyn_eval high] theorem getItem_cfg (c : Config) (k : String) :
    Dyn.getItem w.ext (.dict (embCfg c)) (.str k) = match c.lookup k with
      | some v => .ok (emb v)
      | none => .error .KeyError := by
  simp only [dyn_eval, dictGet_emb]
  cases c.lookup k <;> rfl

/-- `config[k] = v` (`hc` is discharged by naming it in the `simp` list) -/
@[dyn_eval high] theorem setItem_cfg (c : Config) (hc : KeysNodup c) (k : String) (v : Value) :
    Dyn.setItem w.ext (.dict (embCfg c)) (.str k) (emb v) = .ok (.dict (embCfg (Factory.dictSet c k v))) := by
  simp only [dyn_eval, dictSet_emb c hc]

/-- `for key in config` -/
@[dyn_eval high] theorem iter_cfg (c : Config) :
    Dyn.iter w.ext (.dict (embCfg c)) = .ok (c.map (fun kv => (Dyn.Val.str kv.1 : V))) := by
  simp only [dyn_eval, keys_embCfg]

@[dyn_eval high] theorem contains_words (s : String) (l : List String) :
    Dyn.contains w.ext (.str s) (.list (l.map .str)) = .ok (l.contains s) := by
  simp only [contains_list, pure_ok, List.any_map, Function.comp_def, beq_str, List.contains_eq_any_beq]
  congr 1
  apply List.any_congr rfl
  intro x
  exact BEq.comm

@[dyn_eval high] theorem starStar_emb (c : Config) : (Dyn.starStar (Dyn.Val.dict (embCfg c)) : M _) = .ok (embKw c) := by
  simp only [starStar_dict, embCfg, embKw]
  induction c with
  | nil => rfl
  | cons kv t ih =>
    simp only [List.map_cons, Dyn.mapM, pure_ok, bind_ok] at ih ⊢
    rw [ih]; rfl

@[dyn_eval high] theorem m_pop_emb (c : Config) (k : String) :
    Dyn.m_pop w.ext (.dict (embCfg c)) (.str k) =
      match Factory.popKey c k with
      | some (v, c') => .ok (emb v, .dict (embCfg c'))
      | none => .error .KeyError := by
  simp only [dyn_eval, dictGet_emb, Factory.popKey, dictDel_emb]
  cases c.lookup k <;> rfl

@[dyn_eval high] theorem m_lower_emb (v : Value) :
    Dyn.m_lower w.ext (emb v) = match v with
      | .scalar (.str s) => .ok (.str (Factory.lower s))
      | _ => .error .AttributeError := by
  cases v with
  | scalar s => cases s <;> rfl
  | list l => rfl
  | other r => rfl
  | ref r => rfl

/-! ## the factory loop -/

/-- lookups in the oracle's tables of string literals, (dis)equalities of string literals and membership in such a
    table, decided by `simp` with `String.reduceEq`: one row, as a side condition.  A fact about every row of a table is
    a Boolean checked by `decide` (`attr_of_base`). -/
macro "table" : tactic => `(tactic|
  simp only [cfAttrs, mixinBases, lookup_cons_ite, List.lookup_nil, List.mem_cons, List.mem_nil_iff, Prod.mk.injEq,
    String.reduceEq, ↓reduceIte, ne_eq, not_false_eq_true, and_self, and_false, false_and, or_false, false_or, or_true,
    true_or])

/-- how a loop continues after the pass `T k` of the class that claims the key: `return` and `break` leave it -/
def leave {σ ρ : Type} (st : σ) : M (LFlow σ ρ) → M (Flow σ ρ)
  | .ok (.ret r) => .ok (.ret r)
  | .ok (.brk s) => .ok (.next s)
  | .error e => .error e
  | _ => .ok (.next st)

/-- one pass of a factory loop: `try: if key in klass.input_keywords(): <T>` with the two handlers -/
def claimPass {σ ρ : Type} (w : World) (key : String) (st : σ) (T : M (LFlow σ ρ)) (k : Klass) : M (LFlow σ ρ) :=
  tryCatch (do
      let t ← Dyn.callMethod w.ext (kobj k) "input_keywords" [] []
      let c ← Dyn.contains w.ext (.str key) t
      if c then T else pure (LFlow.next st))
    (fun e => if e.isaAny [Exc.NotImplementedError] then pure (LFlow.next st)
              else if e.isaAny [Exc.AttributeError] then pure (LFlow.next st) else throw e)

/-- A class without keywords raises one of the two handled exceptions (`WorldOK`) and is passed like a class that does not
    claim the key; the first class that claims it runs `T`, which leaves the loop (`return` / `break`) or raises something
    the handlers do not catch: the loop is the model's `lookup`. -/
theorem claim_loop {σ ρ : Type} (hw : WorldOK w) (key : String) (st : σ) (cls : List Klass)
    (T : Klass → M (LFlow σ ρ)) (body : σ → V → M (LFlow σ ρ))
    (hbody : ∀ k, body st (kobj k) = claimPass w key st (T k) k)
    (hT : ∀ k ∈ cls, Factory.claims k key = true →
      (∃ r, T k = .ok (.ret r)) ∨ (∃ s, T k = .ok (.brk s)) ∨
      (∃ e, T k = .error e ∧ e.isaAny [Exc.NotImplementedError] = false ∧ e.isaAny [Exc.AttributeError] = false)) :
    Dyn.forIn (cls.map kobj) st body =
      match Factory.lookup cls key with
      | some k => leave st (T k)
      | none => .ok (.next st) := by
  induction cls with
  | nil => rfl
  | cons k t ih =>
    have ih := ih (fun k' hk' => hT k' (List.mem_cons_of_mem _ hk'))
    have hT := hT k List.mem_cons_self
    simp only [List.map_cons, Dyn.forIn, hbody k, claimPass, Factory.lookup, List.find?_cons]
    simp only [kobj, callMethod_obj, ext_input_keywords]
    have hcl : Factory.claims k key = k.keywords.contains key := rfl
    cases hk : w.kwErr k with
    | some e =>
      obtain ⟨he, hkw⟩ := hw k e hk
      have hc : Factory.claims k key = false := by rw [hcl, hkw]; rfl
      have hpass : (if e.isaAny [Exc.NotImplementedError] then pure (LFlow.next st)
          else if e.isaAny [Exc.AttributeError] then pure (LFlow.next st) else throw e : M (LFlow σ ρ))
          = .ok (.next st) := by rcases he with rfl | rfl <;> rfl
      simp only [bind_err, try_err, hpass, bind_ok, hc]
      exact ih
    | none =>
      simp only [bind_ok, contains_words, hcl]
      cases hc : k.keywords.contains key with
      | false => simp only [Bool.false_eq_true, if_false, pure_ok, try_ok, bind_ok]; exact ih
      | true =>
        simp only [if_true]
        rcases hT (hcl.trans hc) with ⟨r, hr⟩ | ⟨s, hs⟩ | ⟨e, he, hu1, hu2⟩
        · simp only [hr, try_ok, bind_ok, leave, pure_ok]
        · simp only [hs, try_ok, bind_ok, leave, pure_ok]
        · simp only [he, try_err, hu1, hu2, Bool.false_eq_true, if_false, throw_err, bind_err, leave]

/-- every factory: `cf = ClassFactory()`, then from `cf.<attr>` on the first class of the attribute's list that claims the keyword, else
    NotImplementedError — `Factory.factory` on the section's classes, `Factory.mixinFactory` on its mixins -/
theorem factory_core (hw : WorldOK w) (kw attr sec : String) (mix : Bool)
    (hattr : cfAttrs.lookup attr = some (sec, mix)) (body : Unit → V → M (LFlow Unit V))
    (hbody : ∀ k, body () (kobj k) = claimPass w kw () (pure (.ret (kobj k))) k)
    (k : Flow Unit V → M V) (hk1 : ∀ v, k (.ret v) = .ok v) (hk2 : k (.next ()) = .error .NotImplementedError) :
    (do
      let t1 ← w.ext.global "ClassFactory"
      let t2 ← Dyn.call w.ext t1 [] []
      let t5 ← Dyn.getAttr w.ext t2 attr
      let t6 ← Dyn.iter w.ext t5
      let t9 ← Dyn.forIn t6 () body
      k t9 : M V)
      = embE kobj (if mix then Factory.mixinFactory (w.reg.sec sec) kw else Factory.factory (w.reg.sec sec) kw) := by
  simp only [dyn_eval, ext_global_cf, ext_call_cf, ext_getattr_cf w attr sec mix hattr]
  rw [claim_loop w hw kw () _ (fun k => pure (.ret (kobj k))) body hbody (fun k _ _ => .inl ⟨_, rfl⟩)]
  cases mix with
  | false =>
    simp only [Bool.false_eq_true, if_false, Factory.factory]
    cases Factory.lookup (w.reg.sec sec).classes kw with
    | none => exact hk2
    | some c => exact hk1 _
  | true =>
    simp only [if_true, Factory.mixinFactory]
    cases Factory.lookup (w.reg.sec sec).mixins kw with
    | none => exact hk2
    | some c => exact hk1 _

def strDict (l : List (String × String)) : List (V × V) := l.map (fun p => (.str p.1, .str p.2))

/-- the dictionaries `baseclass.__name__ → ClassFactory attribute` of `generic_factory` and of `mixin_factory` -/
def genericAttrs : List (String × String) :=
  [("TemperatureProfile", "temperatureKlasses"), ("Chemistry", "chemistryKlasses"), ("Gas", "gasKlasses"),
   ("PressureProfile", "pressureKlasses"), ("BasePlanet", "planetKlasses"), ("Star", "starKlasses"),
   ("Instrument", "instrumentKlasses"), ("ForwardModel", "modelKlasses"), ("Contribution", "contributionKlasses"),
   ("Optimizer", "optimizerKlasses"), ("BaseSpectrum", "observationKlasses")]

def mixinAttrs : List (String × String) :=
  [("TemperatureProfile", "temperatureMixinKlasses"), ("Chemistry", "chemistryMixinKlasses"),
   ("Gas", "gasMixinKlasses"), ("PressureProfile", "pressureMixinKlasses"), ("Planet", "planetMixinKlasses"),
   ("Star", "starMixinKlasses"), ("Instrument", "instrumentMixinKlasses"), ("ForwardModel", "modelMixinKlasses"),
   ("Contribution", "contributionMixinKlasses"), ("Optimizer", "optimizerMixinKlasses"),
   ("BaseSpectrum", "observationMixinKlasses")]

/-- a two-stage look-up checked row by row: every row `(name, sec)` of `bases` goes through `names` to an attribute of
    `cfAttrs` that stands for `(sec, mix)`; for literal tables `hall` is a finite fact -/
theorem attr_of_base (names bases : List (String × String)) (mix : Bool)
    (hall : bases.all (fun p : String × String =>
      (names.lookup p.1).bind (fun a => cfAttrs.lookup a) == some (p.2, mix)) = true)
    (name sec : String) (h : (name, sec) ∈ bases) :
    ∃ attr, names.lookup name = some attr ∧ cfAttrs.lookup attr = some (sec, mix) :=
  Option.bind_eq_some_iff.mp (beq_iff_eq.mp (List.all_eq_true.mp hall _ h))

/-- `generic_factory` / `mixin_factory`: the dictionary `table` from `baseclass.__name__` to a `ClassFactory` attribute,
    then the loop over that attribute's list -/
theorem base_factory (hw : WorldOK w) (kw name sec attr : String) (mix : Bool)
    (table : List (String × String)) (hname : table.lookup name = some attr)
    (hattr : cfAttrs.lookup attr = some (sec, mix)) (body : Unit → V → M (LFlow Unit V))
    (hbody : ∀ k, body () (kobj k) = claimPass w kw () (pure (.ret (kobj k))) k)
    (k : Flow Unit V → M V) (hk1 : ∀ v, k (.ret v) = .ok v) (hk2 : k (.next ()) = .error .NotImplementedError) :
    (do
      let t1 ← w.ext.global "ClassFactory"
      let t2 ← Dyn.call w.ext t1 [] []
      let t3 ← Dyn.getAttr w.ext (.obj (.base name sec)) "__name__"
      let t4 ← Dyn.getItem w.ext (.dict (strDict table)) t3
      let t5 ← Dyn.getattrDyn w.ext t2 t4
      let t6 ← Dyn.iter w.ext t5
      let t9 ← Dyn.forIn t6 () body
      k t9 : M V)
      = embE kobj (if mix then Factory.mixinFactory (w.reg.sec sec) kw else Factory.factory (w.reg.sec sec) kw) := by
  simp only [dyn_eval, ext_getattr_base, strDict, dictGet_map_str Dyn.Val.str, hname, Option.map_some]
  exact factory_core w hw kw attr sec mix hattr body hbody k hk1 hk2

/-- the two lists `determine_mixin_args` accumulates: (defaults, names) -/
def mixState (acc : Config) : V × V := (.list (acc.map (fun kv => emb kv.2)), .list (acc.map (fun kv => .str kv.1)))

/-! ## `determine_klass`, `create_klass` and the creators -/

/-- extra entries of a dictionary (sub-sections) whose keys are strings different from `k` -/
def KeyFree (extra : List (V × V)) (k : String) : Prop := ∀ e ∈ extra, ∃ k', e.1 = .str k' ∧ k' ≠ k

theorem dictGet_append (c : Config) (extra : List (V × V)) (k : String) (h : KeyFree extra k) :
    dictGet? (embCfg c ++ extra) (.str k) = (c.lookup k).map emb := by
  have hx : dictGet? extra (.str k) = none := by
    induction extra with
    | nil => rfl
    | cons e t ih =>
      obtain ⟨k', he, hne⟩ := h e List.mem_cons_self
      obtain ⟨e1, e2⟩ := e
      cases he
      simp only [dictGet?, beq_str, beq_eq_false_iff_ne.mpr hne, Bool.false_eq_true, if_false]
      exact ih (fun x hx => h x (List.mem_cons_of_mem _ hx))
  rw [dictGet?_append, hx, Option.or_none, dictGet_emb]

theorem dictDel_append (c : Config) (extra : List (V × V)) (k : String) (h : KeyFree extra k) :
    dictDel (embCfg c ++ extra) (.str k) = embCfg (c.filter (·.1 != k)) ++ extra := by
  have hx : dictDel extra (.str k) = extra := by
    unfold dictDel
    apply List.filter_eq_self.mpr
    intro e he
    obtain ⟨k', hk, hne⟩ := h e he
    have hb : (k' == k) = false := by simp [hne]
    simp [hk, hb]
  have := dictDel_emb c k
  unfold dictDel at this hx ⊢
  rw [List.filter_append, this, hx]

theorem m_pop_append (c : Config) (extra : List (V × V)) (k : String) (h : KeyFree extra k) :
    Dyn.m_pop w.ext (.dict (embCfg c ++ extra)) (.str k) =
      match Factory.popKey c k with
      | some (v, c') => .ok (emb v, .dict (embCfg c' ++ extra))
      | none => .error .KeyError := by
  simp only [dyn_eval, dictGet_append c extra k h, Factory.popKey, dictDel_append c extra k h]
  cases c.lookup k <;> rfl

theorem guard_bind {β : Type} (c : Bool) (e : Exc) (x : M β) :
    ((if c = true then (.error e : M Unit) else .ok ()) >>= fun _ => x) = if c = true then .error e else x := by
  cases c <;> rfl

theorem isTy_dict_emb (v : Value) : Dyn.Val.isTy .dict (emb v) = false := by
  cases v with
  | scalar s => cases s <;> rfl
  | _ => rfl

theorem filter_dict_embSec (scalars : Config) (subs : List (String × Config)) :
    (embSec scalars subs).filter (fun e => Dyn.Val.isTy .dict e.2) = subsEmb subs := by
  rw [embSec, List.filter_append, List.filter_eq_nil_iff.mpr, List.filter_eq_self.mpr, List.nil_append, subsEmb]
  · intro e he; obtain ⟨sc, _, rfl⟩ := List.mem_map.mp he; rfl
  · intro e he; obtain ⟨kv, _, rfl⟩ := List.mem_map.mp he; simp [isTy_dict_emb]

theorem filter_not_dict_embSec (scalars : Config) (subs : List (String × Config)) :
    (embSec scalars subs).filter (fun e => !Dyn.Val.isTy .dict e.2) = embCfg scalars := by
  rw [embSec, List.filter_append, List.filter_eq_self.mpr, List.filter_eq_nil_iff.mpr, List.append_nil]
  · intro e he; obtain ⟨sc, _, rfl⟩ := List.mem_map.mp he; simp [Dyn.Val.isTy]
  · intro e he; obtain ⟨kv, _, rfl⟩ := List.mem_map.mp he; simp [isTy_dict_emb]

theorem m_lower_not_str (v : Value) (hv : ∀ s, v ≠ .scalar (.str s)) :
    Dyn.m_lower w.ext (emb v) = .error .AttributeError := by
  rw [m_lower_emb]
  cases v with
  | scalar s => cases s <;> first | rfl | exact absurd rfl (hv _)
  | _ => rfl

theorem splitOnC_eq (c : Char) (l : List Char) : Dyn.splitOnC c l = Factory.splitOnC c l := by
  induction l with
  | nil => rfl
  | cons x t ih =>
    simp only [Dyn.splitOnC, Factory.splitOnC, ih]
    by_cases hx : x = c
    · simp only [hx, if_true]
    · simp only [hx, if_false]
      cases Factory.splitOnC c t <;> rfl

theorem m_split_plus (s : String) :
    Dyn.m_split w.ext (.str s) (.str "+") = .ok (.list ((Factory.splitPlus s).map .str)) := by
  have h1 : ("+" == "") = false := by decide
  have h2 : "+".toList = ['+'] := by decide
  simp only [m_split_str, h1, Bool.false_eq_true, if_false, pure_ok, Dyn.strSplit, h2, splitOnC_eq, Factory.splitPlus]

theorem lastOf_getElem? : ∀ l : List String, l ≠ [] → l[l.length - 1]? = some (Factory.lastOf l)
  | [], h => absurd rfl h
  | [a], _ => rfl
  | a :: b :: t, _ => by simpa [Factory.lastOf] using lastOf_getElem? (b :: t) (List.cons_ne_nil _ _)

/-- `split[-1]` -/
theorem getItem_last (parts : List String) (hp : parts ≠ []) :
    Dyn.getItem w.ext (.list (parts.map .str)) (.int (-1)) = .ok (.str (Factory.lastOf parts)) := by
  obtain ⟨a, t, rfl⟩ := List.exists_cons_of_ne_nil hp
  have hn : normIndex ((a :: t).map (Dyn.Val.str (φ := Scalar) (ω := Obj))).length (-1) = some ((a :: t).length - 1) := by
    simp [normIndex]
  simp only [getItem_list, indexOf, hn, Option.bind_some, List.getElem?_map, lastOf_getElem? _ hp, Option.map_some, pure_ok]

theorem initOf_eq_take : ∀ l : List String, Factory.initOf l = l.take (l.length - 1)
  | [] => rfl
  | [a] => rfl
  | a :: b :: t => by simpa [Factory.initOf] using initOf_eq_take (b :: t)

/-- `split[:-1]` -/
theorem getSlice_init (parts : List String) :
    Dyn.getSlice w.ext (.list (parts.map .str)) .none (.int (-1)) = .ok (.list ((Factory.initOf parts).map .str)) := by
  have hc : clipIndex parts.length (-1) = parts.length - 1 := clipIndex_neg parts.length 1 Nat.one_pos
  simp only [dyn_eval, sliceList, List.length_map, List.drop_zero, Nat.sub_zero, initOf_eq_take, List.map_take, hc]

theorem mapM_sim (f : V → M V) (g : String → Except Err Klass) (hf : ∀ s, f (.str s) = embE kobj (g s)) (l : List String) :
    Dyn.mapM f (l.map .str) = embE (fun ks => ks.map kobj) (l.mapM g) := by
  induction l with
  | nil => rfl
  | cons s t ih =>
    simp only [List.map_cons, Dyn.mapM, hf, ih, List.mapM_cons]
    cases g s with
    | error e => rfl
    | ok k =>
      simp only [embE, bind_ok]
      cases t.mapM g with
      | error e => rfl
      | ok ks => rfl

/-- `create_klass(config, klass, is_mixin)` for any class object whose `get_keywordarg_dict` is the dictionary `kwd`:
    an unknown key raises `KeyError` before the class is called (`hname`: the error message of that branch reads
    `klass.__name__`) -/
theorem create_klass_core (klass mix : V) (kwd cfg : Config) (hc : KeysNodup cfg) (hk : KeysNodup kwd)
    (hget : SrcC15.get_keywordarg_dict w.ext klass mix = .ok (.dict (embCfg kwd)))
    (hname : ∃ n, Dyn.getAttr w.ext klass "__name__" = .ok n) :
    SrcC15.create_klass w.ext (.dict (embCfg cfg)) klass mix
      = match Factory.createKlass kwd cfg with
        | .ok kw => Dyn.call w.ext klass [] (embKw kw)
        | .error e => .error (errExc e) := by
  unfold SrcC15.create_klass
  simp only [hget, bind_ok, iter_cfg]
  rw [forM_sim (fun kv : String × Value => (Dyn.Val.str kv.1 : V)) (fun c : Config => (Dyn.Val.dict (embCfg c) : V))
    KeysNodup _ (fun kw kv => if Factory.hasKey kw kv.1 then .ok (Factory.dictSet kw kv.1 kv.2)
                              else .error (Err.keyError kv.1)) cfg _ _ hk]
  · show (embE _ (Factory.createKlass kwd cfg) >>= _) = _
    cases Factory.createKlass kwd cfg with
    | error e => rfl
    | ok kw => simp only [embE, bind_ok, starStar_emb, pure_ok, bind_ok_right]
  · intro acc kv hm ha
    simp only [contains_cfg, bind_ok]
    cases hh : Factory.hasKey acc kv.1 with
    | true =>
      simp only [if_true, getItem_cfg, lookup_of_mem_nodup hc hm, bind_ok, setItem_cfg w acc ha, embE, true_and]
      intro s' hs'
      cases hs'
      exact nodup_dictSet acc ha _ _
    | false =>
      obtain ⟨n, hn⟩ := hname
      simp only [dyn_eval, hn, embE, errExc, true_and]
      intro s' hs'
      cases hs'

/-- every creator starts with `config, klass, is_mixin = determine_klass(…)`: when the call returns the encoding of a model
    result (`hdk`: popped config, class, mixin flag — the config also as the mutated first argument), what follows (`K`)
    runs on the parts, and a model error is the exception it stands for -/
theorem dk_unpack {α β : Type} (dk : M (V × V)) (res : Except Err α) (cfgOf klassOf mixOf : α → V)
    (hdk : dk = embE (fun a => (.tuple [cfgOf a, klassOf a, mixOf a], cfgOf a)) res) (K : V × V → V × V × V → M β) :
    (do
      let x ← dk
      let y ← Dyn.unpack3 w.ext x.1
      K x y)
    = match (generalizing := false) res with
      | .error e => .error (errExc e)
      | .ok a => K (.tuple [cfgOf a, klassOf a, mixOf a], cfgOf a) (cfgOf a, klassOf a, mixOf a) := by
  rw [hdk]
  cases res with
  | error e => rfl
  | ok a => rfl

/-- the lenient creators (`create_star / planet / optimizer / observation / instrument`): the base class is imported,
    `determine_klass` resolves the selector (`hdk`), then `klass(**config)` with what is left of the section, handed back
    together with it -/
theorem lenient_creator {α : Type} (name : String) (base : V) (hg : w.ext.global name = .ok base)
    (dk : V → M (V × V)) (res : Except Err α) (cfgOf : α → Config) (klassOf mixOf : α → V)
    (hdk : dk base = embE (fun a => (.tuple [.dict (embCfg (cfgOf a)), klassOf a, mixOf a], .dict (embCfg (cfgOf a)))) res) :
    (do
      let t2 ← w.ext.global name
      let (t3, _) ← dk t2
      let (config, klass, _) ← Dyn.unpack3 w.ext t3
      let t4 ← Dyn.starStar config
      let t5 ← Dyn.call w.ext klass [] t4
      pure (t5, config))
    = match (generalizing := false) res with
      | .error e => .error (errExc e)
      | .ok a => Dyn.call w.ext (klassOf a) [] (embKw (cfgOf a)) >>= fun o => pure (o, .dict (embCfg (cfgOf a))) := by
  rw [hg, bind_ok, hdk]
  cases res with
  | error e => rfl
  | ok a =>
    simp only [embE, bind_ok, unpack3_tuple, starStar_emb]

/-! ## `ParameterParser.generate_<x>` -/

/-- `'Name' in config` / `config['Name']` on the file dictionary are the model's `sectionOf` -/
theorem embFile_section (f : Factory.InputFile) (name : String) :
    dictHas (embFile f) (.str name) = (Factory.sectionOf f name).isSome ∧
    dictGet? (embFile f) (.str name) = (Factory.sectionOf f name).map (fun s => .dict (embSec s.scalars s.subs)) := by
  have h := dictGet_map_str (fun s : Factory.Sec => (.dict (embSec s.scalars s.subs) : V)) name f
  exact ⟨by rw [dictHas_eq_isSome, embFile, h, Option.isSome_map]; rfl, h⟩

/-- the common frame of every `generate_<x>`: `config = self._raw_config.dict()`, then the section `name` if present -/
theorem parser_frame {β : Type} (f : Factory.InputFile) (name : String) (K : V → M β) (none_ : M β) :
    (do
      let t1 ← Dyn.getAttr w.ext (.obj (.parser f)) "_raw_config"
      let t2 ← Dyn.callMethod w.ext t1 "dict" [] []
      let t3 ← Dyn.contains w.ext (.str name) t2
      if t3 then do
        let t4 ← Dyn.getItem w.ext t2 (.str name)
        K t4
      else none_)
    = match Factory.sectionOf f name with
      | none => none_
      | some s => K (.dict (embSec s.scalars s.subs)) := by
  obtain ⟨h1, h2⟩ := embFile_section f name
  simp only [dyn_eval, ext_getattr_raw_config, ext_method_dict, h1, h2]
  cases Factory.sectionOf f name with
  | none => rfl
  | some s => rfl

/-- every `generate_<x>` of a section without sub-sections: `None` when the file has no such section, else the creator on
    it, of whose two results (object, popped section) the object is kept.  `o` is how an optional result is returned,
    given by its two equations. -/
theorem generate_flat (f : Factory.InputFile) (name : String) (create : V → M (V × V)) (spec : Config → M V)
    (popped : Config → V) (o : Option (M V) → M V) (ho : o none = .ok .none) (hs : ∀ x, o (some x) = x)
    (hflat : ∀ s, Factory.sectionOf f name = some s → s.subs = [] ∧ KeysNodup s.scalars)
    (hc : ∀ cfg, KeysNodup cfg → create (.dict (embCfg cfg)) = spec cfg >>= fun x => pure (x, popped cfg)) :
    (do
      let t1 ← Dyn.getAttr w.ext (.obj (.parser f)) "_raw_config"
      let t2 ← Dyn.callMethod w.ext t1 "dict" [] []
      let t3 ← Dyn.contains w.ext (.str name) t2
      if t3 then do
        let t4 ← Dyn.getItem w.ext t2 (.str name)
        let (t5, _) ← create t4
        pure t5
      else pure Dyn.Val.none)
    = o ((Factory.sectionOf f name).map (fun s => spec s.scalars)) := by
  rw [parser_frame]
  cases hsec : Factory.sectionOf f name with
  | none => exact ho.symm
  | some s =>
    obtain ⟨h3, h4⟩ := hflat s hsec
    have he : embSec s.scalars s.subs = embCfg s.scalars := by simp [h3, embSec]
    rw [Option.map_some, hs]
    show (create (.dict (embSec s.scalars s.subs)) >>= _) = _
    rw [he, hc _ h4]
    cases spec s.scalars <;> rfl

end Taurex.C15Src
