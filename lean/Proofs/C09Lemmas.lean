/-
  Posterior summaries over ℝ.  The stable insertion sort permutes and sorts (`sortG_perm`, `sortG_sorted`; `sortPairs`,
  `sortKeys` are instances) and is an argsort (`argsortStable_isArgsort`); `np.interp` on a node list either moves on or
  stops in a cell whose value is a convex combination of the two node values (`interpPairs_convex`), whence the bounds
  and monotonicity of the quantile and its exact form on sorted nodes; `nodes x w` is the node list of `quantileCorner`;
  the first index of the maximum (`argmaxFirst_spec`); restoring sample order (`restoreOrder_map`).
-/
import Proofs.RealInst
import Proofs.Convex
import Proofs.Argsort
import TaurexModel.Posterior
import Proofs.C09SrcLemmas
import Mathlib.Tactic.Linarith
import Mathlib.Tactic.Ring

namespace Taurex.C09
open Taurex.Posterior Taurex.C09Src
open Taurex.Convex (le_combo combo_le)

/-! ### the stable insertion sort

  `sortPairs` (samples by value) and `sortKeys` (positions by sample index) are `C09Src.sortG` at the key `Prod.fst`. -/

section
variable {β κ : Type} [LinearOrder κ] [DecidableLT κ] (key : β → κ)

theorem insertG_eq (p : β) (l : List β) : insertG key p l = l.orderedInsert (fun a b => ¬ key b < key a) p := by
  induction l with
  | nil => rfl
  | cons q qs ih => rw [insertG, List.orderedInsert_cons, ite_not, ih]

theorem insertG_perm (p : β) (l : List β) : (insertG key p l).Perm (p :: l) := by
  rw [insertG_eq]; exact List.perm_orderedInsert _ p l

theorem sortG_perm (l : List β) : (sortG key l).Perm l := by
  induction l with
  | nil => exact List.Perm.refl _
  | cons p ps ih => exact (insertG_perm key p _).trans (List.Perm.cons p ih)

theorem insertG_sorted (p : β) (l : List β) (h : l.Pairwise (fun a b => key a ≤ key b)) :
    (insertG key p l).Pairwise (fun a b => key a ≤ key b) := by
  rw [insertG_eq]
  exact pairwise_orderedInsert (s := fun a b => key a ≤ key b) (fun _ _ => not_lt.1) (fun _ _ h => (not_not.1 h).le) (fun _ _ _ => le_trans) p l h

theorem sortG_sorted (l : List β) : (sortG key l).Pairwise (fun a b => key a ≤ key b) := by
  induction l with
  | nil => exact List.Pairwise.nil
  | cons p ps ih => exact insertG_sorted key p _ ih

end

theorem sortPairs_perm (l : List (ℝ × ℝ)) : (sortPairs l).Perm l := by
  rw [sortPairs_eq]; exact sortG_perm _ l

theorem sortPairs_sorted (l : List (ℝ × ℝ)) : (sortPairs l).Pairwise (fun a b => a.1 ≤ b.1) := by
  rw [sortPairs_eq]; exact sortG_sorted _ l

theorem sortPairs_length (l : List (ℝ × ℝ)) : (sortPairs l).length = l.length :=
  (sortPairs_perm l).length_eq

theorem sortPairs_perm_eq {l₁ l₂ : List (ℝ × ℝ)} (hp : l₁.Perm l₂) (hd : (l₁.map Prod.fst).Nodup) :
    sortPairs l₁ = sortPairs l₂ :=
  eq_of_perm_of_sorted_key Prod.fst ((sortPairs_perm l₁).trans (hp.trans (sortPairs_perm l₂).symm))
    (sortPairs_sorted l₁) (sortPairs_sorted l₂) fun _ ha _ hb =>
      List.inj_on_of_nodup_map hd ((sortPairs_perm l₁).mem_iff.1 ha) ((sortPairs_perm l₁).mem_iff.1 hb)

/-! ### running sums -/

theorem cumsum_length (a : ℝ) (l : List ℝ) : (cumsum a l).length = l.length := by
  induction l generalizing a with
  | nil => simp [cumsum]
  | cons w ws ih => simp [cumsum, ih]

theorem cdfOf_length (l : List ℝ) : (cdfOf l).length = l.length := by
  simp [cdfOf, cumsum_length]

/-! ### `np.interp`

  Walking the node list, `interpPairs x` either moves on (`interpPairs_of_le`) or stops in the cell `[p0, p1)` and returns
  `cellVal p0 p1 x` (`interpPairs_of_lt`).  A cell value is a convex combination of the two node values; bounds and
  monotonicity follow from that. -/

theorem interpPairs_of_le {x : ℝ} {p1 : ℝ × ℝ} (p0 : ℝ × ℝ) (ps : List (ℝ × ℝ)) (h : p1.1 ≤ x) :
    interpPairs x (p0 :: p1 :: ps) = interpPairs x (p1 :: ps) := by
  rw [interpPairs, if_pos h]

/-- the result for `x` left of `p1`: linear inside the cell, `p0.2` at or left of `p0` -/
noncomputable def cellVal (p0 p1 : ℝ × ℝ) (x : ℝ) : ℝ :=
  if p0.1 < x then ((p1.2 - p0.2) / (p1.1 - p0.1)) * (x - p0.1) + p0.2 else p0.2

theorem interpPairs_of_lt {x : ℝ} {p1 : ℝ × ℝ} (p0 : ℝ × ℝ) (ps : List (ℝ × ℝ)) (h : x < p1.1) :
    interpPairs x (p0 :: p1 :: ps) = cellVal p0 p1 x := by
  rw [interpPairs, if_neg (not_le.2 h)]
  rfl

theorem cellVal_convex (p0 p1 : ℝ × ℝ) {x : ℝ} (h : x < p1.1) :
    ∃ t, 0 ≤ t ∧ t ≤ 1 ∧ cellVal p0 p1 x = (1 - t) * p0.2 + t * p1.2 := by
  unfold cellVal
  split
  · next h0 => exact ⟨_, (Convex.unit_of_bracket h0.le h.le).1, (Convex.unit_of_bracket h0.le h.le).2, by ring⟩
  · exact ⟨0, le_refl 0, zero_le_one, by ring⟩

theorem interpPairs_convex (x : ℝ) : ∀ (ps : List (ℝ × ℝ)), ps ≠ [] →
    ∃ a ∈ ps, ∃ b ∈ ps, ∃ t, 0 ≤ t ∧ t ≤ 1 ∧ interpPairs x ps = (1 - t) * a.2 + t * b.2
  | [], h => absurd rfl h
  | [p], _ => ⟨p, List.mem_singleton_self p, p, List.mem_singleton_self p, 0, le_refl 0, zero_le_one, by
      simp [interpPairs]⟩
  | p0 :: p1 :: ps, _ => by
    by_cases h : p1.1 ≤ x
    · obtain ⟨a, ha, b, hb, t, h0, h1, e⟩ := interpPairs_convex x (p1 :: ps) (List.cons_ne_nil _ _)
      exact ⟨a, List.mem_cons_of_mem _ ha, b, List.mem_cons_of_mem _ hb, t, h0, h1, by rw [interpPairs_of_le p0 ps h, e]⟩
    · obtain ⟨t, h0, h1, e⟩ := cellVal_convex p0 p1 (not_le.1 h)
      exact ⟨p0, List.mem_cons_self, p1, List.mem_cons_of_mem _ List.mem_cons_self, t, h0, h1, by
        rw [interpPairs_of_lt p0 ps (not_le.1 h), e]⟩

theorem interpPairs_ge (x lo : ℝ) (ps : List (ℝ × ℝ)) (hne : ps ≠ []) (hlo : ∀ p ∈ ps, lo ≤ p.2) :
    lo ≤ interpPairs x ps := by
  obtain ⟨a, ha, b, hb, t, h0, h1, e⟩ := interpPairs_convex x ps hne
  rw [e]
  exact le_combo (hlo a ha) (hlo b hb) h0 h1

theorem interpPairs_le (x hi : ℝ) (ps : List (ℝ × ℝ)) (hne : ps ≠ []) (hhi : ∀ p ∈ ps, p.2 ≤ hi) :
    interpPairs x ps ≤ hi := by
  obtain ⟨a, ha, b, hb, t, h0, h1, e⟩ := interpPairs_convex x ps hne
  rw [e]
  exact combo_le (hhi a ha) (hhi b hb) h0 h1

/-- node values non-decreasing (the samples come sorted) -/
def ValSorted (ps : List (ℝ × ℝ)) : Prop := ps.Pairwise (fun a b => a.2 ≤ b.2)

theorem interpPairs_ge_head (x : ℝ) (p0 : ℝ × ℝ) (ps : List (ℝ × ℝ)) (h : ValSorted (p0 :: ps)) :
    p0.2 ≤ interpPairs x (p0 :: ps) :=
  interpPairs_ge x p0.2 _ (List.cons_ne_nil _ _) (List.forall_mem_cons.2 ⟨le_refl _, (List.pairwise_cons.1 h).1⟩)

theorem cellVal_le_right {p0 p1 : ℝ × ℝ} (h01 : p0.2 ≤ p1.2) {x : ℝ} (h : x < p1.1) : cellVal p0 p1 x ≤ p1.2 := by
  obtain ⟨t, h0, h1, e⟩ := cellVal_convex p0 p1 h
  rw [e]
  exact combo_le h01 (le_refl _) h0 h1

theorem cellVal_mono {p0 p1 : ℝ × ℝ} (h01 : p0.2 ≤ p1.2) {x y : ℝ} (hxy : x ≤ y) (hy : y < p1.1) :
    cellVal p0 p1 x ≤ cellVal p0 p1 y := by
  unfold cellVal
  by_cases hy0 : p0.1 < y
  · have hsl : 0 ≤ (p1.2 - p0.2) / (p1.1 - p0.1) := div_nonneg (sub_nonneg.2 h01) (by linarith)
    rw [if_pos hy0]
    split
    · exact add_le_add (mul_le_mul_of_nonneg_left (sub_le_sub_right hxy _) hsl) (le_refl _)
    · exact le_add_of_nonneg_left (mul_nonneg hsl (sub_nonneg.2 hy0.le))
  · rw [if_neg hy0, if_neg (fun hx0 => hy0 (lt_of_lt_of_le hx0 hxy))]

theorem interpPairs_mono {x y : ℝ} (hxy : x ≤ y) : ∀ (ps : List (ℝ × ℝ)), ValSorted ps →
    interpPairs x ps ≤ interpPairs y ps
  | [], _ => le_refl _
  | [_], _ => le_refl _
  | p0 :: p1 :: ps, hs => by
    have hs' : ValSorted (p1 :: ps) := (List.pairwise_cons.1 hs).2
    have h01 : p0.2 ≤ p1.2 := (List.pairwise_cons.1 hs).1 p1 List.mem_cons_self
    by_cases hy : p1.1 ≤ y
    · rw [interpPairs_of_le p0 ps hy]
      by_cases hx : p1.1 ≤ x
      · rw [interpPairs_of_le p0 ps hx]
        exact interpPairs_mono hxy (p1 :: ps) hs'
      · rw [interpPairs_of_lt p0 ps (not_le.1 hx)]
        exact (cellVal_le_right h01 (not_le.1 hx)).trans (interpPairs_ge_head y p1 ps hs')
    · have hy' : y < p1.1 := not_le.1 hy
      rw [interpPairs_of_lt p0 ps (lt_of_le_of_lt hxy hy'), interpPairs_of_lt p0 ps hy']
      exact cellVal_mono h01 hxy hy'

/-! ### `interpPairs` is `np.interp`: the cell is the last one whose left node is `≤ x` -/

/-- node abscissae non-decreasing (`np.interp` assumes it of `xp`) -/
def AbsSorted (ps : List (ℝ × ℝ)) : Prop := ps.Pairwise (fun a b => a.1 ≤ b.1)

theorem interpPairs_cell (x : ℝ) (a b : ℝ × ℝ) (post : List (ℝ × ℝ)) (ha : a.1 ≤ x) (hb : x < b.1) :
    ∀ (pre : List (ℝ × ℝ)), AbsSorted (pre ++ a :: b :: post) →
    interpPairs x (pre ++ a :: b :: post) =
      if a.1 < x then ((b.2 - a.2) / (b.1 - a.1)) * (x - a.1) + a.2 else a.2
  | [], _ => interpPairs_of_lt a post hb
  | [c], hs => by
    rw [List.cons_append, List.nil_append, interpPairs_of_le c _ ha]
    exact interpPairs_cell x a b post ha hb [] (List.pairwise_cons.1 hs).2
  | c :: d :: pre, hs => by
    have hs' : AbsSorted (d :: pre ++ a :: b :: post) := (List.pairwise_cons.1 hs).2
    have hda : d.1 ≤ a.1 := (List.pairwise_cons.1 hs').1 a (by simp)
    rw [List.cons_append, List.cons_append, interpPairs_of_le c _ (hda.trans ha)]
    exact interpPairs_cell x a b post ha hb (d :: pre) hs'

theorem interpPairs_right (x : ℝ) : ∀ (ps : List (ℝ × ℝ)) (hne : ps ≠ []), (∀ p ∈ ps, p.1 ≤ x) →
    interpPairs x ps = (ps.getLast hne).2
  | [], h, _ => absurd rfl h
  | [_], _, _ => rfl
  | p0 :: p1 :: ps, _, hall => by
    rw [interpPairs_of_le p0 ps (hall p1 (by simp)), List.getLast_cons (List.cons_ne_nil _ _)]
    exact interpPairs_right x (p1 :: ps) _ (fun p hp => hall p (List.mem_cons_of_mem _ hp))

theorem interpPairs_left (x : ℝ) (a : ℝ × ℝ) (rest : List (ℝ × ℝ)) (hs : AbsSorted (a :: rest)) (hx : x < a.1) :
    interpPairs x (a :: rest) = a.2 := by
  cases rest with
  | nil => rfl
  | cons b ps =>
    have hab : a.1 ≤ b.1 := (List.pairwise_cons.1 hs).1 b List.mem_cons_self
    rw [interpPairs_of_lt a ps (lt_of_lt_of_le hx hab), cellVal, if_neg (not_lt.2 hx.le)]

theorem interpPairs_node : ∀ (ps : List (ℝ × ℝ)), ps.Pairwise (fun a b => a.1 < b.1) → ∀ p ∈ ps,
    interpPairs p.1 ps = p.2
  | [], _, p, hp => absurd hp List.not_mem_nil
  | [p0], _, p, hp => by rw [List.mem_singleton.1 hp]; rfl
  | p0 :: p1 :: ps, hs, p, hp => by
    obtain ⟨h0, hs'⟩ := List.pairwise_cons.1 hs
    rcases List.mem_cons.1 hp with rfl | hp'
    · rw [interpPairs_of_lt p ps (h0 p1 List.mem_cons_self), cellVal, if_neg (lt_irrefl _)]
    · have h1 : p1.1 ≤ p.1 := by
        rcases List.mem_cons.1 hp' with rfl | hp''
        · exact le_refl _
        · exact ((List.pairwise_cons.1 hs').1 p hp'').le
      rw [interpPairs_of_le p0 ps h1]
      exact interpPairs_node (p1 :: ps) hs' p hp'

/-! ### running sums of positive weights increase strictly -/

theorem cumsum_gt (a : ℝ) : ∀ (ws : List ℝ), (∀ w ∈ ws, 0 < w) → ∀ c ∈ cumsum a ws, a < c := by
  intro ws
  induction ws generalizing a with
  | nil => intro _ c hc; simp [cumsum] at hc
  | cons w ws ih =>
    intro hw c hc
    have hw0 : 0 < w := hw w (by simp)
    simp only [cumsum, List.mem_cons] at hc
    rcases hc with rfl | hc
    · linarith
    · have := ih (a + w) (fun v hv => hw v (List.mem_cons_of_mem _ hv)) c hc
      linarith

theorem cumsum_strict (a : ℝ) : ∀ (ws : List ℝ), (∀ w ∈ ws, 0 < w) → (cumsum a ws).Pairwise (· < ·) := by
  intro ws
  induction ws generalizing a with
  | nil => intro _; simp [cumsum]
  | cons w ws ih =>
    intro hw
    simp only [cumsum]
    rw [List.pairwise_cons]
    exact ⟨cumsum_gt (a + w) ws (fun v hv => hw v (List.mem_cons_of_mem _ hv)),
           ih (a + w) (fun v hv => hw v (List.mem_cons_of_mem _ hv))⟩

theorem cumsum_last_pos (ws : List ℝ) (hne : ws ≠ []) (hw : ∀ w ∈ ws, 0 < w) : 0 < (cumsum 0 ws).getLastD 0 := by
  have hne' : cumsum 0 ws ≠ [] := by
    intro h
    have := cumsum_length 0 ws
    rw [h] at this
    exact hne (List.length_eq_zero_iff.1 this.symm)
  rw [List.getLastD_eq_getLast?, List.getLast?_eq_some_getLast hne']
  exact cumsum_gt 0 ws hw _ (List.getLast_mem hne')

theorem cdfOf_strict (ws : List ℝ) (hne : ws ≠ []) (hw : ∀ w ∈ ws, 0 < w) : (cdfOf ws).Pairwise (· < ·) := by
  unfold cdfOf
  have ht := cumsum_last_pos ws hne hw
  rw [List.pairwise_map]
  exact (cumsum_strict 0 ws hw).imp (fun h => div_lt_div_of_pos_right h ht)

/-! ### the quantile -/

/-- the node list of `quantileCorner` -/
noncomputable def nodes (x w : List ℝ) : List (ℝ × ℝ) :=
  let s := sortPairs (List.zip x w)
  List.zip (cdfOf (s.map Prod.snd)) (s.map Prod.fst)

theorem quantileCorner_eq (x w : List ℝ) (q : ℝ) : quantileCorner x w q = interpPairs q (nodes x w) := rfl

theorem nodes_length (x w : List ℝ) : (nodes x w).length = min x.length w.length := by
  simp [nodes, cdfOf_length, sortPairs_length]

theorem nodes_snd_mem {x w : List ℝ} {p : ℝ × ℝ} (hp : p ∈ nodes x w) : p.2 ∈ x := by
  unfold nodes at hp
  have h2 := (List.of_mem_zip hp).2
  obtain ⟨a, ha, h⟩ := List.mem_map.1 h2
  have : a ∈ List.zip x w := (sortPairs_perm _).mem_iff.1 ha
  rw [← h]
  exact (List.of_mem_zip this).1

theorem zip_pairwise_fst {α β : Type} {r : α → α → Prop} : ∀ (a : List α) (b : List β), a.Pairwise r →
    (List.zip a b).Pairwise (fun p q => r p.1 q.1)
  | [], _, _ => by simp
  | _ :: _, [], _ => by simp
  | a0 :: as, b0 :: bs, ha => by
    rw [List.zip_cons_cons, List.pairwise_cons]
    rw [List.pairwise_cons] at ha
    exact ⟨fun p hp => ha.1 p.1 (List.of_mem_zip hp).1, zip_pairwise_fst as bs ha.2⟩

theorem nodes_valSorted (x w : List ℝ) : ValSorted (nodes x w) := by
  have h := zip_pairwise_fst _ (cdfOf ((sortPairs (List.zip x w)).map Prod.snd))
    (List.pairwise_map.2 (sortPairs_sorted (List.zip x w)))
  rwa [← List.zip_swap, List.pairwise_map] at h

/-- a quantile is a convex combination of two sample values, so it lies wherever all samples lie: no sign or sum
    condition on the weights is needed -/
theorem quantileCorner_between (x w : List ℝ) (q : ℝ) {lo hi : ℝ} (hlen : x.length = w.length) (hne : x ≠ [])
    (hlo : ∀ a ∈ x, lo ≤ a) (hhi : ∀ a ∈ x, a ≤ hi) : lo ≤ quantileCorner x w q ∧ quantileCorner x w q ≤ hi := by
  have hn : nodes x w ≠ [] := fun h => hne (List.length_eq_zero_iff.1 (by
    have := nodes_length x w
    rw [h, ← hlen, Nat.min_self] at this
    exact this.symm))
  rw [quantileCorner_eq]
  exact ⟨interpPairs_ge q lo _ hn fun p hp => hlo _ (nodes_snd_mem hp),
    interpPairs_le q hi _ hn fun p hp => hhi _ (nodes_snd_mem hp)⟩

/-- the nodes carry the samples in increasing order, so the quantile is non-decreasing in `q` for any samples and weights -/
theorem quantileCorner_mono (x w : List ℝ) {q q' : ℝ} (hq : q ≤ q') : quantileCorner x w q ≤ quantileCorner x w q' := by
  rw [quantileCorner_eq, quantileCorner_eq]
  exact interpPairs_mono hq _ (nodes_valSorted x w)

theorem nodes_absStrict (x w : List ℝ) (hw : ∀ b ∈ w, 0 < b) :
    (nodes x w).Pairwise (fun a b => a.1 < b.1) := by
  unfold nodes
  have hmem : ∀ b ∈ (sortPairs (List.zip x w)).map Prod.snd, 0 < b := by
    intro b hb
    obtain ⟨p, hp, h⟩ := List.mem_map.1 hb
    have : p ∈ List.zip x w := (sortPairs_perm _).mem_iff.1 hp
    rw [← h]
    exact hw _ (List.of_mem_zip this).2
  by_cases hne : (sortPairs (List.zip x w)).map Prod.snd = []
  · simp [hne, cdfOf, cumsum]
  · exact zip_pairwise_fst _ _ (cdfOf_strict _ hne hmem)

theorem nodes_absSorted (x w : List ℝ) (hw : ∀ b ∈ w, 0 < b) : AbsSorted (nodes x w) :=
  (nodes_absStrict x w hw).imp le_of_lt

/-! ### arg max -/

theorem argmaxFirst_cons_cons (w v : ℝ) (vs : List ℝ) :
    argmaxFirst (w :: v :: vs) =
      if w < (v :: vs).getD (argmaxFirst (v :: vs)) 0 then argmaxFirst (v :: vs) + 1 else 0 := rfl

theorem argmaxFirst_spec : ∀ (l : List ℝ), l ≠ [] →
    argmaxFirst l < l.length ∧ (∀ j, j < l.length → l.getD j 0 ≤ l.getD (argmaxFirst l) 0) ∧
    (∀ j, j < argmaxFirst l → l.getD j 0 < l.getD (argmaxFirst l) 0)
  | [], h => absurd rfl h
  | [w], _ => ⟨Nat.zero_lt_one, fun j hj => by rw [Nat.lt_one_iff.1 hj]; exact le_refl w,
      fun j hj => absurd hj (Nat.not_lt_zero j)⟩
  | w :: v :: vs, _ => by
    obtain ⟨hlt, hmax, hfirst⟩ := argmaxFirst_spec (v :: vs) (List.cons_ne_nil _ _)
    rw [argmaxFirst_cons_cons]
    split
    · next hw =>
      refine ⟨Nat.succ_lt_succ hlt, ?_, ?_⟩
      · rintro (_ | j) hj
        · exact hw.le
        · exact hmax j (Nat.lt_of_succ_lt_succ hj)
      · rintro (_ | j) hj
        · exact hw
        · exact hfirst j (Nat.lt_of_succ_lt_succ hj)
    · next hw =>
      refine ⟨Nat.succ_pos _, ?_, fun j hj => absurd hj (Nat.not_lt_zero j)⟩
      rintro (_ | j) hj
      · exact le_refl w
      · exact (hmax j (Nat.lt_of_succ_lt_succ hj)).trans (not_lt.1 hw)

/-! ### restoring sample order by sample index -/

theorem argsortStable_isArgsort {κ : Type} [LinearOrder κ] (d : κ) (x : List κ) :
    IsArgsort (fun j => x.getD j d) x.length (argsortStable x) := by
  unfold argsortStable
  refine ⟨?_, List.pairwise_map.2 ((sortG_sorted Prod.fst x.zipIdx).imp_of_mem fun {p q} hp hq h => ?_)⟩
  · have := (sortG_perm Prod.fst x.zipIdx).map Prod.snd
    rwa [List.zipIdx_map_snd, ← List.range_eq_range'] at this
  · -- a pair of `x.zipIdx` is (the entry, its position)
    have key : ∀ p ∈ sortG Prod.fst x.zipIdx, x.getD p.2 d = p.1 := fun p hp => by
      rw [List.getD_eq_getElem?_getD,
        List.mem_zipIdx_iff_getElem?.1 ((sortG_perm Prod.fst x.zipIdx).mem_iff.1 hp), Option.getD_some]
    show x.getD p.2 d ≤ x.getD q.2 d
    rw [key p hp, key q hq]; exact h

theorem argsortNat_isArgsort (index : List ℕ) : IsArgsort (fun j => index.getD j 0) index.length (argsortNat index) := by
  unfold argsortNat
  rw [sortKeys_eq]
  exact argsortStable_isArgsort 0 index

/-- **the re-ordering is correct for every gather order**: if entry `k` of the gathered list is the value `g` of
    sample `index[k]` and `index` enumerates every sample once, the restored list is `g 0, g 1, …` -/
theorem restoreOrder_map {β : Type} (g : ℕ → β) (index : List ℕ) (n : ℕ) (hp : index.Perm (List.range n)) :
    restoreOrder index (index.map g) = (List.range n).map g :=
  (argsortNat_isArgsort index).restore hp g

/-- one process: the index list is `0 … n-1` and nothing moves -/
theorem restoreOrder_range {β : Type} (a : List β) : restoreOrder (List.range a.length) a = a := by
  cases a with
  | nil => rfl
  | cons x xs =>
    have h := restoreOrder_map (fun i => (x :: xs).getD i x) (List.range (x :: xs).length) (x :: xs).length
      (List.Perm.refl _)
    rwa [← list_eq_map_range x (x :: xs)] at h

end Taurex.C09
