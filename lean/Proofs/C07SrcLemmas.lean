/-
  Helper definitions and lemmas for Props/C07Src.lean (source tie of taurex/optimizer/optimizer.py):
  how a state of `TaurexModel/OptimizerSM.lean` is laid out as the Python objects the translated code handles
  (dicts of parameter tuples, the list of compiled tuples, the world behind the getters and setters), and the facts that
  relate the `Py.*` container primitives to the model's `tget` / `tset` / `hasName` / `modifyParam`.
-/
import TaurexModel.Gen.SrcC07
import Proofs.C07

namespace Taurex.C07Src
open Taurex.Priors Taurex.OptimizerSM Taurex.Gen Taurex.C07

/-! ### the layout of a model state as Python objects -/

/-- the `mode` slot of a parameter tuple -/
def modeStr : FitMode → String
  | .linear => "linear"
  | .log => "log"

/-- `PriorMode` members as the translator encodes them (`PriorMode.LINEAR` = 0, `PriorMode.LOG` = 1) -/
def modeCode : PriorMode → Nat
  | .linear => 0
  | .log => 1

/-- how an exception of the model is named by the translated code -/
def outE : Out → Except Py.Err Unit
  | .ok => .ok ()
  | .keyError => .error .keyError
  | .valueError => .error .valueError

section
variable {ν α L : Type}

/-- a bound getter / setter: which object it belongs to and which attribute it accesses -/
abbrev Handle (ν : Type) := Owner × ν

abbrev T7 (ν α L : Type) := ν × L × Handle ν × Handle ν × String × Bool × (α × α)
abbrev T4 (ν L : Type) := ν × L × Handle ν × Bool

/-- the tuple `(name, latex, fget, fset, mode, to_fit, bounds)` stored for a parameter of the object `o`;
    `lx` gives the LaTeX text (never looked at by the code under check) -/
def tupleOf (lx : ν → L) (o : Owner) (p : Param ν α) : T7 ν α L :=
  (p.name, lx p.name, (o, p.name), (o, p.name), modeStr p.mode, p.fit, (p.b0, p.b1))

/-- `obj.fittingParameters` -/
def fpDict (lx : ν → L) (o : Owner) (ps : List (Param ν α)) : List (ν × T7 ν α L) :=
  ps.map (fun p => (p.name, tupleOf lx o p))

/-- the tuple `(name, latex, fget, compute)` of a derived parameter -/
def dtupleOf (lx : ν → L) (o : Owner) (d : Derived ν) : T4 ν L := (d.name, lx d.name, (o, d.name), d.compute)

/-- `obj.derivedParameters` -/
def dpDict (lx : ν → L) (o : Owner) (ds : List (Derived ν)) : List (ν × T4 ν L) :=
  ds.map (fun d => (d.name, dtupleOf lx o d))

/-- an element of `Optimizer.fitting_parameters`: the tuple as it was when compiled (its fit flag was set) -/
def entryTuple (lx : ν → L) (e : Entry ν α) : T7 ν α L :=
  (e.name, lx e.name, (e.owner, e.name), (e.owner, e.name), modeStr e.mode, true, (e.b0, e.b1))

/-- the elements of `Optimizer.derived_parameters` a table contributes -/
def derivedTuples (lx : ν → L) (o : Owner) (ds : List (Derived ν)) : List (T4 ν L) :=
  (ds.filter (·.compute)).map (dtupleOf lx o)

theorem derivedTuples_names (lx : ν → L) (o : Owner) (ds : List (Derived ν)) :
    (derivedTuples lx o ds).map (·.1) = derivedOf ds := by
  simp [derivedTuples, derivedOf, dtupleOf, List.map_map, Function.comp_def]

end

section
variable {ν α : Type} [DecidableEq ν]

/-- `fget()` of a handle in the world `s` (the model's `getValue`; a getter of the real code always returns a value:
    the default is never reached for a handle of an existing parameter) -/
def callGet [OfNat α 0] (s : St ν α) (g : Handle ν) : α := (getValue s g.1 g.2).getD 0

/-- `fset(x)` of a handle -/
def callSet (s : St ν α) (g : Handle ν) (x : α) : St ν α := setValue s g.1 g.2 x

theorem dget_append_none {β : Type} (d e : List (ν × β)) (n : ν) (h : Py.dget d n = none) :
    Py.dget (d ++ e) n = Py.dget e n :=
  Py.dget_append_none d e n h

end

section
variable {ν α L : Type} [DecidableEq ν]
variable (lx : ν → L) (o : Owner)

/-! `fpDict` and `dpDict` are tables laid out as dicts, `l.map fun x => (key x, enc x)` (`Py.dget_map`, `Py.dset_map`). -/

theorem find?_of_any {ι : Type} {l : List ι} {q : ι → Bool} (h : l.any q = true) :
    ∃ x, l.find? q = some x ∧ q x = true := by
  obtain ⟨x, hx⟩ := Option.isSome_iff_exists.1 (List.find?_isSome.2 (List.any_eq_true.1 h))
  exact ⟨x, hx, List.find?_some hx⟩

theorem find?_none_of_any {ι : Type} {l : List ι} {q : ι → Bool} (h : l.any q = false) : l.find? q = none := by
  rw [List.find?_eq_none]
  intro x hx hq
  rw [List.any_eq_true.2 ⟨x, hx, hq⟩] at h
  cases h

theorem dget_fpDict (ps : List (Param ν α)) (n : ν) :
    Py.dget (fpDict lx o ps) n = (ps.find? (fun p => decide (p.name = n))).map (tupleOf lx o) :=
  Py.dget_map Param.name (tupleOf lx o) ps n

theorem dhas_fpDict (ps : List (Param ν α)) (n : ν) :
    Py.dhas (fpDict lx o ps) n = hasName ps n :=
  Py.dhas_map Param.name (tupleOf lx o) ps n

theorem dset_fpDict (f : Param ν α → Param ν α) (hf : ∀ q, (f q).name = q.name) (n : ν)
    (ps : List (Param ν α)) (p : Param ν α) (hnd : (names ps).Nodup)
    (hp : ps.find? (fun p => decide (p.name = n)) = some p) :
    Py.dset (fpDict lx o ps) n (tupleOf lx o (f p)) = fpDict lx o (modifyParam ps n f) :=
  Py.dset_map Param.name (tupleOf lx o) f hf n ps p hnd hp

theorem dget_dpDict (ds : List (Derived ν)) (n : ν) :
    Py.dget (dpDict lx o ds) n = (ds.find? (fun d => decide (d.name = n))).map (dtupleOf lx o) :=
  Py.dget_map Derived.name (dtupleOf lx o) ds n

theorem dhas_dpDict (ds : List (Derived ν)) (n : ν) :
    Py.dhas (dpDict lx o ds) n = hasDerived ds n :=
  Py.dhas_map Derived.name (dtupleOf lx o) ds n

theorem dset_dpDict (n : ν) (c : Bool) (ds : List (Derived ν)) (d : Derived ν)
    (hnd : (ds.map (·.name)).Nodup) (hd : ds.find? (fun d => decide (d.name = n)) = some d) :
    Py.dset (dpDict lx o ds) n (d.name, lx d.name, (o, d.name), c)
      = dpDict lx o (ds.map (fun d => if d.name = n then { d with compute := c } else d)) :=
  Py.dset_map Derived.name (dtupleOf lx o) (fun d => { d with compute := c }) (fun _ => rfl) n ds d hnd hd

theorem getValue_of_find (s : St ν α) (o : Owner) (n : ν) (p : Param ν α)
    (h : (table s o).find? (fun p => decide (p.name = n)) = some p) : getValue s o n = some p.value := by
  simp [getValue, h]

end

/-! ### the common shape of enable_fit / disable_fit / set_boundary / set_factor_boundary / set_mode -/

section
variable {ν α L : Type} [DecidableEq ν]
variable (lx : ν → L) (o : Owner)

/-- `obj = first if n in first else second; v = obj[n]` on two dicts, then anything: `k` is told which dict was picked
    (0 / 1); `KeyError` when neither has `n` -/
theorem pick_rewrite {β γ : Type} (D₁ D₂ : List (ν × β)) (n : ν) (onErr : Py.Err → γ) (k : Nat → β → γ) :
    Py.caseE (Py.dgetE (if (if Py.dhas D₁ n then 0 else 1 : Nat) = 0 then D₁ else D₂) n) onErr
        (k (if Py.dhas D₁ n then 0 else 1))
      = match Py.dget D₁ n, Py.dget D₂ n with
        | some v, _ => k 0 v
        | none, some v => k 1 v
        | none, none => onErr .keyError := by
  rw [Py.dhas_eq_isSome]
  cases h1 : Py.dget D₁ n with
  | some v => simp [Py.dgetE, h1]
  | none => cases h2 : Py.dget D₂ n <;> simp [Py.dgetE, h2]

theorem withParam_enc (s : St ν α) (n : ν) (f : Param ν α → Param ν α) (hf : ∀ q, (f q).name = q.name)
    (hm : (names s.model).Nodup) (ho : (names s.obs).Nodup) (g : T7 ν α L → T7 ν α L)
    (hg : ∀ o p, (table s o).find? (fun p => decide (p.name = n)) = some p → g (tupleOf lx o p) = tupleOf lx o (f p)) :
    Py.caseE (Py.dgetE (if (if Py.dhas (fpDict lx .model s.model) n then 0 else 1 : Nat) = 0
                      then fpDict lx .model s.model else fpDict lx .obs s.obs) n)
      (fun e => ((fpDict lx .model s.model, fpDict lx .obs s.obs), (Except.error e : Except Py.Err Unit)))
      (fun v =>
       ((if (if Py.dhas (fpDict lx .model s.model) n then 0 else 1 : Nat) = 0
           then Py.dset (fpDict lx .model s.model) n (g v) else fpDict lx .model s.model,
         if (if Py.dhas (fpDict lx .model s.model) n then 0 else 1 : Nat) = 1
           then Py.dset (fpDict lx .obs s.obs) n (g v) else fpDict lx .obs s.obs), Except.ok ()))
      = ((fpDict lx .model (withParam s n f).1.model, fpDict lx .obs (withParam s n f).1.obs),
         outE (withParam s n f).2) := by
  rw [pick_rewrite (k := fun obj v =>
    ((if obj = 0 then Py.dset (fpDict lx .model s.model) n (g v) else fpDict lx .model s.model,
      if obj = 1 then Py.dset (fpDict lx .obs s.obs) n (g v) else fpDict lx .obs s.obs), Except.ok ())),
    dget_fpDict, dget_fpDict]
  cases hmn : hasName s.model n with
  | true =>
    obtain ⟨p, hp, _⟩ := find?_of_any hmn
    simp only [hp, Option.map_some, if_true, Nat.zero_ne_one, if_false]
    rw [hg .model p hp, dset_fpDict lx .model f hf n s.model p hm hp]
    simp [withParam, ownerOf, hmn, table, setTable, outE]
  | false =>
    rw [find?_none_of_any hmn]
    cases hon : hasName s.obs n with
    | true =>
      obtain ⟨p, hp, _⟩ := find?_of_any hon
      simp only [hp, Option.map_some, Option.map_none, Nat.succ_ne_self, if_true, if_false]
      rw [hg .obs p hp, dset_fpDict lx .obs f hf n s.obs p ho hp]
      simp [withParam, ownerOf, hmn, hon, table, setTable, outE]
    | false =>
      rw [find?_none_of_any hon]
      simp [withParam, ownerOf, hmn, hon, table, outE]

end

section
variable {ν α L : Type} [DecidableEq ν]
variable (lx : ν → L) (o : Owner)

/-- `parameter in obj.fittingParameters` for the chosen object -/
theorem dhas_owner (s : St ν α) (n : ν) :
    Py.dhas (if (if Py.dhas (fpDict lx .model s.model) n then 0 else 1 : Nat) = 0
               then fpDict lx .model s.model else fpDict lx .obs s.obs) n = hasName (table s (ownerOf s n)) n := by
  rw [dhas_fpDict]
  cases hmn : hasName s.model n <;> simp [ownerOf, hmn, table, dhas_fpDict]

theorem parseMode_some (m : String) (md : FitMode) (h : parseMode m = some md) : m.toLower = modeStr md := by
  unfold parseMode at h
  simp only [beq_iff_eq] at h
  by_cases h1 : m.toLower = "log"
  · simp [h1] at h; subst h; simpa [modeStr] using h1
  · by_cases h2 : m.toLower = "linear"
    · simp [h2] at h; subst h; simpa [modeStr] using h2
    · simp [h1, h2] at h

theorem parseMode_none (m : String) (h : parseMode m = none) :
    (decide (m.toLower = "log") || decide (m.toLower = "linear")) = false := by
  unfold parseMode at h
  simp only [beq_iff_eq] at h
  by_cases h1 : m.toLower = "log"
  · simp [h1] at h
  · by_cases h2 : m.toLower = "linear"
    · simp [h2] at h
    · simp [h1, h2]

theorem modeStr_valid (md : FitMode) : (decide (modeStr md = "log") || decide (modeStr md = "linear")) = true := by
  cases md <;> simp [modeStr]

/-- the test `mode == 'log'` of `compile_params` on a stored mode string -/
theorem modeStr_log (md : FitMode) : decide (modeStr md = "log") = decide (md = FitMode.log) := by
  cases md <;> simp [modeStr]

end

/-! ### `update_model` and the observers over the compiled rows -/

/-- `none` of the model read as the exception `e` -/
def optE {β : Type} (e : Py.Err) : Option β → Except Py.Err β
  | some v => .ok v
  | none => .error e

section
variable {ν α L : Type}
variable (lx : ν → L) (o : Owner)

/-- the loop of `update_model` over `zip(fit_params, fitting_parameters, fitting_priors)` is `applyUpdate` -/
theorem foldl_update [DecidableEq ν] [Transc α] : ∀ (es : List (Entry ν α)) (ps : List (Prior α)) (xs : List α) (s : St ν α),
    List.foldl (fun (w : St ν α) (it : α × T7 ν α L × Prior α) => callSet w it.2.1.2.2.2.1 (it.2.2.back it.1)) s
        (List.zip xs (List.zip (es.map (entryTuple lx)) ps)) = applyUpdate s es ps xs := by
  intro es
  induction es with
  | nil => intro ps xs s; cases ps <;> cases xs <;> simp [applyUpdate]
  | cons e es ih =>
    intro ps xs s
    cases ps with
    | nil => cases xs <;> simp [applyUpdate]
    | cons p ps =>
      cases xs with
      | nil => simp [applyUpdate]
      | cons x xs =>
        simp only [List.map_cons, List.zip_cons_cons, List.foldl_cons, applyUpdate]
        exact ih ps xs _

variable [LT α] [DecidableLT α] [OfNat α 0] [Transc α]

/-- `math.log10`: `ValueError` unless `0 < x` (the model's `log10?`) -/
def mathLog10 (x : α) : Except Py.Err α := optE .valueError (log10? x)

/-- the comprehension of `fit_boundaries` -/
theorem mapE_fit_boundaries : ∀ (es : List (Entry ν α)) (ps : List (Prior α)),
    Py.mapE (fun (it : T7 ν α L × Prior α) =>
        if decide (modeCode it.2.mode = (0 : Nat)) then (Except.ok it.1.2.2.2.2.2.2 : Except Py.Err (α × α))
        else Py.caseE (mathLog10 it.1.2.2.2.2.2.2.1) (fun e => Except.error e)
              (fun a => Py.caseE (mathLog10 it.1.2.2.2.2.2.2.2) (fun e => Except.error e) (fun b => Except.ok (a, b))))
        (List.zip (es.map (entryTuple lx)) ps)
      = optE .valueError (fitBoundariesAux es ps) := by
  intro es
  induction es with
  | nil => intro ps; cases ps <;> simp [fitBoundariesAux, optE]
  | cons e es ih =>
    intro ps
    cases ps with
    | nil => simp [fitBoundariesAux, optE]
    | cons p ps =>
      rw [List.map_cons, List.zip_cons_cons, Py.mapE_cons, ih ps]
      simp only [fitBoundariesAux, reportBounds, entryTuple]
      cases hm : p.mode with
      | linear => cases fitBoundariesAux es ps <;> simp [modeCode, optE]
      | log =>
        cases h0 : log10? e.b0 <;> cases h1 : log10? e.b1 <;> cases fitBoundariesAux es ps <;>
          simp [modeCode, optE, mathLog10, h0, h1]

variable [DecidableEq ν]

/-- the comprehension of `fit_values` -/
theorem mapE_fit_values (s : St ν α) : ∀ (es : List (Entry ν α)) (ps : List (Prior α)),
    (∀ e ∈ es, (getValue s e.owner e.name).isSome = true) →
    Py.mapE (fun (it : T7 ν α L × Prior α) =>
        if decide (modeCode it.2.mode = (0 : Nat)) then (Except.ok (callGet s it.1.2.2.1) : Except Py.Err α)
        else mathLog10 (callGet s it.1.2.2.1)) (List.zip (es.map (entryTuple lx)) ps)
      = optE .valueError (fitValuesAux s es ps) := by
  intro es
  induction es with
  | nil => intro ps _; cases ps <;> simp [fitValuesAux, optE]
  | cons e es ih =>
    intro ps hex
    cases ps with
    | nil => simp [fitValuesAux, optE]
    | cons p ps =>
      have hv := hex e (by simp)
      obtain ⟨v, hv⟩ := Option.isSome_iff_exists.1 hv
      have ih' := ih ps (fun e' he' => hex e' (by simp [he']))
      rw [List.map_cons, List.zip_cons_cons, Py.mapE_cons, ih']
      simp only [fitValuesAux, reportValue, hv, entryTuple, callGet, Option.getD_some]
      cases hm : p.mode with
      | linear =>
        cases fitValuesAux s es ps <;> simp [modeCode, optE]
      | log =>
        cases hl : log10? v <;> cases fitValuesAux s es ps <;> simp [modeCode, optE, mathLog10, hl]

end

/-! ### the two loops of the module-level `compile_params` -/

section
variable {ν α L : Type}
variable (lx : ν → L) (o : Owner)

theorem values_fpDict (ps : List (Param ν α)) :
    Py.values (fpDict lx o ps) = ps.map (tupleOf lx o) := by
  simp [Py.values, fpDict, List.map_map, Function.comp_def]

theorem values_dpDict (ds : List (Derived ν)) :
    Py.values (dpDict lx o ds) = ds.map (dtupleOf lx o) := by
  simp [Py.values, dpDict, List.map_map, Function.comp_def]

/-- the loop over `driveparams.values()` -/
theorem foldl_derived (F : List (T4 ν L) → T4 ν L → List (T4 ν L))
    (hF : ∀ acc (d : Derived ν), F acc (dtupleOf lx o d) = if d.compute then acc ++ [dtupleOf lx o d] else acc) :
    ∀ (ds : List (Derived ν)) (acc : List (T4 ν L)),
      List.foldl F acc (ds.map (dtupleOf lx o)) = acc ++ derivedTuples lx o ds := by
  intro ds
  induction ds with
  | nil => intro acc; simp [derivedTuples]
  | cons d ds ih =>
    intro acc
    simp only [List.map_cons, List.foldl_cons, hF, ih]
    cases hc : d.compute <;> simp [derivedTuples, hc]

theorem entryTuple_entryOf (p : Param ν α) (h : p.fit = true) :
    entryTuple lx (entryOf o p) = tupleOf lx o p := by
  simp [entryTuple, entryOf, tupleOf, h]

variable [DecidableEq ν] [LT α] [DecidableLT α] [OfNat α 0] [Transc α]

/-- `LogUniform(lin_bounds=b)`: `ValueError` (of `math.log10`) where the model's constructor has `none` -/
def logUniformLin (b : α × α) : Except Py.Err (Prior α) := optE .valueError (mkLogUniformLin b.1 b.2)

/-- `Uniform(bounds=b)` -/
def uniformBounds (b : α × α) : Prior α := mkUniform b.1 b.2

/-- the body of the loop over `fitparams.values()` in the module-level `compile_params` (the regenerated text, with
    `LogUniform(lin_bounds=…)` and `Uniform(bounds=…)` instantiated), on the loop state
    `(fitting_parameters, fitting_priors, _fit_priors)` -/
abbrev fitBody (st : List (T7 ν α L) × List (Prior α) × Table ν α) (v : T7 ν α L) :
    (List (T7 ν α L) × List (Prior α) × Table ν α) × Option Py.Err :=
  if v.2.2.2.2.2.1 then
    if !Py.dhas st.2.2 v.1 then
      if decide (v.2.2.2.2.1 = "log") then
        Py.caseE (logUniformLin v.2.2.2.2.2.2) (fun e => ((st.1 ++ [v], st.2.1, st.2.2), some e))
          (fun pr => ((st.1 ++ [v], st.2.1 ++ [pr], Py.dset st.2.2 v.1 pr), none))
      else
        ((st.1 ++ [v], st.2.1 ++ [uniformBounds v.2.2.2.2.2.2], Py.dset st.2.2 v.1 (uniformBounds v.2.2.2.2.2.2)), none)
    else
      Py.caseE (Py.dgetE st.2.2 v.1) (fun e => ((st.1 ++ [v], st.2.1, st.2.2), some e))
        (fun pr => ((st.1 ++ [v], st.2.1 ++ [pr], st.2.2), none))
  else ((st.1, st.2.1, st.2.2), none)

theorem fitBody_tupleOf (ae : List (T7 ν α L)) (ap : List (Prior α)) (tbl : Table ν α)
    (p : Param ν α) :
    fitBody (ae, ap, tbl) (tupleOf lx o p) =
      if p.fit then
        match rowPrior tbl p with
        | some pr => ((ae ++ [tupleOf lx o p], ap ++ [pr], tset tbl p.name pr), none)
        | none => ((ae ++ [tupleOf lx o p], ap, tbl), some .valueError)
      else ((ae, ap, tbl), none) := by
  cases hf : p.fit with
  | false => simp [fitBody, tupleOf, hf]
  | true =>
    unfold rowPrior
    cases hg : tget tbl p.name with
    | some pr => simp [fitBody, tupleOf, hf, Py.dhas_eq_isSome, ← tget_eq, hg, Py.dgetE, tset_of_tget tbl p.name pr hg]
    | none =>
      cases hm : p.mode <;> cases hd : defaultPrior p.mode p.b0 p.b1 <;>
        simp [fitBody, tupleOf, hf, Py.dhas_eq_isSome, ← tget_eq, hg, modeStr, ← tset_eq, hm, defaultPrior, logUniformLin,
          uniformBounds, optE] at hd ⊢ <;> simp [hd]

/-- the loop over `fitparams.values()` when `compileTable` succeeds -/
theorem forE_fitBody_some (ps : List (Param ν α)) (tbl : Table ν α)
    (r : List (Entry ν α) × List (Prior α) × Table ν α) (h : compileTable o ps tbl = some r) :
    ∀ (ae : List (T7 ν α L)) (ap : List (Prior α)),
      Py.forE (ps.map (tupleOf lx o)) (ae, ap, tbl) fitBody = ((ae ++ r.1.map (entryTuple lx), ap ++ r.2.1, r.2.2), none) := by
  refine compileTable_induction o (motive := fun ps tbl r => ∀ (ae : List (T7 ν α L)) (ap : List (Prior α)),
    Py.forE (ps.map (tupleOf lx o)) (ae, ap, tbl) fitBody = ((ae ++ r.1.map (entryTuple lx), ap ++ r.2.1, r.2.2), none))
    (fun _ _ _ => by simp) ?_ ?_ ps tbl r h
  · intro p ps tbl r hf _ ih ae ap
    rw [List.map_cons, Py.forE_cons, fitBody_tupleOf, hf]
    exact ih ae ap
  · intro p ps tbl pr r hf hp _ ih ae ap
    rw [List.map_cons, Py.forE_cons, fitBody_tupleOf, hf, hp]
    simp only [if_true, ih, entryTuple_entryOf lx o p hf, List.map_cons, List.append_assoc, List.singleton_append]

/-- the loop over `fitparams.values()` when `compileTable` fails -/
theorem forE_fitBody_none :
    ∀ (ps : List (Param ν α)) (ae : List (T7 ν α L)) (ap : List (Prior α)) (tbl : Table ν α),
      compileTable o ps tbl = none →
      ∃ ae' ap' extra, Py.forE (ps.map (tupleOf lx o)) (ae, ap, tbl) fitBody = ((ae', ap', tbl ++ extra), some .valueError) ∧
        ∀ kv ∈ extra, tget tbl kv.1 = none := by
  intro ps
  induction ps with
  | nil => intro ae ap tbl h; simp [compileTable] at h
  | cons p ps ih =>
    intro ae ap tbl h
    rw [compileTable_cons] at h
    rw [List.map_cons, Py.forE_cons, fitBody_tupleOf]
    cases hf : p.fit with
    | false =>
      simp only [hf, Bool.false_eq_true, if_false] at h ⊢
      exact ih ae ap tbl h
    | true =>
      simp only [hf, if_true] at h ⊢
      cases hp : rowPrior tbl p with
      | none => exact ⟨ae ++ [tupleOf lx o p], ap, [], by simp, by simp⟩
      | some pr =>
        simp only [hp, Option.bind_some, Option.map_eq_none_iff] at h ⊢
        obtain ⟨ae', ap', extra, he, hx⟩ := ih (ae ++ [tupleOf lx o p]) (ap ++ [pr]) _ h
        obtain ⟨e0, hts, h0⟩ := tset_eq_append tbl p.name pr (by
          unfold rowPrior at hp
          cases hg : tget tbl p.name with
          | none => exact .inr rfl
          | some q => rw [hg] at hp; exact .inl (by rw [← Option.some.inj hp]))
        refine ⟨ae', ap', e0 ++ extra, by rw [he, hts, List.append_assoc], ?_⟩
        intro kv hkv
        rcases List.mem_append.1 hkv with h1 | h1
        · exact h0 kv h1
        · have := hx kv h1
          rw [hts] at this
          exact tget_none_of_append _ _ _ this

/-- the module-level `compile_params` holds its loop twice (`if fit_priors: … else: …` with a fresh dict); both are this one,
    started at `tbl`: only the dict handed back to the caller differs -/
theorem compile_params_once (ps : List (Param ν α)) (ds : List (Derived ν)) (tbl : Table ν α)
    (R : (List (T7 ν α L) × List (Prior α) × Table ν α) × Option Py.Err)
    (hR : Py.forE (ps.map (tupleOf lx o)) ([], [], tbl) fitBody = R) :
    Gen.SrcC07.compile_params (fpDict lx o ps) (dpDict lx o ds) tbl logUniformLin uniformBounds =
      (if tbl.isEmpty then tbl else R.1.2.2,
       match R.2 with
       | some e => Except.error e
       | none => Except.ok (R.1.1, R.1.2.1, R.1.2.2, derivedTuples lx o ds)) := by
  subst hR
  unfold Gen.SrcC07.compile_params
  simp only [values_fpDict, values_dpDict]
  cases tbl with
  | nil =>
    simp only [List.isEmpty_nil, Bool.not_true, Bool.false_eq_true, if_false, if_true]
    rw [foldl_derived lx o _ (fun _ _ => rfl) ds []]
    generalize Py.forE (ps.map (tupleOf lx o)) ([], [], ([] : Table ν α)) fitBody = R
    rcases R with ⟨⟨a, b, c⟩, _ | e⟩ <;> rfl
  | cons kv t =>
    simp only [List.isEmpty_cons, Bool.not_false, if_true, Bool.false_eq_true, if_false]
    rw [foldl_derived lx o _ (fun _ _ => rfl) ds []]
    generalize Py.forE (ps.map (tupleOf lx o)) ([], [], kv :: t) fitBody = R
    rcases R with ⟨⟨a, b, c⟩, _ | e⟩ <;> rfl

end

end Taurex.C07Src
