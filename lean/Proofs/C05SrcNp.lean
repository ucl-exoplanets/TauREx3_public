/-
  Helper lemmas for the source ties of the list dialect (C05, C13, C17): the numpy primitives of
  `TaurexModel/Gen/Prelude.lean` against the list functions of the hand-written models, and the facts about those list
  functions themselves that hold at every carrier.  Core only.
-/
import TaurexModel.Gen.Prelude
import TaurexModel.Binning
import Proofs.SortCore
import Proofs.ListCore
set_option linter.unusedSectionVars false

namespace Taurex.Gen.Np
open Taurex.Binning (sortBy)

section
variable {β γ δ ε σ : Type}

/-- the code's `if not p or not q: continue` against the model's `if p ∧ q` -/
theorem not_and_bool {p q : Prop} [Decidable p] [Decidable q] (h : ¬(p ∧ q)) :
    ((!decide p) || (!decide q)) = true := by
  by_cases hp : p <;> by_cases hq : q <;> simp_all

theorem zip2_eq (f : β → γ → δ) (a : List β) (b : List γ) (h : a.length = b.length) :
    zip2 f a b = List.zipWith f a b := by simp [zip2, h]

theorem zipWith_map_map (f : β → γ → δ) (g : ε → β) (h : ε → γ) (l : List ε) :
    List.zipWith f (l.map g) (l.map h) = l.map (fun x => f (g x) (h x)) := by
  rw [List.zipWith_map, List.zipWith_self]

theorem zip2_map_map (f : β → γ → δ) (g : ε → β) (h : ε → γ) (l : List ε) :
    zip2 f (l.map g) (l.map h) = l.map (fun x => f (g x) (h x)) := by
  rw [zip2_eq _ _ _ (by simp), zipWith_map_map]

theorem zip2_map_left (f : β → γ → δ) (g : γ → β) (l : List γ) :
    zip2 f (l.map g) l = l.map (fun x => f (g x) x) := by
  have := zip2_map_map f g id l
  simpa using this

theorem zip2_map_right (f : β → γ → δ) (h : β → γ) (l : List β) :
    zip2 f l (l.map h) = l.map (fun x => f x (h x)) := by
  have := zip2_map_map f id h l
  simpa using this

/-- `a[mask]` with `a = f(l)`, `mask = p(l)` element-wise is `filter` -/
theorem compress_map_filter (f : β → γ) (p : β → Bool) (l : List β) :
    compress (l.map f) (l.map p) = (l.filter p).map f := by
  induction l with
  | nil => rfl
  | cons x t ih =>
    simp only [compress, List.map_cons, List.zip_cons_cons, List.filterMap_cons, List.filter_cons] at ih ⊢
    cases hp : p x <;> simp [ih]

theorem slice_map (f : β → γ) (l : List β) (a b : Nat) : slice (l.map f) a b = (slice l a b).map f := by
  simp [slice, List.map_take, List.map_drop]

/-- a loop `for idx, x in enumerate(xs): if skip(x): continue; …; out[idx] = v(x)` over an output array (the component
    `proj` of the loop state) initialised to `z`; `pre` is the part of the output already written -/
theorem foldl_enum_set (step : σ → (ε × Nat) → σ) (proj : σ → List β) (skip : ε → Bool) (v : ε → β) (z : β)
    (hstep : ∀ st x i, proj (step st (x, i)) = if skip x then proj st else (proj st).set i (v x)) (l : List ε) :
    ∀ (pre : List β) (s : σ), proj s = pre ++ List.replicate l.length z →
      proj (List.foldl step s (l.zipIdx pre.length)) = pre ++ l.map (fun x => if skip x then z else v x) := by
  induction l with
  | nil => intro pre s h; simpa using h
  | cons x t ih =>
    intro pre s h
    rw [List.zipIdx_cons, List.foldl_cons]
    have := ih (pre ++ [if skip x then z else v x]) (step s (x, pre.length)) (by
      rw [hstep, h]; split <;> simp [List.replicate_succ])
    simpa using this

end

section
variable {α β γ δ ε σ : Type} [LE α] [DecidableLE α]

theorem insertBy_eq (key : β → α) (x : β) (l : List β) : insertBy key x l = Binning.insertBy key x l := by
  induction l with
  | nil => rfl
  | cons y t ih => simp [insertBy, Binning.insertBy, ih]

/-- `insertBy` / `sortBy` commute with a map that preserves the comparison of the keys met (the two keys may live in
    different carriers) -/
theorem insertBy_map {α' : Type} [LE α'] [DecidableLE α'] (key : γ → α) (key' : β → α') (g : β → γ) (x : β) (l : List β)
    (h : ∀ y ∈ l, key (g x) ≤ key (g y) ↔ key' x ≤ key' y) :
    Binning.insertBy key (g x) (l.map g) = (Binning.insertBy key' x l).map g := by
  induction l with
  | nil => rfl
  | cons y t ih =>
    simp only [List.map_cons, Binning.insertBy, h y List.mem_cons_self]
    split
    · rfl
    · rw [List.map_cons, ih fun z hz => h z (List.mem_cons_of_mem _ hz)]

theorem sortBy_map_of {α' : Type} [LE α'] [DecidableLE α'] (key : γ → α) (key' : β → α') (g : β → γ) (l : List β)
    (h : ∀ y ∈ l, ∀ z ∈ l, key (g y) ≤ key (g z) ↔ key' y ≤ key' z) :
    sortBy key (l.map g) = (sortBy key' l).map g := by
  induction l with
  | nil => rfl
  | cons y t ih =>
    simp only [sortBy, List.map_cons, List.foldr_cons] at ih ⊢
    rw [ih fun z hz w hw => h z (List.mem_cons_of_mem _ hz) w (List.mem_cons_of_mem _ hw)]
    exact insertBy_map key key' g y _ fun z hz =>
      h y List.mem_cons_self z (List.mem_cons_of_mem _ ((Binning.mem_sortBy key' z t).1 hz))

theorem sortBy_map (key : γ → α) (g : β → γ) (l : List β) :
    sortBy key (l.map g) = (sortBy (fun b => key (g b)) l).map g :=
  sortBy_map_of key _ g l fun _ _ _ _ => Iff.rfl

theorem argsort_eq (d : α) (keys : List α) :
    argsort d keys = sortBy (fun i => keys.getD i d) (List.range keys.length) := by
  unfold argsort sortBy
  congr 1
  funext i l
  exact insertBy_eq _ _ _

/-- `a[key.argsort()]` on a column of a table -/
theorem take_argsort (key : β → α) (f : β → γ) (d0 : α) (d : γ) (l : List β) :
    take d (l.map f) (argsort d0 (l.map key)) = (sortBy key l).map f := by
  rw [argsort_eq]
  have hfst : l = l.zipIdx.map Prod.fst := by simp
  have hsnd : List.range (l.map key).length = l.zipIdx.map Prod.snd := by simp [List.range_eq_range']
  have hmem : ∀ p ∈ l.zipIdx, l[p.2]? = some p.1 := by
    intro p hp
    have := List.mem_zipIdx_iff_getElem?.1 (show (p.1, p.2) ∈ l.zipIdx from hp)
    simpa using this
  rw [hsnd, sortBy_map_of _ (fun p => key p.1) Prod.snd l.zipIdx (fun p hp q hq => by simp [List.getD, hmem p hp, hmem q hq])]
  conv => rhs; rw [hfst, sortBy_map]
  simp only [take, List.map_map]
  apply List.map_congr_left
  intro p hp
  have := hmem p ((Binning.mem_sortBy _ _ _).1 hp)
  simp [List.getD, this]

end

section
variable {α : Type} [Add α] [Sub α] [Mul α] [Div α] [Neg α] [LT α] [LE α]
  [DecidableLT α] [DecidableLE α] [OfNat α 0] [OfNat α 1] [OfNat α 2]
open Taurex.Binning

theorem diff_eq (l : List α) : diff l = diffs l := by
  induction l with
  | nil => rfl
  | cons a t ih =>
    cases t with
    | nil => rfl
    | cons b t => simp only [diff, diffs, ih]

theorem length_diffs (l : List α) : (diffs l).length = l.length - 1 := by
  induction l with
  | nil => rfl
  | cons a t ih =>
    cases t with
    | nil => rfl
    | cons b t => simp only [diffs, List.length_cons, ih]; omega

/-- `wngrid[:-1] + np.diff(wngrid)/2` -/
theorem midEdges_eq (l : List α) :
    zip2 (fun x y => x + y) (List.take (l.length - 1) l) (List.map (fun x => x / 2) (diff l)) = midEdges l := by
  rw [diff_eq, zip2_eq _ _ _ (by simp [length_diffs])]
  induction l with
  | nil => rfl
  | cons a t ih =>
    cases t with
    | nil => rfl
    | cons b t =>
      simp only [List.length_cons, Nat.add_sub_cancel, diffs, List.map_cons, midEdges] at ih ⊢
      rw [List.take_succ_cons, List.zipWith_cons_cons, ih]

theorem length_midEdges (l : List α) : (midEdges l).length = l.length - 1 := by
  rw [← midEdges_eq, diff_eq, zip2_eq _ _ _ (by simp [length_diffs])]
  simp [length_diffs]

theorem length_edges (g : List α) : (computeBinEdges g).1.length = g.length - 1 + 2 := by
  simp only [computeBinEdges, List.length_cons, List.length_append, length_midEdges, List.length_nil]

/-- `compute_bin_edges(g)[-1]` has one width per grid point (one width for the empty grid as well) -/
theorem length_widths (g : List α) : (computeBinEdges g).2.length = max g.length 1 := by
  simp only [computeBinEdges, List.length_map, length_diffs, List.length_cons, List.length_append, length_midEdges,
    List.length_nil]
  omega

end

section
variable {α γ : Type} [Add α] [Sub α] [Mul α] [Div α] [Neg α] [LT α] [LE α]
  [DecidableLT α] [DecidableLE α] [OfNat α 0] [OfNat α 1] [OfNat α 2]
open Taurex.Binning

theorem withWidths_map (f : Row α → γ) (hf : ∀ (r : Row α) (w : α), f { r with w := w } = f r) (R : List (Row α))
    (ws : List α) (h : R.length ≤ ws.length) : (withWidths R ws).map f = R.map f := by
  rw [withWidths, List.map_zipWith]
  simp only [hf]
  exact zipWith_left f R ws h

theorem map_withWidths (f : α → α → γ) (R : List (Row α)) :
    ∀ (ws : List α), (withWidths R ws).map (fun r => f r.c r.w) = List.zipWith f (R.map Row.c) ws := by
  induction R with
  | nil => intro ws; simp [withWidths]
  | cons r t ih =>
    intro ws
    cases ws with
    | nil => simp [withWidths]
    | cons w ws =>
      simp only [withWidths, List.map_cons, List.zipWith_cons_cons] at ih ⊢
      rw [ih ws]

/-- `old_spect_wn ∓ compute_bin_edges(old_spect_wn)[-1]/2` are the edges of the rows carrying these widths -/
theorem zip2_withWidths (f : α → α → γ) (h : α → α) (R : List (Row α)) (ws : List α)
    (hlen : ws.length = max R.length 1) :
    zip2 f (R.map Row.c) (ws.map h) = (withWidths R ws).map (fun r => f r.c (h r.w)) := by
  cases R with
  | nil =>
    match ws, hlen with
    | [y], _ => simp [zip2, withWidths]
  | cons r t =>
    rw [zip2_eq _ _ _ (by simp [hlen]), List.zipWith_map_right]
    exact (map_withWidths (fun c w => f c (h w)) _ ws).symm

end

section
variable {α : Type}
open Taurex.Binning

theorem zipWith_mk_map (cs ws : List α) (h : cs.length = ws.length) :
    (List.zipWith (fun c w => ({ c := c, w := w } : TBin α)) cs ws).map TBin.c = cs ∧
    (List.zipWith (fun c w => ({ c := c, w := w } : TBin α)) cs ws).map TBin.w = ws := by
  rw [List.map_zipWith, List.map_zipWith]
  exact ⟨(zipWith_left id cs ws (Nat.le_of_eq h)).trans (List.map_id _), (zipWith_right id cs ws (Nat.le_of_eq h.symm)).trans (List.map_id _)⟩

theorem zipWith_setw (l : List (TBin α)) (ws : List α) (h : l.length = ws.length) :
    (List.zipWith (fun t w => ({ t with w := w } : TBin α)) l ws).map TBin.c = l.map TBin.c ∧
    (List.zipWith (fun t w => ({ t with w := w } : TBin α)) l ws).map TBin.w = ws := by
  rw [List.map_zipWith, List.map_zipWith]
  exact ⟨zipWith_left TBin.c l ws (Nat.le_of_eq h), (zipWith_right id l ws (Nat.le_of_eq h.symm)).trans (List.map_id _)⟩
end

end Taurex.Gen.Np

namespace Taurex.C05Src
open Taurex.Binning Taurex.Gen

section
variable {α : Type} [Add α] [Sub α] [Mul α] [Div α] [Neg α] [LT α] [LE α]
  [DecidableLT α] [DecidableLE α] [OfNat α 0] [OfNat α 1] [OfNat α 2]

/-- `np.histogram(x, edges)`: the number of points per bin `[e_i, e_{i+1})` (the last bin closed), as a sum of ones; returned
    together with the edges -/
def npHistogram (x edges : List α) : List α × List α :=
  ((edgePairs edges).map (fun p => sumL ((x.filter (fun c => inHist p.1 p.2.1 p.2.2 c)).map (fun _ => (1 : α)))), edges)

/-- `np.histogram(x, edges, weights=w)`: the sum of the weights of the points per bin -/
def npHistogramW (x edges w : List α) : List α × List α :=
  ((edgePairs edges).map (fun p => sumL (((x.zip w).filter (fun q => inHist p.1 p.2.1 p.2.2 q.1)).map (·.2))), edges)

/-- `(new_bin[1:] + new_bin[:-1])/2` -/
theorem midPts_eq (l : List α) :
    List.map (fun x => x / 2) (Np.zip2 (fun x y => x + y) (List.drop 1 l) (List.take (l.length - 1) l)) = midPts l := by
  rw [Np.zip2_eq _ _ _ (by simp)]
  induction l with
  | nil => rfl
  | cons a t ih =>
    cases t with
    | nil => rfl
    | cons b t =>
      simp only [List.length_cons, Nat.add_sub_cancel, List.drop_succ_cons, List.drop_zero, midPts] at ih ⊢
      rw [List.take_succ_cons, List.zipWith_cons_cons, List.map_cons, ih]

theorem length_midPts (l : List α) : (midPts l).length = l.length - 1 := by
  rw [← midPts_eq, Np.zip2_eq _ _ _ (by simp)]; simp

/-- the edge array assembled by element and slice stores into `np.zeros(n+1)` -/
theorem edges_assembled (n : Nat) (hn : 1 ≤ n) (z a a' b b' : α) (mids : List α) (hm : mids.length = n - 1) :
    Np.setSlice ((((List.replicate (n + 1) z).set 0 a).set 0 a').set n b |>.set n b') 1 n mids = a' :: (mids ++ [b']) := by
  obtain ⟨m, rfl⟩ : ∃ m, n = m + 1 := ⟨n - 1, by omega⟩
  have h1 : List.replicate (m + 1 + 1) z = z :: (List.replicate m z ++ [z]) := by
    rw [List.replicate_succ, List.replicate_succ']
  rw [h1]
  simp only [List.set_cons_zero, List.set_cons_succ]
  have h2 : ∀ (x y : α), (List.replicate m z ++ [x]).set m y = List.replicate m z ++ [y] := by
    intro x y
    rw [List.set_append_right _ _ (by simp)]
    simp
  rw [h2, h2]
  simp only [Np.setSlice, List.take_succ_cons, List.take_zero, List.drop_succ_cons]
  rw [List.drop_append_of_le_length (by simp)]
  simp

/-- `filter_lhs` of `util.bindown` after its four element stores and the slice store is `histEdges new_bin` -/
theorem filter_lhs_eq (nb : List α) (hne : nb ≠ []) :
    let f1 := (List.replicate (nb.length + 1) (0 : α)).set 0 (nb.getD 0 0)
    let f2 := f1.set 0 (f1.getD 0 0 - (nb.getD 1 0 - nb.getD 0 0) / 2)
    let f3 := f2.set (f2.length - 1) (nb.getD (nb.length - 1) 0)
    let f4 := f3.set (f3.length - 1)
      (f3.getD (f3.length - 1) 0 + (nb.getD (nb.length - 1) 0 - nb.getD (nb.length - 2) 0) / 2)
    Np.setSlice f4 1 (f4.length - 1)
        (List.map (fun x => x / 2) (Np.zip2 (fun x y => x + y) (List.drop 1 nb) (List.take (nb.length - 1) nb)))
      = histEdges nb := by
  have hn : 1 ≤ nb.length := List.length_pos_iff.2 hne
  have hget0 : ∀ (l : List α) (x : α), 0 < l.length → (l.set 0 x).getD 0 0 = x := by
    intro l x h; cases l with
    | nil => simp at h
    | cons y t => rfl
  have hgetn : ∀ (l : List α) (x : α), nb.length < l.length → (l.set nb.length x).getD nb.length 0 = x := by
    intro l x h
    simp [List.getD, h]
  simp only [List.length_set, List.length_replicate, Nat.add_sub_cancel, midPts_eq]
  rw [hget0 _ _ (by simp), hgetn _ _ (by simp), edges_assembled nb.length hn _ _ _ _ _ _ (length_midPts nb)]
  rfl

end

end Taurex.C05Src
