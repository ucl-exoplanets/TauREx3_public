/-
  The stable insertion sort by a key (`Binning.insertBy` / `sortBy`, the model of `a[key.argsort()]`) for any order given
  by a transitive, total `≤`: same elements, same length, the result is sorted, and filtering commutes with sorting.
  Core Lean only, for the clients that stay without Mathlib (C15, the source ties); `Proofs/ListSort.lean` identifies the
  same sort with Mathlib's `List.insertionSort` for the clients that have Mathlib (permutations, uniqueness).
-/
import TaurexModel.Binning

namespace Taurex.Binning

section
variable {α β : Type} [LE α] [DecidableLE α] (key : β → α)

theorem mem_insertBy (x y : β) (l : List β) : y ∈ insertBy key x l ↔ y = x ∨ y ∈ l := by
  induction l with
  | nil => simp [insertBy]
  | cons z t ih =>
    simp only [insertBy]
    split
    · simp
    · simp [ih, or_left_comm]

theorem mem_sortBy (y : β) (l : List β) : y ∈ sortBy key l ↔ y ∈ l := by
  induction l with
  | nil => simp [sortBy]
  | cons z t ih =>
    simp only [sortBy, List.foldr_cons] at ih ⊢
    rw [mem_insertBy, ih]; simp

theorem length_insertBy (x : β) (l : List β) : (insertBy key x l).length = l.length + 1 := by
  induction l with
  | nil => rfl
  | cons y t ih =>
    simp only [insertBy]
    split <;> simp [ih]

theorem length_sortBy (l : List β) : (sortBy key l).length = l.length := by
  induction l with
  | nil => rfl
  | cons y t ih =>
    simp only [sortBy, List.foldr_cons] at ih ⊢
    rw [length_insertBy, ih]; rfl

theorem insertBy_front (x : β) (ys : List β) (h : ∀ y ∈ ys, key x ≤ key y) : insertBy key x ys = x :: ys := by
  cases ys with
  | nil => rfl
  | cons y t => rw [insertBy, if_pos (h y List.mem_cons_self)]

theorem insertBy_pairwise (htr : ∀ a b c : α, a ≤ b → b ≤ c → a ≤ c) (htot : ∀ a b : α, a ≤ b ∨ b ≤ a) (x : β) :
    ∀ l : List β, l.Pairwise (fun u v => key u ≤ key v) → (insertBy key x l).Pairwise (fun u v => key u ≤ key v)
  | [], _ => List.pairwise_singleton _ _
  | y :: t, h => by
    obtain ⟨hy, ht⟩ := List.pairwise_cons.1 h
    rw [insertBy]
    split
    · next hk =>
      refine List.pairwise_cons.2 ⟨fun z hz => ?_, h⟩
      rcases List.mem_cons.1 hz with rfl | hz
      · exact hk
      · exact htr _ _ _ hk (hy z hz)
    · next hk =>
      refine List.pairwise_cons.2 ⟨fun z hz => ?_, insertBy_pairwise htr htot x t ht⟩
      rcases (mem_insertBy key x z t).1 hz with rfl | hz
      · exact (htot _ _).resolve_left hk
      · exact hy z hz

theorem sortBy_pairwise (htr : ∀ a b c : α, a ≤ b → b ≤ c → a ≤ c) (htot : ∀ a b : α, a ≤ b ∨ b ≤ a) :
    ∀ l : List β, (sortBy key l).Pairwise (fun u v => key u ≤ key v)
  | [] => List.Pairwise.nil
  | x :: l => insertBy_pairwise key htr htot x _ (sortBy_pairwise htr htot l)

/-- inserting into a sorted list and then filtering: `x` goes, if kept, to its place among the kept ones -/
theorem filter_insertBy (htr : ∀ a b c : α, a ≤ b → b ≤ c → a ≤ c) (p : β → Bool) (x : β) :
    ∀ l : List β, l.Pairwise (fun u v => key u ≤ key v) →
      (insertBy key x l).filter p = if p x then insertBy key x (l.filter p) else l.filter p
  | [], _ => by cases hp : p x <;> simp [insertBy, hp]
  | y :: t, h => by
    obtain ⟨hy, ht⟩ := List.pairwise_cons.1 h
    by_cases hk : key x ≤ key y
    · -- `x` goes in front, of the whole list and of what is kept of it
      have hall : ∀ z ∈ (y :: t).filter p, key x ≤ key z := fun z hz => by
        rcases List.mem_cons.1 (List.mem_filter.1 hz).1 with rfl | hz'
        · exact hk
        · exact htr _ _ _ hk (hy z hz')
      rw [insertBy_front key x _ hall, insertBy, if_pos hk, List.filter_cons]
    · rw [insertBy, if_neg hk, List.filter_cons, filter_insertBy htr p x t ht]
      by_cases hpy : p y = true
      · simp only [hpy, if_true, List.filter_cons]
        cases hp : p x
        · simp
        · simp [insertBy, hk]
      · simp only [hpy, List.filter_cons, Bool.false_eq_true, if_false]

theorem filter_sortBy (htr : ∀ a b c : α, a ≤ b → b ≤ c → a ≤ c) (htot : ∀ a b : α, a ≤ b ∨ b ≤ a) (p : β → Bool) :
    ∀ l : List β, (sortBy key l).filter p = sortBy key (l.filter p)
  | [] => rfl
  | a :: l => by
    show (insertBy key a (sortBy key l)).filter p = _
    rw [filter_insertBy key htr p a _ (sortBy_pairwise key htr htot l), filter_sortBy htr htot p l, List.filter_cons]
    cases p a <;> rfl

end

end Taurex.Binning
