/-
  C16 — source tie, the component `write` methods (`TemperatureProfile.write`, `Isothermal.write`, `Guillot2010.write`,
  `NPoint.write`, `ForwardModel.write`, `SimpleForwardModel.write`, `TransmissionModel.write`, `Chemistry.write`,
  `TaurexChemistry.write`; `Star.write`, `BasePlanet.write`, `PressureProfile.write`, `SimplePressureProfile.write`,
  `Gas.write` and its subclasses, `Contribution.write` and its subclasses): the ORACLE for the objects they act on.

  * a component instance is `comp cls attr part`: its class name (`self.__class__.__name__`), its data attributes as model
    values (`attr`, embedded by `embW`: numbers, strings, lists, a numeric ndarray is the object `nd a`, `None` is the
    model's `unsupported`) and the components it holds (`part`: one object or a list of objects).  A held component is
    `sub k v`: all that is known of it is what its own `write(group)` stores — the entries `Output.storeThing k v` lists,
    i.e. what the ties of `Props/C16Src.lean` prove of the component classes that are translated
    (`v = Output.writeComponent …`).
  * an output group is `group p` as in `Proofs/C16SrcStore.lean`; the state is the same log of created entries, `flat`
    relates it to the model's nodes.  `write_scalar / write_array / write_string / write_string_array / create_group`
    behave as in `SWorld.ext`; `np.array(list)` is `Output.toNdList … |>.bind stack`; `self.model()` leaves the file alone.
  * `a / b` of two floats is `w.div a b` (`ZeroDivisionError` for `b = 0`); the module-level float constants the methods
    read (`MJUP`, `RJUP`, `AU`, `RSOL`, `MSOL`) are `w.consts`.
-/
import Proofs.C16SrcStore

set_option linter.unusedSectionVars false

namespace Taurex.C16Src
open Taurex.Gen Taurex.Gen.Dyn
open Taurex.Output (Value Node Arr ArrData Err OfInt toNdList stack stringList stringNode storeThing storeSeq
  storeEntries subKey isStr writeComponent toNdList_map stack_floats storeThing_dict storeThing_dict_ok
  storeEntries_cons_ok storeEntries_append_ok stringList_strs)

/-- a sub-component held by a component: one object or a list of objects, each given by the group name and the value
    (`Output.writeComponent …`) its own `write` stores -/
inductive SubComp (α : Type) where
  | one (k : String) (v : Value α)
  | many (l : List (String × Value α))

inductive WObj (α : Type) where
  | group (path : List String)
  | nd (a : Arr α)
  | np
  | cls (name : List Nat)
  | comp (cls : List Nat) (attr : String → Option (Value α)) (part : String → Option (SubComp α))
  | sub (k : String) (v : Value α)

/-- no `write` method compares two of these objects -/
instance {α : Type} : BEq (WObj α) := ⟨fun _ _ => false⟩

abbrev WV (α : Type) := Dyn.Val α (WObj α)

section
variable {α : Type}

mutual
def embW (enc : List Nat → String) : Value α → WV α
  | .int i => .int i
  | .float x => .float x
  | .bool b => .bool b
  | .array a => .obj (.nd a)
  | .str s => .str (enc s)
  | .list l => .list (embWL enc l)
  | .tuple l => .tuple (embWL enc l)
  | .dict d => .dict (embWD enc d)
  | .unsupported => .none
def embWL (enc : List Nat → String) : List (Value α) → List (WV α)
  | [] => []
  | v :: vs => embW enc v :: embWL enc vs
def embWD (enc : List Nat → String) : List (String × Value α) → List (WV α × WV α)
  | [] => []
  | (k, v) :: r => (.str k, embW enc v) :: embWD enc r
end

mutual
def unW (dec : String → List Nat) : WV α → Value α
  | .none => .unsupported
  | .bool b => .bool b
  | .int i => .int i
  | .float x => .float x
  | .str s => .str (dec s)
  | .list l => .list (unWL dec l)
  | .tuple l => .tuple (unWL dec l)
  | .dict d => .dict (unWD dec d)
  | .obj o => match o with
    | .nd a => .array a
    | _ => .unsupported
def unWL (dec : String → List Nat) : List (WV α) → List (Value α)
  | [] => []
  | v :: vs => unW dec v :: unWL dec vs
def unWD (dec : String → List Nat) : List (WV α × WV α) → List (String × Value α)
  | [] => []
  | (k, v) :: r => ((match k with | .str s => s | _ => ""), unW dec v) :: unWD dec r
end

mutual
theorem unW_embW (enc : List Nat → String) (dec : String → List Nat) (h : ∀ s, dec (enc s) = s) :
    ∀ v : Value α, unW dec (embW enc v) = v
  | .int i => rfl
  | .float x => rfl
  | .bool b => rfl
  | .array a => rfl
  | .str s => by simp [embW, unW, h]
  | .list l => by simp [embW, unW, unWL_embWL enc dec h l]
  | .tuple l => by simp [embW, unW, unWL_embWL enc dec h l]
  | .dict d => by simp [embW, unW, unWD_embWD enc dec h d]
  | .unsupported => rfl
theorem unWL_embWL (enc : List Nat → String) (dec : String → List Nat) (h : ∀ s, dec (enc s) = s) :
    ∀ l : List (Value α), unWL dec (embWL enc l) = l
  | [] => rfl
  | v :: vs => by simp [embWL, unWL, unW_embW enc dec h v, unWL_embWL enc dec h vs]
theorem unWD_embWD (enc : List Nat → String) (dec : String → List Nat) (h : ∀ s, dec (enc s) = s) :
    ∀ d : List (String × Value α), unWD dec (embWD enc d) = d
  | [] => rfl
  | (k, v) :: r => by simp [embWD, unWD, unW_embW enc dec h v, unWD_embWD enc dec h r]
end

structure WWorld (α : Type) where
  enc : List Nat → String
  dec : String → List Nat
  /-- `a / b` on floats (`b ≠ 0`) -/
  div : α → α → α
  /-- the module-level float constants the `write` methods read (`MJUP`, `RSOL`, …) -/
  consts : String → Option α

def WWorldOK (w : WWorld α) : Prop := ∀ s, w.dec (w.enc s) = s

def wlog (p : List String) (k : String) (n : Node α) : SM α (WV α) := fun s => (.ok .none, s ++ [(p, k, n)])

def WWorld.ext [OfInt α] [FloatLike α] (w : WWorld α) : Ext (SM α) α (WObj α) where
  global name :=
    if name = "np" then pure (.obj .np)
    else match w.consts name with
      | some x => pure (.float x)
      | none => throw .NameError
  getattr o name :=
    match o with
    | .comp c attr part =>
      if name = "__class__" then pure (.obj (.cls c))
      else match attr name with
        | some v => pure (embW w.enc v)
        | none =>
          match part name with
          | some (.one k v) => pure (.obj (.sub k v))
          | some (.many l) => pure (.list (l.map (fun kv => .obj (.sub kv.1 kv.2))))
          | none => throw .AttributeError
    | .cls c => if name = "__name__" then pure (.str (w.enc c)) else throw .AttributeError
    | _ => throw .AttributeError
  call _ _ _ := throw .TypeError
  method o name args _ :=
    match o with
    | .group p =>
      if name = "write_scalar" then
        match args with
        | [.str key, .int i] => wlog p key (.num ⟨[], .ints [i]⟩)
        | [.str key, .bool b] => wlog p key (.num ⟨[], .bools [b]⟩)
        | [.str key, .float x] => wlog p key (.num ⟨[], .floats [x]⟩)
        | _ => throw .TypeError
      else if name = "write_array" then
        match args with
        | [.str key, .obj (.nd a)] => wlog p key (.num a)
        | _ => throw .TypeError
      else if name = "write_string" then
        match args with
        | [.str key, .str s] => wlog p key (.vstr (w.dec s))
        | _ => throw .TypeError
      else if name = "write_string_array" then
        match args with
        | [.str key, .list items] =>
          match stringList (unWL w.dec items) with
          | some strs => wlog p key (stringNode strs)
          | none => throw .AttributeError
        | _ => throw .TypeError
      else if name = "create_group" then
        match args with
        | [.str key] => fun s => (.ok (.obj (.group (p ++ [key]))), s ++ [(p, key, .group [])])
        | _ => throw .TypeError
      else throw .AttributeError
    | .np =>
      if name = "array" then
        match args with
        | [.list items] =>
          match (toNdList (unWL w.dec items)).bind stack with
          | some a => pure (.obj (.nd a))
          | none => throw .ValueError
        | [.obj (.nd a)] => pure (.obj (.nd a))
        | _ => throw .TypeError
      else throw .AttributeError
    | .sub k v =>
      if name = "write" then
        match args with
        | [.obj (.group p)] =>
          match storeThing k v with
          | .ok es => fun s => (.ok (.obj (.group (p ++ [k]))), s ++ flat p es)
          | .error _ => throw .TypeError
        | _ => throw .TypeError
      else throw .AttributeError
    | .comp _ _ _ => if name = "model" then pure .none else throw .AttributeError
    | _ => throw .AttributeError
  isinst _ _ := false
  iter _ := throw .TypeError
  truthy _ := pure true
  op name args :=
    if name = "hasattr" then
      match args with
      | [.list _, .str "__len__"] => pure (.bool true)
      | [.tuple _, .str "__len__"] => pure (.bool true)
      | [.str _, .str "__len__"] => pure (.bool true)
      | [.dict _, .str "__len__"] => pure (.bool true)
      | [.obj (.nd _), .str "__len__"] => pure (.bool true)
      | [_, .str _] => pure (.bool false)
      | _ => throw .TypeError
    else if name = "/" then
      match args with
      | [.float a, .float b] => if FloatLike.isZero b then throw .ZeroDivisionError else pure (.float (w.div a b))
      | _ => throw .TypeError
    else throw .TypeError
  parseFloat _ := none

section
variable [OfInt α] [FloatLike α]

/-! the oracle's answers run on a file state; the ties use the same answers as functions of the state (`wf_*` below) -/

theorem w_create_group (w : WWorld α) (p : List String) (key : String) (s : Log α) :
    w.ext.method (.group p) "create_group" [.str key] [] s
      = (.ok (.obj (.group (p ++ [key]))), s ++ [(p, key, .group [])]) := (rfl)
theorem w_write_string (w : WWorld α) (p : List String) (key : String) (t : String) (s : Log α) :
    w.ext.method (.group p) "write_string" [.str key, .str t] [] s
      = (.ok .none, s ++ [(p, key, .vstr (w.dec t))]) := (rfl)
theorem w_write_float (w : WWorld α) (p : List String) (key : String) (x : α) (s : Log α) :
    w.ext.method (.group p) "write_scalar" [.str key, .float x] [] s
      = (.ok .none, s ++ [(p, key, .num ⟨[], .floats [x]⟩)]) := (rfl)
theorem w_write_int (w : WWorld α) (p : List String) (key : String) (i : Int) (s : Log α) :
    w.ext.method (.group p) "write_scalar" [.str key, .int i] [] s
      = (.ok .none, s ++ [(p, key, .num ⟨[], .ints [i]⟩)]) := (rfl)
theorem w_write_bool (w : WWorld α) (p : List String) (key : String) (b : Bool) (s : Log α) :
    w.ext.method (.group p) "write_scalar" [.str key, .bool b] [] s
      = (.ok .none, s ++ [(p, key, .num ⟨[], .bools [b]⟩)]) := (rfl)
theorem w_write_array (w : WWorld α) (p : List String) (key : String) (a : Arr α) (s : Log α) :
    w.ext.method (.group p) "write_array" [.str key, .obj (.nd a)] [] s = (.ok .none, s ++ [(p, key, .num a)]) := (rfl)
theorem w_class (w : WWorld α) (c : List Nat) (attr : String → Option (Value α)) (part : String → Option (SubComp α))
    (s : Log α) : w.ext.getattr (.comp c attr part) "__class__" s = (.ok (.obj (.cls c)), s) := (rfl)
theorem w_name (w : WWorld α) (c : List Nat) (s : Log α) :
    w.ext.getattr (.cls c) "__name__" s = (.ok (.str (w.enc c)), s) := (rfl)
/-- `np.array(l)` of a list of floats: the 1-D array of the same numbers -/
def arrOf (l : List α) : Arr α := ⟨[l.length], .floats l⟩

/-- `P = self._P_surface; if not P: P = -1` for an attribute that is `None` or a float -/
def orMinus1 : Value α → Value α
  | .float x => if FloatLike.isZero x then .int (-1) else .float x
  | _ => .int (-1)

/-! ### components that hold other components -/

/-- the five components a `SimpleForwardModel` holds, in the order its `write` stores them -/
structure Held (attr : String → Option (Value α)) (part : String → Option (SubComp α))
    (chem temp press planet star : String × Value α) : Prop where
  a1 : attr "_chemistry" = none
  a2 : attr "_temperature_profile" = none
  a3 : attr "pressure" = none
  a4 : attr "_planet" = none
  a5 : attr "_star" = none
  p1 : part "_chemistry" = some (.one chem.1 chem.2)
  p2 : part "_temperature_profile" = some (.one temp.1 temp.2)
  p3 : part "pressure" = some (.one press.1 press.2)
  p4 : part "_planet" = some (.one planet.1 planet.2)
  p5 : part "_star" = some (.one star.1 star.2)

/-- the model value a `SimpleForwardModel.write` stores: class name, contributions, the five held components, then the
    entries the subclass adds -/
def modelValue (c : List Nat) (cs : List (String × Value α)) (chem temp press planet star : String × Value α)
    (extra : List (String × Value α)) : Value α :=
  writeComponent "model_type" c (("Contributions", .dict cs) :: [chem, temp, press, planet, star] ++ extra)

theorem modelRecord_ok {c : List Nat} {cs rest : List (String × Value α)} {es : List (String × Node α)}
    (hm : storeThing "ModelParameters" (writeComponent "model_type" c (("Contributions", .dict cs) :: rest)) = .ok es) :
    ∃ ces r, storeEntries cs = .ok ces ∧ storeEntries rest = .ok r ∧
      es = [("ModelParameters", .group ([("model_type", .vstr c), ("Contributions", .group ces)] ++ r))] := by
  obtain ⟨ch, hch, rfl⟩ := storeThing_dict_ok hm
  obtain ⟨a, b, ha1, hb1, rfl⟩ := storeEntries_cons_ok hch
  obtain ⟨a2, r, ha2, hr, rfl⟩ := storeEntries_cons_ok hb1
  obtain ⟨ces, hces, rfl⟩ := storeThing_dict_ok ha2
  obtain rfl := Except.ok.inj ha1
  exact ⟨ces, r, hces, hr, rfl⟩

theorem modelValue_ok {c : List Nat} {cs : List (String × Value α)} {chem temp press planet star : String × Value α}
    {extra : List (String × Value α)} {es : List (String × Node α)}
    (hm : storeThing "ModelParameters" (modelValue c cs chem temp press planet star extra) = .ok es) :
    ∃ ces subs ex, storeEntries cs = .ok ces ∧ storeEntries [chem, temp, press, planet, star] = .ok subs ∧
      storeEntries extra = .ok ex ∧
      es = [("ModelParameters", .group ([("model_type", .vstr c), ("Contributions", .group ces)] ++ subs ++ ex))] := by
  obtain ⟨ces, r, hces, hr, rfl⟩ := modelRecord_ok hm
  obtain ⟨subs, ex, hsubs, hex, rfl⟩ := storeEntries_append_ok hr
  exact ⟨ces, subs, ex, hces, hsubs, hex, by simp⟩

/-- the entries `Chemistry.write` creates in its group -/
def chemEntries (c : List Nat) (act inact : List (List Nat)) (cond : Option (List (List Nat))) : List (String × Node α) :=
  [("chemistry_type", .vstr c), ("active_gases", stringNode act), ("inactive_gases", stringNode inact)]
    ++ (match cond with | some cd => [("condensates", stringNode cd)] | none => [])

/-- the attributes `Chemistry.write` reads -/
structure ChemAttrs (attr : String → Option (Value α)) (act inact : List (List Nat))
    (cond : Option (List (List Nat))) : Prop where
  act : attr "activeGases" = some (.list (act.map .str))
  inact : attr "inactiveGases" = some (.list (inact.map .str))
  has : attr "hasCondensates" = some (.bool cond.isSome)
  cond : ∀ cd, cond = some cd → attr "condensates" = some (.list (cd.map .str))

/-! ### scalars and leaves: what the star, planet, pressure, gas and contribution writers store -/

def Scalar (v : Value α) : Prop := (∃ i, v = .int i) ∨ (∃ x, v = .float x) ∨ (∃ b, v = .bool b)

/-- a scalar, a numeric array or a string: what `write_scalar`, `write_array`, `write_string` take -/
def Leaf (v : Value α) : Prop := Scalar v ∨ (∃ a, v = .array a) ∨ (∃ t, v = .str t)

/-- the node `write_scalar` / `write_array` / `write_string` create for a scalar / array / string -/
def leafNode : Value α → Node α
  | .int i => .num ⟨[], .ints [i]⟩
  | .float x => .num ⟨[], .floats [x]⟩
  | .bool b => .num ⟨[], .bools [b]⟩
  | .array a => .num a
  | .str t => .vstr t
  | _ => .group []

theorem scalar_float (x : α) : Scalar (Value.float x) := Or.inr (Or.inl ⟨x, rfl⟩)
theorem scalar_int (i : Int) : Scalar (Value.int i : Value α) := Or.inl ⟨i, rfl⟩
theorem scalar_bool (b : Bool) : Scalar (Value.bool b : Value α) := Or.inr (Or.inr ⟨b, rfl⟩)
theorem leaf_scalar {v : Value α} (h : Scalar v) : Leaf v := Or.inl h
theorem leaf_array (a : Arr α) : Leaf (Value.array a) := Or.inr (Or.inl ⟨a, rfl⟩)
theorem leaf_str (t : List Nat) : Leaf (Value.str t : Value α) := Or.inr (Or.inr ⟨t, rfl⟩)

theorem storeThing_leaf (k : String) (v : Value α) (h : Leaf v) : storeThing k v = .ok [(k, leafNode v)] := by
  rcases h with (⟨i, rfl⟩ | ⟨x, rfl⟩ | ⟨b, rfl⟩) | ⟨a, rfl⟩ | ⟨t, rfl⟩ <;> simp [storeThing, leafNode]

theorem storeEntries_leaves : ∀ l : List (String × Value α), (∀ e ∈ l, Leaf e.2) →
    storeEntries l = .ok (l.map (fun e => (e.1, leafNode e.2)))
  | [], _ => by simp [storeEntries]
  | (k, v) :: r, h =>
    Output.storeEntries_cons_eq (storeThing_leaf k v (h (k, v) List.mem_cons_self))
      (storeEntries_leaves r (fun e he => h e (List.mem_cons_of_mem _ he)))

/-! ### leaves that are read back unchanged -/

def WfLeaf (v : Value α) : Prop := Scalar v ∨ (∃ a, v = .array a ∧ (a.shape != []) = true) ∨ (∃ t, v = .str t)

theorem wfLeaf_scalar {v : Value α} (h : Scalar v) : WfLeaf v := Or.inl h
theorem wfLeaf_array (a : Arr α) (h : (a.shape != []) = true) : WfLeaf (Value.array a) := Or.inr (Or.inl ⟨a, rfl, h⟩)
theorem wfLeaf_str (t : List Nat) : WfLeaf (Value.str t : Value α) := Or.inr (Or.inr ⟨t, rfl⟩)

theorem wfLeaf_wf {v : Value α} (h : WfLeaf v) : Output.wfVal v = true ∧ Output.isDict v = false := by
  rcases h with (⟨i, rfl⟩ | ⟨x, rfl⟩ | ⟨b, rfl⟩) | ⟨a, rfl, ha⟩ | ⟨t, rfl⟩
  · exact ⟨rfl, rfl⟩
  · exact ⟨rfl, rfl⟩
  · exact ⟨rfl, rfl⟩
  · exact ⟨ha, rfl⟩
  · exact ⟨rfl, rfl⟩

theorem wfl_nil : ∀ e ∈ ([] : List (String × Value α)), WfLeaf e.2 := fun e he => by cases he

theorem wfl_cons {k : String} {v : Value α} {r : List (String × Value α)} (hv : WfLeaf v) (hr : ∀ e ∈ r, WfLeaf e.2) :
    ∀ e ∈ (k, v) :: r, WfLeaf e.2 :=
  List.forall_mem_cons.2 ⟨hv, hr⟩

theorem wfl_append {l r : List (String × Value α)} (hl : ∀ e ∈ l, WfLeaf e.2) (hr : ∀ e ∈ r, WfLeaf e.2) :
    ∀ e ∈ l ++ r, WfLeaf e.2 :=
  List.forall_mem_append.2 ⟨hl, hr⟩

theorem wfEntries_wfl : ∀ l : List (String × Value α), (∀ e ∈ l, WfLeaf e.2) → Output.wfEntries l = true
  | [], _ => rfl
  | (k, v) :: r, h => by
    simp [Output.wfEntries, (wfLeaf_wf (h (k, v) List.mem_cons_self)).1,
      wfEntries_wfl r (fun e he => h e (List.mem_cons_of_mem _ he))]

theorem notDict_wfl (l : List (String × Value α)) (h : ∀ e ∈ l, WfLeaf e.2) : ∀ e ∈ l, Output.isDict e.2 = false :=
  fun e he => (wfLeaf_wf (h e he)).2

theorem wfLeaf_of_leaf {v : Value α} (h : Leaf v) (ha : ∀ a, v = .array a → (a.shape != []) = true) : WfLeaf v := by
  rcases h with hs | ⟨a, rfl⟩ | ht
  · exact Or.inl hs
  · exact Or.inr (Or.inl ⟨a, rfl, ha a rfl⟩)
  · exact Or.inr (Or.inr ht)

theorem wfEntries_leaves : ∀ l : List (String × Value α), (∀ e ∈ l, Leaf e.2) →
    (∀ e ∈ l, ∀ a, e.2 = .array a → (a.shape != []) = true) → Output.wfEntries l = true :=
  fun l h ha => wfEntries_wfl l fun e he => wfLeaf_of_leaf (h e he) (ha e he)

theorem notDict_leaves (l : List (String × Value α)) (h : ∀ e ∈ l, Leaf e.2) : ∀ e ∈ l, Output.isDict e.2 = false := by
  intro e he
  rcases h e he with (⟨i, hi⟩ | ⟨x, hx⟩ | ⟨b, hb⟩) | ⟨a, ha⟩ | ⟨t, ht⟩ <;> simp [*, Output.isDict]

/-! ### `P = self._P…; if not P: P = -1` (NPoint) -/

theorem ite_pure {σ β : Type} (c : Prop) [Decidable c] (a b : β) :
    (if c then (pure a : Eff σ β) else pure b) = pure (if c then a else b) := by
  split <;> rfl
theorem scalar_orMinus1 (v : Value α) : Scalar (orMinus1 v : Value α) := by
  cases v with
  | float x =>
    show Scalar (if FloatLike.isZero x then Value.int (-1) else Value.float x)
    split
    · exact Or.inl ⟨_, rfl⟩
    · exact Or.inr (Or.inl ⟨_, rfl⟩)
  | _ => exact Or.inl ⟨_, rfl⟩
/-- `P = self._P…; if not P: P = -1`: the truth value of the attribute, and what `P` is afterwards -/
theorem truthy_orMinus1 (w : WWorld α) (v : Value α) (hv : v = .unsupported ∨ ∃ x, v = .float x) :
    ∃ b : Bool, Dyn.truthy w.ext (embW w.enc v) = pure b ∧
      (if (!b) = true then (Dyn.Val.int (-1) : WV α) else embW w.enc v) = embW w.enc (orMinus1 v) := by
  rcases hv with rfl | ⟨x, rfl⟩
  · exact ⟨false, rfl, rfl⟩
  · refine ⟨!FloatLike.isZero x, rfl, ?_⟩
    cases h : FloatLike.isZero x <;> simp [orMinus1, embW, h]

/-! ### the node and the log entry of a leaf -/

theorem leafNode_int (i : Int) : leafNode (.int i : Value α) = .num ⟨[], .ints [i]⟩ := rfl
theorem leafNode_float (x : α) : leafNode (.float x : Value α) = .num ⟨[], .floats [x]⟩ := rfl
theorem leafNode_bool (b : Bool) : leafNode (.bool b : Value α) = .num ⟨[], .bools [b]⟩ := rfl
theorem leafNode_array (a : Arr α) : leafNode (.array a : Value α) = .num a := rfl
theorem leafNode_str (t : List Nat) : leafNode (.str t : Value α) = .vstr t := rfl

theorem flatNode_leaf (p : List String) (k : String) {v : Value α} (h : Leaf v) :
    flatNode p k (leafNode v) = [(p, k, leafNode v)] := by
  rcases h with (⟨i, rfl⟩ | ⟨x, rfl⟩ | ⟨b, rfl⟩) | ⟨a, rfl⟩ | ⟨t, rfl⟩ <;> rfl

/-! ### the writers as functions: what each statement of a `write` method is, and the log a run leaves

Every statement of a `write` method that touches the file is an `emits l x` of `Proofs/DynCore.lean` (the `wf_*` equations: `create_group`,
`write_scalar`, … as functions of the state, not run on one), reading an attribute is a `pure`; a run concatenates the logs
(`emits_bind`, `emits_then`, `emits_run`); `flat_dict` is the log the model's record leaves, to compare it with. -/

variable (w : WWorld α) (c : List Nat) (attr : String → Option (Value α)) (part : String → Option (SubComp α))

theorem wf_group (p : List String) (key : String) :
    Dyn.callMethod w.ext (.obj (.group p)) "create_group" [.str key] []
      = emits [(p, key, .group [])] (.obj (.group (p ++ [key]))) := (rfl)
theorem embW_str (enc : List Nat → String) (t : List Nat) : embW enc (.str t : Value α) = .str (enc t) := rfl
theorem wf_string (hw : WWorldOK w) (p : List String) (key : String) (t : List Nat) :
    Dyn.callMethod w.ext (.obj (.group p)) "write_string" [.str key, .str (w.enc t)] [] = emits [(p, key, .vstr t)] .none :=
  funext fun s => (w_write_string w p key (w.enc t) s).trans (by rw [hw t]; rfl)
theorem wf_scalar (p : List String) (key : String) (v : Value α) (h : Scalar v) :
    Dyn.callMethod w.ext (.obj (.group p)) "write_scalar" [.str key, embW w.enc v] [] = emits [(p, key, leafNode v)] .none := by
  rcases h with ⟨i, rfl⟩ | ⟨x, rfl⟩ | ⟨b, rfl⟩ <;> rfl
theorem wf_array (p : List String) (key : String) (a : Arr α) :
    Dyn.callMethod w.ext (.obj (.group p)) "write_array" [.str key, embW w.enc (.array a)] []
      = emits [(p, key, .num a)] .none := (rfl)
theorem wf_class :
    Dyn.getAttr w.ext (.obj (.comp c attr part)) "__class__" = pure (.obj (.cls c)) := (rfl)
theorem wf_name (c : List Nat) : Dyn.getAttr w.ext (.obj (.cls c)) "__name__" = pure (.str (w.enc c)) := (rfl)

theorem wf_getattr 
    (name : String) (hn : name ≠ "__class__") :
    Dyn.getAttr w.ext (.obj (.comp c attr part)) name
      = match attr name with
        | some v => pure (embW w.enc v)
        | none =>
          match part name with
          | some (.one k v) => pure (.obj (.sub k v))
          | some (.many l) => pure (.list (l.map (fun kv => .obj (.sub kv.1 kv.2))))
          | none => throw .AttributeError := by
  show (if name = "__class__" then _ else _) = _
  rw [if_neg hn]

theorem wf_const (name : String) (hn : name ≠ "np") :
    w.ext.global name = match w.consts name with | some x => pure (embW w.enc (.float x)) | none => throw .NameError := by
  show (if name = "np" then _ else _) = _
  rw [if_neg hn]; rfl

theorem wf_div (a b : α) (hb : FloatLike.isZero b = false) :
    Dyn.truediv w.ext (embW w.enc (.float a)) (embW w.enc (.float b)) = pure (embW w.enc (.float (w.div a b))) := by
  show (if FloatLike.isZero b = true then (throw Exc.ZeroDivisionError : SM α (WV α)) else pure (.float (w.div a b))) = _
  rw [hb]; rfl

theorem wf_truthy_bool (b : Bool) : Dyn.truthy w.ext (embW w.enc (.bool b)) = pure b := (rfl)
theorem wf_hasattr_len (l : List (Value α)) :
    w.ext.op "hasattr" [embW w.enc (.list l), .str "__len__"] = pure (.bool true) := (rfl)
theorem isTy_float_list (enc : List Nat → String) (l : List (Value α)) :
    Dyn.Val.isTy .float (embW enc (.list l)) = false := rfl
/-- `len(l) > 0` as a truth value -/
theorem wf_len_pos {β : Type} (l : List (Value α)) (K : Bool → SM α β) :
    (Dyn.len w.ext (embW w.enc (.list l)) >>= fun n => Dyn.compare w.ext ">" n (.int 0) >>= fun t =>
      Dyn.truthy w.ext t >>= K) = K (!l.isEmpty) := by
  cases l with
  | nil => rfl
  | cons v t =>
    have h : ((((embWL w.enc (v :: t)).length : Nat) : Int) > 0) := by simp [embWL]
    simp only [embW, Dyn.len, eff_pure_bind, Dyn.compare, Dyn.indexOf, Dyn.truthy, h]
    rfl
theorem wf_np : w.ext.global "np" = pure (Dyn.Val.obj WObj.np : WV α) := (rfl)
theorem wf_np_array (hw : WWorldOK w) (l : List α) :
    Dyn.callMethod w.ext (.obj .np) "array" [embW w.enc (.list (l.map .float))] [] = pure (embW w.enc (.array (arrOf l))) := by
  have h : (toNdList (unWL w.dec (embWL w.enc (l.map Value.float)))).bind stack = some (arrOf l) := by
    rw [unWL_embWL w.enc w.dec hw, toNdList_map _ _ (fun _ => rfl)]
    cases l with
    | nil => rfl
    | cons x t => exact stack_floats (x :: t) (by simp)
  show (match (toNdList (unWL w.dec (embWL w.enc (l.map Value.float)))).bind stack with
      | some a => (pure (Dyn.Val.obj (WObj.nd a)) : SM α (WV α))
      | none => throw Exc.ValueError) = _
  rw [h]; rfl
theorem wf_string_array (hw : WWorldOK w) (p : List String) (key : String) (l : List (List Nat)) :
    Dyn.callMethod w.ext (.obj (.group p)) "write_string_array" [.str key, embW w.enc (.list (l.map .str))] []
      = emits [(p, key, stringNode l)] .none := by
  show (match stringList (unWL w.dec (embWL w.enc (l.map Value.str))) with
      | some strs => wlog p key (stringNode strs)
      | none => (throw Exc.AttributeError : SM α (WV α))) = _
  rw [unWL_embWL w.enc w.dec hw, stringList_strs]
  rfl
theorem wf_model :
    Dyn.callMethod w.ext (.obj (.comp c attr part)) "model" [] [] = pure .none := (rfl)
theorem wf_sub_write (k : String) (v : Value α) (p : List String) :
    Dyn.callMethod w.ext (.obj (.sub k v)) "write" [.obj (.group p)] []
      = match storeThing k v with
        | .ok es => emits (flat p es) (.obj (.group (p ++ [k])))
        | .error _ => throw .TypeError := (rfl)

/-- `for c in components: c.write(group)` -/
theorem forM_subs (p : List String) (body : Unit → WV α → SM α Unit)
    (hb : ∀ (k : String) (v : Value α), body () (.obj (.sub k v))
        = Dyn.callMethod w.ext (.obj (.sub k v)) "write" [.obj (.group p)] [] >>= fun _ => pure ()) :
    ∀ (cs : List (String × Value α)) (es : List (String × Node α)), storeEntries cs = .ok es →
      Dyn.forM (cs.map (fun kv => (Dyn.Val.obj (WObj.sub kv.1 kv.2) : WV α))) () body = emits (flat p es) ()
  | [], es, h => by
    obtain rfl := Except.ok.inj h
    exact funext fun s => by simp only [List.map_nil, Dyn.forM, eff_pure, emits_run, flat, List.append_nil]
  | (k, v) :: cs, es, h => by
    obtain ⟨a, b, ha, hb', rfl⟩ := storeEntries_cons_ok h
    funext s
    simp only [List.map_cons, Dyn.forM, hb, wf_sub_write, ha, emits_then, emits_bind, forM_subs p body hb cs b hb',
      emits_run, flat_append, List.append_assoc]

/-- the log a dictionary of scalars, arrays and strings leaves: its group, then one entry per item.  `h`: every entry is a
    `Leaf`; where the entries are written out it is found by the default argument, from `scalar_*`, `leaf_*` and the `Scalar`
    hypotheses in scope -/
theorem flat_dict {q : List String} {name : String} {d : List (String × Value α)} {es : List (String × Node α)}
    (hm : storeThing name (.dict d) = .ok es)
    (h : ∀ e ∈ d, Leaf e.2 := by simp only [List.forall_mem_cons, List.not_mem_nil, false_imp_iff, implies_true,
      leaf_scalar, leaf_array, leaf_str, scalar_float, scalar_int, scalar_bool, scalar_orMinus1, and_self, *]) :
    flat q es = (q, name, .group []) :: d.map (fun e => (q ++ [name], e.1, leafNode e.2)) := by
  rw [storeThing_dict, storeEntries_leaves _ h] at hm
  obtain rfl := Except.ok.inj hm
  have hf : ∀ l : List (String × Value α), (∀ e ∈ l, Leaf e.2) →
      flat (q ++ [name]) (l.map (fun e => (e.1, leafNode e.2))) = l.map (fun e => (q ++ [name], e.1, leafNode e.2)) := by
    intro l
    induction l with
    | nil => intro _; rfl
    | cons e t ih =>
      intro hl
      simp only [List.map_cons, flat, flatNode_leaf _ _ (hl e List.mem_cons_self),
        ih (fun x hx => hl x (List.mem_cons_of_mem _ hx)), List.cons_append, List.nil_append]
  simp only [flat, flatNode, hf d h, List.append_nil]

/-- the entries of a list of optional scalars that are not `None` (the model's `unsupported`) -/
def present : List (String × Value α) → List (String × Value α)
  | [] => []
  | (k, v) :: r => match v with
    | .unsupported => present r
    | _ => (k, v) :: present r

theorem present_cons {k : String} {v : Value α} (hv : Scalar v) (r : List (String × Value α)) :
    present ((k, v) :: r) = (k, v) :: present r := by
  rcases hv with ⟨i, rfl⟩ | ⟨x, rfl⟩ | ⟨b, rfl⟩ <;> rfl

/-- `for name, value in ((k1, v1), …): if value is not None: group.write_scalar(name, value)` -/
theorem forM_present (p : List String) (body : Unit → WV α → SM α Unit)
    (hb : ∀ (k : String) (v : Value α), body () (.tuple [.str k, embW w.enc v])
        = if (!Dyn.Val.isNone (embW w.enc v)) = true then
            Dyn.callMethod w.ext (.obj (.group p)) "write_scalar" [.str k, embW w.enc v] [] >>= fun _ => pure ()
          else pure ()) :
    ∀ (ts : List (WV α)) (l : List (String × Value α)), ts = l.map (fun e => .tuple [.str e.1, embW w.enc e.2]) →
      (∀ e ∈ l, e.2 = .unsupported ∨ Scalar e.2) →
      Dyn.forM ts () body = emits ((present l).map (fun e => (p, e.1, leafNode e.2))) ()
  | _, [], rfl, _ => funext fun s => by simp only [List.map_nil, Dyn.forM, present, eff_pure, emits_run, List.append_nil]
  | _, (k, v) :: r, rfl, h => by
    have ih := forM_present p body hb _ r rfl (fun e he => h e (List.mem_cons_of_mem _ he))
    funext s
    simp only [List.map_cons, Dyn.forM, hb, ih]
    rcases h (k, v) List.mem_cons_self with hv | hv
    · obtain rfl : v = .unsupported := hv
      rfl
    · have hne : Dyn.Val.isNone (embW w.enc v) = false := by
        rcases hv with ⟨i, rfl⟩ | ⟨x, rfl⟩ | ⟨b, rfl⟩ <;> rfl
      simp only [hne, Bool.not_false, if_true, wf_scalar w p k v hv, emits_then, emits_bind, emits_run, present_cons hv,
        List.map_cons, List.append_assoc, List.cons_append, List.nil_append]

theorem present_leaves : ∀ l : List (String × Value α), (∀ e ∈ l, e.2 = .unsupported ∨ Scalar e.2) →
    ∀ e ∈ present l, Scalar e.2
  | [], _, e, he => by simp [present] at he
  | (k, v) :: r, h, e, he => by
    have hr : ∀ e ∈ r, e.2 = .unsupported ∨ Scalar e.2 := fun e he => h e (List.mem_cons_of_mem _ he)
    rcases h (k, v) List.mem_cons_self with hv | hv
    · simp only at hv
      subst hv
      exact present_leaves r hr e (by simpa [present] using he)
    · rw [present_cons hv] at he
      rcases List.mem_cons.1 he with rfl | he
      · exact hv
      · exact present_leaves r hr e he

end
end
end Taurex.C16Src
