/-
  C05: facts about the specification `overlapMeanSpec` (overlap-weighted mean over all native bins).
-/
import Proofs.C05Basic
import Proofs.Convex

namespace Taurex.Binning
open List

theorem overlap_eq (a b : ℝ) (r : Row ℝ) : overlap a b r = max 0 (min b r.hi - max r.lo a) := by
  unfold overlap; rw [mx_eq_max, mn_eq_min, mx_eq_max]

theorem overlap_nonneg (a b : ℝ) (r : Row ℝ) : 0 ≤ overlap a b r := by
  rw [overlap_eq]; exact le_max_left _ _

theorem overlap_pos_iff (a b : ℝ) (r : Row ℝ) :
    0 < overlap a b r ↔ (a < r.hi ∧ r.lo < b ∧ a < b ∧ r.lo < r.hi) := by
  rw [overlap_eq, lt_max_iff, sub_pos, max_lt_iff, lt_min_iff, lt_min_iff]
  constructor
  · rintro (h | ⟨⟨h1, h2⟩, ⟨h3, h4⟩⟩)
    · exact absurd h (lt_irrefl 0)
    · exact ⟨h4, h1, h3, h2⟩
  · rintro ⟨h1, h2, h3, h4⟩
    exact Or.inr ⟨⟨h2, h4⟩, ⟨h3, h1⟩⟩

theorem overlap_zero_of_hi_le (a b : ℝ) (r : Row ℝ) (h : r.hi ≤ a) : overlap a b r = 0 := by
  rw [overlap_eq]
  exact max_eq_left (sub_nonpos.2 ((min_le_right _ _).trans (h.trans (le_max_right _ _))))

theorem overlap_zero_of_le_lo (a b : ℝ) (r : Row ℝ) (h : b ≤ r.lo) : overlap a b r = 0 := by
  rw [overlap_eq]
  exact max_eq_left (sub_nonpos.2 ((min_le_left _ _).trans (h.trans (le_max_left _ _))))

theorem overlapMeanSpec_eq (val : Row ℝ → ℝ) (rows : List (Row ℝ)) (a b : ℝ) :
    overlapMeanSpec val rows a b =
      (rows.map (fun r => overlap a b r * val r)).sum / (rows.map (overlap a b)).sum := by
  unfold overlapMeanSpec; rw [sumL_eq_sum, sumL_eq_sum]

theorem sum_overlap_nonneg (rows : List (Row ℝ)) (a b : ℝ) : 0 ≤ (rows.map (overlap a b)).sum :=
  Convex.sum_map_nonneg rows _ fun r _ => overlap_nonneg a b r

theorem spec_const (val : Row ℝ → ℝ) (rows : List (Row ℝ)) (a b k : ℝ)
    (hk : ∀ r ∈ rows, val r = k) (hpos : 0 < sumL (rows.map (overlap a b))) :
    overlapMeanSpec val rows a b = k := by
  rw [sumL_eq_sum] at hpos
  simp only [overlapMeanSpec_eq, mul_comm (overlap a b _)]
  rw [Convex.wsum_const rows (overlap a b) val k hk, mul_div_assoc, div_self hpos.ne', mul_one]

/-- a row the target does not overlap has weight zero and is not asked about -/
theorem spec_between (val : Row ℝ → ℝ) (rows : List (Row ℝ)) (a b m M : ℝ)
    (hb : ∀ r ∈ rows, 0 < overlap a b r → m ≤ val r ∧ val r ≤ M)
    (hpos : 0 < sumL (rows.map (overlap a b))) :
    m ≤ overlapMeanSpec val rows a b ∧ overlapMeanSpec val rows a b ≤ M := by
  rw [sumL_eq_sum] at hpos
  simp only [overlapMeanSpec_eq, mul_comm (overlap a b _)]
  exact Convex.wmean_mem rows (overlap a b) val (fun r _ => overlap_nonneg a b r) hb hpos

theorem spec_linear (x y : Row ℝ → ℝ) (rows : List (Row ℝ)) (a b k₁ k₂ : ℝ) :
    overlapMeanSpec (fun r => k₁ * x r + k₂ * y r) rows a b =
      k₁ * overlapMeanSpec x rows a b + k₂ * overlapMeanSpec y rows a b := by
  simp only [overlapMeanSpec_eq]
  have : (rows.map (fun r => overlap a b r * (k₁ * x r + k₂ * y r))).sum =
      k₁ * (rows.map (fun r => overlap a b r * x r)).sum + k₂ * (rows.map (fun r => overlap a b r * y r)).sum := by
    rw [← List.sum_map_mul_left, ← List.sum_map_mul_left, ← List.sum_map_add]
    congr 1
    apply List.map_congr_left
    intro r _
    ring
  rw [this]
  ring

theorem spec_perm (val : Row ℝ → ℝ) {rows₁ rows₂ : List (Row ℝ)} (hp : rows₁ ~ rows₂) (a b : ℝ) :
    overlapMeanSpec val rows₁ a b = overlapMeanSpec val rows₂ a b := by
  rw [overlapMeanSpec_eq, overlapMeanSpec_eq, (hp.map _).sum_eq, (hp.map _).sum_eq]

end Taurex.Binning
