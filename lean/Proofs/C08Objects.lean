/-
  Lemmas about the heap of prior objects (`TaurexModel/PriorObjects.lean`): an object is only ever changed by
  `set_bounds` calls on ITSELF.  Core tactics only.
-/
import TaurexModel.PriorObjects

namespace Taurex.PriorObjects
open Taurex.Priors

section
variable {α : Type}

theorem modifyAt_eq_modify (f : Prior α → Prior α) : ∀ (i : Nat) (h : Heap α), modifyAt f i h = h.modify i f
  | 0, [] => rfl
  | _ + 1, [] => rfl
  | 0, _ :: _ => rfl
  | i + 1, p :: h => (congrArg (p :: ·) (modifyAt_eq_modify f i h)).trans (List.modify_succ_cons ..).symm

theorem length_modifyAt (f : Prior α → Prior α) (i : Nat) (h : Heap α) : (modifyAt f i h).length = h.length := by
  rw [modifyAt_eq_modify, List.length_modify]

theorem getElem?_modifyAt (f : Prior α → Prior α) (i : Nat) (h : Heap α) (j : Nat) :
    (modifyAt f i h)[j]? = if i = j then (h[j]?).map f else h[j]? := by
  rw [modifyAt_eq_modify, List.getElem?_modify]
  split <;> cases h[j]? <;> rfl

theorem ownCalls_cons (j : Nat) (op : Op α) (ops : List (Op α)) : ownCalls j (op :: ops) = ownCalls j [op] ++ ownCalls j ops := by
  cases op with
  | create c => simp [ownCalls]
  | setBounds i b0 b1 =>
    by_cases hij : i = j <;> simp [ownCalls, hij]

variable [LT α] [DecidableLT α]

theorem reboundAll_append (p : Prior α) (a b : List (α × α)) : reboundAll p (a ++ b) = reboundAll (reboundAll p a) b := by
  induction a generalizing p with
  | nil => rfl
  | cons x a ih => simp [reboundAll, ih]

variable [OfNat α 0] [OfNat α 1] [Transc α]

theorem length_step_ge (half quarter : α) (h : Heap α) (op : Op α) : h.length ≤ (step half quarter h op).length := by
  cases op with
  | create c =>
    simp only [step]
    split <;> simp
  | setBounds i b0 b1 => simp [step, length_modifyAt]

theorem getElem?_step (half quarter : α) (h : Heap α) (op : Op α) (j : Nat) (hj : j < h.length) :
    (step half quarter h op)[j]? = (h[j]?).map (fun p => reboundAll p (ownCalls j [op])) := by
  cases op with
  | create c =>
    simp only [step]
    split <;> simp [ownCalls, reboundAll, List.getElem?_append_left hj]
  | setBounds i b0 b1 =>
    simp only [step, getElem?_modifyAt, ownCalls]
    by_cases hij : i = j
    · simp [hij, reboundAll]
    · simp [hij, reboundAll]

theorem getElem?_run (half quarter : α) : ∀ (ops : List (Op α)) (h : Heap α) (j : Nat), j < h.length →
    (run half quarter h ops)[j]? = (h[j]?).map (fun p => reboundAll p (ownCalls j ops))
  | [], h, j, _ => by simp [run, ownCalls, reboundAll]
  | op :: ops, h, j, hj => by
    have hj' : j < (step half quarter h op).length := Nat.lt_of_lt_of_le hj (length_step_ge half quarter h op)
    rw [run, getElem?_run half quarter ops _ j hj', getElem?_step half quarter h op j hj]
    have e := ownCalls_cons j op ops
    cases h[j]? with
    | none => rfl
    | some p => simp [e, reboundAll_append]

end

end Taurex.PriorObjects
