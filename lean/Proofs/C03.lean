/-
  Lemmas for C03: the transmittance of a sum of optical depths, rows the early exit leaves alone, `sumComps` as a sum.
  (The optical depth as a sum over the contributions, linear in each opacity table: `Proofs/C01.lean`.)
-/
import Proofs.C01
import TaurexModel.Sigma

namespace Taurex.Transmission

theorem trans_add (a b : ℝ) : trans (a + b) = trans a * trans b := by
  unfold trans; simp only [exp_real]; rw [neg_add, Real.exp_add]

theorem trans_zero : trans (0 : ℝ) = 1 := by unfold trans; simp

theorem trans_sum (l : List ℝ) : trans l.sum = (l.map trans).prod := by
  induction l with
  | nil => simp [trans_zero]
  | cons a l ih => simp [trans_add, ih]

/-- two numbers in `[a, a + e]` differ by at most `e` -/
theorem abs_sub_le_of_band {a x y e : ℝ} (hx : a ≤ x) (hx' : x - a ≤ e) (hy : a ≤ y) (hy' : y - a ≤ e) : |x - y| ≤ e :=
  abs_sub_le_iff.2 ⟨by linarith, by linarith⟩

/-- a row that comes back with an entry not below `exp(-10)` was not cut: it is the full sum -/
theorem tauCut_eq_full_of_trans (n nwn : ℕ) (path dens : ℕ → ℝ) (l : ℕ) (cs : List (Contrib ℝ)) (w : ℕ) (hw : w < nwn)
    (h10 : trans 10 ≤ trans (tauCut n nwn path dens l cs w)) (wn : ℕ) :
    tauCut n nwn path dens l cs wn = tauFull n path dens l cs wn := by
  rcases cutoff_dichotomy n nwn path dens l cs (fun _ => 0) with h | h
  · exact h wn
  · exact absurd h10 (not_le.2 (trans_lt_of_gt (h w hw)))

/-- a list whose full sum in column `w` is below that of a list that comes back unsaturated in `w` comes back unsaturated
    in `w` too (only the smaller list needs non-negative opacities: the larger one is not cut, whatever its signs) -/
theorem unsaturated_col_of_le (n nwn : ℕ) (path dens : ℕ → ℝ) (l : ℕ) (hp : ∀ k < n - l, 0 ≤ path k)
    (hd : ∀ j < n, 0 ≤ dens j) (cs ds : List (Contrib ℝ)) (hds : ∀ c ∈ ds, c.Nonneg) (w : ℕ) (hw : w < nwn)
    (hle : tauFull n path dens l ds w ≤ tauFull n path dens l cs w)
    (h10 : trans 10 ≤ trans (tauCut n nwn path dens l cs w)) : trans 10 ≤ trans (tauCut n nwn path dens l ds w) := by
  rw [tauCut_eq_full_of_trans n nwn path dens l cs w hw h10 w] at h10
  exact h10.trans (trans_anti ((tauCut_le_tauFull n nwn path dens l hp hd ds hds w).trans hle))

end Taurex.Transmission

namespace Taurex.Sigma

theorem sumComps_nil : sumComps ([] : List (ℕ → ℕ → ℝ)) = fun _ _ => 0 := by
  funext l wn; simp [sumComps]

theorem sumComps_eq (comps : List (ℕ → ℕ → ℝ)) (l wn : ℕ) :
    sumComps comps l wn = (comps.map (fun c => c l wn)).sum := by
  unfold sumComps
  rw [List.sum_eq_foldl, List.foldl_map]

/-- a `sigma_xsec` summed from one component per element of a list is, entry by entry, the list sum -/
theorem sumComps_map {ι : Type} (f : ι → ℕ → ℕ → ℝ) (xs : List ι) (l wn : ℕ) :
    sumComps (xs.map f) l wn = (xs.map fun x => f x l wn).sum := by
  rw [sumComps_eq, List.map_map]; rfl

theorem sumComps_cons (c : ℕ → ℕ → ℝ) (comps : List (ℕ → ℕ → ℝ)) :
    sumComps (c :: comps) = fun l wn => c l wn + sumComps comps l wn := by
  funext l wn; rw [sumComps_eq, sumComps_eq]; simp

end Taurex.Sigma
