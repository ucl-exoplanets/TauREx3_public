/-
  Helper lemmas for the Exo-Transmit tie of Props/C14Src.lean (`ExoTransmitOpacity._load_exo_transmit` against `decExo`):
  3-D arrays as `tab3` (list of planes of rows given by an entry function), `Py.setCol3` on them, the two loops over
  `lines[2:]` (wavelength lines / rows, the counters `lambda_count`, `pressure_count`) against the model's block grouping.
  Core only; generic in the carrier.
-/
import Proofs.C14SrcLemmas
namespace Taurex.C14Src
open Taurex.Gen Taurex.Loaders

section
variable {α : Type}

def tab3 (a b c : Nat) (g : Nat → Nat → Nat → α) : List (List (List α)) :=
  (List.range a).map fun i => (List.range b).map fun j => (List.range c).map fun k => g i j k

theorem tab3_congr (a b c : Nat) (g h : Nat → Nat → Nat → α) (hgh : ∀ i < a, ∀ j < b, ∀ k < c, g i j k = h i j k) :
    tab3 a b c g = tab3 a b c h := by
  unfold tab3
  apply List.map_congr_left
  intro i hi
  apply List.map_congr_left
  intro j hj
  apply List.map_congr_left
  intro k hk
  exact hgh i (List.mem_range.1 hi) j (List.mem_range.1 hj) k (List.mem_range.1 hk)

theorem normIdx_ofNat (n k : Nat) (h : k < n) : Py.normIdx n (k : Int) = some k := by
  unfold Py.normIdx
  simp [h]

theorem map_range_set (c : Nat) (f : Nat → α) (k : Nat) (x : α) :
    ((List.range c).map f).set k x = (List.range c).map (fun k' => if k' = k then x else f k') := by
  apply List.ext_getElem
  · simp
  · intro n h1 h2
    simp only [List.length_set, List.length_map, List.length_range] at h1
    simp only [List.getElem_set, List.getElem_map, List.getElem_range]
    by_cases hk : k = n
    · simp [hk]
    · have : ¬ n = k := fun h => hk h.symm
      simp [hk, this]

theorem zipIdx_map_range (b : Nat) (f : Nat → List α) :
    ((List.range b).map f).zipIdx = (List.range b).map (fun j => (f j, j)) := by
  apply List.ext_getElem
  · simp
  · intro n h1 h2
    simp

theorem setCol3_tab3 (a b c : Nat) (g : Nat → Nat → Nat → α) (i k : Nat) (hi : i < a) (hk : k < c) (v : List α)
    (hv : v.length = b) (d : α) :
    Py.setCol3 (tab3 a b c g) (i : Int) (k : Int) v
      = tab3 a b c (fun i' j k' => if i' = i ∧ k' = k then v.getD j d else g i' j k') := by
  unfold Py.setCol3
  have hlen : (tab3 a b c g).length = a := by simp [tab3]
  rw [hlen, normIdx_ofNat a i hi]
  simp only []
  unfold tab3
  apply List.ext_getElem
  · simp
  · intro n h1 h2
    simp only [List.length_map, List.length_range] at h2
    simp only [List.getElem_modify, List.getElem_map, List.getElem_range]
    by_cases hn : i = n
    · subst hn
      simp only [if_true, zipIdx_map_range, List.map_map]
      apply List.map_congr_left
      intro j hj
      have hj' : j < b := List.mem_range.1 hj
      simp only [Function.comp, List.length_map, List.length_range, normIdx_ofNat c k hk]
      have hvj : (if v.length = 1 then v[0]? else v[j]?) = some (v.getD j d) := by
        by_cases h1 : v.length = 1
        · have : j = 0 := by omega
          subst this
          simp [h1, List.getD_eq_getElem?_getD]
        · simp only [h1, if_false]
          have : j < v.length := by omega
          simp [List.getD_eq_getElem?_getD, List.getElem?_eq_getElem this]
      rw [hvj]
      simp only [map_range_set]
      apply List.map_congr_left
      intro k' _
      by_cases hk' : k' = k <;> simp [hk']
    · have : ¬ n = i := fun h => hn h.symm
      simp only [hn, if_false]
      apply List.map_congr_left
      intro j _
      apply List.map_congr_left
      intro k' _
      simp [this]

theorem foldl_via {σ : Type} (step : σ → List α → σ) (parse : String → List α) (F : σ → String → σ)
    (hF : ∀ st it, F st it = step st (parse it)) (init : σ) (body : List String) :
    List.foldl F init body = List.foldl step init (body.map parse) := by
  rw [List.foldl_map]
  congr 1
  funext st it
  exact hF st it

/-- a window `[m, m + len)` read through `getD (· - m)`: the head of the list is position `m`, the tail is the window from `m + 1` -/
theorem ite_window_cons {γ δ : Type} (F : γ → δ) (x : γ) (t : List γ) (d : γ) (m i : Nat) (c : Prop) [Decidable c] (h : δ) :
    (if c ∧ m ≤ i ∧ i < m + (x :: t).length then F ((x :: t).getD (i - m) d) else h)
      = if c ∧ m + 1 ≤ i ∧ i < m + (x :: t).length then F (t.getD (i - (m + 1)) d) else if i = m ∧ c then F x else h := by
  have hl : (x :: t).length = t.length + 1 := rfl
  by_cases hc : c
  · by_cases h1 : i = m
    · subst h1
      have c1 : c ∧ i ≤ i ∧ i < i + (x :: t).length := ⟨hc, Nat.le_refl i, by omega⟩
      have c2 : ¬ (c ∧ i + 1 ≤ i ∧ i < i + (x :: t).length) := fun h => by omega
      rw [if_pos c1, if_neg c2, if_pos ⟨rfl, hc⟩, Nat.sub_self, List.getD_cons_zero]
    · by_cases h2 : m + 1 ≤ i ∧ i < m + (x :: t).length
      · have c1 : c ∧ m ≤ i ∧ i < m + (x :: t).length := ⟨hc, by omega, by omega⟩
        rw [if_pos c1, if_pos (show c ∧ _ from ⟨hc, h2⟩), show i - m = i - (m + 1) + 1 by omega, List.getD_cons_succ]
      · have c1 : ¬ (c ∧ m ≤ i ∧ i < m + (x :: t).length) := fun h => by omega
        rw [if_neg c1, if_neg (fun h : c ∧ _ => h2 h.2), if_neg (fun h : i = m ∧ c => h1 h.1)]
  · rw [if_neg (fun h : c ∧ _ => hc h.1), if_neg (fun h : c ∧ _ => hc h.1), if_neg (fun h : i = m ∧ c => hc h.2)]

section
variable [Mul α] [Div α] [OfNat α 0] [OfNat α 10000]

/-- one pass of the first loop over `lines[2:]` (on the parsed line) -/
def wnStep (c : α) (acc : List α) (arr : List α) : List α :=
  if arr.length = 1 then acc ++ [((10000 : α) * c) / arr.getD 0 0] else acc

theorem wn_rows (c : α) (rows : List (List α)) (h : ∀ r ∈ rows, r.length ≠ 1) (acc : List α) :
    rows.foldl (wnStep c) acc = acc :=
  foldl_noop _ rows acc (fun r hr => by simp only [wnStep, h r hr, if_false])

theorem wn_blocks (c : α) (B : List (α × List (List α))) (h : ∀ b ∈ B, ∀ r ∈ b.2, r.length ≠ 1) (acc : List α) :
    (B.flatMap (fun b => [b.1] :: b.2)).foldl (wnStep c) acc = acc ++ B.map (fun b => ((10000 : α) * c) / b.1) := by
  -- one block is one pass: its wavelength line appends, its rows change nothing
  rw [List.foldl_flatMap, ← foldl_append_map]
  refine foldl_congr_mem _ _ B acc fun acc b hb => ?_
  rw [List.foldl_cons, wn_rows c b.2 (h b hb)]
  simp [wnStep]

end

section
variable [Add α] [OfNat α 0]

/-- one pass of the second loop over `lines[2:]` (on the parsed line): state `(lambda_count, pressure_count, _xsec_grid)` -/
def xsStep (tiny : α) (st : Int × Int × List (List (List α))) (arr : List α) : Int × Int × List (List (List α)) :=
  if arr.length = 1 then (st.1 + 1, 0, st.2.2)
  else (st.1, st.2.1 + 1, Py.setCol3 st.2.2 st.2.1 st.1 ((arr.drop 1).map (fun x => x + tiny)))

theorem rows_loop (tiny : α) (a b c m : Nat) (hb : 1 ≤ b) (hm : m < c) (rows : List (List α))
    (hr : ∀ r ∈ rows, r.length = b + 1) :
    ∀ (i0 : Nat) (h : Nat → Nat → Nat → α), i0 + rows.length ≤ a →
      rows.foldl (xsStep tiny) ((m : Int), (i0 : Int), tab3 a b c h)
        = ((m : Int), ((i0 + rows.length : Nat) : Int),
            tab3 a b c (fun i j k => if k = m ∧ i0 ≤ i ∧ i < i0 + rows.length
              then ((rows.getD (i - i0) []).getD (j + 1) 0) + tiny else h i j k)) := by
  induction rows with
  | nil =>
    intro i0 h _
    refine congrArg (fun T => ((m : Int), (i0 : Int), T)) (tab3_congr a b c _ _ fun i _ j _ k _ => (if_neg ?_).symm)
    simp only [List.length_nil]; omega
  | cons r rows ih =>
    intro i0 h hle
    simp only [List.length_cons] at hle
    have hrl : r.length = b + 1 := hr r (by simp)
    have hne : ¬ r.length = 1 := by omega
    have hv : ((r.drop 1).map (fun x => x + tiny)).length = b := by simp [hrl]
    simp only [List.foldl_cons, xsStep, hne, if_false]
    rw [setCol3_tab3 a b c h i0 m (by omega) hm _ hv 0]
    have hcast : ((i0 : Int) + 1) = ((i0 + 1 : Nat) : Int) := by simp
    rw [hcast, ih (fun r' hr' => hr r' (by simp [hr'])) (i0 + 1) _ (by omega)]
    have hlen : i0 + 1 + rows.length = i0 + (r :: rows).length := by simp; omega
    rw [hlen]
    congr 2
    apply tab3_congr
    intro i _ j hj k _
    have hvj : ((r.drop 1).map (fun x => x + tiny)).getD j 0 = r.getD (j + 1) 0 + tiny := by
      rw [List.getD_eq_getElem?_getD, List.getElem?_map, List.getElem?_drop, Nat.add_comm 1 j,
        List.getElem?_eq_getElem (by omega), List.getD_eq_getElem?_getD, List.getElem?_eq_getElem (by omega)]
      rfl
    rw [ite_window_cons (fun r : List α => r.getD (j + 1) 0 + tiny), hvj]

theorem blocks_loop (tiny : α) (a b c : Nat) (hb : 1 ≤ b) :
    ∀ (rest : List (α × List (List α))) (m : Nat) (h : Nat → Nat → Nat → α) (pc : Int),
      m + rest.length ≤ c → (∀ b' ∈ rest, b'.2.length = a ∧ ∀ r ∈ b'.2, r.length = b + 1) →
      ∃ pc' : Int, (rest.flatMap (fun b => [b.1] :: b.2)).foldl (xsStep tiny) ((m : Int) - 1, pc, tab3 a b c h)
        = (((m + rest.length : Nat) : Int) - 1, pc',
            tab3 a b c (fun i j k => if m ≤ k ∧ k < m + rest.length
              then (((rest.getD (k - m) (0, [])).2.getD i []).getD (j + 1) 0) + tiny else h i j k)) := by
  intro rest
  induction rest with
  | nil =>
    intro m h pc _ _
    refine ⟨pc, congrArg (fun T => ((m : Int) - 1, pc, T)) (tab3_congr a b c _ _ fun i _ j _ k _ => (if_neg ?_).symm)⟩
    simp only [List.length_nil]; omega
  | cons b' rest ih =>
    intro m h pc hle hrows
    simp only [List.length_cons] at hle
    obtain ⟨hlen, hr⟩ := hrows b' (by simp)
    simp only [List.flatMap_cons, List.cons_append, List.foldl_cons, List.foldl_append]
    have h1 : xsStep tiny ((m : Int) - 1, pc, tab3 a b c h) [b'.1] = ((m : Int), ((0 : Nat) : Int), tab3 a b c h) := by
      simp [xsStep]
    rw [h1, rows_loop tiny a b c m hb (by omega) b'.2 hr 0 h (by omega)]
    have hcast : (m : Int) = (((m + 1 : Nat) : Int) - 1) := by simp
    rw [hcast]
    obtain ⟨pc', hpc'⟩ := ih (m + 1) _ ((0 + b'.2.length : Nat) : Int) (by omega) (fun b'' hb'' => hrows b'' (by simp [hb'']))
    refine ⟨pc', ?_⟩
    rw [hpc']
    have hl2 : m + 1 + rest.length = m + (b' :: rest).length := by simp; omega
    rw [hl2]
    congr 2
    apply tab3_congr
    intro i hi j _ k _
    have := ite_window_cons (fun b' : α × List (List α) => (b'.2.getD i []).getD (j + 1) 0 + tiny) b' rest (0, []) m k True
      (h i j k)
    simp only [true_and, and_true] at this
    rw [this, Nat.sub_zero, Nat.zero_add, hlen]
    simp only [Nat.zero_le, hi, true_and, and_true, and_comm]

end

end
end Taurex.C14Src
