/-
  Helper lemmas for the C13 source tie: boolean masks, `np.where`, `take`, `np.arange` of the list-dialect prelude;
  the index selection shared by `Opacity.opacity` and `KTable.opacity` (`selection`, `opacity_of_selection`).
-/
import Proofs.C05SrcNp
import TaurexModel.Grid

namespace Taurex.Gen.Np

section
variable {α β γ : Type}

/-- `a[mask]` with `mask = p(a)` element-wise is `filter` -/
theorem compress_map (p : β → Bool) (l : List β) : compress l (l.map p) = l.filter p := by
  simpa using compress_map_filter id p l

theorem take_nil (d : β) (l : List β) : take d l [] = [] := rfl

theorem take_cons (d : β) (l : List β) (i : Nat) (idx : List Nat) :
    take d l (i :: idx) = l.getD i d :: take d l idx := rfl

/-- `a[np.where(mask)[0]]` is `a[mask]` -/
theorem take_whereFrom (d : β) (m : List Bool) : ∀ (pre l : List β), m.length ≤ l.length →
    take d (pre ++ l) (whereFrom pre.length m) = compress l m := by
  induction m with
  | nil => intro pre l _; simp [whereFrom, take_nil, compress]
  | cons b t ih =>
    intro pre l h
    cases l with
    | nil => simp at h
    | cons x l =>
      have h' : t.length ≤ l.length := by simpa using h
      have := ih (pre ++ [x]) l h'
      simp only [List.length_append, List.length_cons, List.length_nil, List.append_assoc, List.singleton_append] at this
      cases b
      · simp only [whereFrom, Bool.false_eq_true, if_false, this]
        simp [compress]
      · simp only [whereFrom, if_true, take_cons, this]
        simp [compress]

theorem take_where (d : β) (m : List Bool) (l : List β) (h : m.length ≤ l.length) :
    take d l (where_ m) = compress l m := by
  simpa [where_] using take_whereFrom d m [] l h

/-- the companion column of a table selected by a mask computed from the key column -/
theorem compress_zip (p : β → Bool) (l : List β) : ∀ (v : List γ),
    compress v (l.map p) = ((l.zip v).filter (fun q => p q.1)).map (·.2) := by
  induction l with
  | nil => intro v; simp [compress]
  | cons a t ih =>
    intro v
    cases v with
    | nil => simp [compress]
    | cons y v =>
      have := ih v
      simp only [compress, List.map_cons, List.zip_cons_cons, List.filterMap_cons, List.filter_cons] at this ⊢
      cases h : p a <;> simp [this]

theorem filter_zip_fst (p : β → Bool) (l : List β) : ∀ (v : List γ), l.length ≤ v.length →
    ((l.zip v).filter (fun q => p q.1)).map (·.1) = l.filter p := by
  induction l with
  | nil => intro v _; simp
  | cons a t ih =>
    intro v h
    cases v with
    | nil => simp at h
    | cons y v =>
      have := ih v (by simpa using h)
      simp only [List.zip_cons_cons, List.filter_cons]
      cases h : p a <;> simp [this]

/-- `a[np.arange(lo, hi)]` is the slice `a[lo:hi]` when `hi ≤ len(a)` (both are empty when `hi ≤ lo`) -/
theorem take_arange (d : β) (l : List β) (lo hi : Nat) (h : hi ≤ l.length) :
    take d l (List.range' lo (hi - lo)) = (l.drop lo).take (hi - lo) := by
  generalize hk : hi - lo = k
  induction k generalizing lo with
  | zero => rfl
  | succ k ih =>
    have hlt : lo < l.length := Nat.lt_of_lt_of_le (Nat.lt_of_sub_eq_succ hk) h
    rw [List.range'_succ, take_cons, ih (lo + 1) (by rw [Nat.sub_add_eq, hk, Nat.add_sub_cancel]),
      List.drop_eq_getElem_cons hlt, List.take_succ_cons, List.getD_eq_getElem?_getD, List.getElem?_eq_getElem hlt,
      Option.getD_some]

/-- the same for `np.arange(lo, lo+k)` -/
theorem take_range' (d : β) (l : List β) (k lo : Nat) (h : lo + k ≤ l.length) :
    take d l (List.range' lo k) = (l.drop lo).take k := by
  have := take_arange d l lo (lo + k) h
  rwa [Nat.add_sub_cancel_left] at this

end

section
variable {α : Type} [LE α] [DecidableLE α]
theorem arrayEqual_eq (a b : List α) : arrayEqual a b = Grid.eqL a b := by
  induction a generalizing b with
  | nil => cases b <;> rfl
  | cons x t ih => cases b with
    | nil => rfl
    | cons y s => simp only [arrayEqual, Grid.eqL, ih]
end
end Taurex.Gen.Np

namespace Taurex.C13Src
open Taurex.Grid

section
variable {α : Type} [Add α] [Sub α] [Mul α] [Div α] [Neg α] [LT α] [LE α]
  [DecidableLT α] [DecidableLE α] [OfNat α 0] [OfNat α 1] [OfNat α 2]

/-- the second `np.array_equal` test of `Opacity.opacity`, on the bracketing index range -/
def bracketEq (nativeWn req : List α) : Bool :=
  let lo := Interp.searchRight nativeWn (minL req) - 1
  let hi := min (Interp.searchLeft nativeWn (maxL req)) (nativeWn.length - 1)
  eqL ((nativeWn.drop lo).take (hi + 1 - lo)) req

end

section
open Taurex.Gen
variable {α : Type} [LT α] [LE α] [DecidableLT α] [DecidableLE α] [OfNat α 0]

/-- the native indices that `Opacity.opacity` and `KTable.opacity` select (the second `wngrid_filter` of both
    regenerated functions, verbatim): `np.where` of the range mask, replaced by the bracketing `np.arange` when the
    masked native points are not the request -/
def selection (nativeWn req : List α) : List Nat :=
  let wngrid_filter := (Np.where_ (Np.zip2 (fun x__ y__ => (x__ && y__)) (List.map (fun x__ => decide ((Np.amin (0 : α) req) ≤ x__)) nativeWn) (List.map (fun x__ => decide (x__ ≤ (Np.amax (0 : α) req))) nativeWn)))
  if (!(Np.arrayEqual (Np.take (0 : α) nativeWn wngrid_filter) req)) then
    let lo := ((Np.searchsortedRight nativeWn (Np.amin (0 : α) req)) - 1)
    let hi := (Np.searchsortedLeft nativeWn (Np.amax (0 : α) req))
    List.range' (max lo 0) (((min hi (nativeWn.length - 1)) + 1) - (max lo 0))
  else
    wngrid_filter

/-- what the selection reads out of a column `l` of the native table (the wavenumbers themselves, or the values): the
    entries at the native points inside the requested range if those points *are* the request, otherwise the slice from
    the last native point `≤ req.min()` to the first one `≥ req.max()` -/
theorem take_selection {β : Type} (d : β) (nativeWn req : List α) (l : List β) (hlen : l.length = nativeWn.length)
    (hne : nativeWn ≠ []) :
    Np.take d l (selection nativeWn req) =
      if eqL (nativeWn.filter (inRange req)) req then Np.compress l (nativeWn.map (inRange req))
      else
        let lo := Interp.searchRight nativeWn (minL req) - 1
        let hi := min (Interp.searchLeft nativeWn (maxL req)) (nativeWn.length - 1)
        (l.drop lo).take (hi + 1 - lo) := by
  have hpos : 0 < nativeWn.length := List.length_pos_iff.2 hne
  have hmask : (fun x => decide (Np.amin 0 req ≤ x) && decide (x ≤ Np.amax 0 req)) = inRange req := rfl
  simp only [selection, Np.zip2_map_map, hmask, Nat.max_zero]
  rw [Np.take_where 0 _ nativeWn (Nat.le_of_eq (List.length_map _)), Np.compress_map, Np.arrayEqual_eq]
  cases eqL (nativeWn.filter (inRange req)) req
  · exact Np.take_arange d l _ _ (Nat.le_trans ((Nat.le_sub_one_iff_lt hpos).1 (Nat.min_le_right ..)) (Nat.le_of_eq hlen.symm))
  · exact Np.take_where d _ l (Nat.le_of_eq ((List.length_map _).trans hlen.symm))

variable [Add α] [Sub α] [Mul α] [Div α]

/-- the program shared by the two regenerated functions once the externals are instantiated (the values at the
    selected indices, `np.interp` / `interp1d` as `npInterp`) is the model `opacityOnGrid`.  `h2`: the code tests
    `np.array_equal` a second time, on the bracketing range, where the model re-uses the outcome of the first test.
    The statement does not mention `SrcC13`: each regenerated function unfolds (delta, zeta, beta) to the left side, which
    is how the two ties of Props/C13Src.lean use it. -/
theorem opacity_of_selection (nativeWn vals req : List α) (hlen : vals.length = nativeWn.length) (hne : nativeWn ≠ [])
    (h2 : eqL (nativeWn.filter (inRange req)) req = false → bracketEq nativeWn req = false) :
    (let idx := selection nativeWn req
     let orig := Np.take 0 vals idx
     if Np.arrayEqual (Np.take 0 nativeWn idx) req then orig
     else req.map (NpInterp.npInterp (Np.take 0 nativeWn idx) orig)) = opacityOnGrid nativeWn vals req := by
  simp only [take_selection 0 nativeWn req _ rfl hne, take_selection 0 nativeWn req _ hlen hne, Np.compress_map,
    Np.compress_zip, Np.arrayEqual_eq, opacityOnGrid, Np.filter_zip_fst (inRange req) nativeWn vals (Nat.le_of_eq hlen.symm)]
  cases h1 : eqL (nativeWn.filter (inRange req)) req
  · have hb : eqL _ req = false := h2 h1
    simp only [Bool.false_eq_true, if_false, hb]
  · simp only [h1, if_true]

end
end Taurex.C13Src
