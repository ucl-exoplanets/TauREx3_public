/-
  Helper definitions and lemmas for the C06 source tie (`Props/C06Src.lean`): NaN-propagating arithmetic on `Option α`
  (`none` = NaN), and the list facts that relate the loops of the translated source to the `List` combinators of the model.
  Core only (no Mathlib).
-/
import TaurexModel.Likelihood
import TaurexModel.Gen.SrcC06

namespace Taurex.C06Src
open Taurex.Likelihood

/-- IEEE-style lifting of a binary operation to values that may be NaN (`none`): NaN in, NaN out -/
def nanLift {α : Type} (f : α → α → α) : Option α → Option α → Option α
  | some a, some b => some (f a b)
  | _, _ => none

/-- what a `Val` is as a possibly-NaN number -/
def valOpt {α : Type} : Val α → Option α
  | .fin x => some x
  | .nan => none
  | .posInf => none

section lists
variable {γ : Type}

/-! the loop of `update_model` over `zip(fit_params, fitting_parameters, fitting_priors)`, `fitting_parameters` and
    `fitting_priors` of one length: what it computes from prior and value, and from the parameter -/

theorem map_zip3_values {α ρ π : Type} (g : π → α → γ) (vals : List α) (params : List ρ) (priors : List π)
    (hp : params.length = priors.length) :
    (List.zip vals (List.zip params priors)).map (fun t => g t.2.2 t.1) = List.zipWith g priors vals :=
  calc _ = List.zipWith (fun v p => g p v) vals ((List.zip params priors).map Prod.snd) := by
        rw [List.zipWith_map_right, List.zip, List.map_zipWith]
    _ = List.zipWith g priors vals := by rw [List.map_snd_zip (Nat.le_of_eq hp.symm), List.zipWith_comm]

theorem map_zip3_params {α ρ π : Type} (g : ρ → γ) (vals : List α) (params : List ρ) (priors : List π)
    (hp : params.length = priors.length) (hv : vals.length = params.length) :
    (List.zip vals (List.zip params priors)).map (fun t => g t.2.1) = params.map g :=
  calc _ = (((List.zip vals (List.zip params priors)).map Prod.snd).map Prod.fst).map g := by
        rw [List.map_map, List.map_map]; rfl
    _ = params.map g := by
        rw [List.map_snd_zip (by rw [List.length_zip, ← hp, Nat.min_self, hv]; exact Nat.le_refl _),
          List.map_fst_zip (Nat.le_of_eq hp)]

end lists

section nan
variable {α : Type} [Add α] [Sub α] [Mul α] [Div α] [Neg α] [LT α] [LE α]
  [DecidableLT α] [DecidableLE α] [OfNat α 0] [OfNat α 1] [OfNat α 2] [Taurex.Transc α]

/-! arithmetic of possibly-NaN numbers: the carrier at which the translated `chisq_trans` is compared with the model -/
instance nanAddI : Add (Option α) := ⟨nanLift (· + ·)⟩
instance nanSubI : Sub (Option α) := ⟨nanLift (· - ·)⟩
instance nanMulI : Mul (Option α) := ⟨nanLift (· * ·)⟩
instance nanDivI : Div (Option α) := ⟨nanLift (· / ·)⟩
instance nanZeroI : OfNat (Option α) 0 := ⟨some 0⟩

theorem resid_eq {α : Type} [Sub α] [Mul α] [Div α] (obs sig : List α) (m : List (Option α)) :
    (List.zipWith (fun x y => x / y) (List.zipWith (fun x y => x - y) (obs.map some) m) (sig.map some)).map
        (fun x => x * x) = residuals obs sig m := by
  induction obs generalizing sig m with
  | nil => simp [residuals]
  | cons d ds ih =>
    cases m with
    | nil => simp [residuals]
    | cons mm ms =>
      cases sig with
      | nil => simp [residuals]
      | cons s ss =>
        simp only [List.map_cons, List.zipWith_cons_cons, residuals, ih]
        cases mm <;> rfl

theorem all_sq {α : Type} [Mul α] (l : List (Option α)) :
    (l.map (fun x => x * x)).all Option.isNone = l.all (fun x => Option.isNone x) := by
  rw [List.all_map]
  exact congrArg l.all (funext fun x => by cases x <;> rfl)

theorem nansum_loop_eq {α : Type} [Add α] (l : List (Option α)) (a : α) :
    l.foldl (fun acc x => if Option.isNone x then acc else acc + x) (some a) = some (l.foldl nanAdd a) :=
  List.foldl_hom some fun _ y => by cases y <;> rfl

theorem valOpt_ite {α : Type} (c : Prop) [Decidable c] (x : α) :
    valOpt (if c then Val.nan else Val.fin x) = if c then none else some x := by
  split <;> rfl

/-! the other operations the sampler closures use (`-x`, the literal `2`, `np.sqrt`, `np.log`), lifted the same way:
    NaN in, NaN out; on numbers the carrier's own operation -/
instance nanNegI : Neg (Option α) := ⟨Option.map (fun a => -a)⟩
instance nanTwoI : OfNat (Option α) 2 := ⟨some 2⟩
instance nanTranscI : Taurex.Transc (Option α) where
  exp := Option.map exp
  log := Option.map log
  log10 := Option.map log10
  sqrt := Option.map sqrt
  pow10 := Option.map pow10

theorem foldl_some_add {α : Type} [Add α] (g : α → α) (G : Option α → Option α) (hG : ∀ x, G (some x) = some (g x)) (l : List α) (a : α) :
    List.foldl (fun acc x => acc + x) (some a) (List.map G (l.map some))
      = some (List.foldl (fun acc x => acc + x) a (l.map g)) := by
  rw [List.map_map, List.foldl_map, List.foldl_map]
  exact List.foldl_hom some fun _ y => congrArg (some _ + ·) (hG y)

theorem normTerm_some {α : Type} [Add α] [Mul α] [OfNat α 0] [OfNat α 2] [Taurex.Transc α] (pi : α) (sig : List α) :
    List.foldl (fun acc x => acc + x) (0 : Option α)
        (List.map (fun x => log (x * sqrt ((2 : Option α) * some pi))) (sig.map some))
      = some (normTerm pi sig) :=
  foldl_some_add (fun s => log (s * sqrt (2 * pi))) _ (fun _ => rfl) sig 0

theorem loglike_nan {α : Type} [Neg α] [Sub α] [Mul α] (a h : α) (x : Option α) :
    (-(some a : Option α)) - ((some h : Option α) * x) = x.map (fun c => -a - h * c) := by
  cases x <;> rfl

end nan

section closures
variable {β : Type} [Add β] [Sub β] [Mul β] [Neg β] [Taurex.Transc β] [OfNat β 0] [OfNat β 2]

/-- the three `compute_fit` methods build the same closure: MultiNest and PolyChord differ from Nestle only in copying
    the first `nfit` cube entries first (and in PolyChord's second component `[0.0]`), at every carrier -/
theorem multinest_eq_nestle (cube obs sig : List β) (nfit : Nat) (c pi : β) (f : List β → List β → List β → β) :
    Gen.SrcC06.multinest_loglike cube nfit (c0p5 := c) (chisq_trans := f) (errorBar := sig) (pi := pi) (spectrum := obs)
      = Gen.SrcC06.nestle_loglike ((List.range nfit).map fun i => cube.getD i 0) obs sig (c0p5 := c) (chisq_trans := f)
          (pi := pi) := rfl

theorem polychord_eq_nestle (cube obs sig : List β) (nfit : Nat) (c pi : β) (f : List β → List β → List β → β) :
    Gen.SrcC06.polychord_loglike cube obs sig nfit (c0p5 := c) (chisq_trans := f) (pi := pi)
      = (Gen.SrcC06.nestle_loglike ((List.range nfit).map fun i => cube.getD i 0) obs sig (c0p5 := c) (chisq_trans := f)
          (pi := pi), [0]) := rfl

end closures

section loops
variable {α : Type} [OfNat α 0] {π : Type}

/-- in-place loop over `enumerate(priors)`: `cube[idx] = sample(<value read for idx>)` on `cube = pre ++ rest`, `idx` starting
    at `len(pre)`.  `rd cube idx` is how the value is read (from the cube itself for MultiNest, from the hypercube for
    PolyChord); `hrd`: at step `i` it yields `vals[i]` -/
theorem enum_set (sample : π → α → α) (ps : List π) (rd : List α → Nat → α) (pre rest vals : List α)
    (hlen : ps.length ≤ rest.length) (hvals : ps.length ≤ vals.length)
    (hrd : ∀ (pre' : List α) (i : Nat), pre'.length = pre.length + i → i < ps.length →
        rd (pre' ++ rest.drop i) (pre.length + i) = vals.getD i 0) :
    (List.zipIdx ps pre.length).foldl (fun (cube : List α) (it : π × Nat) => cube.set it.2 (sample it.1 (rd cube it.2)))
        (pre ++ rest)
      = pre ++ List.zipWith sample ps vals ++ rest.drop ps.length := by
  induction ps generalizing pre rest vals with
  | nil => simp
  | cons p ps ih =>
    cases rest with
    | nil => simp at hlen
    | cons r rest =>
    cases vals with
    | nil => simp at hvals
    | cons v vals =>
      simp only [List.zipIdx_cons, List.foldl_cons]
      have h0 := hrd pre 0 rfl (by simp)
      simp only [Nat.add_zero, List.getD_cons_zero, List.drop_zero] at h0
      rw [h0]
      have hset : (pre ++ r :: rest).set pre.length (sample p v) = (pre ++ [sample p v]) ++ rest := by
        simp
      rw [hset]
      have := ih (pre ++ [sample p v]) rest vals (by simpa using hlen) (by simpa using hvals) (by
        intro pre' i hp hi
        have := hrd pre' (i + 1) (by simp at hp; omega) (by simp; omega)
        simpa [Nat.add_assoc, Nat.add_comm 1 i] using this)
      simpa using this

end loops

end Taurex.C06Src
