/-
  Priors over ℝ: Python's `min` / `max` are Mathlib's; every class samples through a location–scale map
  `u ↦ g u * scale + loc`, whose monotonicity and range are shown once.
-/
import Proofs.RealInst
import TaurexModel.Priors

namespace Taurex.C08
open Taurex.Priors

theorem pyMin_real (a b : ℝ) : pyMin a b = min a b := (min_def_lt b a).symm.trans (min_comm b a)

theorem pyMax_real (a b : ℝ) : pyMax a b = max a b := (max_def_lt a b).symm

theorem mkUniform_real (a b : ℝ) : mkUniform a b = .uniform (min a b) (max a b) := by
  rw [mkUniform, pyMin_real, pyMax_real]

theorem mkLogUniform_real (a b : ℝ) : mkLogUniform a b = .logUniform (min a b) (max a b) := by
  rw [mkLogUniform, pyMin_real, pyMax_real]

theorem width_nonneg (a b : ℝ) : 0 ≤ max a b - min a b := sub_nonneg.2 min_le_max

theorem width_pos {a b : ℝ} (h : a ≠ b) : 0 < max a b - min a b := by
  rw [max_sub_min_eq_abs']
  exact abs_pos.2 (sub_ne_zero.2 h)

/-! ### location–scale families

scipy's `ppf(q, loc, scale)` of a location–scale family is `g q * scale + loc`, `g` the quantile function of the standard
member: `normPpf g`.  The uniform family is the case `g = id` (`uniformPpf_eq_normPpf`), so what is shown for `normPpf`
covers the `sample` of all four prior classes. -/

theorem uniformPpf_eq_normPpf (loc sc : ℝ) : uniformPpf loc sc = normPpf id loc sc := rfl

theorem normPpf_monotone {g : ℝ → ℝ} (hg : Monotone g) (loc : ℝ) {sc : ℝ} (hs : 0 ≤ sc) : Monotone (normPpf g loc sc) :=
  (hg.mul_const hs).add_const loc

theorem normPpf_strictMono {g : ℝ → ℝ} (hg : StrictMono g) (loc : ℝ) {sc : ℝ} (hs : 0 < sc) :
    StrictMono (normPpf g loc sc) :=
  (hg.mul_const hs).add_const loc

theorem uniformPpf_zero (loc sc : ℝ) : uniformPpf loc sc 0 = loc := by rw [uniformPpf, zero_mul, zero_add]

theorem uniformPpf_one (lo up : ℝ) : uniformPpf lo (up - lo) 1 = up := by rw [uniformPpf, one_mul, sub_add_cancel]

theorem uniformPpf_surj (loc : ℝ) {sc x : ℝ} (hs : 0 ≤ sc) (h0 : loc ≤ x) (h1 : x ≤ loc + sc) :
    ∃ u, 0 ≤ u ∧ u ≤ 1 ∧ uniformPpf loc sc u = x := by
  rcases hs.eq_or_lt with rfl | hpos
  · exact ⟨0, le_rfl, zero_le_one, (uniformPpf_zero loc 0).trans (le_antisymm h0 (h1.trans_eq (add_zero loc)))⟩
  · refine ⟨(x - loc) / sc, div_nonneg (sub_nonneg.2 h0) hs, (div_le_one hpos).2 (sub_le_iff_le_add'.2 h1), ?_⟩
    unfold uniformPpf
    rw [div_mul_cancel₀ _ hpos.ne', sub_add_cancel]

theorem log10?_pos {x : ℝ} (h : 0 < x) : log10? x = some (log10 x) := if_pos h

theorem log10?_of_not_pos {x : ℝ} (h : ¬ 0 < x) : log10? x = none := if_neg h

end Taurex.C08
