/-
  The dictionaries of the `py` dialect (`Py.dget` / `dset` / `dhas` of `TaurexModel/Gen/PyPrelude.lean`: association lists
  in insertion order, any key type with decidable equality): membership as a lookup, the readings with `find?` and with core's `List.lookup`, assignment to a new and to a
  present key, lookups and keys after an assignment, lookups after an append, dictionaries with distinct keys, `update`, tables
  laid out as dictionaries.  The keys are written `d.map (·.1)` (what `Py.keys d` unfolds to).  Core Lean only.
-/
import TaurexModel.Gen.PyPrelude
import Proofs.ListCore

namespace Taurex.Gen.Py
variable {κ β : Type} [DecidableEq κ]

theorem dhas_eq_isSome (d : List (κ × β)) (k : κ) : dhas d k = (dget d k).isSome := by
  fun_induction dget d k with
  | case1 => rfl
  | case2 => simp [dhas]
  | case3 k' v t k hk ih => simpa [dhas, hk] using ih

theorem dget_eq_none_iff_dhas {d : List (κ × β)} {k : κ} : dget d k = none ↔ dhas d k = false := by
  rw [dhas_eq_isSome, Option.isSome_eq_false_iff, Option.isNone_iff_eq_none]

theorem dget_eq_none_iff {d : List (κ × β)} {k : κ} : dget d k = none ↔ k ∉ d.map (·.1) := by
  fun_induction dget d k with
  | case1 => simp
  | case2 => simp
  | case3 c w t k hc ih =>
    simp only [List.map_cons, List.mem_cons, not_or]
    exact ⟨fun h => ⟨Ne.symm hc, ih.1 h⟩, fun h => ih.2 h.2⟩

/-- the reading with `find?` that the models' `lookup` functions use -/
theorem find?_map_eq_dget [BEq κ] [LawfulBEq κ] (d : List (κ × β)) (k : κ) :
    (d.find? (fun e => e.1 == k)).map (·.2) = dget d k := by
  fun_induction dget d k with
  | case1 => rfl
  | case2 => simp
  | case3 k' v t k hk ih => simpa [List.find?_cons, beq_eq_false_iff_ne.2 hk] using ih

/-- the reading with core's `List.lookup` -/
theorem dget_eq_lookup (d : List (κ × β)) (k : κ) : dget d k = d.lookup k := by
  fun_induction dget d k with
  | case1 => rfl
  | case2 => simp [List.lookup_cons]
  | case3 k' v t k hk ih => simpa [List.lookup_cons, beq_eq_false_iff_ne.2 (Ne.symm hk)] using ih

/-- `d[k] = v` for a new key appends the entry -/
theorem dset_new (d : List (κ × β)) (k : κ) (v : β) (h : dget d k = none) : dset d k v = d ++ [(k, v)] := by
  fun_induction dget d k with
  | case1 => rfl
  | case2 => cases h
  | case3 k' w t k hk ih => simp [dset, hk, ih h]

/-- `d[k] = v` where `d[k]` is `v` already changes nothing -/
theorem dset_same (d : List (κ × β)) (k : κ) (v : β) (h : dget d k = some v) : dset d k v = d := by
  fun_induction dget d k with
  | case1 => cases h
  | case2 => cases h; simp [dset]
  | case3 k' w t k hk ih => simp [dset, hk, ih h]

theorem dset_dset_same (d : List (κ × β)) (k : κ) (v v' : β) : dset (dset d k v) k v' = dset d k v' := by
  fun_induction dset d k v with
  | case1 => simp [dset]
  | case2 => simp [dset]
  | case3 k' w t k v hk ih => simp [dset, hk, ih]

theorem dget_dset (d : List (κ × β)) (k k' : κ) (v : β) :
    dget (dset d k v) k' = if k = k' then some v else dget d k' := by
  fun_induction dset d k v with
  | case1 => simp [dget]
  | case2 w t k v => by_cases h : k = k' <;> simp [dget, h]
  | case3 c w t k v hc ih =>
    by_cases h : c = k'
    · simp [dget, h, show ¬ k = k' from fun e => hc (h.trans e.symm)]
    · simp [dget, h, ih]

theorem dget_dset_self (d : List (κ × β)) (k : κ) (v : β) : dget (dset d k v) k = some v := by
  rw [dget_dset, if_pos rfl]

theorem keys_dset (d : List (κ × β)) (k : κ) (v : β) :
    (dset d k v).map (·.1) = if k ∈ d.map (·.1) then d.map (·.1) else d.map (·.1) ++ [k] := by
  fun_induction dset d k v with
  | case1 => simp
  | case2 => simp
  | case3 c w t k v hc ih =>
    simp only [List.map_cons, List.mem_cons, Ne.symm hc, false_or] at ih ⊢
    rw [ih]; split <;> simp [*]

theorem nodup_dset {d : List (κ × β)} (k : κ) (v : β) (h : (d.map (·.1)).Nodup) : ((dset d k v).map (·.1)).Nodup := by
  rw [keys_dset]
  simpa only [decide_eq_true_eq] using nodup_ite_append _ k (decide (k ∈ d.map (·.1))) decide_eq_true_iff h

theorem dget_append_left (d e : List (κ × β)) (k : κ) (v : β) (h : dget d k = some v) : dget (d ++ e) k = some v := by
  fun_induction dget d k with
  | case1 => cases h
  | case2 => simpa [dget] using h
  | case3 k' w t k hk ih => simp [dget, hk, ih h]

theorem dget_append_none (d e : List (κ × β)) (k : κ) (h : dget d k = none) : dget (d ++ e) k = dget e k := by
  fun_induction dget d k with
  | case1 => rfl
  | case2 => cases h
  | case3 k' w t k hk ih => simp [dget, hk, ih h]

/-- a dictionary with distinct keys holds each of its entries under its key -/
theorem dget_of_mem_nodup (d : List (κ × β)) (hnd : (d.map (·.1)).Nodup) : ∀ kv ∈ d, dget d kv.1 = some kv.2 :=
  fun _ hm => (dget_eq_lookup d _).trans (lookup_of_mem_nodup hnd hm)

/-- `d.update(e)` when `d` already holds every item of `e` -/
theorem dupdate_of_holds (e : List (κ × β)) : ∀ d : List (κ × β), (∀ kv ∈ e, dget d kv.1 = some kv.2) → dupdate d e = d := by
  induction e with
  | nil => intro d _; rfl
  | cons kv e ih =>
    intro d h
    rw [dupdate, List.foldl_cons, dset_same d kv.1 kv.2 (h kv List.mem_cons_self)]
    exact ih d fun kv' hm => h kv' (List.mem_cons_of_mem _ hm)

theorem dupdate_self (d : List (κ × β)) (hnd : (d.map (·.1)).Nodup) : dupdate d d = d :=
  dupdate_of_holds d d (dget_of_mem_nodup d hnd)

/-- `d.update(e)` when the keys of `d` and `e` together are distinct appends the items of `e` -/
theorem dupdate_append (e : List (κ × β)) : ∀ d : List (κ × β), ((d ++ e).map (·.1)).Nodup → dupdate d e = d ++ e := by
  induction e with
  | nil => intro d _; simp [dupdate]
  | cons kv e ih =>
    intro d hnd
    have hnone : dget d kv.1 = none := dget_eq_none_iff.2 fun hk => by
      rw [List.map_append, List.nodup_append] at hnd
      exact absurd rfl (hnd.2.2 _ hk _ (by simp))
    rw [dupdate, List.foldl_cons, dset_new d kv.1 kv.2 hnone]
    simpa [dupdate] using ih (d ++ [(kv.1, kv.2)]) (by simpa using hnd)

theorem dupdate_nil (e : List (κ × β)) (hnd : (e.map (·.1)).Nodup) : dupdate [] e = e := by
  simpa using dupdate_append e [] (by simpa using hnd)

/-! ### a table laid out as a dictionary: `l.map fun x => (key x, enc x)` -/

theorem dget_map {ι : Type} (key : ι → κ) (enc : ι → β) (l : List ι) (n : κ) :
    dget (l.map fun x => (key x, enc x)) n = (l.find? fun x => decide (key x = n)).map enc := by
  induction l with
  | nil => rfl
  | cons q l ih => by_cases h : key q = n <;> simp [dget, List.find?, h, ih]

theorem dhas_map {ι : Type} (key : ι → κ) (enc : ι → β) (l : List ι) (n : κ) :
    dhas (l.map fun x => (key x, enc x)) n = l.any fun x => decide (key x = n) := by
  simp [dhas, List.any_map, Function.comp_def]

/-- storing, under the key of the row `x` it finds, the encoding of the updated row `upd x` updates that row of the table -/
theorem dset_map {ι : Type} (key : ι → κ) (enc : ι → β) (upd : ι → ι) (hk : ∀ x, key (upd x) = key x) (n : κ) :
    ∀ (l : List ι) (x : ι), (l.map key).Nodup → l.find? (fun x => decide (key x = n)) = some x →
      dset (l.map fun y => (key y, enc y)) n (enc (upd x))
        = (l.map fun y => if key y = n then upd y else y).map fun y => (key y, enc y) := by
  intro l
  induction l with
  | nil => intro x _ h; simp at h
  | cons q l ih =>
    intro x hnd hfind
    simp only [List.map_cons, List.nodup_cons] at hnd
    by_cases hq : key q = n
    · have hx : q = x := by simpa [List.find?, hq] using hfind
      subst hx
      have hrest : (l.map fun y => if key y = n then upd y else y) = l :=
        (List.map_congr_left fun y hy => if_neg fun e => hnd.1 (by rw [hq, ← e]; exact List.mem_map_of_mem hy)).trans
          (List.map_id l)
      simp [dset, hq, hk, hrest]
    · have hfind' : l.find? (fun x => decide (key x = n)) = some x := by simpa [List.find?, hq] using hfind
      simp only [List.map_cons, dset, hq, if_false]
      rw [ih x hnd.2 hfind']

/-- with distinct keys, a row of the table is the one its key finds -/
theorem find?_key_of_mem {ι : Type} (key : ι → κ) {l : List ι} (hnd : (l.map key).Nodup) {x : ι} (hx : x ∈ l) :
    l.find? (fun y => decide (key y = key x)) = some x := by
  have h := dget_of_mem_nodup (l.map fun y => (key y, y)) (by simpa [Function.comp_def] using hnd) (key x, x)
    (List.mem_map_of_mem (f := fun y => (key y, y)) hx)
  rw [dget_map key fun y => y] at h
  simpa using h

end Taurex.Gen.Py
