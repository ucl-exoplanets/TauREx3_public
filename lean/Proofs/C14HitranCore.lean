/-
  HITRAN `.cia` files on the model's own carrier (raw classes, a lawful linear order, nothing else): the reading loop groups
  the blocks by their `(start, end)` header (`LoadInv`); the gap-filling loop of `fill_temperature`, which works on the live
  (T, sigma) list, gives the history-free `rangeRow` of every master temperature, because a row interpolated earlier lies on the
  same straight line (`hchain`, the one property of `interpLin` used); nothing negative reaches the table when interpolation
  between two non-negative values is non-negative (`hconv`).  Core only; Proofs/C14Unified.lean supplies the two properties over
  an ordered field.  `open Std`: the order lemmas (`le_trans`, `not_lt`, `lt_of_le_of_ne`, `le_iff_lt_or_eq`, …) are core's
  `Std.*`, as in Proofs/C14LoadersOrder.lean.
-/
import Proofs.C14LoadersOrder

namespace Taurex.Loaders
open Taurex.Interp Std

theorem zipWith_chain {α : Type} (f g h : α → α → α) (hfg : ∀ x y, f (g x y) y = h x y) :
    ∀ (A B : List α), List.zipWith f (List.zipWith g A B) B = List.zipWith h A B
  | [], _ => by simp
  | _ :: _, [] => by simp
  | x :: A, y :: B => by
    simp only [List.zipWith_cons_cons, hfg, zipWith_chain f g h hfg A B]

variable {α : Type} [LT α] [LE α] [DecidableLT α] [DecidableLE α] [OfNat α 0] [IsLinearOrder α] [LawfulOrderLT α]

/-! ### the two entries around a temperature in a list of strictly increasing temperatures -/

def SortedStrict (ts : List (α × List α)) : Prop := ts.Pairwise (fun a b => a.1 < b.1)

theorem sortedStrict_keys {α : Type} [LT α] (ts : List (α × List α)) (h : SortedStrict ts) : (ts.map (·.1)).Pairwise
    (· < ·) := by
  rw [List.pairwise_map]; exact h

/-- `lo` and `hi` are the entries `fill_temperature` reads around `T` (positions `c - 1` and `c`, `c` = number of
    temperatures `≤ T`): their temperatures lie on either side of `T` and no temperature of `ts` lies between them -/
structure Brackets (ts : List (α × List α)) (T : α) (lo hi : α × List α) : Prop where
  pos : 1 ≤ searchRight (ts.map (·.1)) T
  lt_length : searchRight (ts.map (·.1)) T < ts.length
  getD_lo : ts.getD (searchRight (ts.map (·.1)) T - 1) (0, []) = lo
  getD_hi : ts.getD (searchRight (ts.map (·.1)) T - 1 + 1) (0, []) = hi
  lo_mem : lo ∈ ts
  hi_mem : hi ∈ ts
  lo_lt : lo.1 < T
  lt_hi : T < hi.1
  adj : ∀ x ∈ ts.map (·.1), x ≤ lo.1 ∨ hi.1 ≤ x

omit [DecidableLT α] [IsLinearOrder α] [LawfulOrderLT α] in
theorem Brackets.getElem_lo {ts : List (α × List α)} {T : α} {lo hi : α × List α} (b : Brackets ts T lo hi) :
    ts[searchRight (ts.map (·.1)) T - 1]'(Nat.lt_of_le_of_lt (Nat.sub_le _ _) b.lt_length) = lo := by
  have := b.getD_lo
  rwa [List.getD_eq_getElem?_getD, List.getElem?_eq_getElem, Option.getD_some] at this

omit [DecidableLT α] [IsLinearOrder α] [LawfulOrderLT α] in
theorem Brackets.getElem_hi {ts : List (α × List α)} {T : α} {lo hi : α × List α} (b : Brackets ts T lo hi) :
    ts[searchRight (ts.map (·.1)) T]'b.lt_length = hi := by
  have := b.getD_hi
  rwa [Nat.sub_add_cancel b.pos, List.getD_eq_getElem?_getD, List.getElem?_eq_getElem b.lt_length,
    Option.getD_some] at this

omit [DecidableLT α] in
theorem brackets_exists (ts : List (α × List α)) (hs : SortedStrict ts) (T : α) (hT : T ∉ ts.map (·.1))
    (a b : α) (ha : a ∈ ts.map (·.1)) (hb : b ∈ ts.map (·.1)) (haT : a ≤ T) (hTb : T ≤ b) :
    ∃ lo hi, Brackets ts T lo hi := by
  obtain ⟨e₁, h₁, rfl⟩ := List.mem_map.mp ha
  obtain ⟨e₂, h₂, rfl⟩ := List.mem_map.mp hb
  obtain ⟨l, lo, r, rfl, hl, hlo, hr, hc, ea, eb⟩ :=
    searchRight_neighbours (·.1) ts (hs.imp le_of_lt) T e₁ h₁ haT (0, [])
  have hne : ∀ e ∈ l ++ lo :: r, e.1 ≠ T := fun e he h => hT (h ▸ List.mem_map_of_mem he)
  -- the entry with temperature `≥ T` is behind `lo`
  have h₂r : e₂ ∈ r := by
    rcases List.mem_append.mp h₂ with h | h
    · exact absurd (le_antisymm (hl e₂ h) hTb) (hne e₂ h₂)
    · rcases List.mem_cons.mp h with rfl | h
      · exact absurd (le_antisymm hlo hTb) (hne e₂ h₂)
      · exact h
  obtain ⟨hi, r, rfl⟩ := List.exists_cons_of_ne_nil (List.ne_nil_of_mem h₂r)
  rw [SortedStrict, List.pairwise_append, List.pairwise_cons, List.pairwise_cons] at hs
  refine ⟨lo, hi, by omega, by rw [hc]; simp, ea, eb, by simp, by simp, lt_of_le_of_ne hlo (hne lo (by simp)),
    hr hi (by simp), ?_⟩
  intro x hx
  obtain ⟨e, he, rfl⟩ := List.mem_map.mp hx
  rcases List.mem_append.mp he with he | he
  · exact Or.inl (le_of_lt (hs.2.2 e he lo (by simp)))
  · rcases List.mem_cons.mp he with rfl | he
    · exact Or.inl (le_refl _)
    · rcases List.mem_cons.mp he with rfl | he
      · exact Or.inr (le_refl _)
      · exact Or.inr (le_of_lt (hs.2.1.2.1 e he))

omit [DecidableLT α] [DecidableLE α] [OfNat α 0] in
theorem sortedStrict_of_sorted_nodup (ts : List (α × List α)) (hs : ts.Pairwise (fun a b => a.1 ≤ b.1))
    (hnd : (ts.map (·.1)).Nodup) : SortedStrict ts := by
  rw [List.Nodup, List.pairwise_map] at hnd
  exact (hs.and hnd).imp (fun hab => lt_of_le_of_ne hab.1 hab.2)

section
variable [Sub α] [Mul α] [Div α] (wn : List α) (own : List (α × List α))

theorem rangeRow_of_mem (hs : SortedStrict own) (e : α × List α) (he : e ∈ own) :
    rangeRow wn own e.1 = e.2 := by
  obtain ⟨l, lo, r, rfl, -, hle, hr, -, ea, -⟩ :=
    searchRight_neighbours (·.1) own (hs.imp le_of_lt) e.1 e he (le_refl _) (0, [])
  rw [SortedStrict, List.pairwise_append, List.pairwise_cons] at hs
  -- `e` is the last entry with temperature `≤ e.1`
  have hlo : lo = e := by
    rcases List.mem_append.mp he with h | h
    · exact absurd (hs.2.2 e h lo (by simp)) (not_lt.mpr hle)
    · rcases List.mem_cons.mp h with rfl | h
      · rfl
      · exact absurd (hr e h) lt_irrefl
  unfold rangeRow
  simp only
  rw [if_pos ((memv_iff _ _).mpr (List.mem_map_of_mem he)), ea, hlo]

omit [LawfulOrderLT α] in
theorem rangeRow_outside (T : α) (hT : T ∉ own.map (·.1))
    (hout : T < lmin (own.map (·.1)) ∨ lmax (own.map (·.1)) < T) : rangeRow wn own T = wn.map (fun _ => 0) := by
  unfold rangeRow
  simp only
  rw [if_neg (fun h => hT ((memv_iff _ _).mp h)), if_pos (by simpa using hout)]

theorem rangeRow_inside (T : α) (hT : T ∉ own.map (·.1))
    (h1 : lmin (own.map (·.1)) ≤ T) (h2 : T ≤ lmax (own.map (·.1))) :
    rangeRow wn own T =
      List.zipWith (fun u v => interpLin u v T
          (own.getD (searchRight (own.map (·.1)) T - 1) (0, [])).1
          (own.getD (searchRight (own.map (·.1)) T - 1 + 1) (0, [])).1)
        (own.getD (searchRight (own.map (·.1)) T - 1) (0, [])).2
        (own.getD (searchRight (own.map (·.1)) T - 1 + 1) (0, [])).2 := by
  unfold rangeRow
  simp only
  rw [if_neg (fun h => hT ((memv_iff _ _).mp h)), if_neg]
  simp [not_lt.mpr h1, not_lt.mpr h2]

/-! ### one iteration of the gap-filling loop -/

/-- what the loop keeps true; `P` = the master temperatures processed so far -/
def FillState (live : List (α × List α)) (P : List α) : Prop :=
  SortedStrict live ∧ (∀ x, x ∈ live.map (·.1) ↔ x ∈ own.map (·.1) ∨ x ∈ P) ∧
    (∀ e ∈ live, e.2 = rangeRow wn own e.1)

variable (hchain : ∀ u v t m a b : α, a ≠ b → m ≠ b → interpLin (interpLin u v m a b) v t m b = interpLin u v t a b)
include hchain

/-- the row the loop computes for a missing temperature inside the range's span, from the LIVE list (own rows and
    rows inserted for earlier master temperatures), is the documented row computed from the OWN rows -/
theorem fill_entry (live : List (α × List α)) (P : List α) (T : α)
    (hown : SortedStrict own) (h : FillState wn own live P) (hP : ∀ x ∈ P, x < T)
    (hT : T ∉ own.map (·.1)) (hTl : T ∉ live.map (·.1))
    (h1 : lmin (own.map (·.1)) ≤ T) (h2 : T ≤ lmax (own.map (·.1))) (hne : own ≠ []) :
    List.zipWith (fun u v => interpLin u v T
        (live.getD (searchRight (live.map (·.1)) T - 1) (0, [])).1
        (live.getD (searchRight (live.map (·.1)) T - 1 + 1) (0, [])).1)
      (live.getD (searchRight (live.map (·.1)) T - 1) (0, [])).2
      (live.getD (searchRight (live.map (·.1)) T - 1 + 1) (0, [])).2 = rangeRow wn own T := by
  obtain ⟨hlive, hkeys, hrows⟩ := h
  have hne' : own.map (·.1) ≠ [] := by simpa using hne
  have hsub : ∀ x ∈ own.map (·.1), x ∈ live.map (·.1) := fun x hx => (hkeys x).mpr (Or.inl hx)
  obtain ⟨lo, hi, bo⟩ := brackets_exists own hown T hT _ _ (lmin_mem _ hne') (lmax_mem _ hne') h1 h2
  obtain ⟨lo', hi', bl⟩ :=
    brackets_exists live hlive T hTl _ _ (hsub _ (lmin_mem _ hne')) (hsub _ (lmax_mem _ hne')) h1 h2
  rw [bl.getD_lo, bl.getD_hi, rangeRow_inside wn own T hT h1 h2, bo.getD_lo, bo.getD_hi]
  -- the upper neighbour in the live list is the upper own neighbour
  have hhiO : hi'.1 ∈ own.map (·.1) :=
    ((hkeys _).mp (List.mem_map_of_mem bl.hi_mem)).resolve_right (fun h => lt_irrefl (lt_trans (hP _ h) bl.lt_hi))
  have hhi : hi'.1 = hi.1 := le_antisymm
    ((bl.adj _ (hsub _ (List.mem_map_of_mem bo.hi_mem))).resolve_left (not_le.mpr (lt_trans bl.lo_lt bo.lt_hi)))
    ((bo.adj _ hhiO).resolve_left (not_le.mpr (lt_trans bo.lo_lt bl.lt_hi)))
  have hhi2 : hi'.2 = hi.2 := by rw [hrows _ bl.hi_mem, hhi, rangeRow_of_mem wn own hown hi bo.hi_mem]
  rw [hhi, hhi2]
  -- the lower neighbour is the lower own neighbour or lies strictly between the two own neighbours
  have hlo : lo.1 ≤ lo'.1 :=
    (bl.adj _ (hsub _ (List.mem_map_of_mem bo.lo_mem))).resolve_right (not_le.mpr (lt_trans bo.lo_lt bl.lt_hi))
  rcases (le_iff_lt_or_eq.mp hlo).symm with hlo | hlo
  · rw [hrows _ bl.lo_mem, ← hlo, rangeRow_of_mem wn own hown lo bo.lo_mem]
  · -- then its row was interpolated between the same two own rows
    have hloO : lo'.1 ∉ own.map (·.1) := fun hk =>
      (bo.adj _ hk).elim (not_le.mpr hlo) (not_le.mpr (lt_trans bl.lo_lt bo.lt_hi))
    have hsr : searchRight (own.map (·.1)) lo'.1 = searchRight (own.map (·.1)) T := by
      apply List.countP_congr
      intro y hy
      simp only [decide_eq_true_eq]
      exact ⟨fun h => le_trans h (le_of_lt bl.lo_lt),
        fun h => le_trans ((bo.adj y hy).resolve_right (not_le.mpr (lt_of_le_of_lt h bo.lt_hi))) (le_of_lt hlo)⟩
    rw [hrows _ bl.lo_mem, rangeRow_inside wn own lo'.1 hloO
      (le_trans (lmin_le _ _ (List.mem_map_of_mem bo.lo_mem)) (le_of_lt hlo)) (le_trans (le_of_lt bl.lo_lt) h2), hsr, bo.getD_lo, bo.getD_hi]
    exact zipWith_chain _ _ _ (fun x y => hchain x y T _ _ _
      (ne_of_lt (lt_trans bo.lo_lt bo.lt_hi)) (ne_of_lt (lt_trans bl.lo_lt bo.lt_hi))) _ _

omit hchain in
theorem fillState_insert (live : List (α × List α)) (P : List α) (T : α) (row : List α)
    (h : FillState wn own live P) (hTl : T ∉ live.map (·.1)) (hrow : row = rangeRow wn own T) :
    FillState wn own (sortTs (live ++ [(T, row)])) (P ++ [T]) := by
  obtain ⟨hs, hk, hr⟩ := h
  have hp := sortTs_perm (live ++ [(T, row)])
  have hpk : ((sortTs (live ++ [(T, row)])).map (·.1)).Perm (live.map (·.1) ++ [T]) := by
    have := hp.map (·.1)
    simpa using this
  refine ⟨?_, ?_, ?_⟩
  · -- sorted by `≤` with pairwise distinct keys
    exact sortedStrict_of_sorted_nodup _ (sortTs_sorted _)
      (hpk.nodup_iff.mpr (nodup_append_singleton ((sortedStrict_keys live hs).imp ne_of_lt) hTl))
  · intro x
    rw [hpk.mem_iff, List.mem_append, List.mem_singleton, hk x, List.mem_append, List.mem_singleton, or_assoc]
  · intro e he
    have he' := hp.mem_iff.mp he
    rw [List.mem_append, List.mem_singleton] at he'
    rcases he' with he' | rfl
    · exact hr e he'
    · exact hrow

theorem fillOne_state (live : List (α × List α)) (P : List α) (T : α)
    (hown : SortedStrict own) (hne : own ≠ []) (h : FillState wn own live P) (hP : ∀ x ∈ P, x < T) :
    FillState wn own (fillOne wn (lmin (own.map (·.1))) (lmax (own.map (·.1))) live T) (P ++ [T]) := by
  unfold fillOne
  simp only
  by_cases hmem : memv T (live.map (·.1)) = true
  · simp only [hmem, if_true]
    obtain ⟨hs, hk, hr⟩ := h
    refine ⟨hs, ?_, hr⟩
    intro x
    rw [hk x, List.mem_append, List.mem_singleton]
    constructor
    · exact fun h1 => h1.elim Or.inl (fun h1 => Or.inr (Or.inl h1))
    · rintro (h1 | h1 | rfl)
      · exact Or.inl h1
      · exact Or.inr h1
      · exact (hk _).mp ((memv_iff _ _).mp hmem)
  · simp only [hmem, Bool.false_eq_true, if_false]
    have hTl : T ∉ live.map (·.1) := fun hh => hmem ((memv_iff _ _).mpr hh)
    have hT : T ∉ own.map (·.1) := fun hh => hTl ((h.2.1 T).mpr (Or.inl hh))
    by_cases hout : (decide (T < lmin (own.map (·.1))) || decide (lmax (own.map (·.1)) < T)) = true
    · simp only [hout, if_true]
      exact fillState_insert wn own live P T _ h hTl (rangeRow_outside wn own T hT (by simpa using hout)).symm
    · simp only [hout, Bool.false_eq_true, if_false]
      apply fillState_insert wn own live P T _ h hTl
      simp only [Bool.or_eq_true, decide_eq_true_eq, not_or, not_lt] at hout
      exact fill_entry wn own hchain live P T hown h hP hT hTl hout.1 hout.2 hne

/-- `fill_temperature` is history-free: the filled (T, sigma) list is the master list with the documented row of every
    temperature -/
theorem fillTemperature_eq (temps : List α) (hown : SortedStrict own)
    (hne : own ≠ []) (htemps : temps.Pairwise (· < ·)) (hsub : ∀ x ∈ own.map (·.1), x ∈ temps) :
    fillTemperature wn own temps = temps.map (fun T => (T, rangeRow wn own T)) := by
  unfold fillTemperature
  simp only
  have h0 : FillState wn own own [] := by
    refine ⟨hown, by simp, ?_⟩
    exact fun e he => (rangeRow_of_mem wn own hown e he).symm
  obtain ⟨hs, hk, hr⟩ := foldl_prefix_inv _ (FillState wn own) temps
    (fun live P T rest hl h => fillOne_state wn own hchain live P T hown hne h
      (fun x hx => (List.pairwise_append.mp (hl ▸ htemps)).2.2 x hx T List.mem_cons_self)) own h0
  generalize temps.foldl (fillOne wn (lmin (own.map (·.1))) (lmax (own.map (·.1)))) own = final at hs hk hr ⊢
  have hkeys : final.map (·.1) = temps := by
    apply eq_of_strict_of_mem_iff (sortedStrict_keys final hs) htemps
    intro a
    rw [hk a]
    constructor
    · rintro (h | h)
      · exact hsub a h
      · exact h
    · exact Or.inr
  rw [← hkeys, List.map_map]
  conv => lhs; rw [← List.map_id final]
  exact List.map_congr_left (fun e he => by rw [Function.comp, ← hr e he]; rfl)

end

/-! ### the reading loop groups the blocks by their `(start, end)` header -/

section
variable [Mul α] [Div α] [OfNat α 1] [OfNat α 10000000000] [DecidableEq α]

/-- the hash key of a block: its `(start, end)` header -/
def hKey (b : HBlock α) : α × α := (b.wn0, b.wn1)
def hWn (b : HBlock α) : List α := b.pts.map (·.1)
/-- what a block contributes to its range: its temperature and its (scaled, clipped) cross-sections -/
def hEntry (b : HBlock α) : α × List α := (b.temp, b.pts.map (fun q => clipSigma q.2))
def rangeOf (blocks : List (HBlock α)) (k : α × α) : List (HBlock α) :=
  blocks.filter (fun b => decide (hKey b = k))

theorem rangeOf_snoc {α : Type} [DecidableEq α] (seen : List (HBlock α)) (b : HBlock α) (k : α × α) :
    rangeOf (seen ++ [b]) k = if hKey b = k then rangeOf seen k ++ [b] else rangeOf seen k := by
  unfold rangeOf
  rw [List.filter_append]
  by_cases h : hKey b = k <;> simp [h]

/-- what the reading loop keeps true; `seen` = the blocks read so far -/
structure LoadInv (acc : List α × List (HGrid α)) (seen : List (HBlock α)) : Prop where
  keysNodup : (acc.2.map (·.key)).Nodup
  keysAll : ∀ b ∈ seen, hKey b ∈ acc.2.map (·.key)
  grid : ∀ g ∈ acc.2, g.ts = (rangeOf seen g.key).map hEntry ∧
    g.wn = ((rangeOf seen g.key).getLast?.map hWn).getD [] ∧ rangeOf seen g.key ≠ []
  tempsNodup : acc.1.Nodup
  temps : ∀ T, T ∈ acc.1 ↔ ∃ b ∈ seen, b.temp = T

theorem mem_ite_append {β : Type} (l : List β) (a : β) (c : Bool) (hc : c = true ↔ a ∈ l) (x : β) :
    x ∈ (if c then l else l ++ [a]) ↔ x ∈ l ∨ x = a := by
  split
  · rename_i hp
    exact ⟨Or.inl, fun h => h.elim id (fun h => h ▸ hc.mp hp)⟩
  · rw [List.mem_append, List.mem_singleton]

omit [LawfulOrderLT α] in
theorem loadInv_step (acc : List α × List (HGrid α)) (seen : List (HBlock α)) (b : HBlock α)
    (h : LoadInv acc seen) : LoadInv (hStep acc b) (seen ++ [b]) := by
  show LoadInv (_, upsert acc.2 (hKey b) (hWn b) (hEntry b)) _
  obtain ⟨h1, h2, h3, h4, h5⟩ := h
  have hany : (acc.2.any fun g => keyEq g.key (hKey b)) = true ↔ hKey b ∈ acc.2.map (·.key) := by
    rw [List.any_eq_true, List.mem_map]
    exact ⟨fun ⟨g, hg, hk⟩ => ⟨g, hg, (keyEq_iff _ _).mp hk⟩, fun ⟨g, hg, hk⟩ => ⟨g, hg, (keyEq_iff _ _).mpr hk⟩⟩
  refine ⟨?_, ?_, ?_, nodup_ite_append _ _ _ (memv_iff _ _) h4, ?_⟩
  · rw [upsert_keys]; exact nodup_ite_append _ _ _ hany h1
  · intro b' hb'
    rw [upsert_keys, mem_ite_append _ _ _ hany]
    rcases List.mem_append.mp hb' with hb' | hb'
    · exact Or.inl (h2 b' hb')
    · exact Or.inr (by rw [List.mem_singleton.mp hb'])
  · intro g' hg'
    rw [rangeOf_snoc]
    rcases mem_upsert hg' with ⟨_, hg, hk, rfl⟩ | ⟨g, hg, hk, rfl⟩ | ⟨hk, rfl⟩
    · -- a grid of another range
      have hne : ¬ hKey b = g'.key := fun hh => by rw [(keyEq_iff g'.key (hKey b)).mpr hh.symm] at hk; cases hk
      rw [if_neg hne]; exact h3 _ hg
    · -- the grid of this range gets the new row (and the wavenumbers of this block)
      obtain ⟨g1, -, -⟩ := h3 g hg
      rw [if_pos ((keyEq_iff _ _).mp hk).symm]
      exact ⟨by rw [List.map_append, g1]; rfl, by simp, by simp⟩
    · -- a new range
      have hnew : hKey b ∉ acc.2.map (·.key) := fun hh => by rw [hany.mpr hh] at hk; cases hk
      have hempty : rangeOf seen (hKey b) = [] := by
        unfold rangeOf
        rw [List.filter_eq_nil_iff]
        intro b' hb' hk'
        rw [decide_eq_true_eq] at hk'
        exact hnew (hk' ▸ h2 b' hb')
      rw [if_pos rfl, hempty]
      simp
  · intro T
    rw [mem_ite_append _ _ _ (memv_iff _ _), h5 T]
    constructor
    · rintro (⟨b', hb', rfl⟩ | rfl)
      · exact ⟨b', List.mem_append_left _ hb', rfl⟩
      · exact ⟨b, by simp, rfl⟩
    · rintro ⟨b', hb', rfl⟩
      rcases List.mem_append.mp hb' with hb' | hb'
      · exact Or.inl ⟨b', hb', rfl⟩
      · exact Or.inr (by rw [List.mem_singleton.mp hb'])

omit [LawfulOrderLT α] in
theorem hLoad_inv (blocks : List (HBlock α)) : LoadInv (hLoad blocks) blocks := by
  rw [hLoad_eq]
  exact foldl_prefix_inv hStep LoadInv blocks (fun acc seen b _ _ h => loadInv_step acc seen b h) _
    ⟨by simp, by simp, by simp, by simp, by simp⟩

theorem master_sorted (blocks : List (HBlock α)) :
    ((hLoad blocks).1.mergeSort (fun a b => decide (a ≤ b))).Pairwise (· < ·) ∧
    ∀ T, T ∈ (hLoad blocks).1.mergeSort (fun a b => decide (a ≤ b)) ↔ ∃ b ∈ blocks, b.temp = T := by
  have hinv := hLoad_inv blocks
  have hp := List.mergeSort_perm (hLoad blocks).1 (fun a b => decide (a ≤ b))
  constructor
  · exact ((pairwise_mergeSort_le id _).and (hp.nodup_iff.mpr hinv.tempsNodup)).imp
      (fun hab => lt_of_le_of_ne hab.1 hab.2)
  · intro T
    rw [hp.mem_iff]
    exact hinv.temps T

/-- no `(range, temperature)` pair occurs twice in the file -/
def UniqueHeads (blocks : List (HBlock α)) : Prop :=
  (blocks.map (fun b => (hKey b, b.temp))).Nodup

theorem uniqueHeads_range {α : Type} [DecidableEq α] (blocks : List (HBlock α)) (hu : UniqueHeads blocks) (k
    : α × α) :
    ((rangeOf blocks k).map (·.temp)).Nodup := by
  have hnd : ((rangeOf blocks k).map (fun b => (hKey b, b.temp))).Nodup :=
    List.Nodup.sublist (List.filter_sublist.map _) hu
  rw [List.Nodup, List.pairwise_map] at hnd ⊢
  refine hnd.imp_of_mem (fun {x y} hx hy hne hxy => hne ?_)
  have kx : hKey x = k := by simpa using (List.mem_filter.mp hx).2
  have ky : hKey y = k := by simpa using (List.mem_filter.mp hy).2
  rw [kx, ky, hxy]

/-- a non-empty list whose images under `f` are pairwise distinct and all equal to `k` has one element -/
theorem eq_singleton_of_nodup_const {β γ : Type} {l : List β} (f : β → γ) (k : γ) (hnd : (l.map f).Nodup)
    (hk : ∀ x ∈ l, f x = k) (hne : l ≠ []) : ∃ x, l = [x] := by
  match l, hne with
  | [x], _ => exact ⟨x, rfl⟩
  | x :: y :: l, _ =>
    rw [List.map_cons, List.nodup_cons] at hnd
    exact absurd (List.mem_map.mpr ⟨y, by simp, (hk y (by simp)).trans (hk x (by simp)).symm⟩) hnd.1

omit [LawfulOrderLT α] in
/-- a one-range file: the reading loop leaves one range object, holding the table's rows in order -/
theorem hLoad_single (blocks : List (HBlock α)) (k : α × α) (hne : blocks ≠ []) (hk : ∀ b ∈ blocks, hKey b = k) :
    ∃ g, (hLoad blocks).2 = [g] ∧ g.ts = blocks.map hEntry ∧ g.wn = ((blocks.getLast?).map hWn).getD [] := by
  have hinv := hLoad_inv blocks
  have hall : rangeOf blocks k = blocks := List.filter_eq_self.mpr (fun b hb => by simpa using hk b hb)
  have hkey : ∀ g ∈ (hLoad blocks).2, g.key = k := by
    intro g hg
    obtain ⟨b, hb⟩ := List.exists_mem_of_ne_nil _ (hinv.grid g hg).2.2
    rw [← hk b (List.mem_filter.mp hb).1]
    exact (by simpa using (List.mem_filter.mp hb).2 : hKey b = g.key).symm
  obtain ⟨b0, hb0⟩ := List.exists_mem_of_ne_nil _ hne
  obtain ⟨g, hg⟩ := eq_singleton_of_nodup_const (fun g : HGrid α => g.key) k hinv.keysNodup hkey
    (fun h0 => by have := hinv.keysAll b0 hb0; rw [h0] at this; cases this)
  have hg' : g ∈ (hLoad blocks).2 := by rw [hg]; exact List.mem_singleton_self g
  obtain ⟨h1, h2, _⟩ := hinv.grid g hg'
  rw [hkey g hg', hall] at h1 h2
  exact ⟨g, hg, h1, h2⟩

/-! ### nothing negative reaches the unified table -/

def NonnegTs (ts : List (α × List α)) : Prop := ∀ e ∈ ts, ∀ v ∈ e.2, 0 ≤ v

omit [DecidableLE α] [DecidableEq α] in
theorem clipSigma_nonneg (s : α) : 0 ≤ clipSigma s := by
  unfold clipSigma
  simp only
  split
  · exact le_refl 0
  · next h => exact not_lt.mp h

/-- the rows a range object holds are clipped block rows -/
theorem hLoad_nonneg (blocks : List (HBlock α)) : ∀ g ∈ (hLoad blocks).2, NonnegTs g.ts := by
  intro g hg e he v hv
  rw [((hLoad_inv blocks).grid g hg).1] at he
  obtain ⟨b, _, rfl⟩ := List.mem_map.mp he
  obtain ⟨q, _, rfl⟩ := List.mem_map.mp hv
  exact clipSigma_nonneg _

theorem getD_mem_or_default {β : Type} (l : List β) (i : Nat) (d : β) : l.getD i d ∈ l ∨ l.getD i d = d :=
  getD_of_forall (P := fun x => x ∈ l ∨ x = d) l d (.inr rfl) (fun _ hx => .inl hx) i

/-- what the loop of `fill_temperature` keeps true -/
def FillInv (tmin : α) (ts : List (α × List α)) : Prop :=
  ts.Pairwise (fun a b => a.1 ≤ b.1) ∧ NonnegTs ts ∧ tmin ∈ ts.map (·.1)

theorem fillInv_sort_append {α : Type} [LE α] [DecidableLE α] [OfNat α 0] [IsLinearOrder α] (tmin : α) (ts : List (α × List α)) (e : α × List α) (h : FillInv tmin ts)
    (he : ∀ v ∈ e.2, 0 ≤ v) : FillInv tmin (sortTs (ts ++ [e])) := by
  obtain ⟨_, hn, hm⟩ := h
  have hp := sortTs_perm (ts ++ [e])
  refine ⟨sortTs_sorted _, ?_, ?_⟩
  · intro x hx
    have hx' := hp.mem_iff.mp hx
    rw [List.mem_append, List.mem_singleton] at hx'
    rcases hx' with hx' | rfl
    · exact hn x hx'
    · exact he
  · rw [List.mem_map] at hm ⊢
    obtain ⟨x, hx, hx1⟩ := hm
    exact ⟨x, hp.mem_iff.mpr (by simp [hx]), hx1⟩

variable [Sub α]

section
variable (hconv : ∀ u v t a b : α, 0 ≤ u → 0 ≤ v → a ≤ t → t ≤ b → 0 ≤ interpLin u v t a b)
include hconv

omit [OfNat α 1] [OfNat α 10000000000] [DecidableEq α] in
theorem fillOne_inv (wn : List α) (tmin tmax : α) (ts : List (α × List α)) (t : α) (h : FillInv tmin ts) :
    FillInv tmin (fillOne wn tmin tmax ts t) := by
  unfold fillOne
  simp only
  by_cases hmem : memv t (ts.map (·.1)) = true
  · simp only [hmem, if_true]; exact h
  · simp only [hmem, Bool.false_eq_true, if_false]
    by_cases hout : (decide (t < tmin) || decide (tmax < t)) = true
    · simp only [hout, if_true]
      apply fillInv_sort_append tmin ts _ h
      intro v hv
      simp only [List.mem_map] at hv
      obtain ⟨_, _, rfl⟩ := hv
      exact le_refl 0
    · simp only [hout, Bool.false_eq_true, if_false]
      apply fillInv_sort_append tmin ts _ h
      -- the interpolated row: a convex combination of the two stored rows around `t`
      have hge : tmin ≤ t := by
        simp only [Bool.or_eq_true, decide_eq_true_eq, not_or, not_lt] at hout
        exact hout.1
      obtain ⟨hsorted, hnn, hminmem⟩ := h
      obtain ⟨e₁, h₁, rfl⟩ := List.mem_map.mp hminmem
      obtain ⟨l, lo, r, rfl, -, hlo, hr, -, ea, eb⟩ := searchRight_neighbours (·.1) ts hsorted t e₁ h₁ hge (0, [])
      show ∀ v ∈ List.zipWith _ _ _, 0 ≤ v
      rw [ea, eb]
      cases r with
      | nil => intro v hv; simp at hv
      | cons hi r =>
        apply forall_zipWith
        intro x hx y hy
        exact hconv _ _ _ _ _ (hnn lo (by simp) x hx) (hnn hi (by simp) y hy) hlo (le_of_lt (hr hi (by simp)))

omit [OfNat α 1] [OfNat α 10000000000] [DecidableEq α] in
theorem fillTemperature_nonneg (wn : List α) (ts : List (α × List α)) (temps : List α) (hne : ts ≠ [])
    (hn : NonnegTs ts) : NonnegTs (fillTemperature wn (sortTs ts) temps) := by
  unfold fillTemperature
  simp only
  have hne' : (sortTs ts).map (·.1) ≠ [] := fun h0 => sortTs_ne_nil hne (List.map_eq_nil_iff.mp h0)
  have h0 : FillInv (lmin ((sortTs ts).map (·.1))) (sortTs ts) :=
    ⟨sortTs_sorted ts, fun e he => hn e ((sortTs_perm ts).mem_iff.mp he), lmin_mem _ hne'⟩
  generalize lmin ((sortTs ts).map (·.1)) = tmin at h0 ⊢
  generalize lmax ((sortTs ts).map (·.1)) = tmax
  exact (foldl_inv (fillOne wn tmin tmax) (FillInv tmin) temps _ (fun acc t _ => fillOne_inv hconv wn tmin tmax acc t) h0).2.1

theorem decHitran_nonneg_of (blocks : List (HBlock α)) : ∀ row ∈ (decHitran blocks).x, ∀ v ∈ row, 0 ≤ v := by
  rw [decHitran_eq]
  generalize (hLoad blocks).1.mergeSort (fun a b => decide (a ≤ b)) = temps
  have hfilled : ∀ g ∈ fillGaps temps (hLoad blocks).2, NonnegTs g.ts := by
    intro g hg
    simp only [fillGaps, List.mem_map] at hg
    obtain ⟨g0, hg0, rfl⟩ := hg
    exact fillTemperature_nonneg hconv g0.wn g0.ts temps (hLoad_ts_ne_nil blocks g0 hg0) (hLoad_nonneg blocks g0 hg0)
  intro row hrow v hv
  simp only [finalGrid, List.mem_map, List.mem_range] at hrow
  obtain ⟨idx, _, rfl⟩ := hrow
  simp only [gather, List.mem_map] at hv
  obtain ⟨i, _, rfl⟩ := hv
  rcases getD_mem_or_default ((fillGaps temps (hLoad blocks).2).flatMap fun g => (g.ts.getD idx (0, [])).2) i 0
    with h | h
  · rw [List.mem_flatMap] at h
    obtain ⟨g, hg, hvg⟩ := h
    rcases getD_mem_or_default g.ts idx (0, []) with h2 | h2
    · exact hfilled g hg _ h2 _ hvg
    · rw [h2] at hvg; simp at hvg
  · rw [h]; exact le_refl 0

end

/-! ### the loaded table is the documented unified table -/

section
variable (hchain : ∀ u v t m a b : α, a ≠ b → m ≠ b → interpLin (interpLin u v m a b) v t m b = interpLin u v t a b)
include hchain

theorem fillGaps_eq (blocks : List (HBlock α)) (hu : UniqueHeads blocks) (temps : List α)
    (htemps : temps = (hLoad blocks).1.mergeSort (fun a b => decide (a ≤ b))) :
    fillGaps temps (hLoad blocks).2 =
      (hLoad blocks).2.map (fun g => { g with ts := temps.map (fun T => (T, rangeRow g.wn (sortTs g.ts) T)) }) := by
  have hinv := hLoad_inv blocks
  obtain ⟨hts, htm⟩ := master_sorted blocks
  rw [← htemps] at hts htm
  unfold fillGaps
  apply List.map_congr_left
  intro g hg
  obtain ⟨g1, _, g3⟩ := hinv.grid g hg
  have hkeys : g.ts.map (·.1) = (rangeOf blocks g.key).map (·.temp) := by
    rw [g1, List.map_map]; rfl
  have hpk : ((sortTs g.ts).map (·.1)).Perm (g.ts.map (·.1)) := (sortTs_perm g.ts).map (·.1)
  have hstrict : SortedStrict (sortTs g.ts) := sortedStrict_of_sorted_nodup _ (sortTs_sorted g.ts)
    (hpk.nodup_iff.mpr (by rw [hkeys]; exact uniqueHeads_range blocks hu g.key))
  have hne : sortTs g.ts ≠ [] := sortTs_ne_nil (fun h0 => g3 (List.map_eq_nil_iff.mp (g1 ▸ h0)))
  have hsub : ∀ x ∈ (sortTs g.ts).map (·.1), x ∈ temps := by
    intro x hx
    rw [hpk.mem_iff, hkeys, List.mem_map] at hx
    obtain ⟨b, hb, rfl⟩ := hx
    exact (htm _).mpr ⟨b, (List.mem_filter.mp hb).1, rfl⟩
  rw [fillTemperature_eq g.wn (sortTs g.ts) hchain temps hstrict hne hts hsub]

theorem decHitran_unified_of (blocks : List (HBlock α)) (hu : UniqueHeads blocks) :
    decHitran blocks = hitranUnified blocks := by
  rw [decHitran_eq, hitranUnified_eq]
  generalize htemps : (hLoad blocks).1.mergeSort (fun a b => decide (a ≤ b)) = temps
  rw [fillGaps_eq hchain blocks hu temps htemps.symm]
  unfold finalGrid unifiedTable
  simp only [List.flatMap_map]
  congr 1
  rw [← range_map_getD temps 0 (fun T => gather
    (List.flatMap (fun g => rangeRow g.wn (sortTs g.ts) T) (hLoad blocks).2) (argsort ((hLoad blocks).2.flatMap (·.wn))))]
  apply List.map_congr_left
  intro idx hidx
  rw [List.mem_range] at hidx
  congr 1
  rw [List.flatMap_def, List.flatMap_def]
  congr 1
  apply List.map_congr_left
  intro g _
  simp [List.getD_eq_getElem?_getD, hidx]

end

end

end Taurex.Loaders
