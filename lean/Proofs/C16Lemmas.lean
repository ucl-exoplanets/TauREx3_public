/-
  Lemmas about the output model `TaurexModel/Output.lean` alone, for the C16 property theorems and the C16 source tie.
  Core tactics only.
-/
import TaurexModel.Output
import Proofs.FoldCore

namespace Taurex.Output
variable {α : Type}

/-! ### fixed-width string cells -/

theorem sCell_clean (s : List Nat) (h : cleanStr s = true) : sCell s = s := by
  unfold cleanStr at h
  unfold sCell
  rcases List.eq_nil_or_concat s with rfl | ⟨l, a, rfl⟩
  · rfl
  · have ha : (a == 0) = false := by
      simp at h
      simpa using h
    simp [ha]

theorem stringList_clean : (l : List (Value α)) → l.all isCleanStr = true →
    ∃ strs, stringList l = some strs ∧ (strs.map sCell).map Value.str = l
  | [], _ => ⟨[], rfl, rfl⟩
  | v :: vs, h => by
    simp only [List.all_cons, Bool.and_eq_true] at h
    obtain ⟨hv, hvs⟩ := h
    obtain ⟨rows, hr, hm⟩ := stringList_clean vs hvs
    cases v <;> simp [isCleanStr] at hv
    rename_i s
    refine ⟨s :: rows, ?_, ?_⟩
    · simp [stringList, hr]
    · simpa [sCell_clean s hv] using hm

/-- what `decode_string_array` returns for the dataset `write_string_array` creates: the cells -/
theorem load_stringNode (strs : List (List Nat)) :
    load (stringNode strs : Node α) = .list ((strs.map sCell).map .str) := rfl

theorem load_stringNode_clean (strs : List (List Nat)) (hc : ∀ t ∈ strs, cleanStr t = true) :
    load (stringNode strs : Node α) = .list (strs.map .str) := by
  have h : strs.map sCell = strs.map id := List.map_congr_left fun t ht => sCell_clean t (hc t ht)
  rw [load_stringNode, h, List.map_id]

theorem isStr_of_isCleanStr {v : Value α} (h : isCleanStr v = true) : isStr v = true := by
  cases v <;> first | rfl | cases h

theorem any_isStr_of_clean : (l : List (Value α)) → l.isEmpty = false → l.all isCleanStr = true → l.any isStr = true
  | [], h, _ => by cases h
  | v :: vs, _, h => by
    rw [List.all_cons, Bool.and_eq_true] at h
    rw [List.any_cons, isStr_of_isCleanStr h.1, Bool.true_or]

theorem any_isStr_map {β : Type} (f : β → Value α) (hf : ∀ b, isStr (f b) = false) (l : List β) :
    (l.map f).any isStr = false := by
  induction l with
  | nil => rfl
  | cons b l ih => simp [hf, ih]

theorem stringList_strs : ∀ l : List (List Nat), stringList (l.map (Value.str (α := α))) = some l
  | [] => rfl
  | x :: t => by simp [stringList, stringList_strs t]

/-! ### spectrum dictionaries

A dictionary of a binning binner is three parts with distinct keys: six entries that are always there, the optical
depths that depend on the output size (`tauPart`), the binner's own grid.  A key of a fixed part is found without looking
at the size. -/

theorem keysOf_nil : keysOf ([] : List (String × Entry α)) = [] := rfl
theorem keysOf_cons (k : String) (e : Entry α) (d : List (String × Entry α)) : keysOf ((k, e) :: d) = k :: keysOf d := rfl
theorem keysOf_append (a b : List (String × Entry α)) : keysOf (a ++ b) = keysOf a ++ keysOf b := List.map_append

section spectrum
variable (bdTau : List α → List (List α) → List (List α)) (size : Nat) (wn : List α) (tau : List (List α))

/-- the optical depths a binning binner stores: `binned_tau` above `lighter`, `native_tau` above `light` -/
def tauPart : List (String × Entry α) :=
  if size > sizeLighter then
    [("binned_tau", Entry.mat (bdTau wn tau))] ++ (if size > sizeLight then [("native_tau", Entry.mat tau)] else [])
  else []

variable {bdTau size wn tau}

theorem lookup_tauPart_none {k : String} (h1 : k ≠ "binned_tau") (h2 : k ≠ "native_tau") :
    (tauPart bdTau size wn tau).lookup k = none := by
  have b1 : (k == "binned_tau") = false := beq_eq_false_iff_ne.2 h1
  have b2 : (k == "native_tau") = false := beq_eq_false_iff_ne.2 h2
  unfold tauPart
  split
  · split <;> simp only [List.cons_append, List.nil_append, List.append_nil, List.lookup_cons, b1, b2, List.lookup_nil]
  · rfl

theorem lookup_tauPart_binned (h : size > sizeLighter) :
    (tauPart bdTau size wn tau).lookup "binned_tau" = some (.mat (bdTau wn tau)) := by
  rw [tauPart, if_pos h]
  rfl

theorem lookup_tauPart_native (h : size > sizeLight) : (tauPart bdTau size wn tau).lookup "native_tau" = some (.mat tau) := by
  rw [tauPart, if_pos (Nat.lt_trans (by decide) h), if_pos h]
  rfl

theorem keysOf_tauPart :
    keysOf (tauPart bdTau size wn tau)
      = (if size > sizeLighter then ["binned_tau"] else []) ++ (if size > sizeLight then ["native_tau"] else []) := by
  have : sizeLight > sizeLighter := by decide
  unfold tauPart keysOf
  by_cases h1 : size > sizeLighter <;> by_cases h3 : size > sizeLight
  · simp only [h1, h3, if_true, List.map_append, List.map_cons, List.map_nil]
  · simp only [h1, h3, if_true, if_false, List.map_append, List.map_cons, List.map_nil]
  · exact absurd (Nat.lt_trans this h3) h1
  · simp only [h1, h3, if_false, List.map_nil, List.append_nil]

theorem mem_keysOf_tauPart {k : String} (h : k ∈ keysOf (tauPart bdTau size wn tau)) : k ∈ ["binned_tau", "native_tau"] := by
  rw [keysOf_tauPart, List.mem_append] at h
  rcases h with h | h <;> split at h <;> simp_all

variable [Add α] [Sub α] [Mul α] [Div α] [Neg α] [LT α] [DecidableLT α] [OfNat α 0] [OfNat α 2] [OfNat α 10000]
  {grid width : List α} {bd : List α → List α → List α} {flux : List α}

/-- FluxBinner and SimpleBinner store the base dictionary followed by their own grid -/
theorem spectrumOutput_binning (kind : BinnerKind) (hk : kind ≠ .native) :
    spectrumOutput kind grid width bd bdTau size wn flux tau
      = baseOutput bd bdTau size wn flux tau ++
        [("binned_wngrid", .vec grid), ("binned_wlgrid", .vec (wlOfWn grid)), ("binned_wnwidth", .vec width),
         ("binned_wlwidth", .vec (wnwidthToWlwidth grid width))] := by
  cases kind <;> first | rfl | exact absurd rfl hk

/-- NativeBinner stores its own three entries, and the optical depth above `light` -/
theorem spectrumOutput_native :
    spectrumOutput .native grid width bd bdTau size wn flux tau
      = [("native_wngrid", .vec wn), ("native_wlgrid", .vec (wlOfWn wn)), ("native_spectrum", .vec flux)]
        ++ (if size > sizeLight then [("native_tau", Entry.mat tau)] else []) := rfl

omit [Mul α] in
theorem baseOutput_eq :
    baseOutput bd bdTau size wn flux tau
      = [("native_wngrid", .vec wn), ("native_wlgrid", .vec (wlOfWn wn)), ("native_spectrum", .vec flux),
         ("binned_spectrum", .vec (bd wn flux)), ("native_wnwidth", .vec (computeBinEdges wn).2),
         ("native_wlwidth", .vec (computeBinEdges (wlOfWn wn)).2)] ++ tauPart bdTau size wn tau := rfl

end spectrum

variable [OfInt α]

/-! ### the writer case by case -/

theorem storeThing_list (key : String) (l : List (Value α)) :
    storeThing key (.list l) =
      if l.any isStr then
        match stringList l with
        | some strs => .ok [(key, stringNode strs)]
        | none => .error .mixedStringList
      else
        match (toNdList l).bind stack with
        | some a => .ok [(key, .num a)]
        | none => storeSeq key 0 l := by
  rw [storeThing]
  split
  · cases stringList l <;> rfl
  · cases (toNdList l).bind stack <;> rfl

theorem storeThing_tuple (key : String) (l : List (Value α)) :
    storeThing key (.tuple l) = storeThing key (.list l) := by
  rw [storeThing, storeThing]

theorem storeThing_dict (key : String) (d : List (String × Value α)) :
    storeThing key (.dict d) =
      match storeEntries d with
      | .ok ch => .ok [(key, .group ch)]
      | .error e => .error e := by
  rw [storeThing]
  cases storeEntries d <;> rfl

theorem storeThing_dict_ok {k : String} {d : List (String × Value α)} {es : List (String × Node α)}
    (h : storeThing k (.dict d) = .ok es) : ∃ ch, storeEntries d = .ok ch ∧ es = [(k, .group ch)] := by
  rw [storeThing_dict] at h
  cases hd : storeEntries d with
  | error e => rw [hd] at h; cases h
  | ok ch =>
    rw [hd] at h
    simp only [Except.ok.injEq] at h
    exact ⟨ch, rfl, h.symm⟩

theorem storeEntries_cons_ok {k : String} {v : Value α} {rest : List (String × Value α)} {es : List (String × Node α)}
    (h : storeEntries ((k, v) :: rest) = .ok es) :
    ∃ a b, storeThing k v = .ok a ∧ storeEntries rest = .ok b ∧ es = a ++ b := by
  rw [storeEntries] at h
  cases ha : storeThing k v with
  | error e => rw [ha] at h; cases h
  | ok a =>
    rw [ha] at h
    cases hb : storeEntries rest with
    | error e => rw [hb] at h; cases h
    | ok b =>
      rw [hb] at h
      simp only [Except.ok.injEq] at h
      exact ⟨a, b, rfl, rfl, h.symm⟩

theorem storeEntries_cons_eq {k : String} {v : Value α} {rest : List (String × Value α)} {a b : List (String × Node α)}
    (ha : storeThing k v = .ok a) (hb : storeEntries rest = .ok b) : storeEntries ((k, v) :: rest) = .ok (a ++ b) := by
  rw [storeEntries, ha, hb]

theorem storeEntries_append_ok : ∀ {d1 d2 : List (String × Value α)} {es : List (String × Node α)},
    storeEntries (d1 ++ d2) = .ok es → ∃ a b, storeEntries d1 = .ok a ∧ storeEntries d2 = .ok b ∧ es = a ++ b
  | [], d2, es, h => ⟨[], es, rfl, h, rfl⟩
  | (k, v) :: d1, d2, es, h => by
    obtain ⟨a, b, ha, hb, rfl⟩ := storeEntries_cons_ok (by simpa using h)
    obtain ⟨a', b', ha', hb', rfl⟩ := storeEntries_append_ok hb
    exact ⟨a ++ a', b', storeEntries_cons_eq ha ha', hb', by simp⟩

/-- what is stored for the dictionary `CIAContribution.write` builds -/
theorem store_cia (name : String) (pairs : List (List Nat)) :
    storeThing name (.dict (if pairs = [] then [] else [("cia_pairs", Value.list (pairs.map .str))]) : Value α)
      = .ok [(name, .group (if pairs = [] then [] else [("cia_pairs", stringNode pairs)]))] := by
  cases pairs with
  | nil => rfl
  | cons p ps =>
    have hany : (List.map Value.str (p :: ps) : List (Value α)).any isStr = true := rfl
    simp only [reduceCtorEq, if_false, storeEntries, storeThing, hany, if_true, stringList_strs]
    rfl

/-! ### `store`: a dictionary becomes the group of its entries, anything else is refused -/

theorem store_dict_of_ok {d : List (String × Value α)} {ch : List (String × Node α)} (h : storeEntries d = .ok ch) :
    store (.dict d) = .ok (.group ch) := by
  rw [store, h]

theorem store_dict_of_error {d : List (String × Value α)} {e : Err} (h : storeEntries d = .error e) :
    store (.dict d) = .error e := by
  rw [store, h]

theorem store_not_dict {v : Value α} (h : isDict v = false) : store v = .error .notDict := by
  cases v <;> first | rfl | cases h

/-! ### exactly the unsupported values make the writer fail -/

omit [OfInt α] in
theorem stringList_isSome_iff : (l : List (Value α)) → ((stringList l).isSome = true ↔ l.all isStr = true)
  | [] => by simp [stringList]
  | v :: vs => by
    have ih := stringList_isSome_iff vs
    cases v <;> simp [stringList, isStr, ih]

/-- the computation succeeds -/
def IsOk {ε β : Type} (r : Except ε β) : Prop := ∃ x, r = .ok x

theorem isOk_ok {ε β : Type} (x : β) : IsOk (Except.ok x : Except ε β) := ⟨x, rfl⟩
theorem not_isOk_error {ε β : Type} (e : ε) : ¬ IsOk (Except.error e : Except ε β) := by
  rintro ⟨x, h⟩; cases h

omit [OfInt α] in
/-- one step of `storeSeq` / `storeEntries`: the item and the rest are both stored -/
theorem isOk_append_iff (x y : Except Err (List (String × Node α))) :
    IsOk (match x with
      | .error e => .error e
      | .ok a =>
        match y with
        | .error e => .error e
        | .ok b => .ok (a ++ b)) ↔ IsOk x ∧ IsOk y := by
  cases x <;> cases y <;> simp [isOk_ok, not_isOk_error]

theorem supported_tuple (l : List (Value α)) : supported (.tuple l) = supported (.list l) := by
  rw [supported, supported]

/-- the list case of `storeThing_ok_iff` below, given its `storeSeq` case (`hseq`): a step of that mutual induction, shared by
    lists and tuples -/
theorem storeThing_list_ok_iff (k : String) (l : List (Value α))
    (hseq : IsOk (storeSeq k 0 l) ↔ supportedList l = true) :
    IsOk (storeThing k (.list l)) ↔ supported (.list l) = true := by
  unfold storeThing supported
  by_cases hs : l.any isStr = true
  · rw [if_pos hs, if_pos hs, ← stringList_isSome_iff]
    cases hr : stringList l <;> simp [isOk_ok, not_isOk_error]
  · rw [if_neg hs, if_neg hs]
    cases hn : (toNdList l).bind stack with
    | some a => simp [isOk_ok]
    | none => simpa using hseq

mutual
theorem storeThing_ok_iff (k : String) : (v : Value α) → (IsOk (storeThing k v) ↔ supported v = true)
  | .int _ => by simp [storeThing, supported, isOk_ok]
  | .float _ => by simp [storeThing, supported, isOk_ok]
  | .bool _ => by simp [storeThing, supported, isOk_ok]
  | .array _ => by simp [storeThing, supported, isOk_ok]
  | .str _ => by simp [storeThing, supported, isOk_ok]
  | .list l => storeThing_list_ok_iff k l (storeSeq_ok_iff k 0 l)
  | .tuple l => by
    rw [storeThing_tuple, supported_tuple]
    exact storeThing_list_ok_iff k l (storeSeq_ok_iff k 0 l)
  | .dict d => by
    have ih := storeEntries_ok_iff d
    unfold storeThing supported
    cases hd : storeEntries d with
    | ok ch => rw [hd] at ih; simpa [isOk_ok] using ih
    | error e => rw [hd] at ih; simpa [not_isOk_error] using ih
  | .unsupported => by simp [storeThing, supported, not_isOk_error]
theorem storeSeq_ok_iff (k : String) (i : Nat) : (l : List (Value α)) →
    (IsOk (storeSeq k i l) ↔ supportedList l = true)
  | [] => by simp [storeSeq, supportedList, isOk_ok]
  | v :: vs => by
    rw [storeSeq, supportedList, Bool.and_eq_true, ← storeThing_ok_iff (subKey k i) v, ← storeSeq_ok_iff k (i + 1) vs]
    exact isOk_append_iff _ _
theorem storeEntries_ok_iff : (d : List (String × Value α)) →
    (IsOk (storeEntries d) ↔ supportedEntries d = true)
  | [] => by simp [storeEntries, supportedEntries, isOk_ok]
  | (k, v) :: rest => by
    rw [storeEntries, supportedEntries, Bool.and_eq_true, ← storeThing_ok_iff k v, ← storeEntries_ok_iff rest]
    exact isOk_append_iff _ _
end

/-! ### the `key0, key1, …` expansion of a list of arrays -/

def expandArrays (k : String) : Nat → List (Arr α) → List (String × Node α)
  | _, [] => []
  | i, a :: as => (subKey k i, .num a) :: expandArrays k (i + 1) as

theorem storeSeq_arrays (k : String) : (i : Nat) → (as : List (Arr α)) →
    storeSeq k i (as.map Value.array) = .ok (expandArrays k i as)
  | _, [] => rfl
  | i, a :: as => by
    simp [storeSeq, storeThing, storeSeq_arrays k (i + 1) as, expandArrays]

omit [OfInt α] in
theorem writeArray_go_arrays (k : String) : (i : Nat) → (as : List (Arr α)) →
    writeArray.go k i (as.map Value.array) = some (expandArrays k i as)
  | _, [] => rfl
  | i, a :: as => by
    simp [writeArray.go, writeArray_go_arrays k (i + 1) as, expandArrays]

/-! ### lists numpy accepts element by element -/

/-- a list of values each of which numpy turns into an array -/
theorem toNdList_map {β : Type} (f : β → Value α) (g : β → Arr α) (h : ∀ b, toNd (f b) = some (g b)) :
    (l : List β) → toNdList (l.map f) = some (l.map g)
  | [] => rfl
  | b :: l => by rw [List.map_cons, toNdList, h, toNdList_map f g h l, List.map_cons]

/-- a list without strings whose elements numpy accepts one by one: stored as the array numpy builds of it, or (a ragged
    list) element by element -/
theorem storeThing_list_map {β : Type} (k : String) (f : β → Value α) (g : β → Arr α) (hf : ∀ b, isStr (f b) = false)
    (hg : ∀ b, toNd (f b) = some (g b)) (l : List β) :
    storeThing k (.list (l.map f)) =
      match stack (l.map g) with
      | some a => .ok [(k, .num a)]
      | none => storeSeq k 0 (l.map f) := by
  rw [storeThing_list, if_neg (by rw [any_isStr_map f hf]; exact Bool.false_ne_true), toNdList_map f g hg]
  rfl

/-! ### reload of a component: the keyword arguments read off the stored group -/

omit [OfInt α] in
theorem lookup_loadEntries (ch : List (String × Node α)) (k : String) :
    (loadEntries ch).lookup k = (ch.lookup k).map load := by
  induction ch with
  | nil => rfl
  | cons p ch ih =>
    obtain ⟨k', n⟩ := p
    simp only [loadEntries, List.lookup_cons]
    cases h : (k == k') <;> simp [ih]

omit [OfInt α] in
theorem loadKwargs_eq (ch : List (String × Node α)) : (kws : List String) →
    loadKwargs ch kws = kws.filterMap (fun kw => ((loadEntries ch).lookup kw).map (fun v => (kw, v)))
  | [] => rfl
  | kw :: rest => by
    unfold loadKwargs
    rw [loadKwargs_eq ch rest, List.filterMap_cons, lookup_loadEntries]
    cases h : ch.lookup kw <;> simp

theorem reload_of_store {typeKey : String} {ctorKw : List String} {written : Value α} {ch : List (String × Node α)}
    (hs : store written = .ok (.group ch)) {c : Option (Value α)} {kws : List (String × Value α)}
    (hr : reloadComponent typeKey ctorKw written = .ok (c, kws)) :
    (ch.lookup typeKey).map load = c ∧ loadKwargs ch ctorKw = kws := by
  simpa only [reloadComponent, hs, Except.ok.injEq, Prod.mk.injEq] using hr

/-! ### regular values: one entry each, read back as their canonical form -/

theorem regVal_tuple (l : List (Value α)) : regVal (.tuple l) = regVal (.list l) := by
  rw [regVal, regVal]

theorem storeThing_reg_list (k : String) (l : List (Value α)) (h : regVal (.list l) = true) :
    ∃ n, storeThing k (.list l) = .ok [(k, n)] ∧ load n = canon (.list l) := by
  unfold regVal at h
  by_cases hs : l.any isStr = true
  · rw [if_pos hs] at h
    obtain ⟨strs, hr, hm⟩ := stringList_clean l h
    exact ⟨stringNode strs, by rw [storeThing_list, if_pos hs, hr], by rw [load_stringNode, hm, canon, if_pos hs]⟩
  · rw [if_neg hs] at h
    obtain ⟨a, ha⟩ := Option.isSome_iff_exists.1 h
    exact ⟨.num a, by rw [storeThing_list, if_neg hs, ha], by rw [canon, if_neg hs, ha]⟩

theorem canon_tuple_of_reg (l : List (Value α)) (h : regVal (.tuple l) = true) : canon (.tuple l) = canon (.list l) := by
  unfold regVal at h
  rw [canon, canon]
  split
  · rfl
  · next hs =>
    rw [if_neg hs] at h
    obtain ⟨a, ha⟩ := Option.isSome_iff_exists.1 h
    rw [ha]

mutual
theorem storeThing_reg (k : String) : (v : Value α) → regVal v = true →
    ∃ n, storeThing k v = .ok [(k, n)] ∧ load n = canon v
  | .int i, _ => ⟨_, rfl, rfl⟩
  | .float x, _ => ⟨_, rfl, rfl⟩
  | .bool b, _ => ⟨_, rfl, rfl⟩
  | .array a, _ => ⟨.num a, rfl, by simp [canon]⟩
  | .str s, _ => ⟨_, rfl, rfl⟩
  | .list l, h => storeThing_reg_list k l h
  | .tuple l, h => by
    rw [storeThing_tuple, canon_tuple_of_reg l h]
    exact storeThing_reg_list k l (regVal_tuple l ▸ h)
  | .dict d, h => by
    simp only [regVal] at h
    obtain ⟨ch, hc, hl, _⟩ := storeEntries_reg d h
    exact ⟨.group ch, by rw [storeThing_dict, hc], by rw [load, hl, canon]⟩
  | .unsupported, h => by simp [regVal] at h
theorem storeEntries_reg : (d : List (String × Value α)) → regEntries d = true →
    ∃ ch, storeEntries d = .ok ch ∧ loadEntries ch = canonEntries d ∧ ch.map Prod.fst = d.map Prod.fst
  | [], _ => ⟨[], rfl, rfl, rfl⟩
  | (k, v) :: rest, h => by
    simp only [regEntries, Bool.and_eq_true] at h
    obtain ⟨n, hn, hl⟩ := storeThing_reg k v h.1
    obtain ⟨ch, hc, hcl, hk⟩ := storeEntries_reg rest h.2
    exact ⟨(k, n) :: ch, storeEntries_cons_eq hn hc, by simp [loadEntries, canonEntries, hl, hcl], by simp [hk]⟩
end

mutual
theorem canon_of_wf : (v : Value α) → wfVal v = true → canon v = v
  | .int _, _ => rfl
  | .float _, _ => rfl
  | .bool _, _ => rfl
  | .array a, h => by
    simp only [wfVal, bne_iff_ne, ne_eq] at h
    rcases hs : a.shape with _ | ⟨x, xs⟩
    · exact absurd hs h
    · simp [canon, load, hs]
  | .str _, _ => rfl
  | .list l, h => by
    simp only [wfVal, Bool.and_eq_true, Bool.not_eq_true'] at h
    simp [canon, any_isStr_of_clean l h.1 h.2]
  | .tuple _, h => by simp [wfVal] at h
  | .dict d, h => by
    simp only [wfVal] at h
    simp [canon, canonEntries_of_wf d h]
  | .unsupported, h => by simp [wfVal] at h
theorem canonEntries_of_wf : (d : List (String × Value α)) → wfEntries d = true → canonEntries d = d
  | [], _ => rfl
  | (k, v) :: rest, h => by
    simp only [wfEntries, Bool.and_eq_true] at h
    simp [canonEntries, canon_of_wf v h.1, canonEntries_of_wf rest h.2]
end

/-! ### well-formed values are stored as one entry and read back unchanged: they are regular and their own canonical form -/

mutual
theorem reg_of_wf : (v : Value α) → wfVal v = true → regVal v = true
  | .int _, _ => rfl
  | .float _, _ => rfl
  | .bool _, _ => rfl
  | .array _, _ => rfl
  | .str _, _ => rfl
  | .list l, h => by
    simp only [wfVal, Bool.and_eq_true, Bool.not_eq_true'] at h
    rw [regVal, if_pos (any_isStr_of_clean l h.1 h.2)]
    exact h.2
  | .tuple _, h => by simp [wfVal] at h
  | .dict d, h => by
    simp only [wfVal] at h
    rw [regVal]
    exact regEntries_of_wf d h
  | .unsupported, h => by simp [wfVal] at h
theorem regEntries_of_wf : (d : List (String × Value α)) → wfEntries d = true → regEntries d = true
  | [], _ => rfl
  | (k, v) :: rest, h => by
    simp only [wfEntries, Bool.and_eq_true] at h
    rw [regEntries, reg_of_wf v h.1, regEntries_of_wf rest h.2]
    rfl
end

theorem storeThing_wf (k : String) (v : Value α) (h : wfVal v = true) :
    ∃ n, storeThing k v = .ok [(k, n)] ∧ load n = v := by
  obtain ⟨n, hs, hl⟩ := storeThing_reg k v (reg_of_wf v h)
  exact ⟨n, hs, hl.trans (canon_of_wf v h)⟩

theorem storeEntries_wf (d : List (String × Value α)) (h : wfEntries d = true) :
    ∃ ch, storeEntries d = .ok ch ∧ loadEntries ch = d ∧ ch.map Prod.fst = d.map Prod.fst := by
  obtain ⟨ch, hs, hl, hk⟩ := storeEntries_reg d (regEntries_of_wf d h)
  exact ⟨ch, hs, hl.trans (canonEntries_of_wf d h), hk⟩

/-! ### a flat list of ints / floats is the 1-D array of the same numbers -/

/-- `np.array` of scalars of one dtype (`mk`: its constructor, `r`: its rank): the 1-D array of the same elements -/
theorem stack_scalars {β : Type} (mk : List β → ArrData α) (r : Nat) (hr : ∀ l, (mk l).rank = r)
    (hw : ∀ l, (mk l).widen r = mk l) (hc : ∀ l : List β, catData r (l.map fun b => mk [b]) = mk l)
    (l : List β) (h : l ≠ []) :
    stack (l.map fun b => (⟨[], mk [b]⟩ : Arr α)) = some ⟨[l.length], mk l⟩ := by
  cases l with
  | nil => exact absurd rfl h
  | cons b l =>
    have hmax : ((mk [b]).rank :: l.map fun x => (mk [x]).rank).foldl max 0 = r := by
      rw [List.foldl_cons, hr, Nat.zero_max]
      exact foldl_noop max _ r fun i hi => by obtain ⟨x, _, rfl⟩ := List.mem_map.1 hi; rw [hr, Nat.max_self]
    rw [← hc (b :: l)]
    unfold stack
    simp only [List.map_cons]
    rw [if_pos (by simp)]
    simp only [List.map_map, Function.comp_def, List.length_cons, List.length_map, hmax, hw]

theorem stack_ints (l : List Int) (h : l ≠ []) :
    stack (l.map (fun i => (⟨[], .ints [i]⟩ : Arr α))) = some ⟨[l.length], .ints l⟩ :=
  stack_scalars .ints 1 (fun _ => rfl) (fun _ => rfl) (fun l => by simp [catData, List.flatMap_map]) l h

theorem stack_floats (l : List α) (h : l ≠ []) :
    stack (l.map (fun x => (⟨[], .floats [x]⟩ : Arr α))) = some ⟨[l.length], .floats l⟩ :=
  stack_scalars .floats 2 (fun _ => rfl) (fun _ => rfl) (fun l => by simp [catData, List.flatMap_map]) l h

theorem storeThing_int_list (k : String) (l : List Int) (h : l ≠ []) :
    storeThing k (Value.list (l.map (Value.int (α := α)))) = .ok [(k, .num ⟨[l.length], .ints l⟩)] := by
  rw [storeThing_list_map k _ _ (fun _ => rfl) (fun _ => rfl), stack_ints l h]

theorem storeThing_float_tuple (k : String) (x : List α) (h : x ≠ []) :
    storeThing k (Value.tuple (x.map Value.float)) = .ok [(k, .num ⟨[x.length], .floats x⟩)] := by
  rw [storeThing_tuple, storeThing_list_map k _ _ (fun _ => rfl) (fun _ => rfl), stack_floats x h]

end Taurex.Output
