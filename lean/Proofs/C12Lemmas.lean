/-
  What Props/C12.lean rests on: over ℝ, the NPoint node checks as chains, NPoint / Rodgers / TemperatureArray between their
  control temperatures, the Guillot rejection; at the end, for any key and value types, the look-up in `Section.resolve`.
-/
import Proofs.NpInterp
import Proofs.ListSort
import TaurexModel.Temperature
import TaurexModel.Section

namespace Taurex.Temperature
open Taurex.NpInterp

variable {lo hi : ℝ}

theorem absv_real (x : ℝ) : absv x = |x| := ite_neg_eq_abs x

/-! The two `any … for i in range(len - 1)` checks of `check_profile` say that the nodes are NOT a chain for the relation
    between neighbours; what is needed of them (all pairs ordered, the offending index) is then `List.IsChain`'s. -/

theorem pressureInverted_eq_false_iff : ∀ (l : List ℝ),
    pressureInverted l = false ↔ l.IsChain (fun a b => b < a)
  | [] => by simp [pressureInverted]
  | [_] => by simp [pressureInverted]
  | a :: b :: t => by
    rw [pressureInverted, Bool.or_eq_false_iff, decide_eq_false_iff_not, not_le,
      pressureInverted_eq_false_iff (b :: t), List.isChain_cons_cons]

theorem not_inverted_pairwise (l : List ℝ) (h : pressureInverted l = false) : l.Pairwise (fun a b => b < a) :=
  have : Trans (fun a b : ℝ => b < a) (fun a b : ℝ => b < a) (fun a b : ℝ => b < a) := ⟨fun h1 h2 => lt_trans h2 h1⟩
  ((pressureInverted_eq_false_iff l).1 h).pairwise

theorem pressureInverted_iff (l : List ℝ) :
    pressureInverted l = true ↔ ∃ i, ∃ h : i + 1 < l.length, l[i]'(Nat.lt_of_succ_lt h) ≤ l[i + 1] := by
  rw [← Bool.not_eq_false, pressureInverted_eq_false_iff, List.isChain_iff_getElem]
  simp only [not_forall, not_lt]

/-- the slope check, on the (pressure, temperature) nodes paired up -/
theorem slopeTooHigh_eq_false_iff (limit : ℝ) : ∀ (p t : List ℝ),
    slopeTooHigh limit p t = false ↔
      (p.zip t).IsChain (fun a b => |(b.2 - a.2) / (log10 b.1 - log10 a.1)| < limit)
  | [], _ => by simp [slopeTooHigh]
  | [_], _ :: _ => by simp [slopeTooHigh]
  | [_], [] => by simp [slopeTooHigh]
  | _ :: _ :: _, [] => by simp [slopeTooHigh]
  | _ :: _ :: _, [_] => by simp [slopeTooHigh]
  | p0 :: p1 :: ps, t0 :: t1 :: ts => by
    rw [slopeTooHigh, Bool.or_eq_false_iff, decide_eq_false_iff_not, not_le, absv_real,
      slopeTooHigh_eq_false_iff limit (p1 :: ps) (t1 :: ts)]
    exact (List.isChain_cons_cons (R := fun a b : ℝ × ℝ => |(b.2 - a.2) / (log10 b.1 - log10 a.1)| < limit)
      (a := (p0, t0)) (b := (p1, t1))).symm

theorem slopeTooHigh_iff (limit : ℝ) (p t : List ℝ) :
    slopeTooHigh limit p t = true ↔
      ∃ i, ∃ hp : i + 1 < p.length, ∃ ht : i + 1 < t.length,
        limit ≤ |(t[i + 1] - t[i]'(Nat.lt_of_succ_lt ht)) / (log10 p[i + 1] - log10 (p[i]'(Nat.lt_of_succ_lt hp)))| := by
  rw [← Bool.not_eq_false, slopeTooHigh_eq_false_iff, List.isChain_iff_getElem]
  simp only [not_forall, not_lt, List.length_zip, List.getElem_zip, Nat.lt_min]
  exact ⟨fun ⟨i, ⟨hp, ht⟩, h⟩ => ⟨i, hp, ht, h⟩, fun ⟨i, hp, ht, h⟩ => ⟨i, ⟨hp, ht⟩, h⟩⟩

theorem nPoint_invalid_iff (q : NPointParams ℝ) (n : Nat) (pressure : List ℝ) :
    nPoint q n pressure = .invalid ↔ q.rejected pressure = true := by
  unfold nPoint
  split_ifs with h
  · simp [h]
  · simp only [h]
    constructor
    · intro h'; exact absurd h' (assembleSmoothed_ne_invalid _ _)
    · intro h'; exact absurd h' (by simp)

section
variable (q : NPointParams ℝ) (pr : List ℝ)

theorem pNodes_length : (q.pNodes pr).length = q.pPoints.length + 2 := by
  rw [NPointParams.pNodes, List.length_cons, List.length_append, List.length_singleton]

theorem tNodes_length : q.tNodes.length = q.tPoints.length + 2 := by
  simp [NPointParams.tNodes]

/-- the abscissae handed to np.interp are non-decreasing whenever the node check passes -/
theorem xp_sorted (hpos : ∀ p ∈ q.pNodes pr, 0 < p)
    (hv : pressureInverted (q.pNodes pr) = false) :
    ((q.pNodes pr).reverse.map log10).Pairwise (· ≤ ·) := by
  rw [List.pairwise_map, List.pairwise_reverse]
  refine List.Pairwise.imp_of_mem ?_ (not_inverted_pairwise _ hv)
  intro a b ha hb hba
  exact (log10_lt_log10 (hpos b hb) hba).le

/-- a profile that passes the node check has strictly decreasing nodes, so a positive top node makes all of
    them positive -/
theorem pNodes_pos (hv : pressureInverted (q.pNodes pr) = false)
    (hlast : 0 < resolveP q.pTop (pr.getD (pr.length - 1) 0)) : ∀ p ∈ q.pNodes pr, 0 < p := by
  have hpw := not_inverted_pairwise _ hv
  have e : q.pNodes pr = (resolveP q.pSurface (pr.getD 0 0) :: q.pPoints) ++
      [resolveP q.pTop (pr.getD (pr.length - 1) 0)] := rfl
  rw [e] at hpw ⊢
  intro p hp
  rcases List.mem_append.1 hp with h | h
  · exact lt_trans hlast ((List.pairwise_append.1 hpw).2.2 p h _ (List.mem_singleton.2 rfl))
  · rw [List.mem_singleton.1 h]; exact hlast

theorem interpolated_within (hlen : q.tPoints.length = q.pPoints.length)
    (hpos : ∀ p ∈ q.pNodes pr, 0 < p)
    (hv : pressureInverted (q.pNodes pr) = false) (hT : Within lo hi q.tNodes) :
    Within lo hi (q.interpolated pr) := by
  intro v hv'
  unfold NPointParams.interpolated at hv'
  simp only [List.mem_map] at hv'
  obtain ⟨p, _, rfl⟩ := hv'
  apply npInterp_between
  · simp [pNodes_length, tNodes_length, hlen]
  · simp [pNodes_length]
  · exact xp_sorted q pr hpos hv
  · intro t ht; exact hT t (by simpa using ht)

theorem interpolated_length : (q.interpolated pr).length = pr.length := by
  simp [NPointParams.interpolated]

end

theorem weighted_bounds {s : ℝ} (hs : 0 < s) (row t : List ℝ) (hc : ∀ c ∈ row, 0 ≤ c) (ht : Within lo hi t)
    (hl : row.length ≤ t.length) :
    lo * (sumL row / s) ≤ sumL (List.zipWith (fun c tj => c / s * tj) row t) ∧
      sumL (List.zipWith (fun c tj => c / s * tj) row t) ≤ hi * (sumL row / s) := by
  -- values `t`, weights `row / s`: the `zip` keeps every weight, `row` being the shorter list
  have h := Convex.zipWith_between (lo := lo) (hi := hi) t (row.map (· / s))
    (List.forall_mem_map.2 fun c hc' => div_nonneg (hc c hc') hs.le) ht
  have e1 : ((t.zip (row.map (· / s))).map Prod.snd).sum = sumL row / s := by
    rw [List.map_snd_zip (by simpa using hl), sumL_eq_sum, div_eq_mul_inv]
    simpa [div_eq_mul_inv] using List.sum_map_mul_right row (fun x => x) s⁻¹
  have e2 : List.zipWith (fun a b => a * b) t (row.map (· / s)) = List.zipWith (fun c tj => c / s * tj) row t := by
    rw [List.zipWith_map_right, List.zipWith_comm]
    simp [mul_comm]
  rwa [e1, e2, ← sumL_eq_sum] at h

theorem colSums_length (cov : List (List ℝ)) : (colSums cov).length = (cov.getD 0 []).length := by
  simp [colSums]

theorem colSums_getElem (cov : List (List ℝ)) (i : Nat) (h : i < (colSums cov).length) :
    (colSums cov)[i] = sumL (cov.map (fun row => row.getD i 0)) := by
  simp [colSums]

/-- `correlate_temp` with non-negative entries whose row sums equal the (positive) column sums used for the
    normalisation: every output is a convex combination of the layer temperatures -/
theorem correlateTemp_within (cov : List (List ℝ)) (t : List ℝ)
    (hnn : ∀ row ∈ cov, ∀ c ∈ row, 0 ≤ c) (hlen : ∀ row ∈ cov, row.length ≤ t.length)
    (hbal : ∀ i (h : i < cov.length) (h' : i < (colSums cov).length),
      (colSums cov)[i] = sumL cov[i] ∧ 0 < sumL cov[i])
    (hT : Within lo hi t) : Within lo hi (correlateTemp cov t) := by
  intro v hv
  unfold correlateTemp at hv
  obtain ⟨i, hidx, rfl⟩ := List.mem_iff_getElem.1 hv
  rw [List.length_zipWith] at hidx
  have h1 : i < cov.length := by omega
  have h2 : i < (colSums cov).length := by omega
  rw [List.getElem_zipWith]
  obtain ⟨hb, hp⟩ := hbal i h1 h2
  have hrow : cov[i] ∈ cov := List.getElem_mem _
  have := weighted_bounds (lo := lo) (hi := hi) (s := (colSums cov)[i]) (by rw [hb]; exact hp) cov[i] t
    (hnn _ hrow) hT (hlen _ hrow)
  have hone : sumL cov[i] / (colSums cov)[i] = 1 := by rw [hb]; exact div_self hp.ne'
  rw [hone, mul_one, mul_one] at this
  exact this

/-- one entry of the default covariance -/
noncomputable def covEntry (h a b : ℝ) : ℝ := exp (-1 * absv (log (a / b)) / h)

theorem covEntry_pos (h a b : ℝ) : 0 < covEntry h a b := by
  unfold covEntry; simp only [exp_real]; exact Real.exp_pos _

theorem covEntry_symm (h : ℝ) {a b : ℝ} (ha : 0 < a) (hb : 0 < b) : covEntry h a b = covEntry h b a := by
  unfold covEntry
  simp only [log_real, absv_real]
  rw [Real.log_div ha.ne' hb.ne', Real.log_div hb.ne' ha.ne', ← abs_neg (Real.log a - Real.log b)]
  congr 4
  ring

theorem genCovariance_eq (h : ℝ) (p : List ℝ) :
    genCovariance h p = p.map (fun a => p.map (fun b => covEntry h a b)) := rfl

/-- the default covariance is symmetric (`|log(a/b)| = |log(b/a)|`), so its row sums are the column sums the code
    divides by -/
theorem rodgers_default_within (tl : List ℝ) (h : ℝ) (p : List ℝ) (hp : ∀ x ∈ p, 0 < x)
    (hlen : tl.length = p.length) (hT : Within lo hi tl) : Within lo hi (rodgers tl h none p) := by
  unfold rodgers
  simp only []
  rw [genCovariance_eq]
  refine correlateTemp_within _ _
    (List.forall_mem_map.2 fun a _ => List.forall_mem_map.2 fun b _ => (covEntry_pos h a b).le)
    (List.forall_mem_map.2 fun a _ => le_of_eq (by rw [List.length_map, hlen])) (fun i h1 h2 => ?_) hT
  rw [List.length_map] at h1
  -- column `i` is row `i`
  have hcol : (p.map fun a => p.map fun b => covEntry h a b).map (fun row => row.getD i 0)
      = p.map fun b => covEntry h p[i] b := by
    rw [List.map_map]
    refine List.map_congr_left fun a ha => ?_
    rw [Function.comp, List.getD_eq_getElem _ _ (by rwa [List.length_map]), List.getElem_map]
    exact covEntry_symm h (hp a ha) (hp _ (List.getElem_mem _))
  rw [colSums_getElem, hcol, List.getElem_map]
  exact ⟨rfl, sumL_pos _ (List.ne_nil_of_length_pos (by rw [List.length_map]; exact Nat.zero_lt_of_lt h1))
    (List.forall_mem_map.2 fun b _ => covEntry_pos h _ b)⟩

theorem correlateTemp_length (cov : List (List ℝ)) (t : List ℝ) :
    (correlateTemp cov t).length = min cov.length (cov.getD 0 []).length := by
  simp [correlateTemp, colSums_length]

theorem rodgers_default_length (tl : List ℝ) (h : ℝ) (p : List ℝ) : (rodgers tl h none p).length = p.length := by
  unfold rodgers
  simp only []
  rw [correlateTemp_length, genCovariance_eq]
  cases p with
  | nil => simp
  | cons a t => simp

theorem within_reverse {l : List ℝ} (h : Within lo hi l) : Within lo hi l.reverse :=
  fun v hv => h v (by simpa using hv)

theorem tempArrayPlain_within (tp : List ℝ) (n : Nat) (hne : 0 < tp.length) (hT : Within lo hi tp) :
    Within lo hi (tempArrayPlain tp n) := by
  unfold tempArrayPlain
  split_ifs with h
  · exact hT
  · intro v hv
    simp only [List.mem_map] at hv
    obtain ⟨x, _, rfl⟩ := hv
    apply npInterp_between
    · simp [linspace_length]
    · simpa [linspace_length] using hne
    · exact linspace_reverse_sorted 1 0 tp.length (by norm_num)
    · exact within_reverse hT

theorem tempArrayPlain_length (tp : List ℝ) (n : Nat) : (tempArrayPlain tp n).length = n := by
  unfold tempArrayPlain
  split_ifs with h
  · exact h
  · simp [linspace_length]

/-! the stable sort of `interp1d` is Mathlib's insertion sort by the abscissa -/

theorem insertByKey_eq (kv : ℝ × ℝ) (l : List (ℝ × ℝ)) :
    insertByKey kv l = l.orderedInsert (fun a b => a.1 ≤ b.1) kv := by
  induction l with
  | nil => rfl
  | cons h t ih => simp only [insertByKey, List.orderedInsert_cons, ih]

theorem sortByKey_eq (l : List (ℝ × ℝ)) : sortByKey l = l.insertionSort (fun a b => a.1 ≤ b.1) := by
  induction l with
  | nil => rfl
  | cons h t ih => rw [sortByKey, List.foldr_cons, insertByKey_eq, ← sortByKey, ih, List.insertionSort_cons]

theorem sortByKey_perm (l : List (ℝ × ℝ)) : (sortByKey l).Perm l :=
  sortByKey_eq l ▸ List.perm_insertionSort _ l

theorem sortByKey_sorted (l : List (ℝ × ℝ)) : ((sortByKey l).map (·.1)).Pairwise (· ≤ ·) := by
  rw [List.pairwise_map, sortByKey_eq]
  induction l with
  | nil => exact List.Pairwise.nil
  | cons h t ih =>
    exact pairwise_orderedInsert (r := fun a b : ℝ × ℝ => a.1 ≤ b.1) (s := fun a b => a.1 ≤ b.1) (fun _ _ => id)
      (fun _ _ hn => (not_le.1 hn).le) (fun _ _ _ => le_trans) h _ ih

theorem tempArrayPressure_within (tp pp pressure : List ℝ) (hne : 0 < tp.length)
    (hpp : 0 < pp.length) (hT : Within lo hi tp) : Within lo hi (tempArrayPressure tp pp pressure) := by
  intro v hv
  unfold tempArrayPressure at hv
  simp only [List.mem_map] at hv
  obtain ⟨p, _, rfl⟩ := hv
  split_ifs with h1 h2
  · exact getD_within hT (by omega)
  · exact getD_within hT hne
  · apply npInterp_between
    · simp
    · simp [(sortByKey_perm _).length_eq]; omega
    · exact sortByKey_sorted _
    · intro y hy
      rw [List.mem_map] at hy
      obtain ⟨kv, hkv, rfl⟩ := hy
      exact hT _ (List.of_mem_zip ((sortByKey_perm _).mem_iff.1 hkv)).2

theorem tempArrayPressure_length (tp pp pressure : List ℝ) :
    (tempArrayPressure tp pp pressure).length = pressure.length :=
  List.length_map _

theorem isZero_iff (x : ℝ) : isZero x = true ↔ x = 0 := by
  unfold isZero
  simp only [Bool.and_eq_true, Bool.not_eq_true', decide_eq_false_iff_not, not_lt]
  constructor
  · rintro ⟨h1, h2⟩; exact le_antisymm h2 h1
  · rintro rfl; exact ⟨le_refl _, le_refl _⟩

/-- `_check_values` in terms of the parameters: a zero `gamma = kappa_v / kappa_ir` is a zero `kappa_v` (or a zero
    `kappa_ir`, which the first test has caught already) -/
theorem guillot_rejected_iff (q : GuillotParams ℝ) :
    q.rejected = true ↔ q.kappaIr = 0 ∨ q.kappaV1 = 0 ∨ q.kappaV2 = 0 ∨ q.tIrr < 0 ∨ q.tInt < 0 := by
  -- each `if c then true else …` is a disjunction
  simp only [GuillotParams.rejected, Bool.if_true_left, Bool.if_false_right, Bool.or_eq_true,
    Bool.and_true, decide_eq_true_eq, isZero_iff, div_eq_zero_iff]
  constructor
  · rintro (h | ((h | h) | h | h) | h | h) <;> simp only [h, true_or, or_true]
  · rintro (h | h | h | h | h) <;> simp only [h, true_or, or_true]

end Taurex.Temperature

/-! C12, input-file route: what `Section.resolve` returns, and looking a keyword up in it. -/

namespace Taurex.C12
open Taurex.Section

theorem resolve_eq_some {κ ν : Type} [BEq κ] {defaults sec r : List (κ × ν)} (h : resolve defaults sec = some r) :
    r = defaults.map (fun kd => (kd.1, (sec.lookup kd.1).getD kd.2)) := by
  unfold resolve at h
  split at h
  · exact (Option.some.inj h).symm
  · cases h

theorem resolve_lookup {κ ν : Type} [BEq κ] [LawfulBEq κ] {defaults sec r : List (κ × ν)}
    (h : resolve defaults sec = some r) (k : κ) :
    r.lookup k = (defaults.lookup k).map (fun d => (sec.lookup k).getD d) := by
  rw [resolve_eq_some h]
  exact lookup_map_val (fun k d => (sec.lookup k).getD d) k defaults

/-- the section `alpha = 0` read against the defaults `alpha = 1, T_int = 100` -/
theorem nv_resolve :
    resolve [("alpha", (1 : Nat)), ("T_int", 100)] [("alpha", 0)] = some [("alpha", 0), ("T_int", 100)] := rfl

end Taurex.C12
