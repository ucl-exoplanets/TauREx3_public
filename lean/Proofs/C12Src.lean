/-
  Helper lemmas of the source tie of C12 (Props/C12Src.lean) that hold on any carrier: the IEEE zero test of
  `Guillot2010._check_values` against the model's `isZero`.  The order is asked about only where the code compares: each
  tested value against zero.
-/
import TaurexModel.Gen.SrcC12
import TaurexModel.Temperature

namespace Taurex.Temperature

variable {α : Type} [LT α] [LE α] [DecidableLT α] [DecidableLE α] [OfNat α 0]

/-- `x` is comparable with zero: `≤` against `0` is the negation of the opposite `<` (every real, every float but NaN) -/
def ZeroCmp (x : α) : Prop := (x ≤ 0 ↔ ¬ (0 : α) < x) ∧ ((0 : α) ≤ x ↔ ¬ x < 0)

/-- IEEE `x == 0` (`x ≤ 0 ∧ 0 ≤ x`) is the model's `isZero` (`¬ x < 0 ∧ ¬ 0 < x`) for a value comparable with zero -/
theorem eq_zero_iff_isZero_of (x : α) (h : ZeroCmp x) : (decide (x ≤ (0 : α)) && decide ((0 : α) ≤ x)) = isZero x := by
  unfold isZero
  by_cases a : x < 0 <;> by_cases b : (0 : α) < x <;> simp [h.1, h.2, a, b]

/-- `Guillot2010._check_values` raises exactly when the model says `rejected`, as soon as the three values it tests with
    `== 0` (`kappa_ir` and the two `gamma`) are comparable with zero -/
theorem guillot_check_of [Div α] (q : GuillotParams α) (hk : ZeroCmp q.kappaIr) (h1 : ZeroCmp (q.kappaV1 / q.kappaIr))
    (h2 : ZeroCmp (q.kappaV2 / q.kappaIr)) :
    Gen.SrcC12.guillot_check_values q.tInt q.tIrr q.kappaIr q.kappaV1 q.kappaV2 = q.rejected := by
  unfold Gen.SrcC12.guillot_check_values GuillotParams.rejected
  simp only [eq_zero_iff_isZero_of _ hk, eq_zero_iff_isZero_of _ h1, eq_zero_iff_isZero_of _ h2]

end Taurex.Temperature
