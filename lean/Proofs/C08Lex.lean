/-
  The print/parse round trip of the prior text syntax.  Token level: `parseArgs (printArgs as) = as`, along the printer.
  Character level: the lexer recovers a printed token sequence: `lexAux (render ts) = ts` when every identifier and
  number of `ts` is well formed and is followed by punctuation (`SepOK`); hence `parsePrior (printPrior c) = some c`.
  The proof follows the lexer: what it does at one character of each kind, then induction over the tokens.
-/
import TaurexModel.Priors

namespace Taurex.C08
open Taurex.Priors

/-! ### tokens -/

theorem parseSeq_close (close : Tok) (rest : List Tok) : parseSeq close (close :: rest) = some ([], false, rest) := by
  unfold parseSeq
  simp

theorem parseSeq_printSeq (close : Tok) (hc : close = Tok.rpar ∨ close = Tok.rbr) (x : String) (xs : List String)
    (rest : List Tok) :
    parseSeq close (printSeq (x :: xs) ++ close :: rest) = some (x :: xs, !xs.isEmpty, rest) := by
  induction xs generalizing x with
  | nil =>
    rcases hc with rfl | rfl <;> (unfold parseSeq; simp [printSeq])
  | cons y ys ih =>
    have h := ih y
    simp only [printSeq, List.cons_append] at h ⊢
    rcases hc with rfl | rfl <;> (unfold parseSeq; simp [h])

theorem parseVal_printVal (v : ArgVal String) (rest : List Tok) : parseVal (printVal v ++ rest) = some (v, rest) := by
  cases v with
  | num x => simp [printVal, parseVal]
  | tuple xs =>
    match xs with
    | [] => simp [printVal, parseVal, parseSeq_close]
    | [x] =>
      have h : parseSeq Tok.rpar (Tok.num x :: Tok.comma :: Tok.rpar :: rest) = some ([x], true, rest) := by
        unfold parseSeq
        simp [parseSeq_close]
      simp [printVal, parseVal, h]
    | x :: y :: r =>
      have := parseSeq_printSeq Tok.rpar (Or.inl rfl) x (y :: r) rest
      simp only [printVal, List.cons_append, List.append_assoc, List.nil_append, parseVal]
      rw [this]
  | list xs =>
    match xs with
    | [] => simp [printVal, printSeq, parseVal, parseSeq_close]
    | x :: r =>
      have := parseSeq_printSeq Tok.rbr (Or.inr rfl) x r rest
      simp only [printVal, List.cons_append, List.append_assoc, List.nil_append, parseVal]
      rw [this]

theorem parseArgs_printArgs (as : List (String × ArgVal String)) :
    ∀ (fuel : Nat), as.length < fuel → parseArgs fuel (printArgs as) = some (as, []) := by
  induction as with
  | nil =>
    intro fuel h
    cases fuel with
    | zero => simp at h
    | succ f => simp [printArgs, parseArgs]
  | cons a as ih =>
    intro fuel h
    obtain ⟨k, v⟩ := a
    cases fuel with
    | zero => simp at h
    | succ f =>
      cases as with
      | nil =>
        simp only [printArgs, List.cons_append]
        rw [parseArgs, parseVal_printVal v [Tok.rpar]]
      | cons b bs =>
        have hf : (b :: bs).length < f := by simpa using h
        have := ih f hf
        simp only [printArgs, List.cons_append]
        rw [parseArgs, parseVal_printVal v (Tok.comma :: printArgs (b :: bs))]
        simp only
        rw [this]
        rfl

theorem length_printArgs_ge (as : List (String × ArgVal String)) : as.length < (printArgs as).length + 1 := by
  induction as with
  | nil => simp [printArgs]
  | cons a as ih =>
    obtain ⟨k, v⟩ := a
    cases as with
    | nil => simp [printArgs]
    | cons b bs =>
      simp only [printArgs, List.length_cons, List.length_append] at ih ⊢
      omega

/-! ### characters -/

theorem spanP_append (p : Char → Bool) (l₁ l₂ : List Char) (h₁ : ∀ c ∈ l₁, p c = true)
    (h₂ : match l₂ with | [] => True | d :: _ => p d = false) : spanP p (l₁ ++ l₂) = (l₁, l₂) := by
  induction l₁ with
  | nil =>
    cases l₂ with
    | nil => rfl
    | cons d r => simp only [List.nil_append, spanP]; simp only at h₂; simp [h₂]
  | cons c cs ih =>
    have hc : p c = true := h₁ c (by simp)
    have := ih (fun x hx => h₁ x (by simp [hx]))
    simp only [List.cons_append, spanP, hc, if_true, this]

/-- a number literal of the documented form -/
structure Lit where
  sign : List Char
  ip : List Char
  frac : Option (List Char)
  exp : Option (Char × List Char × List Char)

def Lit.mant (l : Lit) : List Char :=
  l.ip ++ (match l.frac with | none => [] | some fp => '.' :: fp)

def Lit.expChars (l : Lit) : List Char :=
  match l.exp with | none => [] | some (e, s, d) => e :: s ++ d

def Lit.chars (l : Lit) : List Char := l.sign ++ l.mant ++ l.expChars

def okSign (s : List Char) : Prop := s = [] ∨ s = ['+'] ∨ s = ['-']
def allDigits (d : List Char) : Prop := ∀ c ∈ d, isDigitsChar c = true

instance (d : List Char) : Decidable (allDigits d) := by unfold allDigits; infer_instance

/-- the literal has the documented form: optional sign, digits with an optional fraction and at least one digit on
    one side of the point, optional exponent (`e`/`E`, optional sign, at least one digit) -/
def Lit.valid (l : Lit) : Prop :=
  okSign l.sign ∧ allDigits l.ip ∧
  (match l.frac with
    | none => l.ip ≠ []
    | some fp => allDigits fp ∧ (l.ip ≠ [] ∨ fp ≠ [])) ∧
  (match l.exp with
    | none => True
    | some (e, s, d) => isExpMark e = true ∧ okSign s ∧ d ≠ [] ∧ allDigits d)

instance (l : Lit) : Decidable l.valid := by
  obtain ⟨sg, ip, frac, exp⟩ := l
  unfold Lit.valid okSign
  rcases frac with _ | fp <;> rcases exp with _ | ⟨e, s, d⟩ <;> exact inferInstance

/-- at `c` the lexer takes the number branch -/
abbrev numBranch (c : Char) : Prop :=
  (c == ' ') = false ∧ punctOf c = none ∧ isIdentStart c = false ∧ isNumStart c = true

theorem digit_props (c : Char) (h : isDigitsChar c = true) :
    isSign c = false ∧ c ≠ '.' ∧ isExpMark c = false ∧ isIdentChar c = true ∧ numBranch c := by
  have table : ∀ d ∈ ['0', '1', '2', '3', '4', '5', '6', '7', '8', '9'],
      isSign d = false ∧ d ≠ '.' ∧ isExpMark d = false ∧ isIdentChar d = true ∧ numBranch d := by decide +kernel
  exact table c (List.contains_iff_mem.1 h)

theorem expmark_props (c : Char) (h : isExpMark c = true) :
    isDigitsChar c = false ∧ c ≠ '.' ∧ isIdentChar c = true := by
  simp only [isExpMark, Bool.or_eq_true, beq_iff_eq] at h
  rcases h with rfl | rfl <;> decide +kernel

theorem identStart_props (c : Char) (h : isIdentStart c = true) : (c == ' ') = false ∧ punctOf c = none := by
  have key : ∀ x, isIdentStart x = false → (c == x) = false := by
    intro x hx
    cases hc : c == x
    · rfl
    · rw [beq_iff_eq] at hc; rw [hc, hx] at h; cases h
  refine ⟨key ' ' (by decide), ?_⟩
  simp [punctOf, key '(' (by decide), key ')' (by decide), key '[' (by decide), key ']' (by decide),
    key ',' (by decide), key '=' (by decide)]

/-- first character of the text after a token: not something a token could continue with -/
def stops (rest : List Char) : Prop :=
  match rest with
  | [] => True
  | d :: _ => isIdentChar d = false ∧ d ≠ '.' ∧ isSign d = false

def noDigitDot (rest : List Char) : Prop :=
  match rest with
  | [] => True
  | d :: _ => isDigitsChar d = false ∧ d ≠ '.'

theorem stops_noDigitDot (rest : List Char) (h : stops rest) : noDigitDot rest := by
  cases rest with
  | nil => trivial
  | cons d r =>
    refine ⟨?_, h.2.1⟩
    cases hd : isDigitsChar d
    · rfl
    · exact absurd (digit_props d hd).2.2.2.1 (by rw [h.1]; simp)

theorem takeSign_append (s rest : List Char) (hs : okSign s)
    (hr : s = [] → match rest with | [] => True | d :: _ => isSign d = false) :
    takeSign (s ++ rest) = (s, rest) := by
  rcases hs with rfl | rfl | rfl
  · cases rest with
    | nil => rfl
    | cons d r =>
      have := hr rfl
      simp only at this
      simp [takeSign, this]
  · rfl
  · rfl

theorem spanDigits_append (d rest : List Char) (hd : allDigits d) (hr : noDigitDot rest) :
    spanP isDigitsChar (d ++ rest) = (d, rest) := by
  apply spanP_append _ _ _ hd
  cases rest with
  | nil => trivial
  | cons c r => exact hr.1

theorem lexMantissa_int (ip rest : List Char) (hip : allDigits ip) (hne : ip ≠ []) (hr : noDigitDot rest) :
    lexMantissa (ip ++ rest) = some (ip, rest) := by
  unfold lexMantissa
  rw [spanDigits_append ip rest hip hr]
  cases rest with
  | nil => simp only [List.isEmpty_eq_false_iff.2 hne, Bool.false_eq_true, if_false]
  | cons c r => simp only [beq_eq_false_iff_ne.2 hr.2, List.isEmpty_eq_false_iff.2 hne, Bool.false_eq_true, if_false]

theorem lexMantissa_frac (ip fp rest : List Char) (hip : allDigits ip) (hfp : allDigits fp) (hne : ip ≠ [] ∨ fp ≠ [])
    (hr : noDigitDot rest) : lexMantissa (ip ++ '.' :: fp ++ rest) = some (ip ++ '.' :: fp, rest) := by
  unfold lexMantissa
  have h1 : spanP isDigitsChar (ip ++ ('.' :: fp ++ rest)) = (ip, '.' :: (fp ++ rest)) :=
    spanP_append _ ip ('.' :: (fp ++ rest)) hip (show isDigitsChar '.' = false by decide)
  have h2 : (ip.isEmpty && fp.isEmpty) = false := by
    rcases hne with h | h
    · rw [List.isEmpty_eq_false_iff.2 h]; rfl
    · rw [List.isEmpty_eq_false_iff.2 h, Bool.and_false]
  rw [List.append_assoc, h1]
  simp only [beq_self_eq_true, if_true, spanDigits_append fp rest hfp hr, h2, Bool.false_eq_true, if_false]

theorem lexMantissa_append (l : Lit) (hv : l.valid) (rest : List Char) (hr : noDigitDot rest) :
    lexMantissa (l.mant ++ rest) = some (l.mant, rest) := by
  obtain ⟨_, hip, hfrac, _⟩ := hv
  unfold Lit.mant
  cases hf : l.frac with
  | none =>
    rw [hf] at hfrac
    rw [List.append_nil]
    exact lexMantissa_int l.ip rest hip hfrac hr
  | some fp =>
    rw [hf] at hfrac
    exact lexMantissa_frac l.ip fp rest hip hfrac.1 hfrac.2 hr

theorem lexExpTail_append (pre : List Char) (e : Char) (s d rest : List Char) (hs : okSign s) (hd : allDigits d)
    (hne : d ≠ []) (hr : noDigitDot rest) : lexExpTail pre e (s ++ d ++ rest) = some (pre ++ e :: s ++ d, rest) := by
  unfold lexExpTail
  have h : takeSign (s ++ d ++ rest) = (s, d ++ rest) := by
    rw [List.append_assoc]
    apply takeSign_append _ _ hs
    intro _
    cases d with
    | nil => exact absurd rfl hne
    | cons x xs => exact (digit_props x (hd x (by simp))).1
  rw [h]
  simp only
  rw [spanDigits_append d rest hd hr]
  simp [List.isEmpty_eq_false_iff.2 hne]

theorem mant_head (l : Lit) (hv : l.valid) : ∃ c r, l.mant = c :: r ∧ isSign c = false ∧ numBranch c := by
  obtain ⟨_, hip, hfrac, _⟩ := hv
  unfold Lit.mant
  cases hi : l.ip with
  | cons c r =>
    have := digit_props c (hip c (by simp [hi]))
    exact ⟨c, _, rfl, this.1, this.2.2.2.2⟩
  | nil =>
    cases hf : l.frac with
    | none => simp only [hf] at hfrac; exact absurd hi hfrac
    | some fp => exact ⟨'.', fp, rfl, by decide +kernel, by decide +kernel⟩

theorem chars_head (l : Lit) (hv : l.valid) : ∃ c r, l.chars = c :: r ∧ numBranch c := by
  obtain ⟨c, r, hm, _, hc⟩ := mant_head l hv
  unfold Lit.chars
  rcases hv.1 with hs | hs | hs <;> rw [hs]
  · exact ⟨c, r ++ l.expChars, by rw [hm]; rfl, hc⟩
  · exact ⟨'+', _, rfl, by decide +kernel⟩
  · exact ⟨'-', _, rfl, by decide +kernel⟩

theorem lexNumber_append (l : Lit) (hv : l.valid) (rest : List Char) (hr : stops rest) :
    lexNumber (l.chars ++ rest) = some (l.chars, rest) := by
  obtain ⟨c, r, hm, hc, _⟩ := mant_head l hv
  obtain ⟨hsign, _, _, hexp⟩ := id hv
  unfold lexNumber Lit.chars
  have h1 : takeSign (l.sign ++ l.mant ++ l.expChars ++ rest) = (l.sign, l.mant ++ (l.expChars ++ rest)) := by
    rw [List.append_assoc, List.append_assoc]
    apply takeSign_append _ _ hsign
    intro _
    rw [hm]
    exact hc
  have h2 : noDigitDot (l.expChars ++ rest) := by
    unfold Lit.expChars
    cases he : l.exp with
    | none => exact stops_noDigitDot rest hr
    | some esd =>
      simp only [he] at hexp
      exact ⟨(expmark_props _ hexp.1).1, (expmark_props _ hexp.1).2.1⟩
  rw [h1]
  simp only
  rw [lexMantissa_append l hv _ h2]
  simp only
  unfold Lit.expChars
  cases he : l.exp with
  | none =>
    simp only [List.nil_append, List.append_nil]
    cases rest with
    | nil => rfl
    | cons d r' =>
      -- an exponent marker is an identifier character, which `d` is not
      have hd : isExpMark d = false := by
        cases hx : isExpMark d
        · rfl
        · exact absurd (expmark_props d hx).2.2 (by rw [hr.1]; simp)
      simp [hd]
  | some esd =>
    obtain ⟨e, s, d⟩ := esd
    simp only [he] at hexp
    obtain ⟨he1, hs, hdne, hd⟩ := hexp
    simp only [List.cons_append, he1, if_true]
    rw [lexExpTail_append _ e s d rest hs hd hdne (stops_noDigitDot rest hr)]
    simp

theorem lexAux_blank (f : Nat) (cs : List Char) : lexAux (f + 1) (' ' :: cs) = lexAux f cs := by
  simp [lexAux]

theorem lexAux_punct {c : Char} {t : Tok} (h : punctOf c = some t) (f : Nat) (cs : List Char) :
    lexAux (f + 1) (c :: cs) = (lexAux f cs).map (t :: ·) := by
  have hb : (c == ' ') = false := by
    cases hc : c == ' '
    · rfl
    · rw [beq_iff_eq.1 hc, show punctOf ' ' = none by decide] at h; cases h
  simp [lexAux, hb, h]

theorem lexAux_ident {c : Char} (hc : isIdentStart c = true) (f : Nat) (cs : List Char) :
    lexAux (f + 1) (c :: cs) = (lexAux f (spanP isIdentChar (c :: cs)).2).map
      (Tok.ident (String.ofList (spanP isIdentChar (c :: cs)).1) :: ·) := by
  obtain ⟨h1, h2⟩ := identStart_props c hc
  rw [lexAux]
  simp only [h1, h2, hc, if_true, Bool.false_eq_true, if_false]

theorem lexAux_num {c : Char} (hc : numBranch c) {cs w r : List Char} (hn : lexNumber (c :: cs) = some (w, r))
    (hr : stops r) (f : Nat) : lexAux (f + 1) (c :: cs) = (lexAux f r).map (Tok.num (String.ofList w) :: ·) := by
  obtain ⟨h1, h2, h3, h4⟩ := hc
  rw [lexAux]
  simp only [h1, h2, h3, h4, hn, if_true, Bool.false_eq_true, if_false]
  cases r with
  | nil => rfl
  | cons d r' =>
    have : (isIdentChar d || d == '.') = false := by
      simp only [Bool.or_eq_false_iff, beq_eq_false_iff_ne]
      exact ⟨hr.1, hr.2.1⟩
    simp only [this, Bool.false_eq_true, if_false]

def isPunct : Tok → Bool
  | .ident _ => false
  | .num _ => false
  | _ => true

def nextPunct : List Tok → Prop
  | [] => True
  | t :: _ => isPunct t = true

/-- a Python identifier: a letter or `_`, then letters, digits, `_` -/
def WFident (s : String) : Prop :=
  ∃ c cs, s.toList = c :: cs ∧ isIdentStart c = true ∧ ∀ x ∈ c :: cs, isIdentChar x = true

/-- the text of a number literal of the documented form -/
def WFnum (s : String) : Prop := ∃ l : Lit, l.valid ∧ s.toList = l.chars

/-- every identifier and number is well formed and followed by punctuation (or the end), so that printing the tokens
    one after the other does not merge two of them -/
def SepOK : List Tok → Prop
  | [] => True
  | .ident s :: rest => WFident s ∧ nextPunct rest ∧ SepOK rest
  | .num s :: rest => WFnum s ∧ nextPunct rest ∧ SepOK rest
  | _ :: rest => SepOK rest

/-- a punctuation token is printed as its character, the comma with a blank after it -/
theorem punct_chars (t : Tok) (h : isPunct t = true) :
    ∃ c, punctOf c = some t ∧ (tokChars t = [c] ∨ tokChars t = [c, ' ']) := by
  cases t with
  | ident _ => cases h
  | num _ => cases h
  | comma => exact ⟨',', rfl, Or.inr rfl⟩
  | lpar => exact ⟨'(', rfl, Or.inl rfl⟩
  | rpar => exact ⟨')', rfl, Or.inl rfl⟩
  | lbr => exact ⟨'[', rfl, Or.inl rfl⟩
  | rbr => exact ⟨']', rfl, Or.inl rfl⟩
  | eq => exact ⟨'=', rfl, Or.inl rfl⟩

theorem stops_render (ts : List Tok) (h : nextPunct ts) : stops (render ts) := by
  cases ts with
  | nil => trivial
  | cons t ts =>
    cases t <;> first | (simp only [render, tokChars, List.cons_append, stops]; decide +kernel) | cases h

theorem SepOK_punct {t : Tok} {ts : List Tok} (ht : isPunct t = true) (h : SepOK (t :: ts)) : SepOK ts := by
  cases t <;> first | exact h | cases ht

/-- the lexer spends one unit of fuel where it consumes at least one character -/
theorem fuel_step {c : Char} {cs rest : List Char} {fuel : Nat} (h : (c :: cs ++ rest).length < fuel) :
    ∃ f, fuel = f + 1 ∧ rest.length < f := by
  cases fuel with
  | zero => exact absurd h (Nat.not_lt_zero _)
  | succ f =>
    have : rest.length ≤ (cs ++ rest).length := by rw [List.length_append]; exact Nat.le_add_left _ _
    exact ⟨f, rfl, Nat.lt_of_le_of_lt this (Nat.lt_of_succ_lt_succ h)⟩

theorem lexAux_render : ∀ (ts : List Tok) (fuel : Nat), SepOK ts → (render ts).length < fuel →
    lexAux fuel (render ts) = some ts := by
  intro ts
  induction ts with
  | nil => intro fuel _ _; cases fuel <;> rfl
  | cons t ts ih =>
    intro fuel hsep hlen
    cases ht : isPunct t with
    | true =>
      have hrest := SepOK_punct ht hsep
      obtain ⟨c, hc, hch | hch⟩ := punct_chars t ht <;> rw [render, hch] at hlen ⊢
      · obtain ⟨f, rfl, hl⟩ := fuel_step (cs := []) hlen
        rw [List.singleton_append, lexAux_punct hc, ih f hrest hl]
        rfl
      · obtain ⟨f, rfl, hl⟩ := fuel_step (cs := []) (rest := ' ' :: render ts) hlen
        obtain ⟨f, rfl, hl'⟩ := fuel_step (cs := []) hl
        rw [List.cons_append, List.singleton_append, lexAux_punct hc, lexAux_blank, ih f hrest hl']
        rfl
    | false =>
      cases t with
      | ident s =>
        obtain ⟨⟨c, cs, hs, hc, hall⟩, hnp, hrest⟩ := hsep
        have hspan : spanP isIdentChar (c :: cs ++ render ts) = (c :: cs, render ts) := by
          apply spanP_append _ _ _ hall
          have hst := stops_render ts hnp
          cases hr : render ts with
          | nil => trivial
          | cons d r => rw [hr] at hst; exact hst.1
        rw [render, tokChars, hs] at hlen ⊢
        obtain ⟨f, rfl, hl⟩ := fuel_step hlen
        rw [List.cons_append, lexAux_ident hc, ← List.cons_append, hspan, ih f hrest hl, ← hs, String.ofList_toList]
        rfl
      | num s =>
        obtain ⟨⟨l, hv, hs⟩, hnp, hrest⟩ := hsep
        have hst := stops_render ts hnp
        obtain ⟨c, r, hch, hc⟩ := chars_head l hv
        have hnum := lexNumber_append l hv (render ts) hst
        rw [hch, List.cons_append] at hnum
        rw [render, tokChars, hs, hch] at hlen ⊢
        obtain ⟨f, rfl, hl⟩ := fuel_step hlen
        rw [List.cons_append, lexAux_num hc hnum hst, ih f hrest hl, ← hch, ← hs, String.ofList_toList]
        rfl
      | _ => cases ht

theorem SepOK_printSeq (xs : List String) (rest : List Tok) (hx : ∀ x ∈ xs, WFnum x) (hr : SepOK rest)
    (hn : nextPunct rest) : SepOK (printSeq xs ++ rest) := by
  match xs with
  | [] => simpa [printSeq] using hr
  | [x] => exact ⟨hx x (by simp), hn, hr⟩
  | x :: y :: r =>
    have ih := SepOK_printSeq (y :: r) rest (fun z hz => hx z (by simp [hz])) hr hn
    simp only [printSeq, List.cons_append]
    exact ⟨hx x (by simp), rfl, ih⟩

/-- every number of the value is a literal of the documented form -/
def WFval : ArgVal String → Prop
  | .num x => WFnum x
  | .tuple xs => ∀ x ∈ xs, WFnum x
  | .list xs => ∀ x ∈ xs, WFnum x

theorem SepOK_printVal (v : ArgVal String) (rest : List Tok) (hv : WFval v) (hr : SepOK rest) (hn : nextPunct rest) :
    SepOK (printVal v ++ rest) := by
  cases v with
  | num x => exact ⟨hv, hn, hr⟩
  | tuple xs =>
    match xs with
    | [] => exact hr
    | [x] => exact ⟨hv x (by simp), rfl, hr⟩
    | x :: y :: r =>
      have := SepOK_printSeq (x :: y :: r) (Tok.rpar :: rest) hv hr rfl
      simpa [printVal, SepOK] using this
  | list xs =>
    have := SepOK_printSeq xs (Tok.rbr :: rest) hv hr rfl
    simpa [printVal, SepOK] using this

/-- what `parse_print` asks of a description: class name and keywords are identifiers, numbers are literals -/
def WFCall (c : Call String) : Prop := WFident c.fn ∧ ∀ a ∈ c.args, WFident a.1 ∧ WFval a.2

theorem SepOK_printArgs (as : List (String × ArgVal String)) (h : ∀ a ∈ as, WFident a.1 ∧ WFval a.2) :
    SepOK (printArgs as) := by
  match as with
  | [] => exact trivial
  | [(k, v)] =>
    have hk := h (k, v) (by simp)
    exact ⟨hk.1, rfl, SepOK_printVal v [Tok.rpar] hk.2 trivial rfl⟩
  | (k, v) :: a :: r =>
    have hk := h (k, v) (by simp)
    have ih := SepOK_printArgs (a :: r) (fun z hz => h z (by simp [hz]))
    exact ⟨hk.1, rfl, SepOK_printVal v (Tok.comma :: printArgs (a :: r)) hk.2 ih rfl⟩

theorem lex_render_printToks (c : Call String) (h : WFCall c) : lex (printChars c) = some (printToks c) := by
  unfold lex printChars
  obtain ⟨x, xs, hs, hx, _⟩ := h.1
  have hhead : (render (printToks c)).head? = some x := by
    simp [printToks, render, tokChars, hs]
  have hx' := (identStart_props x hx).1
  rw [hhead]
  have : (some x == some ' ') = false := by simpa using hx'
  simp only [this, Bool.false_eq_true, if_false]
  exact lexAux_render _ _ ⟨h.1, rfl, SepOK_printArgs c.args h.2⟩ (Nat.lt_succ_self _)

end Taurex.C08
