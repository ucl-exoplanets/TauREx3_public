/-
  The scanner `go` behind `sanitize` (TaurexModel/Sanitize.lean): what it keeps starts with an upper-case letter, so scanning its
  own output changes nothing (`go_idem`), and it keeps letters and digits only (`go_alnum`); splitting a name at a separator.
  Core only.
-/
import TaurexModel.Sanitize

namespace Taurex.Sanitize

/-- the character classes of the scanner are disjoint -/
theorem isUp_excl {c : Char} (h : isUp c = true) : isLo c = false ∧ isDg c = false := by
  unfold isUp at h; unfold isLo isDg
  simp only [Bool.and_eq_true, decide_eq_true_eq] at h
  simp only [Bool.and_eq_false_iff, decide_eq_false_iff_not]
  omega

theorem go_nil (s : St) : go s [] = [] := by cases s <;> rfl

theorem go_cons (s : St) (c : Char) (cs : List Char) :
    go s (c :: cs) =
      if (s = St.up && isLo c) = true then c :: go St.dg cs
      else if ((s = St.up || s = St.dg) && isDg c) = true then c :: go St.dg cs
      else if isUp c = true then c :: go St.up cs
      else go St.out cs := by
  cases s <;> rfl

theorem go_up_head (s : St) {c : Char} (r : List Char) (h : isUp c = true) :
    go s (c :: r) = c :: go St.up r := by
  rw [go_cons]
  simp [(isUp_excl h).1, (isUp_excl h).2, h]

theorem go_out_head (cs : List Char) :
    go St.out cs = [] ∨ ∃ c r, go St.out cs = c :: r ∧ isUp c = true := by
  induction cs with
  | nil => left; rfl
  | cons c cs ih =>
    rw [go_cons]
    by_cases hu : isUp c = true
    · right; exact ⟨c, go St.up cs, by simp [hu], hu⟩
    · simpa [hu] using ih

theorem go_idem (s : St) (cs : List Char) : go s (go s cs) = go s cs := by
  fun_induction go s cs with
  | case1 s => exact go_nil s
  | case2 s c cs h1 ih => rw [go_cons, if_pos h1, ih]
  | case3 s c cs h1 h2 ih => rw [go_cons, if_neg h1, if_pos h2, ih]
  | case4 s c cs h1 h2 h3 ih => rw [go_up_head s _ h3, ih]
  | case5 s c cs h1 h2 h3 ih =>
    -- what follows a rejected character is empty or starts a new match, whatever the state
    rcases go_out_head cs with h0 | ⟨c', r, h0, hu⟩
    · rw [h0, go_nil]
    · have e : go s (go St.out cs) = go St.out (go St.out cs) := by rw [h0, go_up_head s r hu, go_up_head St.out r hu]
      exact e.trans ih

def isAlnum (c : Char) : Bool := isUp c || isLo c || isDg c

theorem go_alnum (s : St) (cs : List Char) : ∀ c ∈ go s cs, isAlnum c = true := by
  fun_induction go s cs with
  | case1 => nofun
  | case2 s c cs h1 ih =>
    exact List.forall_mem_cons.mpr ⟨by simp only [Bool.and_eq_true] at h1; simp [isAlnum, h1.2], ih⟩
  | case3 s c cs h1 h2 ih =>
    exact List.forall_mem_cons.mpr ⟨by simp only [Bool.and_eq_true] at h2; simp [isAlnum, h2.2], ih⟩
  | case4 s c cs h1 h2 h3 ih => exact List.forall_mem_cons.mpr ⟨by simp [isAlnum, h3], ih⟩
  | case5 s c cs h1 h2 h3 ih => exact ih

theorem takeWhile_append_sep {p : Char → Bool} (x : Char) (hx : p x = false) (l r : List Char)
    (h : ∀ c ∈ l, p c = true) : (l ++ x :: r).takeWhile p = l := by
  rw [List.takeWhile_append_of_pos h, List.takeWhile_cons_of_neg (by simp [hx]), List.append_nil]

theorem takeWhile_all {p : Char → Bool} (l : List Char) (h : ∀ c ∈ l, p c = true) : l.takeWhile p = l := by
  simpa using List.takeWhile_append_of_pos (l₂ := []) h

theorem ne_sep_of_not_mem {sep : Char} {l : List Char} (h : sep ∉ l) : ∀ c ∈ l, (c != sep) = true := by
  intro c hc
  rcases Decidable.em (c = sep) with rfl | hne
  · exact absurd hc h
  · simpa using hne

theorem alnum_ne {c : Char} (h : isAlnum c = true) (sep : Char) (hs : isAlnum sep = false) : (c != sep) = true := by
  rcases Decidable.em (c = sep) with rfl | hne
  · rw [h] at hs; cases hs
  · simpa using hne

end Taurex.Sanitize
