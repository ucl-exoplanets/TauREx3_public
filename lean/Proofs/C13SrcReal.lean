/-
  C13 source tie over ℝ: on a strictly increasing native grid the second `np.array_equal` test of `Opacity.opacity` (on the
  bracketing index range) agrees with the first one (on the native points inside the requested range), which is what the
  model `Grid.opacityOnGrid` assumes by re-using the outcome of the first test.
-/
import Proofs.C13Lemmas
import Proofs.C13SrcNp

namespace Taurex.C13Src
open Taurex.Grid Taurex.C13L

/-- on a strictly increasing native grid, if the bracketing slice is the request then so are the native points inside the
    requested range (contrapositive: the second `np.array_equal` test fails whenever the first has failed; the code runs
    the second only then, so the converse is not needed) -/
theorem second_test_agrees (W req : List ℝ) (hs : W.Pairwise (· < ·)) (hreq : req ≠ []) :
    eqL (W.filter (inRange req)) req = false → bracketEq W req = false := by
  rw [← Bool.not_eq_true, ← Bool.not_eq_true, eqL_iff, bracketEq, eqL_iff]
  refine mt fun h => ?_
  -- `cR`, `cL` count the elements `≤ min req`, `< max req`; on the increasing `W` these are prefixes
  obtain ⟨hR, -⟩ := countP_prefix (· < ·) (fun a : ℝ => a ≤ minL req) (fun _ _ hxy hy => hxy.le.trans hy) W hs
  obtain ⟨-, hL⟩ := countP_prefix (· < ·) (fun a : ℝ => a < maxL req) (fun _ _ hxy hy => hxy.trans hy) W hs
  change ∀ x ∈ W.take (Interp.searchRight W (minL req)), _ at hR
  change ∀ x ∈ W.drop (Interp.searchLeft W (maxL req)), _ at hL
  revert h hR hL
  generalize Interp.searchRight W (minL req) = cR
  generalize Interp.searchLeft W (maxL req) = cL
  intro h hR hL
  -- the slice `W[cR-1 : min cL (n-1) + 1]` is the request, so it is not empty
  have hk : cR - 1 < min cL (W.length - 1) + 1 ∧ cR - 1 < W.length := by
    by_contra hc
    have : (W.drop (cR - 1)).take (min cL (W.length - 1) + 1 - (cR - 1)) = [] := by
      rw [List.take_eq_nil_iff, List.drop_eq_nil_iff]; omega
    exact hreq (h ▸ this)
  have hout : ∀ x, x < minL req ∨ maxL req < x → inRange req x = false := fun x hx => by
    simp only [inRange, Bool.and_eq_false_iff, decide_eq_false_iff_not, not_le]; exact hx
  -- the filter rejects what lies before and after the slice and keeps the slice
  rw [filter_segment _ W (cR - 1) (min cL (W.length - 1) + 1 - (cR - 1))
    (fun x hx => hout x (.inl ?_)) (fun x hx => hout x (.inr ?_)), h]
  · refine List.filter_eq_self.2 fun x hx => ?_
    simp only [inRange, Bool.and_eq_true, decide_eq_true_eq]
    exact ⟨minL_le req x hx, maxL_ge req x hx⟩
  · -- before: below `W[cR-1]`, one of the first `cR` elements, which are `≤ min req`
    have hcR : 0 < cR := by
      rcases Nat.eq_zero_or_pos cR with rfl | h0
      · simp at hx
      · exact h0
    have h1 := (sorted_around W hs (cR - 1) hk.2).1 x hx
    have h2 := hR _ (List.mem_take_iff_getElem.2 ⟨cR - 1, by omega, rfl⟩)
    exact h1.trans_le h2
  · -- after: above `W[cL]`, which is not one of the first `cL` elements, the ones `< max req`
    rw [show cR - 1 + (min cL (W.length - 1) + 1 - (cR - 1)) = min cL (W.length - 1) + 1 by omega] at hx
    have hcL : cL < W.length := by
      by_contra hc
      rw [List.drop_eq_nil_of_le (by omega)] at hx
      simp at hx
    rw [show min cL (W.length - 1) = cL by omega] at hx
    have h1 := (sorted_around W hs cL hcL).2 x hx
    have h2 := hL _ (List.mem_drop_iff_getElem.2 ⟨0, by simpa using hcL, rfl⟩)
    exact (not_lt.1 h2).trans_lt h1

end Taurex.C13Src
