/-
  The rank-strided slices `xs[r::size]`, `r = 0 … size-1`, form a permutation of `xs` (pure List/Nat), by the general fact
  that the groups of a list without repetitions by a key below `m` hold every element once (`flatten_groups_perm`).
-/
import TaurexModel.Variance
import Mathlib.Data.List.Perm.Basic
import Mathlib.Data.List.Basic
import Mathlib.Data.List.Nodup

namespace Taurex.Variance

theorem stride_pred {r size : ℕ} (hr : r < size) (i : ℕ) :
    (decide (r ≤ i) && (i - r) % size == 0) = decide (i % size = r) := by
  rw [beq_eq_decide, ← Bool.decide_and]
  refine decide_eq_decide.2 ⟨?_, fun h => ?_⟩
  · rintro ⟨hle, hd⟩
    obtain ⟨k, hk⟩ := Nat.dvd_of_mod_eq_zero hd
    have hi : i = r + size * k := by omega
    rw [hi, Nat.add_mul_mod_self_left, Nat.mod_eq_of_lt hr]
  · exact ⟨h ▸ Nat.mod_le i size, Nat.sub_mod_eq_zero_of_mod_eq (by rw [h, Nat.mod_eq_of_lt hr])⟩

/-- grouping a list without repetitions by a key below `m`: the groups `key = 0`, …, `key = m-1` hold every element once -/
theorem flatten_groups_perm {β : Type} (key : β → ℕ) {L : List β} (hL : L.Nodup) (m : ℕ) (hk : ∀ x ∈ L, key x < m) :
    ((List.range m).map (fun r => L.filter (fun x => decide (key x = r)))).flatten.Perm L := by
  refine (List.perm_ext_iff_of_nodup (List.nodup_flatten.2 ⟨?_, ?_⟩) hL).2 fun x => ?_
  · intro l hl
    obtain ⟨r, _, rfl⟩ := List.mem_map.1 hl
    exact hL.filter _
  · refine List.pairwise_map.2 (List.pairwise_lt_range.imp fun {a b} hab x ha hb => ?_)
    have h1 := (List.mem_filter.1 ha).2
    have h2 := (List.mem_filter.1 hb).2
    simp only [decide_eq_true_eq] at h1 h2
    omega
  · simp only [List.mem_flatten, List.mem_map, List.mem_range]
    constructor
    · rintro ⟨l, ⟨r, _, rfl⟩, hx⟩; exact (List.mem_filter.1 hx).1
    · intro hx; exact ⟨_, ⟨key x, hk x hx, rfl⟩, List.mem_filter.2 ⟨hx, by simp⟩⟩

theorem strided_eq {β : Type} {r size : ℕ} (hr : r < size) (xs : List β) :
    strided r size xs = (xs.zipIdx.filter (fun p => decide (p.2 % size = r))).map (·.1) := by
  unfold strided
  congr 1
  apply List.filter_congr
  intro p _
  exact stride_pred hr p.2

theorem partition_flatten_perm {β : Type} {size : ℕ} (hs : 0 < size) (xs : List β) :
    (partition size xs).flatten.Perm xs := by
  unfold partition
  have h1 : (List.range size).map (fun r => strided r size xs) =
      ((List.range size).map (fun r => xs.zipIdx.filter (fun p => decide (p.2 % size = r)))).map
        (List.map (·.1)) := by
    rw [List.map_map]
    apply List.map_congr_left
    intro r hr
    exact strided_eq (List.mem_range.1 hr) xs
  rw [h1, ← List.map_flatten]
  have h2 := (flatten_groups_perm (fun p : β × ℕ => p.2 % size) (L := xs.zipIdx)
    (List.Nodup.of_map Prod.snd (by rw [List.zipIdx_map_snd]; exact List.nodup_range')) size
    fun p _ => Nat.mod_lt p.2 hs).map (·.1)
  rwa [List.zipIdx_map_fst] at h2

theorem partition_length {β : Type} (size : ℕ) (xs : List β) : (partition size xs).length = size := by
  simp [partition]

theorem mem_strided_range {r size n i : ℕ} (hr : r < size) :
    i ∈ strided r size (List.range n) ↔ i < n ∧ i % size = r := by
  rw [strided_eq hr]
  simp only [List.mem_map, List.mem_filter, decide_eq_true_eq]
  constructor
  · rintro ⟨⟨a, b⟩, ⟨hm, hk⟩, rfl⟩
    have := List.mem_zipIdx hm
    simp at this
    obtain ⟨hb, ha⟩ := this
    subst ha
    exact ⟨by simpa using hb, hk⟩
  · rintro ⟨hi, hk⟩
    refine ⟨(i, i), ⟨?_, hk⟩, rfl⟩
    rw [List.mem_zipIdx_iff_getElem?]
    simp [hi]

end Taurex.Variance
