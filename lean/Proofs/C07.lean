/-
  The optimizer state machine of `TaurexModel/OptimizerSM.lean`: its prior table and parameter tables, what one operation
  can write (`step_writes`), and `compile_params` in closed form (`compile_spec`) against the specification `implied`.
  Structural (no real analysis); generic in names and carrier.
-/
import TaurexModel.OptimizerSM
import Proofs.PyDict

namespace Taurex.C07
open Taurex.Priors Taurex.OptimizerSM Taurex.Gen

section
variable {ν α : Type}

def names (ps : List (Param ν α)) : List ν := ps.map (·.name)

theorem names_cons (p : Param ν α) (ps : List (Param ν α)) : names (p :: ps) = p.name :: names ps := rfl

def shape (p : Param ν α) : ν × FitMode × Bool × α × α := (p.name, p.mode, p.fit, p.b0, p.b1)

theorem names_of_shape {ps qs : List (Param ν α)} (h : ps.map shape = qs.map shape) : names ps = names qs := by
  have := congrArg (List.map (fun x : ν × FitMode × Bool × α × α => x.1)) h
  simpa [names, List.map_map, Function.comp_def, shape] using this

def tableNames (s : St ν α) : List ν × List ν := (names s.model, names s.obs)

theorem names_table_of_tableNames {s s' : St ν α} (h : tableNames s' = tableNames s) (o : Owner) :
    names (table s' o) = names (table s o) := by
  cases o
  · exact congrArg Prod.fst h
  · exact congrArg Prod.snd h

/-- parameter names are unique across the model and the observation table -/
def WF (s : St ν α) : Prop := (names s.model ++ names s.obs).Nodup

theorem WF.model {s : St ν α} (h : WF s) : (names s.model).Nodup := (List.nodup_append.1 h).1
theorem WF.obs {s : St ν α} (h : WF s) : (names s.obs).Nodup := (List.nodup_append.1 h).2.1
theorem WF.disj {s : St ν α} (h : WF s) {n : ν} (hn : n ∈ names s.obs) : n ∉ names s.model := by
  intro hm
  exact (List.nodup_append.1 h).2.2 n hm n hn rfl

theorem WF_of_tableNames {s s' : St ν α} (h : tableNames s' = tableNames s) (hw : WF s) : WF s' := by
  unfold WF at *
  simp only [tableNames, Prod.mk.injEq] at h
  rw [h.1, h.2]; exact hw

/-- the shape of a state after an operation that is neither `compile_params` nor a successful `set_prior` -/
def TablesOnly (s s' : St ν α) : Prop :=
  ∃ m ob dm dob, names m = names s.model ∧ names ob = names s.obs ∧
    s' = { s with model := m, obs := ob, dmodel := dm, dobs := dob }

theorem TablesOnly.refl (s : St ν α) : TablesOnly s s := ⟨_, _, _, _, rfl, rfl, rfl⟩

variable [DecidableEq ν]

/-! the prior table is a dictionary of the `py` dialect: what a store does to look-ups and keys is in `Proofs/PyDict.lean` -/

theorem tget_eq (t : Table ν α) (n : ν) : tget t n = Py.dget t n := by
  fun_induction tget t n <;> simp [Py.dget, *]

theorem tset_eq (t : Table ν α) (n : ν) (p : Prior α) : tset t n p = Py.dset t n p := by
  fun_induction tset t n p <;> simp [Py.dset, *]

theorem tget_tset (t : Table ν α) (n m : ν) (p : Prior α) :
    tget (tset t n p) m = if n = m then some p else tget t m := by
  simp only [tget_eq, tset_eq, Py.dget_dset]

theorem tset_of_tget (t : Table ν α) (n : ν) (p : Prior α) (h : tget t n = some p) : tset t n p = t := by
  rw [tset_eq]; exact Py.dset_same t n p (tget_eq t n ▸ h)

theorem tget_none_not_mem (t : Table ν α) (n : ν) (h : tget t n = none) : n ∉ t.map (·.1) :=
  Py.dget_eq_none_iff.1 (tget_eq t n ▸ h)

theorem tset_not_mem (t : Table ν α) (n : ν) (p : Prior α) (h : n ∉ t.map (·.1)) : tset t n p = t ++ [(n, p)] := by
  rw [tset_eq]; exact Py.dset_new t n p (Py.dget_eq_none_iff.2 h)

theorem tset_nodup (t : Table ν α) (n : ν) (p : Prior α) (h : (t.map (·.1)).Nodup) : ((tset t n p).map (·.1)).Nodup := by
  rw [tset_eq]; exact Py.nodup_dset n p h

theorem tget_none_of_append (a b : Table ν α) (k : ν) (h : tget (a ++ b) k = none) : tget a k = none := by
  rw [tget_eq, Py.dget_eq_none_iff] at h ⊢
  exact fun hk => h (by simp [hk])

theorem tset_eq_append (tbl : Table ν α) (n : ν) (p : Prior α) (h : tget tbl n = some p ∨ tget tbl n = none) :
    ∃ extra, tset tbl n p = tbl ++ extra ∧ ∀ kv ∈ extra, tget tbl kv.1 = none := by
  rcases h with h | h
  · exact ⟨[], by rw [tset_of_tget tbl n p h, List.append_nil], by simp⟩
  · exact ⟨[(n, p)], tset_not_mem tbl n p (tget_none_not_mem tbl n h), by simpa using h⟩

/-- the prior table after the priors of the rows `rows` were stored in it, first row first -/
def store (t : Table ν α) (rows : List (Entry ν α × Prior α)) : Table ν α :=
  rows.foldl (fun t r => tset t r.1.name r.2) t

def rnames (rows : List (Entry ν α × Prior α)) : List ν := rows.map (·.1.name)

theorem store_append (t : Table ν α) (a b : List (Entry ν α × Prior α)) : store (store t a) b = store t (a ++ b) :=
  (List.foldl_append ..).symm

theorem tget_store_other (n : ν) : ∀ (rows : List (Entry ν α × Prior α)) (t : Table ν α), n ∉ rnames rows →
    tget (store t rows) n = tget t n
  | [], _, _ => rfl
  | r :: rows, t, h => by
    simp only [rnames, List.map_cons, List.mem_cons, not_or] at h
    rw [store, List.foldl_cons, ← store, tget_store_other n rows _ h.2, tget_tset, if_neg (Ne.symm h.1)]

theorem tget_store_mem : ∀ (rows : List (Entry ν α × Prior α)) (t : Table ν α), (rnames rows).Nodup →
    ∀ r ∈ rows, tget (store t rows) r.1.name = some r.2
  | [], _, _, _, h => by cases h
  | r' :: rows, t, hnd, r, h => by
    simp only [rnames, List.map_cons, List.nodup_cons] at hnd
    rw [store, List.foldl_cons, ← store]
    rcases List.mem_cons.1 h with rfl | h
    · rw [tget_store_other _ rows _ hnd.1, tget_tset, if_pos rfl]
    · exact tget_store_mem rows _ hnd.2 r h

theorem modifyParam_cons (p : Param ν α) (ps : List (Param ν α)) (n : ν) (f : Param ν α → Param ν α) :
    modifyParam (p :: ps) n f = (if p.name = n then f p else p) :: modifyParam ps n f := rfl

theorem names_modifyParam (ps : List (Param ν α)) (n : ν) (f : Param ν α → Param ν α)
    (hf : ∀ p, (f p).name = p.name) : names (modifyParam ps n f) = names ps := by
  unfold names modifyParam
  rw [List.map_map]
  apply List.map_congr_left
  intro p _
  by_cases h : p.name = n <;> simp [h, hf]

theorem hasName_iff (ps : List (Param ν α)) (n : ν) : hasName ps n = true ↔ n ∈ names ps := by
  unfold hasName names
  simp only [List.any_eq_true, decide_eq_true_eq, List.mem_map]

theorem hasName_false_iff (ps : List (Param ν α)) (n : ν) : hasName ps n = false ↔ n ∉ names ps := by
  rw [← hasName_iff]; simp

theorem hasDerived_iff (ds : List (Derived ν)) (n : ν) : hasDerived ds n = true ↔ n ∈ ds.map (·.name) := by
  unfold hasDerived
  simp only [List.any_eq_true, decide_eq_true_eq, List.mem_map]

theorem hasDerived_false_iff (ds : List (Derived ν)) (n : ν) : hasDerived ds n = false ↔ n ∉ ds.map (·.name) := by
  rw [← hasDerived_iff]; simp

/-! a name found in neither table: the calls that look it up raise and leave the state as it is -/

theorem hasName_owner_not_mem (s : St ν α) (n : ν) (hm : n ∉ names s.model) (ho : n ∉ names s.obs) :
    hasName (table s (ownerOf s n)) n = false := by
  simp [ownerOf, table, (hasName_false_iff _ _).2 hm, (hasName_false_iff _ _).2 ho]

theorem withParam_not_mem (s : St ν α) (n : ν) (f : Param ν α → Param ν α) (hm : n ∉ names s.model) (ho : n ∉ names s.obs) :
    withParam s n f = (s, .keyError) := by
  simp [withParam, hasName_owner_not_mem s n hm ho]

theorem withDerived_not_mem (s : St ν α) (n : ν) (c : Bool) (hm : n ∉ s.dmodel.map (·.name)) (ho : n ∉ s.dobs.map (·.name)) :
    withDerived s n c = (s, .keyError) := by
  simp [withDerived, (hasDerived_false_iff _ _).2 hm, (hasDerived_false_iff _ _).2 ho]

theorem modifyParam_not_mem (ps : List (Param ν α)) (n : ν) (f : Param ν α → Param ν α) (h : n ∉ names ps) :
    modifyParam ps n f = ps :=
  (List.map_congr_left fun p hp => if_neg fun (e : p.name = n) => h (e ▸ List.mem_map_of_mem (f := (·.name)) hp)).trans
    (List.map_id _)

theorem find?_modifyParam (ps : List (Param ν α)) (n m : ν) (f : Param ν α → Param ν α) (hf : ∀ p, (f p).name = p.name) :
    (modifyParam ps n f).find? (fun p => decide (p.name = m)) =
      (ps.find? (fun p => decide (p.name = m))).map (fun p => if p.name = n then f p else p) := by
  have hc : ((fun p : Param ν α => decide (p.name = m)) ∘ fun p => if p.name = n then f p else p) =
      fun p => decide (p.name = m) := by
    funext p
    by_cases h : p.name = n <;> simp [h, hf]
  unfold modifyParam
  rw [List.find?_map, hc]

theorem modify_same_value (ps : List (Param ν α)) (n : ν) (v : α) (hnd : (names ps).Nodup)
    (hv : (ps.find? (fun p => decide (p.name = n))).map (·.value) = some v) :
    modifyParam ps n (fun p => { p with value := v }) = ps := by
  induction ps with
  | nil => rfl
  | cons p ps ih =>
    rw [names_cons, List.nodup_cons] at hnd
    rw [modifyParam_cons]
    by_cases hp : p.name = n
    · have hv' : p.value = v := by simpa [List.find?_cons, hp] using hv
      rw [modifyParam_not_mem ps n _ (by rw [← hp]; exact hnd.1), if_pos hp, ← hv']
    · have hv' : (ps.find? (fun p => decide (p.name = n))).map (·.value) = some v := by
        simpa [List.find?_cons, hp] using hv
      rw [if_neg hp, ih hnd.2 hv']

/-! ### what `fset` of a compiled row changes -/

theorem shape_modify_value (ps : List (Param ν α)) (n : ν) (x : α) :
    (modifyParam ps n (fun p => { p with value := x })).map shape = ps.map shape := by
  unfold modifyParam
  rw [List.map_map]
  apply List.map_congr_left
  intro p _
  by_cases h : p.name = n <;> simp [h, shape]

theorem table_setValue_same (s : St ν α) (o : Owner) (n : ν) (x : α) :
    table (setValue s o n x) o = modifyParam (table s o) n (fun p => { p with value := x }) := by
  cases o <;> rfl

theorem table_setValue_other (s : St ν α) (o o' : Owner) (n : ν) (x : α) (h : o ≠ o') :
    table (setValue s o n x) o' = table s o' := by
  cases o <;> cases o' <;> first | rfl | exact absurd rfl h

theorem getValue_setValue (s : St ν α) (o o' : Owner) (n m : ν) (x : α) :
    getValue (setValue s o n x) o' m =
      if o = o' ∧ n = m then (getValue s o' m).map (fun _ => x) else getValue s o' m := by
  by_cases ho : o = o'
  · subst ho
    unfold getValue
    rw [table_setValue_same, find?_modifyParam _ n m (fun p => { p with value := x }) (fun _ => rfl)]
    cases hfd : (table s o).find? (fun p => decide (p.name = m)) with
    | none => simp
    | some p =>
      have hp : p.name = m := by simpa using List.find?_some hfd
      by_cases hn : n = m
      · subst hn; simp [hp]
      · have : ¬ p.name = n := by rw [hp]; exact fun e => hn e.symm
        simp [hn, this]
  · rw [if_neg (fun h => ho h.1)]
    unfold getValue
    rw [table_setValue_other s o o' n x ho]

theorem getValue_isSome (s : St ν α) (o : Owner) (n : ν) (h : n ∈ names (table s o)) : (getValue s o n).isSome = true := by
  obtain ⟨p, hp, hn⟩ := List.mem_map.1 h
  unfold getValue
  rw [Option.isSome_map, List.find?_isSome]
  exact ⟨p, hp, by simp [hn]⟩

theorem setValue_same (s : St ν α) (o : Owner) (n : ν) (v : α) (hnd : (names (table s o)).Nodup)
    (hv : getValue s o n = some v) : setValue s o n v = s := by
  unfold setValue
  rw [modify_same_value _ n v hnd hv]
  cases o <;> rfl

theorem setValue_eq (s : St ν α) (o : Owner) (n : ν) (x : α) :
    ∃ m ob, m.map shape = s.model.map shape ∧ ob.map shape = s.obs.map shape ∧
      setValue s o n x = { s with model := m, obs := ob } := by
  cases o
  · exact ⟨_, s.obs, shape_modify_value s.model n x, rfl, rfl⟩
  · exact ⟨s.model, _, rfl, shape_modify_value s.obs n x, rfl⟩

/-! ### reported names follow the priors of the rows -/

theorem fitNamesAux_of_lookup (t : Table ν α) : ∀ (es : List (Entry ν α)) (prs : List (Prior α)),
    es.length = prs.length → (∀ ep ∈ es.zip prs, tget t ep.1.name = some ep.2) →
    fitNamesAux t es = some (List.zipWith (fun e p => (decide (Prior.mode p = .log), e.name)) es prs) := by
  intro es
  induction es with
  | nil => intro prs _ _; simp [fitNamesAux]
  | cons e es ih =>
    intro prs hl hz
    cases prs with
    | nil => simp at hl
    | cons p prs =>
      have h1 : tget t e.name = some p := hz (e, p) (by simp)
      have h2 := ih prs (by simpa using hl) (fun ep hep => hz ep (by simp [hep]))
      simp [fitNamesAux, h1, h2]

theorem fitNamesAux_isSome (t : Table ν α) : ∀ (es : List (Entry ν α)),
    (∀ e ∈ es, (tget t e.name).isSome = true) → (fitNamesAux t es).isSome = true := by
  intro es
  induction es with
  | nil => intro _; rfl
  | cons e es ih =>
    intro h
    obtain ⟨p, hp⟩ := Option.isSome_iff_exists.1 (h e List.mem_cons_self)
    obtain ⟨r, hr⟩ := Option.isSome_iff_exists.1 (ih (fun e' he' => h e' (List.mem_cons_of_mem _ he')))
    simp [fitNamesAux, hp, hr]

theorem TablesOnly.setTable (s : St ν α) (o : Owner) (n : ν) (f : Param ν α → Param ν α) (hf : ∀ p, (f p).name = p.name) :
    TablesOnly s (setTable s o (modifyParam (table s o) n f)) := by
  cases o
  · exact ⟨_, _, _, _, names_modifyParam s.model n f hf, rfl, rfl⟩
  · exact ⟨_, _, _, _, rfl, names_modifyParam s.obs n f hf, rfl⟩

theorem TablesOnly.withParam (s : St ν α) (n : ν) (f : Param ν α → Param ν α) (hf : ∀ p, (f p).name = p.name) :
    TablesOnly s (withParam s n f).1 := by
  unfold OptimizerSM.withParam
  simp only
  split
  · exact .setTable s _ n f hf
  · exact .refl s

theorem TablesOnly.withDerived (s : St ν α) (n : ν) (c : Bool) : TablesOnly s (withDerived s n c).1 := by
  unfold OptimizerSM.withDerived
  simp only
  split
  · exact ⟨_, _, _, _, rfl, rfl, rfl⟩
  · split
    · exact ⟨_, _, _, _, rfl, rfl, rfl⟩
    · exact .refl s

variable [Transc α]

theorem applyUpdate_eq (es : List (Entry ν α)) : ∀ (s : St ν α) (ps : List (Prior α)) (xs : List α),
    ∃ m ob, m.map shape = s.model.map shape ∧ ob.map shape = s.obs.map shape ∧
      applyUpdate s es ps xs = { s with model := m, obs := ob } := by
  intro s ps xs
  fun_induction applyUpdate s es ps xs with
  | case1 s e es p ps x xs ih =>
    obtain ⟨m₁, ob₁, hm₁, ho₁, h₁⟩ := setValue_eq s e.owner e.name (p.back x)
    rw [h₁] at ih ⊢
    obtain ⟨m, ob, hm, ho, h⟩ := ih
    exact ⟨m, ob, hm.trans hm₁, ho.trans ho₁, h⟩
  | case2 => exact ⟨_, _, rfl, rfl, rfl⟩

end

section
variable {ν α : Type} [DecidableEq ν] [LT α] [DecidableLT α] [OfNat α 0] [Transc α]

/-! ### `compileTable` and `impliedRows`, one parameter at a time -/

def rowPrior (tbl : Table ν α) (p : Param ν α) : Option (Prior α) :=
  match tget tbl p.name with
  | some pr => some pr
  | none => defaultPrior p.mode p.b0 p.b1

theorem compileTable_cons (o : Owner) (p : Param ν α) (ps : List (Param ν α)) (tbl : Table ν α) :
    compileTable o (p :: ps) tbl =
      if p.fit then
        (rowPrior tbl p).bind fun pr =>
          (compileTable o ps (tset tbl p.name pr)).map fun r => (entryOf o p :: r.1, pr :: r.2.1, r.2.2)
      else compileTable o ps tbl := by
  rw [compileTable]
  split
  · unfold rowPrior
    cases hg : tget tbl p.name with
    | some pr => simp only [Option.bind_some, tset_of_tget tbl p.name pr hg]
    | none => cases defaultPrior p.mode p.b0 p.b1 <;> rfl
  · rfl

theorem impliedRows_cons (user : Table ν α) (o : Owner) (p : Param ν α) (ps : List (Param ν α)) :
    impliedRows user o (p :: ps) =
      if p.fit then
        (rowPrior user p).bind fun pr => (impliedRows user o ps).map fun rows => (entryOf o p, pr) :: rows
      else impliedRows user o ps := by
  rw [impliedRows]
  split
  · unfold impliedRow rowPrior
    cases tget user p.name with
    | some pr => cases impliedRows user o ps <;> rfl
    | none => cases defaultPrior p.mode p.b0 p.b1 <;> cases impliedRows user o ps <;> rfl
  · rfl

/-- induction over a successful `compileTable`, for loops that thread the prior table as it does -/
theorem compileTable_induction (o : Owner)
    {motive : List (Param ν α) → Table ν α → List (Entry ν α) × List (Prior α) × Table ν α → Prop}
    (nil : ∀ tbl, motive [] tbl ([], [], tbl))
    (skip : ∀ p ps tbl r, p.fit = false → compileTable o ps tbl = some r → motive ps tbl r → motive (p :: ps) tbl r)
    (row : ∀ p ps tbl pr r, p.fit = true → rowPrior tbl p = some pr → compileTable o ps (tset tbl p.name pr) = some r →
      motive ps (tset tbl p.name pr) r → motive (p :: ps) tbl (entryOf o p :: r.1, pr :: r.2.1, r.2.2)) :
    ∀ ps tbl r, compileTable o ps tbl = some r → motive ps tbl r := by
  intro ps
  induction ps with
  | nil =>
    intro tbl r h
    simp only [compileTable, Option.some.injEq] at h
    subst h; exact nil tbl
  | cons p ps ih =>
    intro tbl r h
    rw [compileTable_cons] at h
    cases hf : p.fit with
    | false =>
      simp only [hf, Bool.false_eq_true, if_false] at h
      exact skip p ps tbl r hf h (ih tbl r h)
    | true =>
      simp only [hf, if_true] at h
      cases hp : rowPrior tbl p with
      | none => simp [hp] at h
      | some pr =>
        cases hc : compileTable o ps (tset tbl p.name pr) with
        | none => simp [hp, hc] at h
        | some r' =>
          simp only [hp, hc, Option.bind_some, Option.map_some, Option.some.injEq] at h
          subst h
          exact row p ps tbl pr r' hf hp hc (ih _ r' hc)

theorem compileTable_nodup (o : Owner) (ps : List (Param ν α)) (tbl : Table ν α)
    (r : List (Entry ν α) × List (Prior α) × Table ν α) (h : compileTable o ps tbl = some r) :
    (tbl.map (·.1)).Nodup → (r.2.2.map (·.1)).Nodup :=
  compileTable_induction o (motive := fun _ tbl r => (tbl.map Prod.fst).Nodup → (r.2.2.map Prod.fst).Nodup)
    (fun _ hn => hn) (fun _ _ _ _ _ _ ih => ih) (fun p _ tbl pr _ _ _ _ ih hn => ih (tset_nodup tbl p.name pr hn))
    ps tbl r h

/-- `compileTable` on a table with distinct names, started from a prior table that agrees with the user's on these names:
    the rows are the specification's, and the table it returns has their priors stored -/
theorem compileTable_eq (user : Table ν α) (o : Owner) (ps : List (Param ν α)) :
    ∀ (tbl : Table ν α), (names ps).Nodup → (∀ n ∈ names ps, tget tbl n = tget user n) →
      compileTable o ps tbl =
        (impliedRows user o ps).map (fun rows => (rows.map (·.1), rows.map (·.2), store tbl rows)) := by
  induction ps with
  | nil => intro tbl _ _; rfl
  | cons p ps ih =>
    intro tbl hnd hag
    rw [names_cons, List.nodup_cons] at hnd
    have hag' : ∀ n ∈ names ps, tget tbl n = tget user n := fun n hn => hag n (List.mem_cons_of_mem _ hn)
    have hrow : rowPrior tbl p = rowPrior user p := by
      unfold rowPrior; rw [hag p.name List.mem_cons_self]
    rw [compileTable_cons, impliedRows_cons, hrow]
    split
    · cases rowPrior user p with
      | none => rfl
      | some pr =>
        -- the prior stored for `p` is under a name the rest of the table does not have
        rw [Option.bind_some, Option.bind_some, ih (tset tbl p.name pr) hnd.2 (fun n hn => by
          rw [tget_tset, if_neg (fun e : p.name = n => hnd.1 (e ▸ hn))]; exact hag' n hn)]
        cases impliedRows user o ps <;> rfl
    · exact ih tbl hnd.2 hag'

theorem impliedRows_entries (user : Table ν α) (o : Owner) : ∀ (ps : List (Param ν α)) (rows : List (Entry ν α × Prior α)),
    impliedRows user o ps = some rows → rows.map (·.1) = (ps.filter (·.fit)).map (entryOf o) := by
  intro ps
  induction ps with
  | nil => intro rows h; simp only [impliedRows, Option.some.injEq] at h; subst h; rfl
  | cons p ps ih =>
    intro rows h
    rw [impliedRows_cons] at h
    rw [List.filter_cons]
    split at h
    · rename_i hf
      cases hp : rowPrior user p with
      | none => simp [hp] at h
      | some pr =>
        cases hi : impliedRows user o ps with
        | none => simp [hp, hi] at h
        | some rs =>
          simp only [hp, hi, Option.bind_some, Option.map_some, Option.some.injEq] at h
          subst h
          simp [hf, ih rs hi]
    · rename_i hf
      simp only [hf]
      exact ih rows h

theorem compile_none {s : St ν α} (h : compileTable .model s.model s.userPriors = none) :
    compile s = ({ s with compiled := [], compiledPriors := [], derivedCompiled := [], fitPriors := s.userPriors },
                 .valueError) := by
  simp only [compile, h]

theorem compile_some_none {s : St ν α} {es : List (Entry ν α)} {ps : List (Prior α)} {t : Table ν α}
    (h1 : compileTable .model s.model s.userPriors = some (es, ps, t)) (h2 : compileTable .obs s.obs t = none) :
    compile s = ({ s with compiled := es, compiledPriors := ps, derivedCompiled := derivedOf s.dmodel, fitPriors := t },
                 .valueError) := by
  simp only [compile, h1, h2]

theorem compile_some_some {s : St ν α} {es es' : List (Entry ν α)} {ps ps' : List (Prior α)} {t t' : Table ν α}
    (h1 : compileTable .model s.model s.userPriors = some (es, ps, t))
    (h2 : compileTable .obs s.obs t = some (es', ps', t')) :
    compile s = ({ s with compiled := es ++ es', compiledPriors := ps ++ ps',
                          derivedCompiled := derivedOf s.dmodel ++ derivedOf s.dobs, fitPriors := t' }, .ok) := by
  simp only [compile, h1, h2]

theorem compile_eq (s : St ν α) :
    (compile s).1 = { s with fitPriors := (compile s).1.fitPriors, compiled := (compile s).1.compiled,
                             compiledPriors := (compile s).1.compiledPriors,
                             derivedCompiled := (compile s).1.derivedCompiled } := by
  cases h1 : compileTable .model s.model s.userPriors with
  | none => rw [compile_none h1]
  | some r1 =>
    obtain ⟨es, ps, t⟩ := r1
    cases h2 : compileTable .obs s.obs t with
    | none => rw [compile_some_none h1 h2]
    | some r2 => rw [compile_some_some h1 h2]

theorem rnames_impliedRows {user : Table ν α} {o : Owner} {ps : List (Param ν α)} {rows : List (Entry ν α × Prior α)}
    (h : impliedRows user o ps = some rows) : rnames rows = names (ps.filter (·.fit)) := by
  have := congrArg (List.map (·.name)) (impliedRows_entries user o ps rows h)
  simpa [rnames, names, List.map_map, Function.comp_def, entryOf] using this

/-- `compile_params` of a well-formed state in closed form: the rows are the specification's, `_fit_priors` is
    `_user_priors` with the rows' priors stored; also for a compilation that fails -/
theorem compile_spec (s : St ν α) (hw : WF s) :
    compile s =
      match impliedRows s.userPriors .model s.model with
      | none => ({ s with compiled := [], compiledPriors := [], derivedCompiled := [], fitPriors := s.userPriors }, .valueError)
      | some rm =>
        match impliedRows s.userPriors .obs s.obs with
        | none => ({ s with compiled := rm.map (·.1), compiledPriors := rm.map (·.2), derivedCompiled := derivedOf s.dmodel,
                            fitPriors := store s.userPriors rm }, .valueError)
        | some ro => ({ s with compiled := rm.map (·.1) ++ ro.map (·.1), compiledPriors := rm.map (·.2) ++ ro.map (·.2),
                               derivedCompiled := derivedOf s.dmodel ++ derivedOf s.dobs,
                               fitPriors := store (store s.userPriors rm) ro }, .ok) := by
  have hm := compileTable_eq s.userPriors .model s.model s.userPriors hw.model (fun _ _ => rfl)
  cases hi : impliedRows s.userPriors .model s.model with
  | none => rw [hi] at hm; exact compile_none hm
  | some rm =>
    rw [hi] at hm
    -- a name of the observation table is not a name of a model row, so its look-up is still the user's
    have ho := compileTable_eq s.userPriors .obs s.obs (store s.userPriors rm) hw.obs (fun n hn =>
      tget_store_other n rm _ (by
        rw [rnames_impliedRows hi]
        exact fun h => hw.disj hn ((List.filter_sublist.map _).subset h)))
    cases hi2 : impliedRows s.userPriors .obs s.obs with
    | none => rw [hi2] at ho; exact compile_some_none hm ho
    | some ro => rw [hi2] at ho; exact compile_some_some hm ho

/-- the heart of history freedom: what `compile_params` leaves behind is a function of the settings -/
theorem compile_eq_implied (s : St ν α) (h : WF s) :
    (view (compile s).1, (compile s).2) = implied (settings s) := by
  rw [compile_spec s h]
  unfold implied settings
  cases impliedRows s.userPriors .model s.model with
  | none => rfl
  | some rm => cases impliedRows s.userPriors .obs s.obs <;> rfl

theorem fitValuesAux_length (s : St ν α) : ∀ (es : List (Entry ν α)) (ps : List (Prior α)) (xs : List α),
    es.length = ps.length → fitValuesAux s es ps = some xs → xs.length = es.length := by
  intro es ps xs hl h
  fun_induction fitValuesAux s es ps generalizing xs with
  | case1 e es p ps v vs hr hf ih => cases h; simpa using ih vs (by simpa using hl) hr
  | case2 => cases h
  | case3 es ps hne =>
    cases h
    cases es with
    | nil => rfl
    | cons e es => cases ps with
      | nil => simp at hl
      | cons p ps => exact absurd rfl (hne e es p ps rfl)

def keys (es : List (Entry ν α)) : List (Owner × ν) := es.map (fun e => (e.owner, e.name))

end

/-- rows with distinct names are paired with their priors, distinct as keys, and found in the table they were stored in -/
theorem rows_paired {ν α : Type} [DecidableEq ν] (t : Table ν α) (rows : List (Entry ν α × Prior α)) (hnd : (rnames rows).Nodup) :
    (rows.map (·.1)).length = (rows.map (·.2)).length ∧ (keys (rows.map (·.1))).Nodup ∧
    ∀ ep ∈ (rows.map (·.1)).zip (rows.map (·.2)), tget (store t rows) ep.1.name = some ep.2 := by
  refine ⟨by simp, ?_, fun ep hep => ?_⟩
  · have hn : ((keys (rows.map (·.1))).map (·.2)).Nodup := by
      simpa [keys, rnames, List.map_map, Function.comp_def] using hnd
    exact List.Pairwise.of_map (·.2) (fun a b hab e => hab (by rw [e])) hn
  · rw [List.zip_map', List.mem_map] at hep
    obtain ⟨r, hr, rfl⟩ := hep
    exact tget_store_mem rows t hnd r hr

section
variable {ν α : Type} [DecidableEq ν] [LT α] [DecidableLT α] [OfNat α 0] [Transc α]

/-- what every `compile_params` leaves behind, also a failing one -/
theorem compile_rows (s : St ν α) (hw : WF s) :
    (compile s).1.compiled.length = (compile s).1.compiledPriors.length ∧ (keys (compile s).1.compiled).Nodup ∧
    (∀ e ∈ (compile s).1.compiled, e.name ∈ names (table s e.owner)) ∧
    ∀ ep ∈ (compile s).1.compiled.zip (compile s).1.compiledPriors, tget (compile s).1.fitPriors ep.1.name = some ep.2 := by
  rw [compile_spec s hw]
  have sub : ∀ {o : Owner} {rows : List (Entry ν α × Prior α)}, impliedRows s.userPriors o (table s o) = some rows →
      (rnames rows).Sublist (names (table s o)) ∧ ∀ e ∈ rows.map (·.1), e.name ∈ names (table s e.owner) := by
    intro o rows h
    refine ⟨by rw [rnames_impliedRows h]; exact List.filter_sublist.map _, fun e he => ?_⟩
    rw [impliedRows_entries _ o _ rows h] at he
    obtain ⟨p, hp, rfl⟩ := List.mem_map.1 he
    exact List.mem_map_of_mem (List.mem_filter.1 hp).1
  cases hi : impliedRows s.userPriors .model s.model with
  | none => simp [keys]
  | some rm =>
    obtain ⟨s1, m1⟩ := sub (o := .model) hi
    cases hi2 : impliedRows s.userPriors .obs s.obs with
    | none =>
      obtain ⟨a, b, c⟩ := rows_paired s.userPriors rm (s1.nodup hw.model)
      exact ⟨a, b, m1, c⟩
    | some ro =>
      obtain ⟨s2, m2⟩ := sub (o := .obs) hi2
      -- the rows of both tables as one list: their names are a sublist of all names
      have hnd : (rnames (rm ++ ro)).Nodup := by
        rw [rnames, List.map_append]
        exact (s1.append s2).nodup hw
      obtain ⟨a, b, c⟩ := rows_paired s.userPriors (rm ++ ro) hnd
      simp only [List.map_append, store_append] at a b c ⊢
      exact ⟨a, b, fun e he => (List.mem_append.1 he).elim (m1 e) (m2 e), c⟩

/-- right after `compile_params`, also a failing one, the reported name of every row follows the prior of that row -/
theorem fitNames_compile (s : St ν α) (hw : WF s) :
    fitNames (compile s).1 = some (impliedNames (view (compile s).1)) := by
  obtain ⟨hl, _, _, hz⟩ := compile_rows s hw
  exact fitNamesAux_of_lookup _ _ _ hl hz
end

section
variable {ν α : Type} [DecidableEq ν] [LT α] [DecidableLT α] [OfNat α 0] [Mul α] [Transc α]

/-- what one operation can write: `compile_params` its four attributes (`compile_eq`), a successful `set_prior` the two prior
    tables, everything else the parameter and derived tables; an operation that raises writes nothing and falls under the last -/
theorem step_writes (s : St ν α) (op : Op ν α) :
    (step s op).1 = (compile s).1 ∨
    (∃ n p, op = .setPrior n p ∧
      (step s op).1 = { s with userPriors := tset s.userPriors n p, fitPriors := tset s.fitPriors n p }) ∨
    TablesOnly s (step s op).1 := by
  cases op with
  | compile => exact .inl rfl
  | enableFit n => exact .inr (.inr (.withParam s n _ (fun _ => rfl)))
  | disableFit n => exact .inr (.inr (.withParam s n _ (fun _ => rfl)))
  | setBoundary n a b => exact .inr (.inr (.withParam s n _ (fun _ => rfl)))
  | setFactorBoundary n a b => exact .inr (.inr (.withParam s n _ (fun _ => rfl)))
  | enableDerived n => exact .inr (.inr (.withDerived s n true))
  | disableDerived n => exact .inr (.inr (.withDerived s n false))
  | setMode n m =>
    right; right
    simp only [step]
    split
    · split
      · exact .refl s
      · exact .setTable s _ n _ (fun _ => rfl)
    · exact .refl s
  | setPrior n p =>
    simp only [step]
    split
    · exact .inr (.inl ⟨n, p, rfl, rfl⟩)
    · exact .inr (.inr (.refl s))
  | updateModel v =>
    right; right
    simp only [step, updateModel]
    split
    · exact .refl s
    · obtain ⟨m, ob, hm, ho, h⟩ := applyUpdate_eq s.compiled s s.compiledPriors v
      exact ⟨m, ob, s.dmodel, s.dobs, names_of_shape hm, names_of_shape ho, h⟩

/-- `_user_priors` is written by `set_prior` alone -/
theorem userPriors_step (s : St ν α) (op : Op ν α) (h : ∀ n p, op ≠ .setPrior n p) :
    (step s op).1.userPriors = s.userPriors := by
  rcases step_writes s op with he | ⟨n, p, rfl, _⟩ | ⟨_, _, _, _, _, _, he⟩
  · rw [he, compile_eq]
  · exact absurd rfl (h n p)
  · rw [he]

theorem tableNames_step (s : St ν α) (op : Op ν α) : tableNames (step s op).1 = tableNames s := by
  rcases step_writes s op with h | ⟨n, p, _, h⟩ | ⟨m, ob, dm, dob, hm, ho, h⟩
  · rw [h, compile_eq]; rfl
  · rw [h]; rfl
  · rw [h]; exact Prod.ext hm ho

theorem run_induction {P : St ν α → Prop} (hstep : ∀ s op, P s → P (step s op).1) :
    ∀ (ops : List (Op ν α)) (s : St ν α), P s → P (run s ops)
  | [], _, h => h
  | op :: ops, s, h => run_induction hstep ops _ (hstep s op h)

theorem tableNames_run (ops : List (Op ν α)) (s : St ν α) : tableNames (run s ops) = tableNames s :=
  run_induction (P := fun s' => tableNames s' = tableNames s) (fun s' op h => (tableNames_step s' op).trans h) ops s rfl

theorem WF_run (s : St ν α) (ops : List (Op ν α)) (hw : WF s) : WF (run s ops) :=
  WF_of_tableNames (tableNames_run ops s) hw

/-- the same for what holds of well-formed states -/
theorem run_induction_wf {P : St ν α → Prop} (hstep : ∀ s op, WF s → P s → P (step s op).1) (ops : List (Op ν α))
    (s : St ν α) (hw : WF s) (h : P s) : P (run s ops) :=
  (run_induction (P := fun s => WF s ∧ P s)
    (fun s op h => ⟨WF_of_tableNames (tableNames_step s op) h.1, hstep s op h.1 h.2⟩) ops s ⟨hw, h⟩).2

/-! ### `_user_priors` stays a dict (distinct keys) along every history -/

theorem userPriors_nodup_step (s : St ν α) (op : Op ν α) (h : (s.userPriors.map (·.1)).Nodup) :
    ((step s op).1.userPriors.map (·.1)).Nodup := by
  rcases step_writes s op with he | ⟨n, p, _, he⟩ | ⟨_, _, _, _, _, _, he⟩
  · rw [he, compile_eq]; exact h
  · rw [he]; exact tset_nodup _ n p h
  · rw [he]; exact h

theorem userPriors_nodup_run (ops : List (Op ν α)) (s : St ν α) (h : (s.userPriors.map (·.1)).Nodup) :
    ((run s ops).userPriors.map (·.1)).Nodup :=
  run_induction (P := fun s => (s.userPriors.map (·.1)).Nodup) userPriors_nodup_step ops s h

theorem run_append (ops₁ ops₂ : List (Op ν α)) : ∀ (s : St ν α), run s (ops₁ ++ ops₂) = run (run s ops₁) ops₂ := by
  induction ops₁ with
  | nil => intro s; rfl
  | cons op ops ih => intro s; simp only [List.cons_append, run]; exact ih _

end

end Taurex.C07
