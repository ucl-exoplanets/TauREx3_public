/-
  Lemmas about `TaurexModel/FittableTable.lean`: what a history of declarations and `modify_bounds` calls leaves in
  the table.
-/
import TaurexModel.FittableTable
import Proofs.PyDict

namespace Taurex.FittableTable

variable {α : Type}

/-- the re-packing of `modify_bounds` -/
def setBounds (n : String) (b0 b1 : α) (e : Entry α) : Entry α :=
  if e.name == n then { e with b0 := b0, b1 := b1 } else e

@[simp] theorem setBounds_name (n : String) (b0 b1 : α) (e : Entry α) : (setBounds n b0 b1 e).name = e.name := by
  unfold setBounds; split <;> rfl

@[simp] theorem setBounds_mode (n : String) (b0 b1 : α) (e : Entry α) : (setBounds n b0 b1 e).mode = e.mode := by
  unfold setBounds; split <;> rfl

@[simp] theorem setBounds_fit (n : String) (b0 b1 : α) (e : Entry α) : (setBounds n b0 b1 e).fit = e.fit := by
  unfold setBounds; split <;> rfl

theorem modifyBounds_eq (t t' : List (Entry α)) (n : String) (b0 b1 : α) (h : modifyBounds t n b0 b1 = some t') :
    t' = t.map (setBounds n b0 b1) := by
  unfold modifyBounds at h
  split at h
  · exact (Option.some.inj h).symm
  · cases h

theorem lookup_some_name (t : List (Entry α)) (n : String) (e : Entry α) (h : lookup t n = some e) : e.name = n := by
  have := List.find?_some h
  simpa using this

theorem modifyBounds_frame (t t' : List (Entry α)) (n : String) (b0 b1 : α) (h : modifyBounds t n b0 b1 = some t') :
    t'.map (fun e => (e.name, e.mode, e.fit)) = t.map (fun e => (e.name, e.mode, e.fit)) := by
  rw [modifyBounds_eq t t' n b0 b1 h, List.map_map]
  apply List.map_congr_left
  intro e _
  simp

theorem lookup_modifyBounds (t t' : List (Entry α)) (n m : String) (b0 b1 : α)
    (h : modifyBounds t n b0 b1 = some t') :
    lookup t' m = (lookup t m).map (fun e => if n == m then { e with b0 := b0, b1 := b1 } else e) := by
  rw [modifyBounds_eq t t' n b0 b1 h]
  unfold lookup
  rw [List.find?_map]
  have hp : ((fun e : Entry α => e.name == m) ∘ setBounds n b0 b1) = (fun e : Entry α => e.name == m) := by
    funext e; simp
  rw [hp]
  cases hf : t.find? (fun e => e.name == m) with
  | none => rfl
  | some e =>
    have hn : e.name = m := lookup_some_name t m e hf
    simp only [Option.map_some, setBounds, hn]
    by_cases hmn : m = n
    · subst hmn; simp
    · have h1 : (m == n) = false := by simpa using hmn
      have h2 : (n == m) = false := by simpa using (fun h : n = m => hmn h.symm)
      simp [h1, h2]

theorem modifyBounds_isSome (t : List (Entry α)) (n : String) (b0 b1 : α) :
    (modifyBounds t n b0 b1).isSome = (lookup t n).isSome := by
  unfold modifyBounds lookup
  by_cases h : t.any (fun x => x.name == n) = true
  · rw [if_pos h]
    simp only [Option.isSome_some]
    symm
    rw [List.find?_isSome]
    simpa using h
  · rw [if_neg h]
    simp only [Option.isSome_none]
    symm
    rw [Bool.eq_false_iff]
    intro hs
    rw [List.find?_isSome] at hs
    apply h
    simpa using hs

theorem runHist_frame (hist : List (String × α × α)) : ∀ (t t' : List (Entry α)), runHist t hist = some t' →
    t'.map (fun e => (e.name, e.mode, e.fit)) = t.map (fun e => (e.name, e.mode, e.fit)) := by
  intro t t' h
  fun_induction runHist t hist with
  | case1 => cases h; rfl
  | case2 t x xs t1 hm ih => rw [ih h, modifyBounds_frame t t1 _ _ _ hm]
  | case3 => cases h

theorem lookup_runHist (n : String) (hist : List (String × α × α)) : ∀ (t t' : List (Entry α)) (e : Entry α),
    runHist t hist = some t' → lookup t n = some e →
    lookup t' n = some { e with b0 := (lastBounds n hist (e.b0, e.b1)).1, b1 := (lastBounds n hist (e.b0, e.b1)).2 } := by
  intro t t' e h hl
  fun_induction runHist t hist generalizing e with
  | case1 => cases h; simpa [lastBounds] using hl
  | case2 t x xs t1 hm ih =>
    have h1 := lookup_modifyBounds t t1 x.1 n x.2.1 x.2.2 hm
    rw [hl, Option.map_some] at h1
    unfold lastBounds
    split at h1 <;> rename_i hx <;> simp only [hx, if_true] <;> exact ih _ h h1
  | case3 => cases h

theorem declareAll_eq [OfNat α 0] [OfNat α 1] (ds : List (Decl α)) : ∀ (t0 t : List (Entry α)),
    declareAll t0 ds = some t → t = t0 ++ ds.map Decl.entry := by
  intro t0 t h
  fun_induction declareAll t0 ds with
  | case1 => cases h; simp
  | case2 t0 d ds t1 ha ih =>
    unfold addParam at ha
    split at ha <;> cases ha
    simp [ih h]
  | case3 => cases h

theorem declareAll_nodup [OfNat α 0] [OfNat α 1] (ds : List (Decl α)) : ∀ (t0 t : List (Entry α)),
    (t0.map (·.name)).Nodup → declareAll t0 ds = some t → (t.map (·.name)).Nodup := by
  intro t0 t h0 h
  fun_induction declareAll t0 ds with
  | case1 => cases h; exact h0
  | case2 t0 d ds t1 ha ih =>
    refine ih ?_ h
    unfold addParam at ha
    split at ha
    · cases ha
    · rename_i hany
      cases ha
      rw [List.map_append, List.nodup_append]
      refine ⟨h0, by simp, fun a ha b hb hab => hany ?_⟩
      simp only [List.map_cons, List.map_nil, List.mem_singleton] at hb
      obtain ⟨x, hx, hxn⟩ := List.mem_map.1 ha
      exact List.any_eq_true.2 ⟨x, hx, by simp [hxn, hab, hb]⟩
  | case3 => cases h

theorem lookup_of_mem (t : List (Entry α)) (hn : (t.map (·.name)).Nodup) (e : Entry α) (he : e ∈ t) :
    lookup t e.name = some e :=
  Gen.Py.find?_key_of_mem Entry.name hn he

/-- When the declarations and the boundary changes of an object all succeed, the table has the
    declared names in declaration order, and each declared parameter is found with its declared mode and fit flag
    (signature defaults for keywords left out) and the bounds of the last `modify_bounds` naming it. -/
theorem declaredTable_spec [OfNat α 0] [OfNat α 1] (decls : List (Decl α)) (hist : List (String × α × α))
    (t : List (Entry α)) (h : declaredTable decls hist = some t) :
    t.map (·.name) = decls.map (·.name) ∧
    ∀ d ∈ decls, lookup t d.name = some
      { name := d.name, mode := d.entry.mode, fit := d.entry.fit,
        b0 := (lastBounds d.name hist (d.entry.b0, d.entry.b1)).1,
        b1 := (lastBounds d.name hist (d.entry.b0, d.entry.b1)).2 } := by
  unfold declaredTable at h
  cases hd : declareAll [] decls with
  | none => rw [hd] at h; cases h
  | some t0 =>
    rw [hd] at h
    have heq := declareAll_eq decls [] t0 hd
    have hnd := declareAll_nodup decls [] t0 (by simp) hd
    simp only [List.nil_append] at heq
    constructor
    · have hf := runHist_frame hist t0 t h
      have : t.map (·.name) = t0.map (·.name) := by
        have := congrArg (List.map (fun p : String × Priors.FitMode × Bool => p.1)) hf
        simpa [List.map_map, Function.comp_def] using this
      rw [this, heq, List.map_map]
      apply List.map_congr_left
      intro d _
      rfl
    · intro d hdm
      have hmem : d.entry ∈ t0 := by rw [heq]; exact List.mem_map.2 ⟨d, hdm, rfl⟩
      have hl := lookup_of_mem t0 hnd d.entry hmem
      have hname : d.entry.name = d.name := rfl
      rw [hname] at hl
      exact lookup_runHist d.name hist t0 t d.entry h hl

end Taurex.FittableTable
